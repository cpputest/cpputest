import CppUModel.Model.Runner
import CppUModel.Gen.RunnerCode
/-!
Interpreters for the CODE of the runner that `translate/extract_runner_code.py` regenerates from the
source on every run (`Gen/RunnerCode.lean`):

* `utestRunGen`: executes the try blocks, statements and catch clauses of `Utest::run` (both build
  variants) as they stand in `Utest.cpp`; a C++ exception that leaves a `PlatformSpecificSetJmp`
  call is handed to the FIRST catch clause of the enclosing try block whose pattern matches it
  (C++ handler selection), and the statements of that clause are executed one by one — so a catch
  clause that no longer calls `PlatformSpecificRestoreJumpBuffer`, a reordered phase, a dropped
  `if (jumpResult)` guard … changes what this function computes;
* `runOneTestInCurrentProcessGen`: executes the statement list of
  `UtestShell::runOneTestInCurrentProcess`;
* `failureToksGen`: the strings `TestOutput::printFailure` prints, from the regenerated print
  sequences of the functions it calls, in both working-environment formats.

`Proofs/RunnerCode.lean` proves each of them EQUAL to the hand-written model of `Model/Runner.lean`, so every
theorem about the hand-written model is a theorem about what the source says at check time.
-/
namespace Runner
open Gen.Runner (RunOp RunStmt CatchPat CatchOp CatchClause TryBlock OneOp PItem FPart)

def phaseOfNat : Nat → Phase
  | 0 => .setup
  | 1 => .body
  | _ => .teardown

/-! ## Utest::run -/

/-- interpreter state: the test state, what was printed, the local `jumpResult` -/
structure ISt where
  st   : TSt
  evs  : List Ev
  jump : Bool
deriving Repr, DecidableEq, Inhabited

/-- how the statements of a block ended: normally, or with a C++ exception on its way out -/
structure BodyOut where
  s   : ISt
  esc : Option ExcKind
deriving Repr, DecidableEq, Inhabited

/-- the statements of a (try) block, in order.  A guarded statement sits inside `if (jumpResult)`. -/
def execStmts (cfg : Cfg) (t : Test) : List RunStmt → ISt → Except Stop BodyOut
  | [], s => .ok ⟨s, none⟩
  | ⟨g, .vv str⟩ :: rest, s =>
    if g && !s.jump then execStmts cfg t rest s
    else execStmts cfg t rest { s with evs := s.evs ++ vv cfg str }
  | ⟨g, .setJmp ph assign⟩ :: rest, s =>
    if g && !s.jump then execStmts cfg t rest s
    else
      match setJmp s.st (phaseFn cfg t (phaseOfNat ph)) with
      | .error f => .error f
      | .ok j =>
        match j.esc with
        | some k => .ok ⟨⟨j.st, s.evs ++ j.evs, s.jump⟩, some k⟩
        | none => execStmts cfg t rest ⟨j.st, s.evs ++ j.evs, if assign then j.ret else s.jump⟩

/-- does `catch (<pattern>)` handle an exception of this kind? -/
def patMatches : CatchPat → ExcKind → Bool
  | .failed, .failed => true
  | .std, .std => true
  | .any, _ => true
  | _, _ => false

/-- C++ handler selection: the first clause that matches -/
def findCatch : List CatchClause → ExcKind → Option CatchClause
  | [], _ => none
  | c :: rest, k => if patMatches c.pat k then some c else findCatch rest k

/-- the statements of a catch clause handling an exception of kind `k` -/
def execCatch (cfg : Cfg) (t : Test) (k : ExcKind) : List CatchOp → Acc → Except Stop Acc
  | [], a => .ok a
  | .addFailure withWhat :: rest, a =>
    execCatch cfg t k rest
      ⟨shellAddFailure a.st,
       a.evs ++ [.failure (mkRecAtTest cfg t (if withWhat then cfg.stdExcMsg else cfg.otherExcMsg))]⟩
  | .restore :: rest, a => execCatch cfg t k rest ⟨restoreJumpBuffer a.st, a.evs⟩
  | .rethrowIfMode :: rest, a =>
    if cfg.rethrow then .error (.propagated ⟨k, a.evs, a.st.depth, a.st.current⟩)
    else execCatch cfg t k rest a
  | .rethrow :: _, a => .error (.propagated ⟨k, a.evs, a.st.depth, a.st.current⟩)

/-- one try block with its handlers (no handlers: the statements are not inside a try block, an
    exception has nowhere to go) -/
def execBlock (cfg : Cfg) (t : Test) (b : TryBlock) (s : ISt) : Except Stop ISt :=
  match execStmts cfg t b.body s with
  | .error f => .error f
  | .ok o =>
    match o.esc with
    | none => .ok o.s
    | some k =>
      match findCatch b.catches k with
      | none => .error (.fault .uncaught)
      | some c =>
        match execCatch cfg t k c.ops ⟨o.s.st, o.s.evs⟩ with
        | .error f => .error f
        | .ok a => .ok ⟨a.st, a.evs, o.s.jump⟩

def execBlocks (cfg : Cfg) (t : Test) : List TryBlock → ISt → Except Stop ISt
  | [], s => .ok s
  | b :: rest, s =>
    match execBlock cfg t b s with
    | .error f => .error f
    | .ok s' => execBlocks cfg t rest s'

/-- the variant of `Utest::run` the build selects -/
def utestRunCode (cfg : Cfg) : List TryBlock :=
  if cfg.exceptions then Gen.Runner.utestRunExcCode else Gen.Runner.utestRunNoExcCode

/-- forget the local `jumpResult` -/
def accOf : Except Stop ISt → Except Stop Acc
  | .error f => .error f
  | .ok s => .ok ⟨s.st, s.evs⟩

/-- `Utest::run` as the source has it at check time (`int jumpResult = 0;` first) -/
def utestRunGen (cfg : Cfg) (t : Test) (st : TSt) : Except Stop Acc :=
  accOf (execBlocks cfg t (utestRunCode cfg) ⟨st, [], false⟩)

/-! ## UtestShell::runOneTestInCurrentProcess -/

structure OSt where
  st    : TSt
  evs   : List Ev
  saved : Option String          -- the local `savedTest`
deriving Repr, DecidableEq, Inhabited

/-- one statement.  The `TestResult` pointer and the `Utest` object have no counterpart in the model
    state (`saveResult`, `setResult`, `restoreResult`, `declTest`, `createTest`, `destroyTest` only keep
    their place in the order); `rethrow` is meaningful in the handler only. -/
def execOneOp (cfg : Cfg) (plugins : List Plugin) (t : Test) (s : OSt) : OneOp → Except Stop OSt
  | .vv str => .ok { s with evs := s.evs ++ vv cfg str }
  | .preActions => .ok { s with st := (runAllPre cfg t plugins s.st).st, evs := s.evs ++ (runAllPre cfg t plugins s.st).evs }
  | .postActions => .ok { s with st := (runAllPost cfg t plugins s.st).st, evs := s.evs ++ (runAllPost cfg t plugins s.st).evs }
  | .saveCurrent => .ok { s with saved := s.st.current }
  | .setCurrent => .ok { s with st := { s.st with current := some t.name } }
  | .restoreCurrent => .ok { s with st := { s.st with current := s.saved } }
  | .runTest =>
    match utestRunGen cfg t s.st with
    | .error f => .error (f.prepend s.evs)
    | .ok a => .ok { s with st := a.st, evs := s.evs ++ a.evs }
  | _ => .ok s

def execOneOps (cfg : Cfg) (plugins : List Plugin) (t : Test) : List OneOp → OSt → Except Stop OSt
  | [], s => .ok s
  | op :: rest, s =>
    match execOneOp cfg plugins t s op with
    | .error f => .error f
    | .ok s' => execOneOps cfg plugins t rest s'

/-- the handler `catch (...) { destroyTest(testToRun); throw; }` passes the exception on exactly when
    its last statement is `throw;` (nothing in it touches the modelled state) -/
def handlerRethrows (h : List OneOp) : Bool := h.getLast? == some .rethrow

/-- `UtestShell::runOneTestInCurrentProcess` as the source has it at check time -/
def runOneTestInCurrentProcessGen (cfg : Cfg) (plugins : List Plugin) (t : Test) (st : TSt) : Except Stop Frame :=
  match execOneOps cfg plugins t Gen.Runner.oneTestBefore ⟨st, [], none⟩ with
  | .error f => .error f
  | .ok s1 =>
    match execOneOps cfg plugins t Gen.Runner.oneTestTry s1 with
    | .error f => if handlerRethrows Gen.Runner.oneTestCatchAll then .error f else .error (.fault .uncaught)
    | .ok s2 =>
      match execOneOps cfg plugins t Gen.Runner.oneTestAfter s2 with
      | .error f => .error f
      | .ok s3 => .ok ⟨s3.st, s3.evs, .normal⟩

/-- `UtestShell::runOneTest` (in-process) around the regenerated `runOneTestInCurrentProcess` -/
def runOneTestGen (cfg : Cfg) (plugins : List Plugin) (t : Test) (st : TSt) : Except Stop JmpOut :=
  setJmp { st with hasFailed := false, res := st.res.countRun } (runOneTestInCurrentProcessGen cfg plugins t)

/-! ## TestOutput::printFailure -/

/-- a sequence of `print` calls with the arguments filled in -/
def renderItems (file : String) (line : Nat) (name msg : String) : List PItem → List String
  | [] => []
  | .lit s :: rest => s :: renderItems file line name msg rest
  | .file :: rest => file :: renderItems file line name msg rest
  | .line :: rest => toString line :: renderItems file line name msg rest
  | .name :: rest => name :: renderItems file line name msg rest
  | .msg :: rest => msg :: renderItems file line name msg rest

/-- `printErrorInFileOnLineFormattedForWorkingEnvironment` -/
def locItems (vs : Bool) : List PItem :=
  if Gen.Runner.usesVisualStudioForm vs then Gen.Runner.visualStudioLoc else Gen.Runner.eclipseLoc

def renderPart (vs : Bool) (r : FailRec) : FPart → List String
  | .testLoc => renderItems r.testFile r.testLine "" "" (locItems vs)
  | .failLoc => renderItems r.file r.line "" "" (locItems vs)
  | .inTest => renderItems "" 0 r.testName "" Gen.Runner.failureInTest

/-- `TestOutput::printFailure(failure)` as the list of strings given to `print`; `vs`: the working
    environment is visualStudio -/
def failureToksGen (vs : Bool) (r : FailRec) : List String :=
  ((if Gen.Runner.twoLocationLayout (Gen.Runner.isOutsideTestFile r.testFile r.file)
        (Gen.Runner.isInHelperFunction r.testLine r.line)
    then Gen.Runner.twoLocationParts else Gen.Runner.oneLocationParts).flatMap (renderPart vs r))
  ++ renderItems "" 0 "" r.msg Gen.Runner.failureMessage

/-- `TestOutput::getWorkingEnvironment()` is visualStudio?  `set`: what `setWorkingEnvironment` stored
    (`none` = detectEnvironment: the platform's answer) -/
def envIsVisualStudio (set : Option Bool) : Bool := set.getD Gen.Runner.detectedIsVisualStudio

/-! ## ConsoleTestOutput::printBuffer on a buffered stdio stream -/

/-- a stdio stream: what has reached the file descriptor, and what still sits in the buffer
    (the buffer is unbounded here: a full buffer that spills earlier only makes more visible) -/
structure Stream where
  visible : List String := []
  pending : List String := []
deriving Repr, DecidableEq, Inhabited

/-- what a reader of the file descriptor sees when the process ends with `_exit()` (as the child of
    `-p` does) or is killed: unflushed stdio data is discarded -/
def Stream.afterExit (s : Stream) : List String := s.visible

/-- what it sees when the process ends normally (`exit` flushes) -/
def Stream.afterNormalEnd (s : Stream) : List String := s.visible ++ s.pending

def Stream.flushed (s : Stream) : Stream := ⟨s.visible ++ s.pending, []⟩

/-- the statements of `ConsoleTestOutput::flush()` -/
def execFlushCode : List Gen.Runner.IoOp → Stream → Stream
  | [], s => s
  | .platformFlush :: rest, s => execFlushCode rest s.flushed
  | _ :: rest, s => execFlushCode rest s

/-- the statements of `ConsoleTestOutput::printBuffer(x)`, given the code of `flush()` -/
def execPrintBuffer (flushCode : List Gen.Runner.IoOp) (x : String) : List Gen.Runner.IoOp → Stream → Stream
  | [], s => s
  | .fputs :: rest, s => execPrintBuffer flushCode x rest { s with pending := s.pending ++ [x] }
  | .flush :: rest, s => execPrintBuffer flushCode x rest (execFlushCode flushCode s)
  | .platformFlush :: rest, s => execPrintBuffer flushCode x rest s.flushed

/-- one `print` of the console output, as the source has it at check time -/
def consolePrint (s : Stream) (x : String) : Stream :=
  execPrintBuffer Gen.Runner.consoleFlushCode x Gen.Runner.consolePrintBufferCode s

/-- a process prints `xs` on the console output -/
def consolePrintAll (s : Stream) (xs : List String) : Stream := xs.foldl consolePrint s

/-! ## CompositeTestOutput -/

/-- the receivers of a forwarded callback (the first entry of that name in the regenerated table) -/
def receiversOf (name : String) : List Gen.Runner.Receiver :=
  ((Gen.Runner.compositeReceivers.find? (fun e => e.1 == name)).map (·.2)).getD []

/-- a sequence of callbacks made on the composite, as the calls its two outputs receive, in order -/
def compositeForward {α} (calls : List (String × α)) : List (Gen.Runner.Receiver × String × α) :=
  calls.flatMap (fun c => (receiversOf c.1).map (fun r => (r, c.1, c.2)))

def receivedBy {α} (who : Gen.Runner.Receiver) (l : List (Gen.Runner.Receiver × String × α)) : List (String × α) :=
  (l.filter (fun x => x.1 == who)).map (·.2)

/-! ## CommandLineTestRunner::initializeTestRun: the static rethrow flag -/

/-- one regenerated statement of `initializeTestRun` that writes `UtestShell::rethrowExceptions_`:
    `opt` = `arguments_->isRethrowingExceptions()`, `flag` = the static before the statement -/
def execRethrowInit (opt : Bool) (flag : Bool) (s : Gen.Runner.RethrowInit) : Bool :=
  let taken := match s.guard with
    | .always => true
    | .ifOption => opt
    | .ifNotOption => !opt
  let value := match s.value with
    | .option => opt
    | .notOption => !opt
    | .lit b => b
  if taken then value else flag

/-- the static after the given statements -/
def execRethrowInits (opt : Bool) (code : List Gen.Runner.RethrowInit) (flag : Bool) : Bool :=
  code.foldl (execRethrowInit opt) flag

/-- `initializeTestRun` as the source has it at check time -/
def initializeTestRunGen (optRethrow : Bool) (pr : Process) : Process :=
  { pr with rethrowExceptions := execRethrowInits optRethrow Gen.Runner.initializeTestRunRethrowCode pr.rethrowExceptions }

end Runner
