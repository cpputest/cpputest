import CppUModel.Gen.MockMessages
/-!
Model of the CppUTest mocking core, written from the C++ line by line:
`src/CppUTestExt/MockSupport.cpp`, `MockActualCall.cpp` (`MockCheckedActualCall`),
`MockExpectedCall.cpp` (`MockCheckedExpectedCall`), `MockExpectedCallsList.cpp`, `MockFailure.cpp`
(first line of every failure message).

Representation.  The expectation list of a `MockSupport` is a `List Exp` in declaration order.
The candidate list `potentiallyMatchingExpectations_` of the (single) actual call a `MockSupport`
has in flight is always a sub-list of that list *in the same order* (it is built by
`addPotentiallyMatchingExpectations` and only ever pruned), so it is represented by its
characteristic function: the field `cand` of every expectation.  `matchingExpectation_` (a
pointer to at most one expectation, which has been removed from the candidate list) is the field
`isMatch`.  "First candidate such that P" is then "first list element with `cand && P`".
The per-call matching state that the C++ keeps *inside the shared expectation objects*
(`matchesActualCall_` of every parameter, `wasPassedToObject_`, `isActualCallMatchFinalized_`)
is kept in the same place here (`passed`, `passedObj`, `finalized`), and it is reset exactly
where the C++ resets it — in particular a candidate that is pruned because of a parameter value,
an output parameter or the object is reset when it is dropped
(`onlyKeepExpectationsWithInputParameter` / `…WithOutputParameter` / `…OnObject`), while
`onlyKeepExpectationsRelatedTo` (pruning by name, before any flag can be set) does not reset.

Parameter values: `equals` is "same type and same value" here; the mixed-integer branches of
`MockNamedValue::equals` belong to property C09 and the C08 generator never mixes integer types
under one parameter name.
-/
namespace Mock

/-- the value types used by the C08 scenarios (`MockNamedValue` type name in brackets) -/
inductive Val
  | int  (v : Int)          -- "int"
  | uint (v : Nat)          -- "unsigned int"
  | str  (b : List UInt8)   -- "const char*" (compared by content)
  | ptr  (a : Nat)          -- "void*"
  | cptr (a : Nat)          -- "const void*"
  | bool (b : Bool)         -- "bool"
  | mem  (b : List UInt8)   -- "const unsigned char*" memory buffer (size and content)
deriving DecidableEq, Repr, Inhabited

/-- `MockExpectedFunctionParameter` of the input list -/
structure Param where
  name   : String
  val    : Val
  passed : Bool            -- matchesActualCall_
deriving DecidableEq, Repr, Inhabited

/-- `MockExpectedFunctionParameter` of the output list (`withOutputParameterReturning`) -/
structure OutParam where
  name   : String
  bytes  : List UInt8
  passed : Bool
deriving DecidableEq, Repr, Inhabited

/-- `MockCheckedExpectedCall` -/
structure Exp where
  name       : String
  ins        : List Param
  outs       : List OutParam
  iop        : Bool          -- ignoreOtherParameters_
  obj        : Option Nat    -- isSpecificObjectExpected_ / objectPtr_
  passedObj  : Bool          -- wasPassedToObject_
  finalized  : Bool          -- isActualCallMatchFinalized_
  expected   : Nat
  actual     : Nat
  lo         : Nat           -- initialExpectedCallOrder_ (0 = NO_EXPECTED_CALL_ORDER)
  hi         : Nat
  outOfOrder : Bool
  ret        : Option Val    -- returnValue_ (none = name "")
  cand       : Bool          -- in potentiallyMatchingExpectations_ of the current call
  isMatch    : Bool          -- is matchingExpectation_ of the current call
deriving DecidableEq, Repr, Inhabited

/-- one step of an actual call after `withName` -/
inductive Seg
  | inp (name : String) (v : Val)     -- with…Parameter
  | out (name : String)               -- withOutputParameter
  | obj (o : Nat)                     -- onObject
deriving DecidableEq, Repr, Inhabited

/-- one modifier of an expectation -/
inductive ESeg
  | inp (name : String) (v : Val)
  | out (name : String) (bytes : List UInt8)
  | obj (o : Nat)
  | ret (v : Val)
  | iop
deriving DecidableEq, Repr, Inhabited

/-! ## MockCheckedExpectedCall -/

/-- constructor `MockCheckedExpectedCall(numCalls)` + `withName` + `withCallOrder` -/
def Exp.new (name : String) (n lo hi : Nat) : Exp :=
  { name := name, ins := [], outs := [], iop := false, obj := none, passedObj := true,
    finalized := false, expected := n, actual := 0, lo := lo, hi := hi, outOfOrder := false,
    ret := none, cand := false, isMatch := false }

def Exp.addSeg (e : Exp) : ESeg → Exp
  | .inp n v => { e with ins := e.ins ++ [{ name := n, val := v, passed := false }] }
  | .out n b => { e with outs := e.outs ++ [{ name := n, bytes := b, passed := false }] }
  | .obj o   => { e with obj := some o, passedObj := false }
  | .ret v   => { e with ret := some v }
  | .iop     => { e with iop := true }

def Exp.canMatch (e : Exp) : Bool := decide (e.actual < e.expected)
def Exp.isFulfilled (e : Exp) : Bool := decide (e.actual = e.expected)

/-- `areParametersMatchingActualCall` -/
def Exp.paramsMatching (e : Exp) : Bool := e.ins.all (·.passed) && e.outs.all (·.passed)
/-- `isMatchingActualCall` -/
def Exp.isMatching (e : Exp) : Bool := e.paramsMatching && e.passedObj
/-- `isMatchingActualCallAndFinalized` -/
def Exp.isMatchingFinalized (e : Exp) : Bool := e.isMatching && (!e.iop || e.finalized)

/-- `resetActualCallMatchingState` -/
def Exp.reset (e : Exp) : Exp :=
  { e with passedObj := e.obj.isNone, finalized := false,
           ins := e.ins.map (fun p => { p with passed := false }),
           outs := e.outs.map (fun p => { p with passed := false }) }

/-- `callWasMade(callOrder)` -/
def Exp.callWasMade (e : Exp) (order : Nat) : Exp :=
  Exp.reset { e with actual := e.actual + 1,
                     outOfOrder := e.outOfOrder || (e.lo != 0 && (decide (order < e.lo) || decide (e.hi < order))) }

/-- `hasInputParameter`: first parameter of that name (`getValueByName`) must be `equals` -/
def Exp.hasInput (e : Exp) (n : String) (v : Val) : Bool :=
  match e.ins.find? (fun p => p.name == n) with
  | some p => p.val == v
  | none => e.iop

def Exp.hasInputNamed (e : Exp) (n : String) : Bool := e.ins.any (fun p => p.name == n)
def Exp.hasOutputNamed (e : Exp) (n : String) : Bool := e.outs.any (fun p => p.name == n)

/-- `hasOutputParameter`: `compatibleForCopying` is always true for ("const void*", "void*") -/
def Exp.hasOutput (e : Exp) (n : String) : Bool :=
  match e.outs.find? (fun p => p.name == n) with
  | some _ => true
  | none => e.iop

/-- `inputParameterWasPassed` -/
def Exp.passInput (e : Exp) (n : String) : Exp :=
  { e with ins := e.ins.map (fun p => if p.name == n then { p with passed := true } else p) }
/-- `outputParameterWasPassed` -/
def Exp.passOutput (e : Exp) (n : String) : Exp :=
  { e with outs := e.outs.map (fun p => if p.name == n then { p with passed := true } else p) }

/-- `relatesToObject` -/
def Exp.relatesToObject (e : Exp) (o : Nat) : Bool :=
  match e.obj with
  | none => true
  | some x => x == o

/-! ## MockCheckedActualCall -/

inductive CState | succeed | inProgress | failed
deriving DecidableEq, Repr, Inhabited

structure ACall where
  name    : String
  order   : Nat
  state   : CState
  checked : Bool                              -- expectationsChecked_
  bufs    : List (String × List UInt8)        -- outputParameterExpectations_: name, buffer content
deriving DecidableEq, Repr, Inhabited

/-- expectation list of the scope + the call in flight + the failure delivered to the reporter -/
structure CS where
  es   : List Exp
  call : ACall
  fail : Option String
deriving Repr, Inhabited

def anyCand (es : List Exp) : Bool := es.any (·.cand)
def anyMatch (es : List Exp) : Bool := es.any (·.isMatch)

/-- apply `f` to the first element satisfying `p` -/
def modifyFirst (p : Exp → Bool) (f : Exp → Exp) : List Exp → List Exp
  | [] => []
  | e :: es => if p e then f e :: es else e :: modifyFirst p f es

/-- `MockCheckedActualCall::failTest` -/
def failCall (cs : CS) (msg : String) : CS :=
  if cs.call.state = .failed then cs
  else { cs with call := { cs.call with state := .failed },
                 fail := match cs.fail with | some m => some m | none => some msg }

/-- `copyOutputParameters(expectedCall)`: memcpy of the expectation's bytes into every registered
    output buffer of that name -/
def copyOne (e : Exp) (b : String × List UInt8) : String × List UInt8 :=
  match e.outs.find? (fun p => p.name == b.1) with
  | some o => (b.1, o.bytes ++ b.2.drop o.bytes.length)
  | none => b

def copyOutputs (e : Exp) (bufs : List (String × List UInt8)) : List (String × List UInt8) :=
  bufs.map (copyOne e)

def isMF (e : Exp) : Bool := e.cand && e.isMatchingFinalized
def isM (e : Exp) : Bool := e.cand && e.isMatching

/-- removed from the candidate list and stored in `matchingExpectation_` -/
def Exp.take (e : Exp) : Exp := { e with cand := false, isMatch := true }

/-- `completeCallWhenMatchIsFound` -/
def complete (cs : CS) : CS :=
  match cs.es.find? isMF with
  | some e =>
    { cs with es := modifyFirst isMF Exp.take cs.es,
              call := { cs.call with bufs := copyOutputs e cs.call.bufs, state := .succeed } }
  | none =>
    match cs.es.find? isM with
    | some e => { cs with call := { cs.call with bufs := copyOutputs e cs.call.bufs } }
    | none => cs

/-- `discardCurrentlyMatchingExpectations`, per expectation: the current match is reset and
    forgotten; `onlyKeepUnmatchingExpectations` resets and drops complete candidates -/
def discardE (e : Exp) : Exp :=
  if e.isMatch then { e.reset with isMatch := false }
  else if isMF e then { e.reset with cand := false }
  else e

def totalActualFor (es : List Exp) (n : String) : Nat :=
  (es.filter (fun e => e.name == n)).foldl (fun a e => a + e.actual) 0

def ordinal (n : Nat) : String :=
  let suffix :=
    if n % 100 < 11 || n % 100 > 13 then
      (if n % 10 = 3 then "rd" else if n % 10 = 2 then "nd" else if n % 10 = 1 then "st" else "th")
    else "th"
  toString n ++ suffix

/-- first line of `MockUnexpectedCallHappenedFailure`; the message pieces are regenerated from
    `MockFailure.cpp` (`Gen/MockMessages.lean`) -/
def msgUnexpectedCall (es : List Exp) (n : String) : String :=
  if totalActualFor es n > 0 then
    Gen.MockMsg.additionalPre ++ ordinal (totalActualFor es n + 1) ++ Gen.MockMsg.additionalMid ++ n
  else Gen.MockMsg.unexpectedCallPre ++ n

/-- first line of `MockUnexpectedInputParameterFailure` (the value after `: <` is cut off) -/
def msgUnexpectedInput (es : List Exp) (fn pn : String) : String :=
  if (es.filter (fun e => e.name == fn && e.hasInputNamed pn)).isEmpty then
    Gen.MockMsg.paramNamePre ++ fn ++ Gen.MockMsg.paramNameMid ++ pn
  else Gen.MockMsg.paramValuePre ++ pn ++ Gen.MockMsg.paramValueMid ++ fn ++ Gen.MockMsg.paramValueEnd

/-- first line of `MockUnexpectedOutputParameterFailure` -/
def msgUnexpectedOutput (es : List Exp) (fn pn : String) : String :=
  if (es.filter (fun e => e.name == fn && e.hasOutputNamed pn)).isEmpty then
    Gen.MockMsg.outNamePre ++ fn ++ Gen.MockMsg.outNameMid ++ pn
  else Gen.MockMsg.outTypePre ++ "void*" ++ Gen.MockMsg.outTypeMid1 ++ pn ++ Gen.MockMsg.outTypeMid2 ++ fn ++ Gen.MockMsg.outTypeEnd

def msgUnexpectedObject (fn : String) : String := Gen.MockMsg.unexpectedObjectPre ++ fn
def msgMissingParam (fn : String) : String := Gen.MockMsg.missingParamPre ++ fn ++ Gen.MockMsg.missingParamEnd
def msgMissingObject (fn : String) : String := Gen.MockMsg.missingObjectPre ++ fn ++ Gen.MockMsg.missingObjectEnd
def msgUnfulfilled : String := Gen.MockMsg.unfulfilled
def msgOutOfOrder : String := Gen.MockMsg.outOfOrder
def msgCannotHappen : String :=
  "Actual call is in progress, but there are finalized matching expectations when checking expectations. This cannot happen."

/-- constructor: `addPotentiallyMatchingExpectations(allExpectations)` -/
def beginCall (es : List Exp) : List Exp :=
  es.map (fun e => { e with cand := e.canMatch, isMatch := false })

/-- `withName` -/
def withName (cs : CS) (n : String) : CS :=
  let es1 := cs.es.map (fun e => { e with cand := e.cand && e.name == n })
  let cs1 : CS := { cs with es := es1, call := { cs.call with name := n, state := .inProgress } }
  if anyCand es1 then complete cs1
  else failCall cs1 (msgUnexpectedCall cs.es n)

/-- common body of `checkInputParameter` / `checkOutputParameter` (the two C++ functions are the
    same text up to the pruning predicate, the flag that is set and the failure): `keep` is
    `hasInputParameter` / `hasOutputParameter`, `pass` is `parameterWasPassed` /
    `outputParameterWasPassed`; a candidate that is dropped is reset first -/
def checkParam (cs : CS) (keep : Exp → Bool) (pass : Exp → Exp) (msg : String) : CS :=
  if cs.call.state = .failed then cs
  else
    let es1 := cs.es.map discardE
    let es2 := es1.map (fun e => if e.cand && !keep e then { e.reset with cand := false } else e)
    let cs2 : CS := { cs with es := es2, call := { cs.call with state := .inProgress } }
    if anyCand es2 then
      complete { cs2 with es := es2.map (fun e => if e.cand then pass e else e) }
    else failCall cs2 msg

/-- `checkInputParameter` -/
def checkInput (cs : CS) (n : String) (v : Val) : CS :=
  checkParam cs (fun e => e.hasInput n v) (fun e => e.passInput n) (msgUnexpectedInput cs.es cs.call.name n)

/-- `withOutputParameter`: `addOutputParameter` first (even after a failure), then
    `checkOutputParameter`; `buf` is the caller's buffer content -/
def checkOutput (cs0 : CS) (n : String) (buf : List UInt8) : CS :=
  checkParam { cs0 with call := { cs0.call with bufs := cs0.call.bufs ++ [(n, buf)] } }
    (fun e => e.hasOutput n) (fun e => e.passOutput n) (msgUnexpectedOutput cs0.es cs0.call.name n)

/-- `onObject` -/
def onObject (cs : CS) (o : Nat) : CS :=
  if cs.call.state = .failed then cs
  else
    let es1 := cs.es.map (fun e => if e.cand && !e.relatesToObject o then { e.reset with cand := false } else e)
    let cs1 : CS := { cs with es := es1 }
    if !anyMatch es1 && !anyCand es1 then failCall cs1 (msgUnexpectedObject cs.call.name)
    else
      let es2 := es1.map (fun e => if e.cand then { e with passedObj := true } else e)
      let cs2 : CS := { cs1 with es := es2 }
      if anyMatch es2 then cs2 else complete cs2

def applySeg (cs : CS) (buf : List UInt8) : Seg → CS
  | .inp n v => checkInput cs n v
  | .out n   => checkOutput cs n buf
  | .obj o   => onObject cs o

/-- `potentiallyMatchingExpectations_.resetActualCallMatchingState()` -/
def resetCands (es : List Exp) : List Exp := es.map (fun e => if e.cand then e.reset else e)

/-- the tail of `checkExpectations` for a call that is still in progress: take the first
    candidate that matches (only possible with ignored parameters), else report what is missing -/
def finishInProgress (cs : CS) : CS :=
  if cs.es.any isMF then failCall cs msgCannotHappen
  else
    match cs.es.find? isM with
    | some _ =>
      let es1 := modifyFirst isM (fun e => ({ e.take with finalized := true }).callWasMade cs.call.order) cs.es
      { cs with es := resetCands es1, call := { cs.call with state := .succeed } }
    | none =>
      if cs.es.any (fun e => e.cand && !e.paramsMatching) then failCall cs (msgMissingParam cs.call.name)
      else failCall cs (msgMissingObject cs.call.name)

/-- `MockCheckedActualCall::checkExpectations` -/
def callCheck (cs : CS) : CS :=
  if cs.call.checked then cs
  else
    let cs1 : CS := { cs with call := { cs.call with checked := true } }
    match cs1.call.state with
    | .succeed =>
      { cs1 with es := resetCands (cs1.es.map (fun e => if e.isMatch then e.callWasMade cs1.call.order else e)) }
    | .failed => { cs1 with es := resetCands cs1.es }
    | .inProgress => finishInProgress cs1

/-- `returnValue()` after `checkExpectations()`: the matching expectation's value, or the
    named value "no return value" (an `int` 0 whose name is not empty) -/
def returnValueOf (es : List Exp) : Option Val :=
  match es.find? (·.isMatch) with
  | some e => e.ret
  | none => some (.int 0)

def newCall (order : Nat) : ACall :=
  { name := "", order := order, state := .succeed, checked := false, bufs := [] }

/-- the steps of a call statement; the first failure leaves the statement (the reporter throws) -/
def segsFrom (cs : CS) (buf : List UInt8) : List Seg → CS
  | [] => cs
  | s :: rest => if cs.fail.isSome then cs else segsFrom (applySeg cs buf s) buf rest

/-- a whole actual call on an expectation list: constructor, `withName`, the steps, and the
    finishing `checkExpectations` of the call -/
def callFull (es : List Exp) (order : Nat) (name : String) (segs : List Seg) (buf : List UInt8) : CS :=
  callCheck (segsFrom (withName { es := beginCall es, call := newCall order, fail := none } name) buf segs)

/-! ## MockSupport -/

structure Scope where
  name          : String          -- mockName_ ("" = the global mock)
  es            : List Exp
  actualOrder   : Nat
  expectedOrder : Nat
  strict        : Bool
  ioc           : Bool            -- ignoreOtherCalls_
  enabled       : Bool
  last          : Option ACall    -- lastActualFunctionCall_
deriving Repr, Inhabited

def Scope.fresh (name : String) : Scope :=
  { name := name, es := [], actualOrder := 0, expectedOrder := 0, strict := false, ioc := false,
    enabled := true, last := none }

/-- `appendScopeToName` -/
def Scope.fullName (sc : Scope) (fn : String) : String :=
  if sc.name.isEmpty then fn else sc.name ++ "::" ++ fn

/-- `expectNCalls(amount, functionName)` followed by the modifiers -/
def Scope.expectN (sc : Scope) (n : Nat) (fn : String) (segs : List ESeg) : Scope :=
  if !sc.enabled then sc
  else
    let e0 := if sc.strict then Exp.new (sc.fullName fn) n (sc.expectedOrder + 1) (sc.expectedOrder + n)
              else Exp.new (sc.fullName fn) n 0 0
    let e := segs.foldl Exp.addSeg e0
    { sc with es := sc.es ++ [e], expectedOrder := if sc.strict then sc.expectedOrder + n else sc.expectedOrder }

/-- `lastActualFunctionCall_->checkExpectations()` (the call object stays) -/
def Scope.checkLast (sc : Scope) : Scope × Option String :=
  match sc.last with
  | none => (sc, none)
  | some c =>
    let cs := callCheck { es := sc.es, call := c, fail := none }
    ({ sc with es := cs.es, last := some cs.call }, cs.fail)

/-- result of starting an actual call -/
structure Started where
  sc      : Scope
  fail    : Option String
  ignored : Bool
deriving Repr, Inhabited

/-- the rest of `actualCall(functionName)` once the previous call is finished and deleted: the
    disabled / ignored routing, else `createActualCall` and `withName(scopeFunctionName)` -/
def Scope.startCall (sc2 : Scope) (full : String) : Started :=
  if !sc2.enabled then { sc := sc2, fail := none, ignored := true }
  else if sc2.ioc && !(sc2.es.any (fun e => e.name == full)) then
    { sc := sc2, fail := none, ignored := true }
  else
    let order := sc2.actualOrder + 1
    let cs := withName { es := beginCall sc2.es, call := newCall order, fail := none } full
    { sc := { sc2 with es := cs.es, actualOrder := order, last := some cs.call }, fail := cs.fail, ignored := false }

/-- `actualCall(functionName)` up to and including `withName`: the scoped name is computed first,
    the call in flight is finished (`checkExpectations`) and deleted, then the new call starts -/
def Scope.actualCall (sc : Scope) (fn : String) : Started :=
  match sc.checkLast with
  | (sc1, some f) => { sc := sc1, fail := some f, ignored := false }
  | (sc1, none) => Scope.startCall { sc1 with last := none } (sc.fullName fn)

/-- apply one step of the call in flight -/
def Scope.seg (sc : Scope) (buf : List UInt8) (s : Seg) : Scope × Option String :=
  match sc.last with
  | none => (sc, none)
  | some c =>
    let cs := applySeg { es := sc.es, call := c, fail := none } buf s
    ({ sc with es := cs.es, last := some cs.call }, cs.fail)

def Scope.clear (sc : Scope) : Scope := Scope.fresh sc.name

def Scope.hasUnfulfilled (sc : Scope) : Bool := sc.es.any (fun e => !e.isFulfilled)
def Scope.hasOutOfOrder (sc : Scope) : Bool := sc.es.any (·.outOfOrder)

/-- the global mock and its scopes (`data_` entries, in creation order) -/
structure World where
  glob : Scope
  subs : List Scope
deriving Repr, Inhabited

def World.init : World := { glob := Scope.fresh "", subs := [] }

/-- `clone(mockName)` -/
def World.cloneScope (w : World) (name : String) : Scope :=
  { Scope.fresh name with strict := w.glob.strict, ioc := w.glob.ioc, enabled := w.glob.enabled }

/-- `mock(name)`: creates the scope on first use -/
def World.touch (w : World) (name : String) : World :=
  if name.isEmpty then w
  else if w.subs.any (fun s => s.name == name) then w
  else { w with subs := w.subs ++ [w.cloneScope name] }

def World.get (w : World) (name : String) : Scope :=
  if name.isEmpty then w.glob
  else match w.subs.find? (fun s => s.name == name) with
    | some s => s
    | none => w.cloneScope name

def World.put (w : World) (sc : Scope) : World :=
  if sc.name.isEmpty then { w with glob := sc }
  else { w with subs := w.subs.map (fun s => if s.name == sc.name then sc else s) }

/-- `checkExpectationsOfLastActualCall` over a list of scopes, stopping at the first failure -/
def checkLasts : List Scope → List Scope × Option String
  | [] => ([], none)
  | s :: rest =>
    match s.checkLast with
    | (s1, some f) => (s1 :: rest, some f)
    | (s1, none) =>
      match checkLasts rest with
      | (rest1, f) => (s1 :: rest1, f)

/-- all scopes a call on `name` covers: the global mock covers every scope -/
def World.covered (w : World) (name : String) : List Scope :=
  if name.isEmpty then w.glob :: w.subs else [w.get name]

def World.putAll (w : World) (scs : List Scope) : World := scs.foldl World.put w

/-- `checkExpectations()` on scope `name`: result world and the failure, if any -/
def World.check (w0 : World) (name : String) : World × Option String :=
  let w := w0.touch name
  match checkLasts (w.covered name) with
  | (scs, some f) => (w.putAll scs, some f)
  | (scs, none) =>
    let w1 := w.putAll scs
    if scs.any Scope.hasUnfulfilled then (w1, some msgUnfulfilled)
    else if scs.any Scope.hasOutOfOrder then (w1, some msgOutOfOrder)
    else (w1, none)

/-- `expectedCallsLeft()` -/
def World.left (w0 : World) (name : String) : World × Option String × Bool :=
  let w := w0.touch name
  match checkLasts (w.covered name) with
  | (scs, some f) => (w.putAll scs, some f, false)
  | (scs, none) => (w.putAll scs, none, scs.any Scope.hasUnfulfilled)

def World.clear (w0 : World) (name : String) : World :=
  let w := w0.touch name
  if name.isEmpty then { glob := w.glob.clear, subs := [] } else w.put (w.get name).clear

def World.setAll (w0 : World) (name : String) (f : Scope → Scope) : World :=
  let w := w0.touch name
  if name.isEmpty then { glob := f w.glob, subs := w.subs.map f } else w.put (f (w.get name))

def World.strictOrder (w0 : World) (name : String) : World :=
  let w := w0.touch name
  w.put { w.get name with strict := true }

def World.expectN (w0 : World) (name : String) (n : Nat) (fn : String) (segs : List ESeg) : World :=
  let w := w0.touch name
  w.put ((w.get name).expectN n fn segs)

/-- the steps of the call in flight on a scope, one after the other up to the first failure -/
def segsLoop (sc : Scope) (bufInit : List UInt8) : List Seg → Scope × Option String
  | [] => (sc, none)
  | s :: rest =>
    match sc.seg bufInit s with
    | (sc1, some f) => (sc1, some f)
    | (sc1, none) => segsLoop sc1 bufInit rest

structure CallOut where
  w       : World
  fail    : Option String
  ignored : Bool
deriving Repr, Inhabited

def World.call (w0 : World) (name fn : String) (segs : List Seg) (bufInit : List UInt8) : CallOut :=
  let w := w0.touch name
  let st := (w.get name).actualCall fn
  match st.fail with
  | some f => { w := w.put st.sc, fail := some f, ignored := false }
  | none =>
    if st.ignored then { w := w.put st.sc, fail := none, ignored := true }
    else
      match segsLoop st.sc bufInit segs with
      | (sc1, f) => { w := w.put sc1, fail := f, ignored := false }

/-- `hasReturnValue()` / `returnValue()` of the call in flight on scope `name` -/
def World.returnValue (w : World) (name : String) : World × Option String × Option Val :=
  let sc := w.get name
  match sc.checkLast with
  | (sc1, some f) => (w.put sc1, some f, none)
  | (sc1, none) => (w.put sc1, none, returnValueOf sc1.es)

def World.bufs (w : World) (name : String) : List (String × List UInt8) :=
  match (w.get name).last with
  | some c => c.bufs
  | none => []

/-! ## MockSupportPlugin -/

/-- `checkExpectationsOfLastActualCall` with a reporter that records and goes on (the plugin's):
    every scope's call in flight is finished, every failure is delivered -/
def checkLastsAll : List Scope → List Scope × List String
  | [] => ([], [])
  | s :: rest =>
    match s.checkLast, checkLastsAll rest with
    | (s1, f), (rest1, fs) => (s1 :: rest1, f.toList ++ fs)

/-- `wasLastActualCallFulfilled` -/
def Scope.lastFulfilled (sc : Scope) : Bool :=
  match sc.last with
  | some c => c.state == .succeed
  | none => true

/-- `mock().checkExpectations()` under a reporter that does not leave the test: the failures it
    delivers, in order (calls in flight; then unfulfilled expectations if every last call was
    fulfilled — `failTest` clears the mock, so nothing follows —, else out-of-order calls) -/
def World.checkAllFailures (w : World) : List String :=
  match checkLastsAll (w.glob :: w.subs) with
  | (scs, fs) =>
    if scs.all Scope.lastFulfilled && scs.any Scope.hasUnfulfilled then fs ++ [msgUnfulfilled]
    else if scs.any Scope.hasOutOfOrder then fs ++ [msgOutOfOrder]
    else fs

/-- what a test body leaves behind: the mock, whether the test has failed, the failures reported -/
structure BodyResult where
  w      : World
  failed : Bool
  msgs   : List String
deriving Repr, Inhabited

/-- `MockSupportPlugin::postTestAction`: `if (!test.hasFailed()) mock().checkExpectations();
    mock().clear();` — the failures it adds to the test, and the mock afterwards -/
def pluginPost (r : BodyResult) : List String × World :=
  (if r.failed then [] else r.w.checkAllFailures, r.w.clear "")

end Mock
