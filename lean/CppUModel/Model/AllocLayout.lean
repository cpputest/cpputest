import CppUModel.Gen.AllocLayoutConstants
/-!
Model of the tracked allocation paths (C05), written from the C++ line by line:

* `MemoryLeakDetector::allocMemory / reallocMemory / deallocMemory`, `storeLeakInformation`,
  `createMemoryLeakAccountingInformation`, `checkForCorruption`  (src/CppUTest/MemoryLeakDetector.cpp)
* `cpputest_malloc/calloc/realloc/strdup/strndup`            (src/CppUTest/TestHarness_c.cpp)
* `mem_leak_operator_new*`                                   (src/CppUTest/MemoryLeakWarningPlugin.cpp)

All `size_t` arithmetic is `BitVec 64` and goes through the REGENERATED functions of
`Gen/AllocLayoutConstants.lean` (the expressions of the current source).  An underlying block is
the list of its bytes, exactly as long as the request given to the platform; every write of the
detector (`node->init`, the guard bytes, `memset`, `memcpy`) goes through the bounds-checked
`writeAt`, and a write outside the block (or a dereference of a NULL node) ends the operation in
`Outcome.ub` — this is how a wrap-around of the size arithmetic shows up in the model.

Environment inputs (explicit parameters): what `alloc_memory` / `allocMemoryLeakNode` /
`PlatformSpecificRealloc` answered (`Ans`: a block with its initial bytes, NULL, or — default
allocator only — the test failure raised by `checkedMalloc`), and the byte image of a node.
-/
namespace AllocLayout
open Gen.AllocLayout

abbrev W := BitVec 64

/-- build configuration: corruption check compiled in or not; `sizeof(MemoryLeakDetectorNode)` -/
structure Cfg where
  check : Bool
  node  : W
deriving Repr, DecidableEq, Inhabited

def defaultCfg : Cfg := { check := true, node := BitVec.ofNat 64 sizeofNode }
def noCheckCfg : Cfg := { check := false, node := BitVec.ofNat 64 sizeofNode }

/-- `memory_corruption_buffer_size` -/
def Cfg.guard (c : Cfg) : W :=
  BitVec.ofNat 64 (if c.check then corruptionBufferSizeCheck else corruptionBufferSizeNoCheck)

/-- `calculateVoidPointerAlignedSize` (the branch the build compiles) -/
def align (c : Cfg) (x : W) : W :=
  if c.check then calculateVoidPointerAlignedSizeCheck x else calculateVoidPointerAlignedSizeNoCheck x

/-- `sizeOfMemoryWithCorruptionInfo` -/
def swci (c : Cfg) (size : W) : W := sizeOfMemoryWithCorruptionInfo (align c) c.guard size

/-- the overflow guard at the top of `allocMemory` -/
def rejectsAlloc (c : Cfg) (size : W) : Bool := allocOverflowGuard (swci c) c.node size
/-- the overflow guard at the top of `reallocMemory` -/
def rejectsRealloc (c : Cfg) (size : W) : Bool := reallocOverflowGuard (swci c) c.node size

/-- `#ifdef CPPUTEST_DISABLE_MEM_CORRUPTION_CHECK allocatNodesSeperately = true;` -/
def forcedSep (c : Cfg) (sep : Bool) : Bool := sep || !c.check

/-- size handed to `allocator->alloc_memory` -/
def allocReq (c : Cfg) (sep : Bool) (size : W) : W :=
  if sep then allocRequestSeparate (swci c) c.node size else allocRequestInline (swci c) c.node size
/-- size handed to `PlatformSpecificRealloc` -/
def reallocReq (c : Cfg) (sep : Bool) (size : W) : W :=
  if sep then reallocRequestSeparate (swci c) c.node size else reallocRequestInline (swci c) c.node size

/-- `getNodeFromMemoryPointer`: offset of the inline node -/
def nodeOff (c : Cfg) (size : W) : W := nodeOffset (swci c) size

/-- the bytes `addMemoryCorruptionInformation` writes -/
def guardImage (c : Cfg) : List UInt8 :=
  (List.range c.guard.toNat).map (fun i => guardBytes.getD (i % guardBytes.length) 0)

/-! ## memory -/

structure Block where
  id    : Nat
  bytes : List UInt8
deriving Repr, DecidableEq, Inhabited

/-- a write of `src` at offset `off`; `none` when it does not fit (out-of-bounds write) -/
def writeAt (bs : List UInt8) (off : Nat) (src : List UInt8) : Option (List UInt8) :=
  if off + src.length ≤ bs.length then some (bs.take off ++ src ++ bs.drop (off + src.length)) else none

def findBlock (m : List Block) (id : Nat) : Option Block := m.find? (fun b => b.id == id)
def setBlock (m : List Block) (id : Nat) (bytes : List UInt8) : List Block :=
  m.map (fun b => if b.id == id then { b with bytes := bytes } else b)
def dropBlock (m : List Block) (id : Nat) : List Block := m.filter (fun b => b.id != id)

/-- write into block `id` of the memory -/
def writeBlock (m : List Block) (id off : Nat) (src : List UInt8) : Option (List Block) :=
  match findBlock m id with
  | none => none
  | some b =>
    match writeAt b.bytes off src with
    | none => none
    | some bs => some (setBlock m id bs)

/-! ## the detector's record of a block -/

structure Rec where
  id     : Nat      -- node->memory_: the underlying block (the user pointer is its first byte)
  size   : W        -- node->size_
  fam    : Nat      -- node->allocator_ (0 new, 1 new[], 2 malloc)
  sep    : Bool     -- the node lives in a block of its own
  nodeId : Nat      -- that block (0 for an inline node)
  number : Nat      -- node->number_
deriving Repr, DecidableEq, Inhabited

structure State where
  tracked : List Rec := []
  mem     : List Block := []
  seq     : Nat := 1
deriving Repr, DecidableEq, Inhabited

/-- answer of `alloc_memory` / `allocMemoryLeakNode` -/
inductive Ans
  | block (id : Nat) (bytes : List UInt8)
  | null
  | fail            -- `checkedMalloc`: FAIL("malloc returned null pointer") (default allocators)
deriving Repr, DecidableEq, Inhabited

/-- answer of `PlatformSpecificRealloc` -/
inductive RAns
  | moved (id : Nat) (bytes : List UInt8)      -- the (possibly same) address, with its contents
  | null
deriving Repr, DecidableEq, Inhabited

inductive Outcome
  | ptr (id : Nat)
  | null
  | badAlloc
  | testFail
  | ub (why : String)
deriving Repr, DecidableEq, Inhabited

inductive Ev
  | ualloc (req : W) (id : Nat)            -- alloc_memory(req) answered block id (0 = NULL)
  | unode (size : W) (id : Nat)            -- allocMemoryLeakNode(size)
  | ufree (id : Nat)                       -- free_memory
  | unodefree (id : Nat)                   -- freeMemoryLeakNode
  | urealloc (old : Nat) (req : W) (id : Nat)
  | misuse (kind : String)
deriving Repr, DecidableEq, Inhabited

def Ans.id : Ans → Nat
  | .block id _ => id
  | _ => 0
def RAns.id : RAns → Nat
  | .moved id _ => id
  | .null => 0

/-- byte image of an initialised node (opaque: pointers, counters) -/
abbrev NodeImage := Rec → List UInt8

def famNew : Nat := 0
def famNewArray : Nat := 1
def famMalloc : Nat := 2

/-! ## storeLeakInformation -/

/-- `node->init(...)`: the node's bytes are written where the node lives -/
def writeNode (c : Cfg) (img : NodeImage) (m : List Block) (r : Rec) : Option (List Block) :=
  if r.sep then writeBlock m r.nodeId 0 (img r)
  else writeBlock m r.id (nodeOff c r.size).toNat (img r)

/-- `addMemoryCorruptionInformation(node->memory_ + node->size_)` -/
def writeGuard (c : Cfg) (m : List Block) (r : Rec) : Option (List Block) :=
  writeBlock m r.id r.size.toNat (guardImage c)

/-- `storeLeakInformation` followed by `return node->memory_` -/
def store (c : Cfg) (img : NodeImage) (s : State) (r : Rec) (evs : List Ev) : State × List Ev × Outcome :=
  match writeNode c img s.mem r with
  | none => (s, evs, .ub "node written outside its block")
  | some m1 =>
    match writeGuard c m1 r with
    | none => (s, evs, .ub "guard bytes written outside the block")
    | some m2 => ({ tracked := r :: s.tracked, mem := m2, seq := s.seq + 1 }, evs, .ptr r.id)

/-- `createMemoryLeakAccountingInformation` + `storeLeakInformation` for block `id` -/
def account (c : Cfg) (img : NodeImage) (s : State) (fam : Nat) (size : W) (sep : Bool) (id : Nat)
    (a2 : Ans) (evs : List Ev) : State × List Ev × Outcome :=
  if sep then
    match a2 with
    | .null => (s, evs ++ [.unode c.node 0], .ub "node allocation returned NULL, dereferenced")
    | .fail => (s, evs ++ [.unode c.node 0], .testFail)
    | .block nid nb =>
      store c img { s with mem := ⟨nid, nb⟩ :: s.mem } ⟨id, size, fam, true, nid, s.seq⟩ (evs ++ [.unode c.node nid])
  else
    store c img s ⟨id, size, fam, false, 0, s.seq⟩ evs

/-! ## allocMemory -/

def allocMemory (c : Cfg) (img : NodeImage) (s : State) (fam : Nat) (size : W) (sep0 : Bool)
    (a1 a2 : Ans) : State × List Ev × Outcome :=
  if rejectsAlloc c size then (s, [], .null)
  else
    match a1 with
    | .null => (s, [.ualloc (allocReq c (forcedSep c sep0) size) 0], .null)
    | .fail => (s, [.ualloc (allocReq c (forcedSep c sep0) size) 0], .testFail)
    | .block id bytes =>
      match forcedSep c sep0, a2 with
      | true, .null =>
        -- `if (node == NULLPTR) { allocator->free_memory(memory, ...); return NULLPTR; }`
        (s, [.ualloc (allocReq c true size) id, .unode c.node 0, .ufree id], .null)
      | sep, a2' =>
        account c img { s with mem := ⟨id, bytes⟩ :: s.mem } fam size sep id a2'
          [.ualloc (allocReq c sep size) id]

/-! ## deallocMemory -/

/-- `memoryTable_.removeNode(memory)` -/
def removeRec : List Rec → Nat → Option (Rec × List Rec)
  | [], _ => none
  | r :: rest, id =>
    if r.id == id then some (r, rest)
    else
      match removeRec rest id with
      | none => none
      | some (x, rest') => some (x, r :: rest')

/-- `validMemoryCorruptionInformation(node->memory_ + node->size_)` -/
def guardValid (c : Cfg) (m : List Block) (r : Rec) : Bool :=
  match findBlock m r.id with
  | none => false
  | some b => (b.bytes.drop r.size.toNat).take c.guard.toNat == guardImage c

/-- `checkForCorruption`: memory after it, events, and whether it ran into undefined behaviour
    (freeing an inline node as if it were a block) -/
def checkForCorruption (c : Cfg) (m : List Block) (r : Rec) (fam : Nat) (sep : Bool) :
    List Block × List Ev × Bool :=
  if r.fam != fam then (m, [.misuse "mismatch"], false)
  else if !guardValid c m r then (m, [.misuse "corruption"], false)
  else if sep then
    if r.sep then (dropBlock m r.nodeId, [.unodefree r.nodeId], false)
    else (m, [], true)
  else (m, [], false)

def deallocMemory (c : Cfg) (s : State) (fam : Nat) (ptr : Option Nat) (sep0 : Bool) : State × List Ev × Outcome :=
  match ptr with
  | none => (s, [], .null)
  | some id =>
    match removeRec s.tracked id with
    | none => (s, [.misuse "nonallocated"], .null)
    | some (r, rest) =>
      match checkForCorruption c s.mem r fam (forcedSep c sep0) with
      | (_, evs, true) => ({ s with tracked := rest }, evs, .ub "inline node released as a block")
      | (m1, evs, false) =>
        ({ s with tracked := rest, mem := dropBlock m1 id }, evs ++ [.ufree id], .null)

/-! ## reallocMemory -/

/-- the branch `new_memory == NULLPTR && memory`: keep tracking the old block -/
def retrack (c : Cfg) (img : NodeImage) (s : State) (old : Rec) (sep : Bool) (a2 : Ans) (evs : List Ev) :
    State × List Ev × Outcome :=
  if sep then
    match a2 with
    | .null => (s, evs ++ [.unode c.node 0], .ub "node allocation returned NULL, dereferenced")
    | .fail => (s, evs ++ [.unode c.node 0], .testFail)
    | .block nid nb =>
      match writeNode c img (⟨nid, nb⟩ :: s.mem) { old with sep := true, nodeId := nid } with
      | none => (s, evs ++ [.unode c.node nid], .ub "node written outside its block")
      | some m1 =>
        ({ s with tracked := { old with sep := true, nodeId := nid } :: s.tracked, mem := m1 },
         evs ++ [.unode c.node nid], .null)
  else
    match writeNode c img s.mem { old with sep := false, nodeId := 0 } with
    | none => (s, evs, .ub "node written outside its block")
    | some m1 => ({ s with tracked := { old with sep := false, nodeId := 0 } :: s.tracked, mem := m1 }, evs, .null)

/-- everything after the old record has been taken out of the table -/
def reallocRest (c : Cfg) (img : NodeImage) (s : State) (fam : Nat) (old : Option Rec) (size : W)
    (sep : Bool) (ar : RAns) (a2 : Ans) (evs : List Ev) : State × List Ev × Outcome :=
  match ar, old with
  | .null, none => (s, evs ++ [.urealloc 0 (reallocReq c sep size) 0], .null)
  | .null, some o => retrack c img s o sep a2 (evs ++ [.urealloc o.id (reallocReq c sep size) 0])
  | .moved nid nb, none =>
    account c img { s with mem := ⟨nid, nb⟩ :: s.mem } fam size sep nid a2
      (evs ++ [.urealloc 0 (reallocReq c sep size) nid])
  | .moved nid nb, some o =>
    account c img { s with mem := ⟨nid, nb⟩ :: dropBlock s.mem o.id } fam size sep nid a2
      (evs ++ [.urealloc o.id (reallocReq c sep size) nid])

def reallocMemory (c : Cfg) (img : NodeImage) (s : State) (fam : Nat) (ptr : Option Nat) (size : W)
    (sep0 : Bool) (ar : RAns) (a2 : Ans) : State × List Ev × Outcome :=
  if rejectsRealloc c size then (s, [], .null)
  else
    match ptr with
    | none => reallocRest c img s fam none size (forcedSep c sep0) ar a2 []
    | some id =>
      match removeRec s.tracked id with
      | none => (s, [.misuse "nonallocated"], .null)
      | some (o, rest) =>
        match checkForCorruption c s.mem o fam (forcedSep c sep0) with
        | (_, evs, true) => ({ s with tracked := rest }, evs, .ub "inline node released as a block")
        | (m1, evs, false) =>
          reallocRest c img { s with tracked := rest, mem := m1 } fam (some o) size (forcedSep c sep0) ar a2 evs

/-! ## C wrappers (TestHarness_c.cpp); malloc-family allocations keep their node separately -/

def cMalloc (c : Cfg) (img : NodeImage) (s : State) (size : W) (a1 a2 : Ans) : State × List Ev × Outcome :=
  allocMemory c img s famMalloc size true a1 a2

def cRealloc (c : Cfg) (img : NodeImage) (s : State) (ptr : Option Nat) (size : W) (ar : RAns) (a2 : Ans) :
    State × List Ev × Outcome :=
  reallocMemory c img s famMalloc ptr size true ar a2

/-- what follows a `cpputest_malloc_location` whose result is then written to -/
def thenWrite (r : State × List Ev × Outcome) (off : Nat) (src : List UInt8) (why : String) :
    State × List Ev × Outcome :=
  match r with
  | (s1, evs, .ptr id) =>
    match writeBlock s1.mem id off src with
    | none => (s1, evs, .ub why)
    | some m => ({ s1 with mem := m }, evs, .ptr id)
  | other => other

/-- `cpputest_calloc_location` -/
def cCalloc (c : Cfg) (img : NodeImage) (s : State) (num size : W) (a1 a2 : Ans) : State × List Ev × Outcome :=
  if callocOverflowTest num size then (s, [], .null)
  else
    match cMalloc c img s (callocRequest num size) a1 a2 with
    | (s1, evs, .ptr id) =>
      thenWrite (s1, evs, .ptr id) 0 (List.replicate (callocMemset num size).toNat 0) "memset outside the block"
    | other => other

/-- `test_harness_c_strlen`: position of the first NUL; `none` = the scan leaves the buffer -/
def cstrlen : List UInt8 → Option Nat
  | [] => none
  | b :: rest => if b == 0 then some 0 else (cstrlen rest).map (· + 1)

/-- `strdup_alloc(str, size)`: malloc, NULL check, memcpy of `size` bytes, `result[size-1] = 0` -/
def strdupAlloc (c : Cfg) (img : NodeImage) (s : State) (str : List UInt8) (size : W) (a1 a2 : Ans) :
    State × List Ev × Outcome :=
  if str.length < size.toNat then
    match cMalloc c img s size a1 a2 with
    | (s1, evs, .ptr _) => (s1, evs, .ub "memcpy reads past the source")
    | other => other
  else
    thenWrite (thenWrite (cMalloc c img s size a1 a2) 0 (str.take size.toNat) "memcpy outside the block")
      (size - 1).toNat [0] "terminator outside the block"

/-- `cpputest_strdup_location` -/
def cStrdup (c : Cfg) (img : NodeImage) (s : State) (str : List UInt8) (a1 a2 : Ans) : State × List Ev × Outcome :=
  match cstrlen str with
  | none => (s, [], .ub "unterminated source string")
  | some len => strdupAlloc c img s str (strdupLength (BitVec.ofNat 64 len)) a1 a2

/-- `cpputest_strndup_location` -/
def cStrndup (c : Cfg) (img : NodeImage) (s : State) (str : List UInt8) (n : W) (a1 a2 : Ans) :
    State × List Ev × Outcome :=
  match cstrlen str with
  | none => (s, [], .ub "unterminated source string")
  | some len => strdupAlloc c img s str (strndupLength (BitVec.ofNat 64 len) n) a1 a2

/-! ## operator new (MemoryLeakWarningPlugin.cpp) -/

/-- a row of the regenerated table: name, array form, throws on NULL, is a nothrow overload -/
abbrev NewVariant := String × Bool × Bool × Bool

def NewVariant.array (v : NewVariant) : Bool := v.2.1
def NewVariant.throws (v : NewVariant) : Bool := v.2.2.1
def NewVariant.nothrow (v : NewVariant) : Bool := v.2.2.2

/-- `mem_leak_operator_new*`: allocMemory with an inline node, then UT_THROW_BAD_ALLOC_WHEN_NULL
    where the source has it.  A test failure raised by the default allocator inside a
    `noexcept` (nothrow) overload cannot propagate: `std::terminate`. -/
def operatorNew (c : Cfg) (img : NodeImage) (s : State) (v : NewVariant) (size : W) (a1 a2 : Ans) :
    State × List Ev × Outcome :=
  match allocMemory c img s (if v.array then famNewArray else famNew) size false a1 a2 with
  | (s1, evs, .null) => if v.throws then (s1, evs, .badAlloc) else (s1, evs, .null)
  | (s1, evs, .testFail) =>
    if v.nothrow then (s1, evs, .ub "test failure thrown through a noexcept operator new: std::terminate")
    else (s1, evs, .testFail)
  | other => other

def findVariant (name : String) : Option NewVariant := newVariants.find? (fun v => v.1 == name)

/-! ## release: `mem_leak_free`, `mem_leak_operator_delete(_array)` -/

/-- `memoryTable_.retrieveNode(memory)` -/
def retrieveRec (t : List Rec) (id : Nat) : Option Rec := t.find? (fun r => r.id == id)

/-- `MemoryLeakDetector::invalidateMemory`: the user bytes of a tracked block are overwritten with
    the poison byte (`memset(memory, 0xCD, node->size_)`); `none` = the memset leaves the block -/
def invalidateMemory (s : State) (ptr : Option Nat) : Option State :=
  match ptr with
  | none => some s
  | some id =>
    match retrieveRec s.tracked id with
    | none => some s
    | some r =>
      match writeBlock s.mem id 0 (List.replicate r.size.toNat poisonByte) with
      | none => none
      | some m => some { s with mem := m }

/-- `invalidateMemory(p); deallocMemory(allocator, p, ...)` -/
def release (c : Cfg) (s : State) (fam : Nat) (ptr : Option Nat) (sep0 : Bool) : State × List Ev × Outcome :=
  match invalidateMemory s ptr with
  | none => (s, [], .ub "poison written outside the block")
  | some s1 => deallocMemory c s1 fam ptr sep0

/-- `cpputest_free` -/
def cFree (c : Cfg) (s : State) (ptr : Option Nat) : State × List Ev × Outcome := release c s famMalloc ptr true

/-- `operator delete` / `operator delete[]` -/
def operatorDelete (c : Cfg) (s : State) (array : Bool) (ptr : Option Nat) : State × List Ev × Outcome :=
  release c s (if array then famNewArray else famNew) ptr false

/-! ## histories of public operations -/

/-- the client stores into a block it was given -/
def clientWrite (s : State) (id off : Nat) (src : List UInt8) : State × List Ev × Outcome :=
  match writeBlock s.mem id off src with
  | none => (s, [], .ub "client wrote outside the block")
  | some m => ({ s with mem := m }, [], .null)

/-- one call of the public API together with what the environment answered -/
inductive Op
  | new (v : NewVariant) (size : W) (a1 a2 : Ans)
  | malloc (size : W) (a1 a2 : Ans)
  | calloc (num size : W) (a1 a2 : Ans)
  | strdup (buf : List UInt8) (a1 a2 : Ans)
  | strndup (buf : List UInt8) (n : W) (a1 a2 : Ans)
  | realloc (ptr : Option Nat) (size : W) (ar : RAns) (a2 : Ans)
  | free (ptr : Option Nat)
  | delete (array : Bool) (ptr : Option Nat)
  | write (id off : Nat) (src : List UInt8)

def step (c : Cfg) (img : NodeImage) (s : State) : Op → State × List Ev × Outcome
  | .new v size a1 a2 => operatorNew c img s v size a1 a2
  | .malloc size a1 a2 => cMalloc c img s size a1 a2
  | .calloc num size a1 a2 => cCalloc c img s num size a1 a2
  | .strdup buf a1 a2 => cStrdup c img s buf a1 a2
  | .strndup buf n a1 a2 => cStrndup c img s buf n a1 a2
  | .realloc ptr size ar a2 => cRealloc c img s ptr size ar a2
  | .free ptr => cFree c s ptr
  | .delete array ptr => operatorDelete c s array ptr
  | .write id off src => clientWrite s id off src

/-- the state after a history -/
def run (c : Cfg) (img : NodeImage) (s : State) : List Op → State
  | [] => s
  | op :: ops => run c img (step c img s op).1 ops

/-! ## size-level view of a request (blocks far too large to be listed byte by byte, e.g. 2^32 + 16 bytes)

What the detector asks of the platform, what `node->init` records, and where `storeLeakInformation`
puts the guard bytes and the inline node — the same regenerated expressions as above, without the
byte list.  The driver replays the harness' `balloc / brealloc / bfree` operations with it. -/

/-- what the assignment `size_ = size` in `MemoryLeakDetectorNode::init` keeps of a `size_t` value:
    the declared type of the field (regenerated: `nodeSizeFieldType`, `nodeSizeFieldBits`) -/
def storedSize (size : W) : W := (size.setWidth nodeSizeFieldBits).setWidth 64

structure Plan where
  req      : W            -- bytes asked of `alloc_memory` / `PlatformSpecificRealloc`
  recSize  : W            -- `node->size_`
  guardOff : Nat          -- offset of the guard bytes: `node->memory_ + node->size_`
  nodeAt   : Option Nat   -- offset of the inline node (`none`: the node has a block of its own)
deriving Repr, DecidableEq, Inhabited

def planOf (c : Cfg) (sep : Bool) (req size : W) : Plan :=
  { req := req, recSize := storedSize size, guardOff := (storedSize size).toNat,
    nodeAt := if sep then none else some (nodeOff c size).toNat }

/-- `allocMemory`: `none` = rejected by the overflow guard -/
def allocPlan (c : Cfg) (size : W) (sep0 : Bool) : Option Plan :=
  if rejectsAlloc c size then none
  else some (planOf c (forcedSep c sep0) (allocReq c (forcedSep c sep0) size) size)

/-- `reallocMemory` -/
def reallocPlan (c : Cfg) (size : W) (sep0 : Bool) : Option Plan :=
  if rejectsRealloc c size then none
  else some (planOf c (forcedSep c sep0) (reallocReq c (forcedSep c sep0) size) size)

end AllocLayout
