import CppUModel.Model.LeakDetector
/-!
The switchable global overloads of `MemoryLeakWarningPlugin.cpp` and the three current allocators of
`TestMemoryAllocator.cpp` as state:

* the 11 function pointers, their 11 `saved_` copies and `save_counter`, with `turnOffNewDeleteOverloads`,
  `turnOnDefaultNotThreadSafeNewDeleteOverloads`, `turnOnThreadSafeNewDeleteOverloads`,
  `saveAndDisableNewDeleteOverloads`, `restoreNewDeleteOverloads`, `areNewDeleteOverloaded` executed from the
  REGENERATED assignment lists / counter guards (`Gen/LeakDetectorConstants.lean`);
* what a global entry point does in the current switch position: the function behind the pointer is either a
  detector wrapper (`mem_leak_*` / `threadsafe_mem_leak_*`: `allocMemory` / `reallocMemory` / `deallocMemory`) or a
  `normal_*` function (the platform call, the detector is not involved);
* `setCurrent…Allocator(NULL)` + getter, `setCurrent…AllocatorToDefault`, `GlobalMemoryAllocatorStash::save/restore`.
-/
namespace LeakDetector
open Gen.LeakDetector

/-! ## the function-pointer store -/

/-- values of the static function-pointer variables, by variable name: a finite table (`""` = not a known variable) -/
abbrev Store := List (String × String)

def Store.get (s : Store) (k : String) : String := (s.lookup k).getD ""

def Store.set (s : Store) (k v : String) : Store := (k, v) :: s.filter (fun e => e.1 != k)

/-- `k1 = f1; k2 = f2; …` (a switch function assigns function names) -/
def Store.assignConsts (s : Store) (l : List (String × String)) : Store := l.foldl (fun st e => st.set e.1 e.2) s

/-- `dst1 = src1; dst2 = src2; …` executed in order on one store (as the C statements are) -/
def Store.assignVars (s : Store) (l : List (String × String)) : Store := l.foldl (fun st e => st.set e.1 (st.get e.2)) s

structure Ov where
  vars    : Store
  counter : Int        -- `save_counter` (a C `int`)

/-- the static initialisers -/
def Ov.init : Ov := { vars := Store.assignConsts [] staticInit, counter := saveCounterInit }

def turnOff (o : Ov) : Ov := { o with vars := o.vars.assignConsts offTable }
def turnOnPlain (o : Ov) : Ov := { o with vars := o.vars.assignConsts plainTable }
def turnOnThreadSafe (o : Ov) : Ov := { o with vars := o.vars.assignConsts threadSafeTable }

/-- a parameterless member called at the end of save / restore -/
def callByName (o : Ov) (fn : String) : Ov :=
  if fn = "turnOffNewDeleteOverloads" then turnOff o
  else if fn = "turnOnDefaultNotThreadSafeNewDeleteOverloads" then turnOnPlain o
  else if fn = "turnOnThreadSafeNewDeleteOverloads" then turnOnThreadSafe o
  else o

/-- `saveAndDisableNewDeleteOverloads` -/
def saveAndDisable (o : Ov) : Ov :=
  if o.counter + saveCounterStep > saveReturnIfAbove then { o with counter := o.counter + saveCounterStep }
  else saveThenCalls.foldl callByName
    { vars := o.vars.assignVars saveAssignments, counter := o.counter + saveCounterStep }

/-- `restoreNewDeleteOverloads` -/
def restoreOverloads (o : Ov) : Ov :=
  if o.counter + restoreCounterStep > restoreReturnIfAbove then { o with counter := o.counter + restoreCounterStep }
  else restoreThenCalls.foldl callByName
    { vars := o.vars.assignVars restoreAssignments, counter := o.counter + restoreCounterStep }

/-- `areNewDeleteOverloaded` -/
def areOverloaded (o : Ov) : Bool := overloadedFns.contains (o.vars.get overloadedPtr)

/-- the function an overload form / C entry point runs in this switch position -/
def Ov.formFunction (o : Ov) (form : String) : Option String := (formFptr form).map o.vars.get

/-- `realloc` is `cpputest_realloc_location` -/
def Ov.reallocFunction (o : Ov) : String := o.vars.get "realloc_fptr"

/-! ## what a global entry point does -/

/-- `mem_leak_realloc` / `threadsafe_mem_leak_realloc` as regenerated -/
def reallocBy (w : AcquireWrapper) (c : Current) (s : State) (addr size : Nat) (file : String) (line : Nat)
    (result : Nat) (fill : UInt8) : State × List Ev :=
  realloc s (c.byGetter w.getter) addr size (if w.withLocation then file else "<unknown>") (if w.withLocation then line else 0)
    w.separateNode result fill

/-- what happened to the detector's view of the world in one global call -/
inductive GOutcome
  /-- the call went to the detector -/
  | tracked (r : State × List Ev)
  /-- the call went to the platform function named (`malloc` / `realloc` / `free`): the detector is not involved -/
  | raw (platform : String)
  /-- no function is known for that pointer value -/
  | unknown

def gAcquire (o : Ov) (c : Current) (s : State) (form : String) (size : Nat) (file : String) (line : Nat)
    (result : Nat) (fill : UInt8) : GOutcome :=
  match o.formFunction form with
  | none => .unknown
  | some fn =>
    match acquireWrappers.find? (fun w => w.name == fn) with
    | some w => if w.isRealloc then .unknown else .tracked (acquireBy w c s size file line result true fill)
    | none =>
      match normalWrappers.lookup fn with
      | some p => .raw p
      | none => .unknown

def gRelease (o : Ov) (c : Current) (s : State) (form : String) (addr : Nat) (file : String) (line : Nat) : GOutcome :=
  match o.formFunction form with
  | none => .unknown
  | some fn =>
    match releaseWrappers.find? (fun w => w.name == fn) with
    | some w => .tracked (releaseBy w c s addr file line)
    | none =>
      match normalWrappers.lookup fn with
      | some p => .raw p
      | none => .unknown

def gRealloc (o : Ov) (c : Current) (s : State) (addr size : Nat) (file : String) (line : Nat)
    (result : Nat) (fill : UInt8) : GOutcome :=
  match acquireWrappers.find? (fun w => w.name == o.reallocFunction) with
  | some w => if w.isRealloc then .tracked (reallocBy w c s addr size file line result fill) else .unknown
  | none =>
    match normalWrappers.lookup o.reallocFunction with
    | some p => .raw p
    | none => .unknown

/-- the detector state after a global call -/
def GOutcome.state (g : GOutcome) (s : State) : State :=
  match g with
  | .tracked r => r.1
  | _ => s

/-! ## the current allocators -/

/-- `default…Allocator()`: the static allocator object of a family; object identities are those of the allocator
    registry (0 = new, 1 = new [], 2 = malloc), names as regenerated -/
def defaultAllocatorOf (fn : String) : Allocator :=
  match defaultAllocators.find? (fun e => e.1 == fn) with
  | some e =>
    .plain (if fn == "defaultMallocAllocator" then 2 else if fn == "defaultNewArrayAllocator" then 1 else 0) e.2.1 e.2.2.1 e.2.2.2
  | none => default

/-- `setCurrent…AllocatorToDefault()` as regenerated: the variable it assigns, the default function it calls -/
def setToDefault (c : Current) (fn : String) : Current :=
  match defaultSetters.find? (fun e => e.1 == fn) with
  | some e => c.bySetter e.2.1 (defaultAllocatorOf e.2.2)
  | none => c

def defaultSetterOfFamily : Family → String
  | .new => "setCurrentNewAllocatorToDefault"
  | .newArray => "setCurrentNewArrayAllocatorToDefault"
  | .malloc => "setCurrentMallocAllocatorToDefault"

def setterOfFamily : Family → String
  | .new => "setCurrentNewAllocator"
  | .newArray => "setCurrentNewArrayAllocator"
  | .malloc => "setCurrentMallocAllocator"

/-- `setCurrent…Allocator(NULL)` as seen through the getter, which installs the default when it finds NULL -/
def setCurrentNull (c : Current) (f : Family) : Current := setToDefault c (defaultSetterOfFamily f)

/-- the three fields of a `GlobalMemoryAllocatorStash` (`none` = NULLPTR) -/
abbrev Stash := String → Option Allocator

def Stash.empty : Stash := fun _ => none

/-- `GlobalMemoryAllocatorStash::save` as regenerated -/
def stashSaveRun (c : Current) (st : Stash) : Stash :=
  stashSave.foldl (fun s e => fun k => if k = e.1 then some (c.byGetter e.2) else s k) st

/-- `GlobalMemoryAllocatorStash::restore` as regenerated -/
def stashRestoreRun (st : Stash) (c : Current) : Current :=
  stashRestore.foldl (fun cur e => match st e.1 with
    | some a => cur.bySetter e.2 a
    | none => cur) c

end LeakDetector
