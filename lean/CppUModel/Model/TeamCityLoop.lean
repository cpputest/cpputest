import CppUModel.Model.OutputEvents
import CppUModel.Gen.RunAllTestsLoop
/-!
# `TestRegistry::runAllTests` executed from its regenerated statement list (C20)

`Gen/RunAllTestsLoop.lean` is regenerated from src/CppUTest/TestRegistry.cpp on every run
(`translate/extract_runloop.py`): the calls before the `for` loop, the statements of its body in source order (plain
calls and `if (cond) { calls }`), the calls after it, and the initial value of `groupStart`.  This file interprets that
list over the scripted tests of `Model/OutputEvents.lean` and produces the runner's output events.  The state is what the
C++ keeps between statements: the local `groupStart`, the two time stamps `TestResult` takes (group start, test start) and
the `TestResult` counters with the stubbed clock (`OutEv.R`).  `Proofs/OutputLoop.lean` proves the result equal to the
hand-written `OutEv.runAll` all balance theorems are proved about.  Core Lean only.

The runs modelled here are those without `-p` and without `-ri`: `runInSeperateProcess_` and `runIgnored_` are false.
-/
namespace RunLoop
open OutEv
open Gen.RunAllTestsLoop (Stmt Cond body before after groupStartInit)

structure LS where
  gs : Bool          -- the local `groupStart`
  g0 : Nat           -- `currentGroupTimeStarted_`
  t0 : Nat           -- `currentTestTimeStarted_`
  r  : R             -- the counters of the `TestResult` and the clock

/-- one call; `t` is the loop variable `test` -/
def actRun (t : Script) : Gen.RunAllTestsLoop.Act → LS → LS × List Ev
  | .testsStarted, s => (s, [.testsStarted])
  | .testsEnded, s => (s, [.testsEnded s.r.summary])
  | .groupStarted, s => ({ s with g0 := s.r.clock }, [.groupStarted t.info])      -- print, then take the time
  | .groupEnded, s => (s, [.groupEnded (s.r.clock - s.g0)])
  | .testStarted, s => ({ s with t0 := s.r.clock }, [.testStarted t.info])
  | .testEnded, s => (s, [.testEnded (s.r.clock - s.t0) s.r.checks])
  | .runOneTest, s => ({ s with r := afterTest t s.r }, if t.info.willRun then testInner t.info t.acts else [])
  | .countTest, s => ({ s with r := countTest s.r }, [])
  | .setGroupStart b, s => ({ s with gs := b }, [])
  | .setSeparate, s => (s, [])
  | .setRunIgnored, s => (s, [])
  | .nextRepetition, s => (s, [])

def actsRun (t : Script) : List Gen.RunAllTestsLoop.Act → LS → LS × List Ev
  | [], s => (s, [])
  | a :: as, s => ((actsRun t as (actRun t a s).1).1, (actRun t a s).2 ++ (actsRun t as (actRun t a s).1).2)

/-- evaluating a condition; `testShouldRun` counts the test as filtered out when it answers no -/
def condRun (flt : Option Filter) (t : Script) (rest : List Script) : Cond → LS → Bool × LS
  | .groupStart, s => (s.gs, s)
  | .shouldRun, s => if shouldRun flt t.info then (true, s) else (false, { s with r := countFiltered s.r })
  | .endOfGroup, s => (endOfGroup t rest, s)
  | .separateFlag, s => (false, s)
  | .runIgnoredFlag, s => (false, s)

def stmtRun (flt : Option Filter) (t : Script) (rest : List Script) : Stmt → LS → LS × List Ev
  | .act a, s => actRun t a s
  | .ifc c acts, s =>
    if (condRun flt t rest c s).1 then actsRun t acts (condRun flt t rest c s).2 else ((condRun flt t rest c s).2, [])

def stmtsRun (flt : Option Filter) (t : Script) (rest : List Script) : List Stmt → LS → LS × List Ev
  | [], s => (s, [])
  | x :: xs, s =>
    ((stmtsRun flt t rest xs (stmtRun flt t rest x s).1).1,
     (stmtRun flt t rest x s).2 ++ (stmtsRun flt t rest xs (stmtRun flt t rest x s).1).2)

/-- the `for` loop over the registry's list, then the statements after it -/
def loopGen (flt : Option Filter) : LS → List Script → List Ev
  | s, [] => (actsRun default after s).2
  | s, t :: rest => (stmtsRun flt t rest body s).2 ++ loopGen flt (stmtsRun flt t rest body s).1 rest

def initLS : LS := { gs := groupStartInit, g0 := 0, t0 := 0, r := {} }

/-- `TestRegistry::runAllTests` as seen by the output, executed from the regenerated statement list -/
def runAllGen (flt : Option Filter) (tests : List Script) : List Ev :=
  (actsRun default before initLS).2 ++ loopGen flt (actsRun default before initLS).1 tests

/-- the repeat loop of `CommandLineTestRunner::runAllTests` around it (`OutEv.runRepeated`) -/
def runRepeatedGen (total : Nat) (flt : Option Filter) (tests : List Script) : List Ev :=
  (List.range total).flatMap fun i => .testRun (i + 1) total :: runAllGen flt tests

end RunLoop
