import CppUModel.Props.C03
import CppUModel.Props.C13
/-!
# C03x — the five string checks evaluated with the C13 primitive models

Composition theorems.  They connect the C03 model of the five string checks (`Model/Asserts.lean`: the textbook functions of
`Text` on `Option Bytes` operands, `none` = `NULL`) with the C13 models (`Base/CString.lean`, `Model/SimpleString.lean`) of
`StrCmp`, `StrNCmp` on bounded buffers and of the `SimpleString` temporaries with their allocator event log.

`strEqualM` … `strNoCaseContainsM` are the C++ bodies of `UtestShell::assertCstr…` on C pointers (buffer + offset, or
`NULL`): the NULL tests, then the primitive exactly as the source calls it (which operand is the receiver, which
temporaries are constructed and destroyed).  For all NUL-free operands (and `NULL`s) each returns `.ok` — no access
outside a buffer — of exactly the C03 model's outcome, and every temporary buffer is released (`Returns`).
-/
namespace Compose.C03x
open CStr SStr Text
open Asserts (Outcome countThenFailIf)

/-- a non-NULL `const char*`: an allocation and an offset into it -/
structure CPtr where
  buf : Buf
  off : Nat

/-- the common skeleton of the five checks (`countCheck()`, the two NULL tests, the comparison) -/
def cstrCheckM (mismatch : CPtr → CPtr → M Bool) : Option CPtr → Option CPtr → M Outcome
  | none, none => pure { fails := false, counted := 1 }
  | none, some _ => pure { fails := true, counted := 1 }
  | some _, none => pure { fails := true, counted := 1 }
  | some e, some a => do
    let m ← mismatch e a
    pure (countThenFailIf m)

def neZero (r : Except Err Int) : Except Err Bool :=
  match r with
  | .error e => .error e
  | .ok d => .ok (d != 0)

/-- `if (SimpleString::StrCmp(expected, actual) != 0) failWith(…)` -/
def strEqualM : Option CPtr → Option CPtr → M Outcome :=
  cstrCheckM (fun e a => liftE (neZero (StrCmp e.buf e.off a.buf a.off)))

/-- `if (SimpleString::StrNCmp(expected, actual, length) != 0) failWith(…)` -/
def strNEqualM (length : Nat) : Option CPtr → Option CPtr → M Outcome :=
  cstrCheckM (fun e a => liftE (neZero (StrNCmp e.buf e.off a.buf a.off length)))

/-- `if (!SimpleString(expected).equalsNoCase(actual)) failWith(…)`: the receiver is a temporary built from
    `expected`, the argument a temporary built from `actual`; both are destroyed at the end of the full expression
    (in reverse order of construction) -/
def strNoCaseEqualM : Option CPtr → Option CPtr → M Outcome :=
  cstrCheckM (fun e a => do
    let oe ← ctorCStr e.buf e.off
    let oa ← ctorCStr a.buf a.off
    let r ← equalsNoCase oe oa
    dtor oa
    dtor oe
    pure (!r))

/-- `if (!SimpleString(actual).contains(expected)) failWith(…)` -/
def strContainsM : Option CPtr → Option CPtr → M Outcome :=
  cstrCheckM (fun e a => do
    let oa ← ctorCStr a.buf a.off
    let oe ← ctorCStr e.buf e.off
    let r ← liftE (contains oa oe)
    dtor oe
    dtor oa
    pure (!r))

/-- `if (!SimpleString(actual).containsNoCase(expected)) failWith(…)` -/
def strNoCaseContainsM : Option CPtr → Option CPtr → M Outcome :=
  cstrCheckM (fun e a => do
    let oa ← ctorCStr a.buf a.off
    let oe ← ctorCStr e.buf e.off
    let r ← containsNoCase oa oe
    dtor oe
    dtor oa
    pure (!r))

/-- the C pointer represents the C03 operand: both `NULL`, or the pointer addresses the NUL-terminated string -/
def RepPtr : Option CPtr → Option Bytes → Prop
  | none, none => True
  | some p, some s => CAt p.buf p.off s
  | _, _ => False

theorem cstrCheckM_returns {mm : CPtr → CPtr → M Bool} {mt : Bytes → Bytes → Bool}
    (hm : ∀ (pe pa : CPtr) (e a : Bytes) (w : World), CAt pe.buf pe.off e → CAt pa.buf pa.off a →
      Returns (mm pe pa) w (mt e a))
    {pe pa : Option CPtr} {e a : Option Bytes} (he : RepPtr pe e) (ha : RepPtr pa a) (w : World) :
    Returns (cstrCheckM mm pe pa) w (Asserts.cstrCheck mt e a) := by
  match pe, e, he, pa, a, ha with
  | none, none, _, none, none, _ => exact ⟨w, rfl, fun _ h => h⟩
  | none, none, _, some p, some s, _ => exact ⟨w, rfl, fun _ h => h⟩
  | some p, some s, _, none, none, _ => exact ⟨w, rfl, fun _ h => h⟩
  | some p, some s, h1, some q, some t, h2 =>
    obtain ⟨w', hr, ho⟩ := hm p q s t w h1 h2
    refine ⟨w', ?_, ho⟩
    simp only [cstrCheckM, bind_run, hr, pure_run, Asserts.cstrCheck]

/-- **STRCMP_EQUAL.**  Connects `Asserts.assertCstrEqual` (C03, `Text.cmp`) with `CStr.StrCmp` on buffers (C13). -/
theorem strEqual_agrees {pe pa : Option CPtr} {e a : Option Bytes} (he : RepPtr pe e) (ha : RepPtr pa a) (w : World) :
    Returns (strEqualM pe pa) w (Asserts.assertCstrEqual e a) :=
  cstrCheckM_returns (mt := fun e a => Text.cmp e a != 0) (fun pe pa e a w h1 h2 => by
    refine ⟨w, ?_, fun _ h => h⟩
    rw [C13.strcmp_eq h1 h2]; rfl) he ha w

/-- **STRNCMP_EQUAL.**  Connects `Asserts.assertCstrNEqual` (`Text.ncmp`) with `CStr.StrNCmp` on buffers, for every
    length limit. -/
theorem strNEqual_agrees (length : Nat) {pe pa : Option CPtr} {e a : Option Bytes} (he : RepPtr pe e)
    (ha : RepPtr pa a) (w : World) :
    Returns (strNEqualM length pe pa) w (Asserts.assertCstrNEqual e a length) :=
  cstrCheckM_returns (mt := fun e a => Text.ncmp length e a != 0) (fun pe pa e a w h1 h2 => by
    refine ⟨w, ?_, fun _ h => h⟩
    rw [C13.strncmp_eq length h1 h2]; rfl) he ha w

/-- two temporaries are constructed, the operation runs on them, both are destroyed in reverse order: the result is
    the operation's, and whatever the three steps requested is released -/
theorem twoTemps_returns {p q : CPtr} {x y : Bytes} (hp : CAt p.buf p.off x) (hq : CAt q.buf q.off y)
    {op : Obj → Obj → M Bool} {r : Bool}
    (hop : ∀ {o1 o2 : Obj} (w : World), Holds o1 x → Holds o2 y → Returns (op o1 o2) w r) (w : World) :
    Returns (do
      let o1 ← ctorCStr p.buf p.off
      let o2 ← ctorCStr q.buf q.off
      let v ← op o1 o2
      dtor o2
      dtor o1
      pure (!v)) w (!r) := by
  obtain ⟨o1, w1, r1, H1, _, O1⟩ := ctorCStr_creates hp w
  obtain ⟨o2, w2, r2, H2, _, O2⟩ := ctorCStr_creates hq w1
  obtain ⟨w3, r3, O3⟩ := hop w2 H1 H2
  refine ⟨(w3.free o2.id o2.size).free o1.id o1.size, ?_, fun L hL => (O3 _ (O2 _ (O1 L hL))).free_head.free_head⟩
  simp only [bind_run, r1, r2, r3, dtor_run, pure_run]

/-- **STRCMP_NOCASE_EQUAL.**  Connects `Asserts.assertCstrNoCaseEqual` (`Text.equalsNoCase`) with the C13 objects:
    two temporaries are constructed, `equalsNoCase` makes two lower-cased copies, all four buffers are released. -/
theorem strNoCaseEqual_agrees {pe pa : Option CPtr} {e a : Option Bytes} (he : RepPtr pe e) (ha : RepPtr pa a)
    (w : World) : Returns (strNoCaseEqualM pe pa) w (Asserts.assertCstrNoCaseEqual e a) :=
  cstrCheckM_returns (mt := fun e a => !Text.equalsNoCase e a)
    (fun _ _ _ _ w h1 h2 => twoTemps_returns h1 h2 (fun w H1 H2 => equalsNoCase_returns H1 H2 w) w) he ha w

/-- **STRCMP_CONTAINS.**  Connects `Asserts.assertCstrContains` (`Text.isInfix actual expected`) with `SStr.contains`
    (= `StrStr`) on two temporaries. -/
theorem strContains_agrees {pe pa : Option CPtr} {e a : Option Bytes} (he : RepPtr pe e) (ha : RepPtr pa a)
    (w : World) : Returns (strContainsM pe pa) w (Asserts.assertCstrContains e a) :=
  cstrCheckM_returns (mt := fun e a => !Text.isInfix a e)
    (fun _ _ _ _ w h1 h2 => twoTemps_returns h2 h1
      (fun w H1 H2 => ⟨w, by rw [C13.contains_iff_isInfix H1 H2, liftE_ok], fun _ h => h⟩) w) he ha w

/-- **STRCMP_NOCASE_CONTAINS.**  Connects `Asserts.assertCstrNoCaseContains` (`Text.containsNoCase actual expected`)
    with `SStr.containsNoCase` on two temporaries. -/
theorem strNoCaseContains_agrees {pe pa : Option CPtr} {e a : Option Bytes} (he : RepPtr pe e) (ha : RepPtr pa a)
    (w : World) : Returns (strNoCaseContainsM pe pa) w (Asserts.assertCstrNoCaseContains e a) :=
  cstrCheckM_returns (mt := fun e a => !Text.containsNoCase a e)
    (fun _ _ _ _ w h1 h2 => twoTemps_returns h2 h1 (fun w H1 H2 => containsNoCase_returns H1 H2 w) w) he ha w

/-- All five at once, as verdicts: the check executed on buffers fails exactly when the C03 model's check fails, it
    never leaves a buffer, and it counts one check. -/
theorem string_checks_same_verdict {pe pa : Option CPtr} {e a : Option Bytes} (he : RepPtr pe e) (ha : RepPtr pa a)
    (length : Nat) (w : World) :
    (∃ w', strEqualM pe pa w = .ok (Asserts.assertCstrEqual e a, w')) ∧
    (∃ w', strNEqualM length pe pa w = .ok (Asserts.assertCstrNEqual e a length, w')) ∧
    (∃ w', strNoCaseEqualM pe pa w = .ok (Asserts.assertCstrNoCaseEqual e a, w')) ∧
    (∃ w', strContainsM pe pa w = .ok (Asserts.assertCstrContains e a, w')) ∧
    (∃ w', strNoCaseContainsM pe pa w = .ok (Asserts.assertCstrNoCaseContains e a, w')) := by
  obtain ⟨w1, h1, _⟩ := strEqual_agrees he ha w
  obtain ⟨w2, h2, _⟩ := strNEqual_agrees length he ha w
  obtain ⟨w3, h3, _⟩ := strNoCaseEqual_agrees he ha w
  obtain ⟨w4, h4, _⟩ := strContains_agrees he ha w
  obtain ⟨w5, h5, _⟩ := strNoCaseContains_agrees he ha w
  exact ⟨⟨w1, h1⟩, ⟨w2, h2⟩, ⟨w3, h3⟩, ⟨w4, h4⟩, ⟨w5, h5⟩⟩

/-! ## non-vacuity -/

/-- "Hello" inside a larger buffer with junk around it; "hELLO" exactly sized -/
def exE : CPtr := ⟨[7, 72, 101, 108, 108, 111, 0, 9], 1⟩
def exA : CPtr := ⟨[104, 69, 76, 76, 79, 0], 0⟩

example : RepPtr (some exE) (some [72, 101, 108, 108, 111]) := ⟨by decide, [9], rfl⟩
example : RepPtr (some exA) (some [104, 69, 76, 76, 79]) := ⟨by decide, [], rfl⟩

example : (match strEqualM (some exE) (some exA) {} with | .ok (o, _) => some o.fails | .error _ => none) = some true := rfl
example : (match strNoCaseEqualM (some exE) (some exA) {} with | .ok (o, _) => some o.fails | .error _ => none) = some false := rfl
example : (match strNoCaseContainsM (some ⟨[69, 76, 0], 0⟩) (some exE) {} with | .ok (o, _) => some o.fails | .error _ => none) =
    some false := rfl
example : (match strContainsM (some ⟨[69, 76, 0], 0⟩) (some exE) {} with | .ok (o, _) => some o.fails | .error _ => none) =
    some true := rfl
example : (match strNEqualM 0 (some exE) (some exA) {} with | .ok (o, _) => some o.fails | .error _ => none) = some false := rfl
example : (match strEqualM none (some exA) {} with | .ok (o, _) => some (o.fails, o.counted) | .error _ => none) =
    some (true, 1) := rfl
/-- an unterminated operand: the object model reports the out-of-bounds read (so `RepPtr` is needed) -/
example : (match strEqualM (some ⟨[72], 0⟩) (some ⟨[72], 0⟩) {} with | .ok _ => "ok" | .error e => e.render) = "oob" := rfl
/-- the log of STRCMP_NOCASE_EQUAL: four buffers requested, four released -/
example : (match strNoCaseEqualM (some exE) (some exA) {} with | .ok (_, w) => w.log.length | .error _ => 0) = 8 := rfl

end Compose.C03x
