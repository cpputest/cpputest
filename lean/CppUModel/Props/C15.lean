import CppUModel.Proofs.Failable
import CppUModel.Spec.FailableGen
/-!
# C15 — injected out-of-memory hits exactly the designated allocations

The theorems of the property, and the equalities between the regenerated code and the model they are stated
about.  Model: `CppUModel/Model/Failable.lean` (from
`src/CppUTest/TestMemoryAllocator.cpp` — `FailableMemoryAllocator`, `LocationToFailAllocNode` — and
`src/CppUTest/TestHarness_c.cpp` — the malloc countdown, strdup/strndup/calloc); vocabulary:
`CppUModel/Spec/Failable.lean`.

What "index" means (Spec): the *global index* of an allocation counts the allocations since the
allocator was constructed or last cleared (`allocs (epoch h) + 1`); the *local index* relative to a
`failNthAllocAt(n, file, line)` counts the allocations at `(file, line)` (file compared by content)
made since THAT designation (`allocsAt file line post + 1`).

All theorems quantify over every history `h : List Op` (any length, any interleaving of
designations, allocations at any locations, checks and clears).  No distinctness hypothesis on the
designations is needed for the repaired code: several designations that select the same
allocation all fire (and are all consumed) at that allocation.
-/
namespace Failable

/-! ## which allocations fail -/

/-- **Exactly the designated allocations fail.**  After ANY history `h` since construction, the
    allocation at `(file, line)` returns NULL iff it is designated: its global index was designated
    by a `failAllocNumber` of the current epoch, or some `failNthAllocAt(n, file, line)` of the
    current epoch has it as its `n`-th allocation at that location. -/
theorem fails_iff_designated (h : List Op) (file : String) (line : Nat) :
    allocFails (run init h) file line = true ↔ Designated h file line := by
  obtain ⟨id, hn, hcur⟩ := run_init_state h
  rw [allocFails_iff, hn, hcur, ← Nat.zero_add (allocs (epoch h)), pendingNodes_fires, Nat.zero_add]
  rfl

/-- every other allocation succeeds -/
theorem succeeds_iff_not_designated (h : List Op) (file : String) (line : Nat) :
    allocFails (run init h) file line = false ↔ ¬ Designated h file line := by
  rw [← fails_iff_designated]; simp

/-- the decidable form used by the run-time oracle is the same predicate -/
theorem designatedB_iff (h : List Op) (file : String) (line : Nat) :
    designatedB h file line = true ↔ Designated h file line := by
  simp only [designatedB, Bool.or_eq_true, List.contains_iff_mem, locDesignatedB_iff]
  rfl

/-- the epoch of a history is exactly what follows its last `clear` (the whole history if it was
    never cleared) and contains no `clear` -/
theorem epoch_is_since_last_clear (h : List Op) :
    Op.clear ∉ epoch h ∧ ((epoch h = h ∧ Op.clear ∉ h) ∨ ∃ p, h = p ++ Op.clear :: epoch h) :=
  ⟨epoch_no_clear h, epoch_spec h⟩

/-- A location designation selects at most one allocation: if the allocation after `post₁` is the
    one it designates, no later allocation at that location is. -/
theorem loc_designation_hits_once (n : Int) (file : String) (line : Nat) (post₁ mid : List Op)
    (h1 : n = ((allocsAt file line post₁ + 1 : Nat) : Int)) :
    n ≠ ((allocsAt file line (post₁ ++ Op.alloc file line :: mid) + 1 : Nat) : Int) := by
  simp only [allocsAt_append, allocsAt_cons, Op.isAllocAt, and_self, decide_true, if_true]
  omega

/-- A global designation selects at most one allocation of an epoch: global indices are strictly
    increasing. -/
theorem global_index_strictly_increases (e₁ mid : List Op) (file : String) (line : Nat) :
    allocs e₁ + 1 < allocs (e₁ ++ Op.alloc file line :: mid) + 1 := by
  simp only [allocs_append, allocs_cons, Op.isAlloc, if_true]; omega

/-! ## a designation is consumed exactly once -/

/-- **Every designation is consumed at most once.**  Along any history the designations (identified
    by their sequence number) split into: still linked, fired (unlinked and freed by an
    allocation), released by `clear` — each designation made so far occurs in exactly one of the
    three lists, exactly once.  In particular no designation fires twice and none is lost. -/
theorem fired_designation_consumed_once (h : List Op) :
    (((run init h).nodes.map (·.id)) ++ firedIds init h ++ clearedIds init h).Perm
      (List.range' 0 (run init h).nextId) := by
  simpa [init] using conservation h init

theorem fired_ids_nodup (h : List Op) :
    (firedIds init h).Nodup ∧ (∀ i ∈ firedIds init h, i ∉ (run init h).nodes.map (·.id)) := by
  have hp := fired_designation_consumed_once h
  have hn : (List.range' 0 (run init h).nextId).Nodup := List.nodup_range'
  have h2 := (hp.nodup_iff).mpr hn
  rw [List.append_assoc] at h2
  obtain ⟨_, h3, h4⟩ := List.nodup_append.mp h2
  refine ⟨(List.nodup_append.mp h3).1, ?_⟩
  intro i hi hmem
  exact h4 i hmem i (List.mem_append_left _ hi) rfl

/-- a node fires only together with a failing allocation, and a failing allocation frees at
    least one node -/
theorem fails_iff_some_node_consumed (s : State) (file : String) (line : Nat) :
    allocFails s file line = true ↔ allocFired s file line ≠ [] := by
  unfold allocFails
  cases h : allocFired s file line <;> simp

/-! ## the check reports what never happened -/

/-- **The linked list is exactly the list of designations that have not fired**, most recent
    first, after any history. -/
theorem pending_eq_unfired (h : List Op) :
    (run init h).nodes.map Node.desig = (unfired h).reverse := by
  obtain ⟨id, hn, _⟩ := run_init_state h
  rw [hn, pendingNodes_desig]
  rfl

/-- **`checkAllFailedAllocsWereDone`** passes iff every designation of the epoch has fired, and
    otherwise fails the test naming the most recent designation that never happened. -/
theorem unfired_reported_by_check (h : List Op) :
    check (run init h) = match (unfired h).getLast? with
      | none => .ok
      | some d => reportOf d := by
  rw [check_eq, pending_eq_unfired, List.head?_reverse]
  cases (unfired h).getLast? <;> rfl

/-- the check is silent iff nothing is outstanding -/
theorem check_ok_iff (h : List Op) : check (run init h) = .ok ↔ unfired h = [] := by
  rw [check_ok_iff_nodes, ← List.map_eq_nil_iff (f := Node.desig), pending_eq_unfired, List.reverse_eq_nil_iff]

/-- "has fired" (the arithmetic form used in `unfired`) means: some later allocation had exactly
    the designated global index -/
theorem firedNum_iff_exists (n : Int) : ∀ (post : List Op) (b : Nat),
    firedNum b n post = true ↔
      ∃ p₁ f l p₂, post = p₁ ++ Op.alloc f l :: p₂ ∧ n = ((b + allocs p₁ + 1 : Nat) : Int)
  | post, b => by
    rw [firedNum_eq, allocs, firedLoc_countP_iff]
    constructor
    · rintro ⟨p₁, x, p₂, rfl, hx, hn⟩
      obtain ⟨f, l, rfl⟩ := (isAlloc_iff x).mp hx
      exact ⟨p₁, f, l, p₂, rfl, hn⟩
    · rintro ⟨p₁, f, l, p₂, rfl, hn⟩
      exact ⟨p₁, _, p₂, rfl, rfl, hn⟩

/-- the same for a location designation: some later allocation at that location had exactly the
    designated local index -/
theorem firedAt_iff_exists (n : Int) (file : String) (line : Nat) (post : List Op) :
    firedAt n file line post = true ↔
      ∃ p₁ p₂, post = p₁ ++ Op.alloc file line :: p₂ ∧ n = ((allocsAt file line p₁ + 1 : Nat) : Int) := by
  rw [firedAt_eq, allocsAt, firedLoc_countP_iff]
  simp only [isAllocAt_iff, Nat.zero_add]
  constructor
  · rintro ⟨p₁, x, p₂, rfl, rfl, hn⟩; exact ⟨p₁, p₂, rfl, hn⟩
  · rintro ⟨p₁, p₂, rfl, hn⟩; exact ⟨p₁, _, p₂, rfl, rfl, hn⟩

/-! ## clearing restores normal behaviour -/

/-- **After `clearFailedAllocs` the allocator behaves like a freshly constructed one**: whatever
    happened before, which allocations fail afterwards depends only on what is done after the
    clear (indices restart at 1, earlier designations are gone). -/
theorem clear_restores_normal (h e : List Op) (file : String) (line : Nat) :
    allocFails (run init (h ++ Op.clear :: e)) file line = allocFails (run init e) file line := by
  rw [Bool.eq_iff_iff, fails_iff_designated, fails_iff_designated]
  simp only [Designated, epoch_after_clear]

/-- in particular: after a clear, as long as no new designation is made, every allocation succeeds
    and the check is silent -/
theorem after_clear_no_failures (h e : List Op) (file : String) (line : Nat)
    (hd : ∀ op ∈ e, op.isDesignation = false) :
    allocFails (run init (h ++ Op.clear :: e)) file line = false ∧
    check (run init (h ++ Op.clear :: e)) = .ok := by
  have hno : ∀ op ∈ epoch e, op.isDesignation = false := by
    intro op hop
    rcases epoch_spec e with ⟨h1, _⟩ | ⟨p, hp⟩
    · rw [h1] at hop; exact hd op hop
    · apply hd op; rw [hp]; simp [hop]
  -- nothing is pending, so the check is silent, and only a pending designation can fail an allocation
  have hok : check (run init (h ++ Op.clear :: e)) = .ok := by
    rw [check_ok_iff, unfired, epoch_after_clear]; exact unfiredFrom_eq_nil _ 0 hno
  exact ⟨allocFails_of_nodes_nil _ _ _ ((check_ok_iff_nodes _).mp hok), hok⟩

/-- the state after a clear: empty list, counter 0 -/
theorem clear_state (h : List Op) :
    (run init (h ++ [Op.clear])).nodes = [] ∧ (run init (h ++ [Op.clear])).current = 0 := by
  rw [run_append]; exact ⟨rfl, rfl⟩

/-! ## C level: the malloc countdown, strdup / strndup / calloc -/

/-- **Countdown.**  After `cpputest_malloc_set_out_of_memory_countdown(n)` on a fresh state, the
    `k`-th allocating call (k = 1, 2, …) fails iff `0 ≤ n ≤ k`: with `n = 0` every allocation
    fails, with `n ≥ 1` exactly the allocations from the `n`-th on, with a negative `n` none. -/
theorem kth_malloc_fails_iff (n : Int) (k : Nat) :
    mallocNull (afterMallocs (setCountdown cinit n) k) = true ↔ (0 ≤ n ∧ n ≤ ((k + 1 : Nat) : Int)) := by
  rw [mallocNull_afterMallocs, decide_eq_true_iff, afterMallocs_setCountdown cinit rfl]
  split
  · next h => exact iff_of_true rfl h
  · next h => exact iff_of_false (by simp [cinit]) h

/-- **`cpputest_malloc_set_not_out_of_memory` ends the simulation**: after ANY sequence of C-level
    calls, once it is called no allocation fails, however many follow. -/
theorem not_out_of_memory_restores (ops : List COp) (j : Nat) :
    mallocNull (afterMallocs (setNotOutOfMemory (crun cinit ops)) j) = false := by
  have hcur : (setNotOutOfMemory (crun cinit ops)).cur = .normal := by
    rcases cinv_run ops cinit (Or.inl ⟨rfl, rfl⟩) with ⟨a, _⟩ | ⟨a, _⟩ <;> simp [setNotOutOfMemory, a]
  -- `setNotOutOfMemory` leaves the state a negative countdown would
  have hset : setNotOutOfMemory (crun cinit ops) = setCountdown (setNotOutOfMemory (crun cinit ops)) (-1) := rfl
  rw [mallocNull_afterMallocs, hset, afterMallocs_setCountdown _ rfl, if_neg (by omega), decide_eq_false_iff_not]
  simp [hcur]

/-- **strdup / strndup return NULL exactly when their allocation fails**, and count as one
    allocating call -/
theorem strdup_null_iff (c : CState) (str : List UInt8) :
    ((strdup c str).2 = none ↔ mallocNull c = true) ∧ (strdup c str).1 = mallocState c := by
  unfold strdup; cases mallocNull c <;> simp

theorem strndup_null_iff (c : CState) (str : List UInt8) (n : Nat) :
    ((strndup c str n).2 = none ↔ mallocNull c = true) ∧ (strndup c str n).1 = mallocState c := by
  unfold strndup; cases mallocNull c <;> simp

/-- a successful strdup / strndup holds the bytes of the C library counterpart -/
theorem strdup_content (c : CState) (str : List UInt8) (h : mallocNull c = false) :
    (strdup c str).2 = some (str ++ [0]) ∧ (strndup c str n).2 = some (str.take n ++ [0]) := by
  simp [strdup, strndup, h]

/-- **calloc returns NULL exactly when the product overflows or its allocation fails**; an
    overflowing request does not count as an allocating call; a successful one is zero filled -/
theorem calloc_null_iff (c : CState) (num size : Nat) :
    ((calloc c num size).2 = none ↔ (callocOverflows num size = true ∨ mallocNull c = true)) ∧
    (callocOverflows num size = true → (calloc c num size).1 = c) ∧
    (callocOverflows num size = false → (calloc c num size).1 = mallocState c) ∧
    (callocOverflows num size = false → mallocNull c = false →
      (calloc c num size).2 = some (List.replicate (num * size) 0)) := by
  unfold calloc
  cases h1 : callocOverflows num size <;> cases h2 : mallocNull c <;> simp

/-- under the countdown: the `k`-th allocating call being a strdup, it returns NULL iff `0 ≤ n ≤ k` -/
theorem kth_strdup_null_iff (n : Int) (k : Nat) (str : List UInt8) :
    (strdup (afterMallocs (setCountdown cinit n) k) str).2 = none ↔ (0 ≤ n ∧ n ≤ ((k + 1 : Nat) : Int)) := by
  rw [(strdup_null_iff _ _).1, kth_malloc_fails_iff]

/-! ## `malloc_count`, realloc, free -/

/-- **`cpputest_malloc_get_count()`** is the number of allocating calls since the last
    `cpputest_malloc_count_reset()`: every malloc, strdup, strndup and every calloc whose product does
    not overflow counts once, failing calls included; realloc, free and the control calls never. -/
theorem malloc_count_is_number_of_allocating_calls : ∀ (ops : List COp) (c : CState),
    (crun c ops).count = expectedCountFrom c.count ops := by
  intro ops
  induction ops with
  | nil => intro c; rfl
  | cons op ops ih =>
    intro c
    have ih := ih (cstep c op)
    simp only [crun, List.foldl_cons] at ih ⊢
    rw [ih, cstep_count]
    cases op <;> simp [expectedCountFrom, COp.allocating]

/-- a failing allocating call is counted exactly like a succeeding one -/
theorem failing_call_is_counted (c : CState) : (mallocState c).count = c.count + 1 := by
  simp [mallocState, countdown_count]

/-- **realloc and free are outside the countdown**: they change neither the counter, nor
    `malloc_count`, nor the current allocator — `cpputest_realloc` never consumes a tick and is never
    the allocation that a countdown fails. -/
theorem realloc_free_outside_countdown (c : CState) (e : Bool) :
    cstep c (.realloc e) = c ∧ cstep c .free = c := ⟨rfl, rfl⟩

/-- what realloc / free do while the null allocator is current (observation, not part of the
    property: the statement lists malloc/strdup/strndup/calloc): a tracked block is refused with the
    allocator-mismatch failure, `realloc(NULL, n)` crashes; otherwise both work -/
theorem realloc_under_out_of_memory (c : CState) :
    (c.cur = .null → reallocResult c true = .mismatch ∧ reallocResult c false = .crash ∧
      freeResult c = .mismatch) ∧
    (c.cur = .normal → ∀ e, reallocResult c e = .ok ∧ freeResult c = .ok) := by
  constructor
  · intro h; simp [reallocResult, freeResult, h]
  · intro h e; simp [reallocResult, freeResult, h]

/-! ## locations are compared by the content of the whole file string and the line -/

/-- an allocation at another file name (another directory prefix is another name) or another line
    neither advances the local index of a designation nor can be the designated one … -/
theorem other_location_does_not_count (file file' : String) (line line' : Nat) (e : List Op)
    (h : file' ≠ file ∨ line' ≠ line) :
    allocsAt file line (e ++ [Op.alloc file' line']) = allocsAt file line e := by
  have : Op.isAllocAt file line (Op.alloc file' line') = false := by
    simp only [Op.isAllocAt, decide_eq_false_iff_not]
    rintro ⟨rfl, rfl⟩
    rcases h with h | h <;> exact h rfl
  simp [allocsAt_append, allocsAt_cons, allocsAt_nil, this]

/-- … while a location is only its content: the model has no notion of "which pointer", so a
    designation made through one pointer selects the allocations reported through any other pointer
    with equal content (the harness drives two pool copies of "a.c" and its own copy of the
    overloads' "<unknown>"): right after `failNthAllocAt(1, file, line)` the next allocation at
    `(file, line)` is designated, whatever happened before -/
theorem designate_first_at_location (h : List Op) (file : String) (line : Nat) :
    Designated (h ++ [Op.failAt 1 file line]) file line := by
  right
  have he : epoch (h ++ [Op.failAt 1 file line]) = epoch h ++ [Op.failAt 1 file line] := by
    rw [epoch_snoc]; simp
  exact ⟨epoch h, 1, [], by rw [he], by simp [allocsAt_nil]⟩

/-! ## regenerated code

`Gen/FailableCode.lean` is translated from the function bodies of `/repo` on every run
(`translate/extract_failable_code.py`).  Each regenerated definition is proved equal to the hand model the
theorems above are about; the `regenerated_…` theorems then restate the property for histories executed
by the regenerated definitions themselves. -/

theorem gen_shouldFail_eq (nd : Node) (cur : Nat) (file : String) (line : Nat) :
    Gen.Failable.shouldFail nd cur file line = nd.visit cur file line := by
  unfold Gen.Failable.shouldFail Node.visit
  -- The left side is regenerated from /repo on every run.  `rfl` closes the goal for the source as it is; the second
  -- alternative is there so that a harmless rewriting of the source still builds and raises no false alarm: here a
  -- comparison mirrored or conjuncts reordered, in `gen_countdown_eq` early returns merged or reordered, in
  -- `gen_mallocState_eq` the increment of `malloc_count` in front of `countdown()`.
  cases nd.file with
  | none => first | rfl | simp [eq_comm]
  | some f =>
    first
    | rfl
    | (simp only []
       by_cases h1 : file = f <;> by_cases h2 : line = nd.line <;> simp [h1, h2, eq_comm, and_comm] <;> simp_all [eq_comm])

theorem gen_node_number (raw : Node) (n : Int) :
    Gen.Failable.nodeFailAtAllocNumber raw n = { id := raw.id, number := n, actual := 0, file := none, line := 0 } := rfl

theorem gen_node_location (raw : Node) (n : Int) (file : String) (line : Nat) :
    Gen.Failable.nodeFailNthAllocAt raw n file line =
      { id := raw.id, number := n, actual := 0, file := some file, line := line } := rfl

theorem gen_init_eq : Gen.Failable.init = init := rfl

theorem gen_failAllocNumber_eq (raw : Node) (s : State) (n : Int) :
    Gen.Failable.failAllocNumber raw s n = failAllocNumber s n := rfl

theorem gen_failNthAllocAt_eq (raw : Node) (s : State) (n : Int) (file : String) (line : Nat) :
    Gen.Failable.failNthAllocAt raw s n file line = failNthAllocAt s n file line := rfl

theorem gen_walk_eq (s : State) (file : String) (line : Nat) : ∀ nodes : List Node,
    Gen.Failable.walk s file line nodes = walk s.current file line nodes
  | [] => rfl
  | nd :: rest => by
    have ih := gen_walk_eq s file line rest
    unfold Gen.Failable.walk walk
    simp only [Gen.Failable.allocVisit, gen_shouldFail_eq, ih]

theorem gen_allocMemory_eq (s : State) (file : String) (line : Nat) :
    Gen.Failable.allocMemory s file line = (allocState s file line, allocFired s file line, allocFails s file line) := by
  simp only [Gen.Failable.allocMemory, gen_walk_eq, Gen.Failable.allocPre, allocState, allocFired, allocFails]

theorem gen_check_eq (s : State) : Gen.Failable.check s = check s := by
  unfold Gen.Failable.check check
  cases s.nodes <;> rfl

theorem gen_clear_eq (s : State) : Gen.Failable.clear s = clear s ∧ Gen.Failable.clearFreed s = clearFreed s := ⟨rfl, rfl⟩

theorem gen_cinit_eq : Gen.Failable.cinit = cinit := rfl

theorem gen_setOutOfMemory_eq (c : CState) : Gen.Failable.setOutOfMemory c = setOutOfMemory c := by
  unfold Gen.Failable.setOutOfMemory setOutOfMemory
  cases h : c.orig <;> simp

theorem gen_setNotOutOfMemory_eq (c : CState) : Gen.Failable.setNotOutOfMemory c = setNotOutOfMemory c := rfl

theorem gen_setCountdown_eq (c : CState) (n : Int) : Gen.Failable.setCountdown c n = setCountdown c n := by
  unfold Gen.Failable.setCountdown setCountdown
  simp only [gen_setOutOfMemory_eq]

theorem gen_countdown_eq (c : CState) : Gen.Failable.countdown c = countdown c := by
  unfold Gen.Failable.countdown countdown
  simp only [gen_setOutOfMemory_eq]
  try (by_cases h1 : c.counter ≤ Gen.Failable.noCountdown <;> by_cases h2 : c.counter = Gen.Failable.outOfMemory <;>
        by_cases h3 : c.counter - 1 = Gen.Failable.outOfMemory <;> simp [h1, h2, h3])

theorem gen_mallocState_eq (c : CState) :
    Gen.Failable.mallocState c = mallocState c ∧ Gen.Failable.mallocNull c = mallocNull c := by
  unfold Gen.Failable.mallocNull Gen.Failable.mallocState mallocState mallocNull
  simp only [gen_countdown_eq, and_self]
  try (simp only [countdown_count_comm, countdown_count]; simp)

theorem gen_callocOverflows_eq (num size : Nat) : Gen.Failable.callocOverflows num size = callocOverflows num size := rfl

theorem gen_strdup_eq (c : CState) (str : List UInt8) (n : Nat) :
    Gen.Failable.strdup c str = strdup c str ∧ Gen.Failable.strndup c str n = strndup c str n := by
  unfold Gen.Failable.strdup Gen.Failable.strndup strdup strndup
  simp only [(gen_mallocState_eq c).1, (gen_mallocState_eq c).2]
  have h1 : 1 + str.length - 1 = str.length := by omega
  have h2 : List.take ((if str.length < n then str.length else n) + 1 - 1) str = List.take n str := by
    split
    · rw [Nat.add_sub_cancel, List.take_length, List.take_of_length_le (by omega)]
    · rw [Nat.add_sub_cancel]
  rw [h1, List.take_length, h2]
  exact ⟨rfl, rfl⟩

theorem gen_calloc_eq (c : CState) (num size : Nat) : Gen.Failable.calloc c num size = calloc c num size := by
  unfold Gen.Failable.calloc calloc
  simp only [(gen_mallocState_eq c).1, (gen_mallocState_eq c).2, gen_callocOverflows_eq]

theorem gen_count_eq (c : CState) :
    Gen.Failable.countReset c = { c with count := 0 } ∧ Gen.Failable.getCount c = (c, c.count) ∧
    Gen.Failable.reallocState c = c ∧ Gen.Failable.freeState c = c := ⟨rfl, rfl, rfl, rfl⟩

theorem genStep_eq (raw : Node) (s : State) (op : Op) : genStep raw s op = step s op := by
  cases op <;> simp [genStep, step, gen_failAllocNumber_eq, gen_failNthAllocAt_eq, gen_allocMemory_eq, (gen_clear_eq s).1]

theorem genRun_eq (raw : Node) : ∀ (h : List Op) (s : State), genRun raw s h = run s h := by
  intro h s
  rw [genRun, funext fun s => funext (genStep_eq raw s)]
  rfl

theorem genCstep_eq (c : CState) (op : COp) : genCstep c op = cstep c op := by
  cases op with
  | strdup s => simp only [genCstep, cstep, (gen_strdup_eq c s 0).1]
  | strndup s n => simp only [genCstep, cstep, (gen_strdup_eq c s n).2]
  | _ => simp [genCstep, cstep, gen_setCountdown_eq, gen_setOutOfMemory_eq, gen_setNotOutOfMemory_eq,
      (gen_mallocState_eq c).1, gen_calloc_eq, (gen_count_eq c)]

theorem genCrun_eq : ∀ (ops : List COp) (c : CState), genCrun c ops = crun c ops := by
  intro ops c
  rw [genCrun, funext fun c => funext (genCstep_eq c)]
  rfl

theorem genAfterMallocs_eq (c : CState) : ∀ k, genAfterMallocs c k = afterMallocs c k
  | 0 => rfl
  | k + 1 => by simp only [genAfterMallocs, afterMallocs, genAfterMallocs_eq c k, (gen_mallocState_eq _).1]

/-- a fresh node is fully initialised: nothing of the uninitialised memory `raw` survives except the
    (ghost) identity of the node -/
theorem fresh_node_fully_initialised (raw₁ raw₂ : Node) (h : raw₁.id = raw₂.id) (n : Int) (file : String) (line : Nat) :
    Gen.Failable.nodeFailAtAllocNumber raw₁ n = Gen.Failable.nodeFailAtAllocNumber raw₂ n ∧
    Gen.Failable.nodeFailNthAllocAt raw₁ n file line = Gen.Failable.nodeFailNthAllocAt raw₂ n file line := by
  simp [gen_node_number, gen_node_location, h]

/-- **Exactly the designated allocations fail — for the regenerated code.**  After any history executed by the
    definitions translated from the current source, `alloc_memory(size, file, line)` returns NULL iff the
    allocation is designated. -/
theorem regenerated_fails_iff_designated (raw : Node) (h : List Op) (file : String) (line : Nat) :
    genFails (genRun raw Gen.Failable.init h) file line = true ↔ Designated h file line := by
  rw [genFails, gen_allocMemory_eq, genRun_eq, gen_init_eq]
  exact fails_iff_designated h file line

/-- the regenerated `checkAllFailedAllocsWereDone` reports the most recent designation that never happened,
    and nothing iff there is none -/
theorem regenerated_check_reports_unfired (raw : Node) (h : List Op) :
    Gen.Failable.check (genRun raw Gen.Failable.init h) = (match (unfired h).getLast? with
      | none => .ok
      | some d => reportOf d) ∧
    (Gen.Failable.check (genRun raw Gen.Failable.init h) = .ok ↔ unfired h = []) := by
  rw [gen_check_eq, genRun_eq, gen_init_eq]
  exact ⟨unfired_reported_by_check h, check_ok_iff h⟩

/-- the regenerated `clearFailedAllocs` restores the behaviour of a fresh allocator -/
theorem regenerated_clear_restores_normal (raw : Node) (h e : List Op) (file : String) (line : Nat) :
    genFails (genRun raw Gen.Failable.init (h ++ Op.clear :: e)) file line =
      genFails (genRun raw Gen.Failable.init e) file line := by
  simp only [genFails, gen_allocMemory_eq, genRun_eq, gen_init_eq]
  exact clear_restores_normal h e file line

/-- the countdown theorem for the regenerated C-level functions -/
theorem regenerated_kth_malloc_fails_iff (n : Int) (k : Nat) :
    Gen.Failable.mallocNull (genAfterMallocs (Gen.Failable.setCountdown Gen.Failable.cinit n) k) = true ↔
      (0 ≤ n ∧ n ≤ ((k + 1 : Nat) : Int)) := by
  rw [(gen_mallocState_eq _).2, genAfterMallocs_eq, gen_setCountdown_eq, gen_cinit_eq]
  exact kth_malloc_fails_iff n k

/-- … and `cpputest_malloc_set_not_out_of_memory` ends the simulation after any history of regenerated calls -/
theorem regenerated_not_out_of_memory_restores (ops : List COp) (j : Nat) :
    Gen.Failable.mallocNull (genAfterMallocs (Gen.Failable.setNotOutOfMemory (genCrun Gen.Failable.cinit ops)) j) = false := by
  rw [(gen_mallocState_eq _).2, genAfterMallocs_eq, gen_setNotOutOfMemory_eq, genCrun_eq, gen_cinit_eq]
  exact not_out_of_memory_restores ops j

/-- `malloc_count` of the regenerated code is the number of allocating calls since the last reset -/
theorem regenerated_malloc_count (ops : List COp) :
    (Gen.Failable.getCount (genCrun Gen.Failable.cinit ops)).2 = expectedCountFrom 0 ops := by
  rw [(gen_count_eq _).2.1, genCrun_eq, gen_cinit_eq]
  exact malloc_count_is_number_of_allocating_calls ops cinit

/-- regenerated strdup / strndup / calloc return NULL exactly when their allocation fails (calloc also when the
    regenerated overflow guard fires) -/
theorem regenerated_strdup_calloc_null_iff (c : CState) (str : List UInt8) (n num size : Nat) :
    ((Gen.Failable.strdup c str).2 = none ↔ Gen.Failable.mallocNull c = true) ∧
    ((Gen.Failable.strndup c str n).2 = none ↔ Gen.Failable.mallocNull c = true) ∧
    ((Gen.Failable.calloc c num size).2 = none ↔
      (Gen.Failable.callocOverflows num size = true ∨ Gen.Failable.mallocNull c = true)) := by
  rw [(gen_strdup_eq c str n).1, (gen_strdup_eq c str n).2, gen_calloc_eq, (gen_mallocState_eq c).2, gen_callocOverflows_eq]
  exact ⟨(strdup_null_iff c str).1, (strndup_null_iff c str n).1, (calloc_null_iff c num size).1⟩

/-- the regenerated overflow guard is the mathematical one: the product does not fit 64 bits -/
theorem regenerated_calloc_guard_iff (num size : Nat) :
    Gen.Failable.callocOverflows num size = true ↔ num * size ≥ 2 ^ 64 := by
  unfold Gen.Failable.callocOverflows
  rw [decide_eq_true_iff, gt_iff_lt]
  -- `(2^64 - 1) / size < num` is `2^64 - 1 < num * size` for a positive `size`
  rcases Nat.eq_zero_or_pos size with rfl | hs
  · simp
  · rw [Nat.div_lt_iff_lt_mul hs]; omega

/-! ## the C-level API on top of an installed `FailableMemoryAllocator` -/

theorem genMallocOver_eq (b : Both) (file : String) (line : Nat) :
    genMallocOver b file line = mallocOver b file line := by
  unfold genMallocOver mallocOver
  simp only [(gen_mallocState_eq b.c).1, gen_allocMemory_eq]
  cases (mallocState b.c).cur <;> rfl

theorem genOver_eq (b : Both) (str : List UInt8) (n num size : Nat) (file : String) (line : Nat) :
    genStrdupOver b str file line = strdupOver b str file line ∧
    genStrndupOver b str n file line = strndupOver b str n file line ∧
    genCallocOver b num size file line = callocOver b num size file line := by
  simp only [genStrdupOver, genStrndupOver, genCallocOver, strdupOver, strndupOver, callocOver, genMallocOver_eq,
    gen_callocOverflows_eq, and_self]

/-- **Which allocations of the malloc path fail**: exactly those that the simulated out-of-memory refuses, and those
    that reach an installed failable allocator and are refused by it. -/
theorem mallocOver_null_iff (b : Both) (file : String) (line : Nat) :
    (mallocOver b file line).isNull = true ↔
      (mallocNull b.c = true ∨ ((mallocState b.c).cur = .failable ∧ allocFails b.fa file line = true)) := by
  unfold mallocOver mallocNull
  have hc : (countdown b.c).cur = (mallocState b.c).cur := rfl
  rw [hc]
  cases h : (mallocState b.c).cur <;> simp

/-- an allocation refused by the simulated out-of-memory never reaches the failable allocator: no designation is
    consumed, no index moves -/
theorem out_of_memory_hides_allocation (b : Both) (file : String) (line : Nat) (h : mallocNull b.c = true) :
    (mallocOver b file line).st.fa = b.fa ∧ (mallocOver b file line).fired = [] ∧
    (mallocOver b file line).st.c = mallocState b.c := by
  have h' : (mallocState b.c).cur = .null := by
    have : (countdown b.c).cur = .null := by simpa [mallocNull] using h
    exact this
  unfold mallocOver
  rw [h']
  exact ⟨rfl, rfl, rfl⟩

/-- an allocation that reaches the installed failable allocator is decided by it alone, at the file and line the
    caller gave -/
theorem mallocOver_reaches_failable (b : Both) (file : String) (line : Nat) (h : (mallocState b.c).cur = .failable) :
    (mallocOver b file line).st.fa = allocState b.fa file line ∧
    (mallocOver b file line).fired = allocFired b.fa file line ∧
    (mallocOver b file line).isNull = allocFails b.fa file line := by
  unfold mallocOver
  rw [h]
  exact ⟨rfl, rfl, rfl⟩

/-- **strdup / strndup / calloc return NULL exactly when the allocation they rely on fails** — whichever mechanism
    makes it fail (calloc also when its product overflows, in which case nothing is asked) -/
theorem over_null_iff (b : Both) (str : List UInt8) (n num size : Nat) (file : String) (line : Nat) :
    ((strdupOver b str file line).2 = none ↔ (mallocOver b file line).isNull = true) ∧
    ((strndupOver b str n file line).2 = none ↔ (mallocOver b file line).isNull = true) ∧
    ((callocOver b num size file line).2 = none ↔
      (callocOverflows num size = true ∨ (mallocOver b file line).isNull = true)) ∧
    (callocOverflows num size = true → (callocOver b num size file line).1.st = b) := by
  unfold strdupOver strndupOver callocOver
  cases h1 : callocOverflows num size <;> cases h2 : (mallocOver b file line).isNull <;> simp

/-- end to end: a failable allocator installed as the malloc allocator, no out-of-memory simulated; after ANY
    history `h` of the allocator, `strdup` at `(file, line)` returns NULL iff that allocation is designated -/
theorem strdup_null_iff_designated (c : CState) (hc : c.counter = Gen.Failable.noCountdown) (hcur : c.cur = .failable)
    (h : List Op) (str : List UInt8) (n num size : Nat) (hov : callocOverflows num size = false) (file : String) (line : Nat) :
    ((strdupOver { c := c, fa := run init h } str file line).2 = none ↔ Designated h file line) ∧
    ((strndupOver { c := c, fa := run init h } str n file line).2 = none ↔ Designated h file line) ∧
    ((callocOver { c := c, fa := run init h } num size file line).2 = none ↔ Designated h file line) := by
  have hid : countdown c = c := countdown_idle c (by rw [hc]; simp [Gen.Failable.noCountdown])
  have hms : (mallocState c).cur = .failable := by simp [mallocState, hid, hcur]
  have hnn : mallocNull c = false := by simp [mallocNull, hid, hcur]
  have key : (mallocOver { c := c, fa := run init h } file line).isNull = true ↔ Designated h file line := by
    rw [mallocOver_null_iff, ← fails_iff_designated]
    simp [hnn, hms]
  obtain ⟨a1, a2, a3, _⟩ := over_null_iff { c := c, fa := run init h } str n num size file line
  rw [a1, a2, a3, key]
  simp [hov]

/-- **The countdown on top of an installed allocator** `a` (the failable one, or any other): the `k`-th allocating call
    asks the null allocator iff `0 ≤ n ≤ k`, and `a` otherwise -/
theorem countdown_keeps_installed_allocator (a : Alloc) (n : Int) (k : Nat) :
    (mallocState (afterMallocs (setCountdown { cinit with cur := a } n) k)).cur =
      if 0 ≤ n ∧ n ≤ ((k + 1 : Nat) : Int) then .null else a := by
  change (afterMallocs _ (k + 1)).cur = _
  rw [afterMallocs_setCountdown _ rfl]
  split <;> rfl

/-- once the countdown has expired, `cpputest_malloc_set_not_out_of_memory` re-installs the allocator that was
    installed before -/
theorem not_out_of_memory_reinstalls (a : Alloc) (n : Int) (k : Nat) (h0 : 0 ≤ n) (hk : n ≤ (k : Int)) :
    (setNotOutOfMemory (afterMallocs (setCountdown { cinit with cur := a } n) k)).cur = a ∧
    (setNotOutOfMemory (afterMallocs (setCountdown { cinit with cur := a } n) k)).orig = none ∧
    (setNotOutOfMemory (afterMallocs (setCountdown { cinit with cur := a } n) k)).counter = Gen.Failable.noCountdown := by
  rw [afterMallocs_setCountdown _ rfl, if_pos ⟨h0, hk⟩]
  exact ⟨rfl, rfl, rfl⟩

/-- observation (outside the property, see ASSUMPTIONS): called while nothing is simulated,
    `cpputest_malloc_set_not_out_of_memory` makes the DEFAULT allocator current, i.e. it uninstalls an installed one -/
theorem stray_not_out_of_memory_resets (c : CState) (h : c.orig = none) : (setNotOutOfMemory c).cur = .normal := by
  simp [setNotOutOfMemory, h]

/-! ## whole histories -/

theorem outcomes_run : ∀ (h pre : List Op), outcomes (run init pre) h = designatedOutcomes pre h := by
  intro h
  induction h with
  | nil => intro _; rfl
  | cons op h ih =>
    intro pre
    have hstep : step (run init pre) op = run init (pre ++ [op]) := by rw [run_append]; rfl
    have ih := ih (pre ++ [op])
    cases op with
    | alloc f l =>
      have hs : allocState (run init pre) f l = run init (pre ++ [Op.alloc f l]) := hstep
      have hb : allocFails (run init pre) f l = designatedB pre f l := by
        rw [Bool.eq_iff_iff, fails_iff_designated, designatedB_iff]
      simp only [outcomes, designatedOutcomes, hs, ih, hb]
    | _ => simp only [outcomes, designatedOutcomes, hstep, ih]

/-- **End to end.**  The NULL / non-NULL results of ALL allocations of a whole history — any interleaving of
    designations, allocations at any locations, checks and clears, of any length — are exactly what the history of
    calls designates: the list of results computed by the allocator equals the list computed from the calls alone. -/
theorem whole_history_outcomes (h : List Op) : outcomes init h = designatedOutcomes [] h := outcomes_run h []

theorem failures_le_fired : ∀ (h : List Op) (s : State), (outcomes s h).count true ≤ (firedIds s h).length := by
  intro h
  induction h with
  | nil => intro _; simp [outcomes, firedIds]
  | cons op h ih =>
    intro s
    cases op with
    | alloc f l =>
      have ih := ih (allocState s f l)
      simp only [outcomes, firedIds, List.count_cons, List.length_append, List.length_map]
      by_cases hf : allocFails s f l = true
      · have := List.length_pos_iff.mpr ((fails_iff_some_node_consumed s f l).mp hf)
        simp [hf]; omega
      · simp [hf]; omega
    | _ => simpa only [outcomes, firedIds] using ih _

theorem nextId_counts_designations : ∀ (h : List Op) (s : State),
    (run s h).nextId = s.nextId + h.countP Op.isDesignation :=
  run_nextId

/-- **No history fails more allocations than it designates**: every failing allocation consumes at least one
    designation and no designation is consumed twice. -/
theorem failures_le_designations (h : List Op) :
    (outcomes init h).count true ≤ h.countP Op.isDesignation := by
  have h1 := failures_le_fired h init
  have h2 := (fired_designation_consumed_once h).length_eq
  have h3 := nextId_counts_designations h init
  have hi : init.nextId = 0 := rfl
  simp only [List.length_append, List.length_range', List.length_map] at h2
  omega

/-- without any designation no allocation of the history fails -/
theorem no_designation_no_failure (h : List Op) (hd : ∀ op ∈ h, op.isDesignation = false) :
    ∀ b ∈ outcomes init h, b = false := by
  have h0 : h.countP Op.isDesignation = 0 := by
    rw [List.countP_eq_zero]; intro op hop; simp [hd op hop]
  have := failures_le_designations h
  intro b hb
  cases b with
  | false => rfl
  | true => exact absurd (List.count_pos_iff.mpr hb) (by omega)

/-- the failure text of `checkAllFailedAllocsWereDone`, as regenerated: the format strings of the current source
    filled with the head designation -/
theorem check_text (f : String) (l : Nat) (n : Int) :
    checkText .ok = none ∧
    checkText (.neverDoneAt f l) =
      some ((Gen.Failable.checkFormatAt.replace "%s" f).replace "%d" (toString (int32 l))) ∧
    checkText (.neverDoneNumber n) = some (Gen.Failable.checkFormatNumber.replace "%d" (toString n)) ∧
    (l < 2 ^ 31 → int32 l = (l : Int)) := by
  refine ⟨rfl, rfl, rfl, ?_⟩
  intro hl
  unfold int32
  have : l % 2 ^ 32 = l := Nat.mod_eq_of_lt (by omega)
  rw [this, if_pos hl]

/-! ## the `operator new` overloads in front of the allocator: default and thread-safe mode -/

/-- every overload mode installs a function for every form, and it is the form's own (`threadsafe_`)`mem_leak_` function -/
theorem installed_new_functions (form : String) (hf : form ∈ newForms) :
    installedNew false form = some ("mem_leak_" ++ form) ∧ installedNew true form = some ("threadsafe_mem_leak_" ++ form) := by
  revert form
  decide +kernel

/-- the regenerated tables (form → function pointer → function installed by
    `turnOnDefaultNotThreadSafeNewDeleteOverloads` / `turnOnThreadSafeNewDeleteOverloads` → does the body throw on NULL)
    say what C++ promises: in BOTH overload modes the four throwing forms turn a refused allocation into
    `std::bad_alloc` and the two nothrow forms hand NULL to the caller -/
theorem gen_formThrows_eq (ts : Bool) (form : String) (hf : form ∈ newForms) :
    formThrows ts form = formThrowsSpec form := by
  -- the installed function is known (`installed_new_functions`); the last table says whether it throws
  unfold formThrows
  cases ts
  · rw [(installed_new_functions form hf).1]; exact (throwsOnNull_table form hf).1
  · rw [(installed_new_functions form hf).2]; exact (throwsOnNull_table form hf).2

/-- what the caller sees is fixed by the allocator's answer and the family alone -/
theorem outcome_eq (ts : Bool) (fam : String) (fails : Bool) :
    outcome ts fam fails = if fails then failureKind fam else .ok := by
  unfold outcome failureKind
  cases fails with
  | false => simp
  | true =>
    cases hf : familyForm fam with
    | none => simp
    | some form => simp [gen_formThrows_eq ts form (familyForm_mem fam form hf)]

/-- **The outcome of an allocation does not depend on the overload mode**: whatever the allocator answers, the caller of
    any family sees the same thing with the thread-safe overloads as with the default ones -/
theorem outcome_independent_of_overload_mode (fam : String) (fails : Bool) :
    outcome true fam fails = outcome false fam fails := by
  rw [outcome_eq, outcome_eq]

/-- **Exactly the designated allocations fail, each in its family's way, in both overload modes** (regenerated allocator
    code behind regenerated overload tables): after any history the allocation at `(file, line)` made through family
    `fam` throws `std::bad_alloc` (throwing `new` / `new[]` forms) resp. returns NULL (nothrow forms, malloc family,
    direct call) iff it is designated, and succeeds otherwise -/
theorem regenerated_outcome_iff_designated (ts : Bool) (raw : Node) (h : List Op) (file : String) (line : Nat) (fam : String) :
    outcome ts fam (genFails (genRun raw Gen.Failable.init h) file line)
      = if designatedB h file line then failureKind fam else .ok := by
  have hb : genFails (genRun raw Gen.Failable.init h) file line = designatedB h file line := by
    rw [Bool.eq_iff_iff, regenerated_fails_iff_designated, designatedB_iff]
  rw [outcome_eq, hb]

/-! ## non-vacuity -/

/-- two histories on which the kinds of designation must not be confused: designating the 2nd allocation at foo.c:10 does not fail the
    2nd allocation made elsewhere … -/
example : allocFails (run init [.failAt 2 "foo.c" 10, .alloc "bar.c" 1]) "bar.c" 2 = false := by decide +kernel
/-- … and designating the 1st and 2nd allocation at one location fails the 1st and the 2nd -/
example : allocFails (run init [.failAt 1 "foo.c" 10, .failAt 2 "foo.c" 10]) "foo.c" 10 = true ∧
    allocFails (run init [.failAt 1 "foo.c" 10, .failAt 2 "foo.c" 10, .alloc "foo.c" 10]) "foo.c" 10 = true ∧
    allocFails (run init [.failAt 1 "foo.c" 10, .failAt 2 "foo.c" 10, .alloc "foo.c" 10, .alloc "foo.c" 10])
      "foo.c" 10 = false := by decide +kernel
example : Designated [.failNum 2, .alloc "a.c" 1] "b.c" 7 := by
  rw [← designatedB_iff]; decide +kernel
example : unfired [.failNum 5, .failAt 1 "a.c" 3, .alloc "a.c" 3] = [.failNum 5] := by decide +kernel
example : check (run init [.failNum 5, .failAt 1 "a.c" 3, .alloc "a.c" 3]) = .neverDoneNumber 5 := by decide +kernel
example : genFails (genRun default Gen.Failable.init [.failAt 2 "a.c" 10, .alloc "b.c" 10, .alloc "a.c" 10]) "a.c" 10 = true ∧
    genFails (genRun default Gen.Failable.init [.failAt 2 "a.c" 10, .alloc "b.c" 10, .alloc "a.c" 10]) "b.c" 10 = false := by decide +kernel
example : Gen.Failable.check (genRun default Gen.Failable.init [.failNum 5, .failAt 1 "a.c" 3, .alloc "a.c" 3]) = .neverDoneNumber 5 := by decide +kernel
example : Gen.Failable.mallocNull (genAfterMallocs (Gen.Failable.setCountdown Gen.Failable.cinit 3) 1) = false ∧
    Gen.Failable.mallocNull (genAfterMallocs (Gen.Failable.setCountdown Gen.Failable.cinit 3) 2) = true := by decide +kernel
example : Gen.Failable.callocOverflows 4294967296 4294967296 = true ∧ Gen.Failable.callocOverflows 4294967295 4294967297 = false := by decide +kernel
example : (strdupOver { c := { cinit with cur := .failable }, fa := run init [.failNum 2, .alloc "<unknown>" 0] } [104, 105] "<unknown>" 0).2 = none ∧
    (strdupOver { c := { cinit with cur := .failable }, fa := run init [.failNum 3, .alloc "<unknown>" 0] } [104, 105] "<unknown>" 0).2 = some [104, 105, 0] := by decide +kernel
example : (mallocOver { c := setOutOfMemory { cinit with cur := .failable }, fa := run init [.failNum 1] } "a.c" 1).isNull = true ∧
    (mallocOver { c := setOutOfMemory { cinit with cur := .failable }, fa := run init [.failNum 1] } "a.c" 1).st.fa = run init [.failNum 1] := by decide +kernel
example : outcomes init [.failAt 2 "a.c" 1, .alloc "a.c" 1, .failNum 3, .alloc "b.c" 1, .alloc "a.c" 1, .alloc "a.c" 1]
    = [false, false, true, false] := by decide +kernel
example : designatedOutcomes [] [.failAt 2 "a.c" 1, .alloc "a.c" 1, .failNum 3, .alloc "b.c" 1, .alloc "a.c" 1, .alloc "a.c" 1]
    = [false, false, true, false] := by decide +kernel
example : int32 10 = 10 ∧ int32 4294967295 = -1 := by decide +kernel
example : mallocNull (afterMallocs (setCountdown cinit 3) 1) = false ∧
    mallocNull (afterMallocs (setCountdown cinit 3) 2) = true := by decide +kernel

/-- the thread-safe overloads: a designated `new char[n]` under the new macro (family W) throws, the designated nothrow
    `new[]` returns NULL, the allocation that is not designated succeeds -/
example : outcome true "W" (genFails (genRun default Gen.Failable.init [.failNum 2, .alloc "a.c" 1]) "<harness>" 34) = .throws ∧
    outcome true "u" (genFails (genRun default Gen.Failable.init [.failNum 2, .alloc "a.c" 1]) "<unknown>" 0) = .null ∧
    outcome true "W" (genFails (genRun default Gen.Failable.init [.failNum 3, .alloc "a.c" 1]) "<harness>" 34) = .ok ∧
    installedNew true "operator_new_array_debug" = some "threadsafe_mem_leak_operator_new_array_debug" := by decide +kernel

end Failable
