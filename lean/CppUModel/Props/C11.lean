import CppUModel.Proofs.SeparateProcess
import CppUModel.Model.SeparateProcessArgv
/-!
# C11 — separate-process mode contains every way a test can die

Model: `CppUModel/Model/SeparateProcess.lean` (from
`src/Platforms/Gcc/UtestPlatform.cpp`, `Utest.cpp`, `TestRegistry.cpp`); vocabulary:
`CppUModel/Spec/SeparateProcess.lean`.  `retryBound`, the failure chain of
`SetTestFailureByStatusCode` and the messages come from the regenerated
`Gen/SeparateProcessConstants.lean`.

All theorems quantify over every list of `waitpid` results (any length, any interleaving of EINTR,
stops, errors and status words) and every 32-bit status word.  What they do not carry: that the
kernel delivers signals and fills in the status word as `wait(2)` says — part (b) of the harness
observes that with real children.
-/
namespace SepProc
open Gen.SepProcC

/-! ## status word: glibc's macros say what the textbook says -/

theorem macros_agree_with_textbook (s : BitVec 32) :
    (wIfExited s || wIfSignaled s) = (classify s).terminal ∧
    wIfStopped s = (classify s).isStopped ∧
    wTermSig s = s.toNat % 128 ∧ wExitStatus s = s.toNat / 256 % 256 :=
  ⟨terminal_eq s, stopped_eq s, wTermSig_eq s, wExitStatus_eq s⟩

/-- `SetTestFailureByStatusCode`, for every status word: one failure of the right class for a
    signal death (with the signal's number), a non-zero exit and a stop; none for exit 0. -/
theorem status_failures_exact (s : BitVec 32) :
    classes (statusFailures s) = (classify s).expected :=
  statusFailures_classes s

theorem signal_message_names_signal (s : BitVec 32) (n : Nat) (h : classify s = .signaled n) :
    ∃ e ∈ statusChain, statusFailures s = [{ cls := .killedBySignal n, text := e.msg ++ toString n }] := by
  have hm := macros_of_class s
  rw [h] at hm
  refine ⟨_, List.mem_cons_of_mem _ (List.mem_cons_self ..), ?_⟩
  unfold statusFailures statusChain
  simp [chainFailures, condHolds, classOfArm, textOfArm, hm]

/-! ## one failure per death event -/

/-- **Every death is recorded once.**  Whatever kept the parent waiting before (EINTR within the
    retry budget, stops, continued-style words), when `waitpid` reports that the child exited or
    was killed the parent has recorded exactly: one `stopped` failure per stop, then the failure
    of the final status (signal n ↦ "killed by signal n", non-zero exit ↦ "failed", exit 0 ↦
    nothing); it has sent one SIGCONT per stop, used exactly the results up to the final one and
    left the loop. -/
theorem every_death_recorded_once (pre : List WaitOutcome) (s : BitVec 32) (post : List WaitOutcome)
    (hpre : ∀ o ∈ pre, o.nonFinal = true) (hb : eintrCount pre ≤ retryBound + 1)
    (ht : (classify s).terminal = true) :
    classes (parentLoop 0 (pre ++ .status s :: post)).failures
        = List.replicate (stopCount pre) FailClass.stopped ++ (classify s).expected ∧
    (parentLoop 0 (pre ++ .status s :: post)).consumed = pre.length + 1 ∧
    (parentLoop 0 (pre ++ .status s :: post)).conts = stopCount pre ∧
    (parentLoop 0 (pre ++ .status s :: post)).ended = .childGone := by
  rw [parentLoop_of_stops 0 hpre hb (.childGone s post ht)]
  exact ⟨by rw [classes_append, classes_of_nonFinal pre hpre, statusFailures_classes], rfl, rfl, rfl⟩

/-- killed by signal `n` (any `n`, with or without core dump), after any admissible prefix:
    the last failure recorded is "killed by signal n", and it is the only one apart from stops -/
theorem signal_death_recorded_once (pre : List WaitOutcome) (s : BitVec 32) (n : Nat) (post : List WaitOutcome)
    (hpre : ∀ o ∈ pre, o.nonFinal = true) (hb : eintrCount pre ≤ retryBound + 1)
    (hs : classify s = .signaled n) :
    classes (parentLoop 0 (pre ++ .status s :: post)).failures
      = List.replicate (stopCount pre) FailClass.stopped ++ [.killedBySignal n] := by
  have := (every_death_recorded_once pre s post hpre hb (by simp [hs, StatusClass.terminal])).1
  simpa [hs, StatusClass.expected] using this

/-- exit with any non-zero status (also: the child's test failed a check, `childExitCode`) -/
theorem nonzero_exit_recorded_once (pre : List WaitOutcome) (s : BitVec 32) (c : Nat) (post : List WaitOutcome)
    (hpre : ∀ o ∈ pre, o.nonFinal = true) (hb : eintrCount pre ≤ retryBound + 1)
    (hs : classify s = .exited (c + 1)) :
    classes (parentLoop 0 (pre ++ .status s :: post)).failures
      = List.replicate (stopCount pre) FailClass.stopped ++ [.exitedNonZero] := by
  have := (every_death_recorded_once pre s post hpre hb (by simp [hs, StatusClass.terminal])).1
  simpa [hs, StatusClass.expected] using this

theorem failed_check_exits_nonzero (i f : Nat) : childExitCode i f ≠ 0 ↔ i < f := by
  unfold childExitCode; split <;> simp_all

/-- **A normal exit adds no failure**, however many interrupted waits (within the budget) and
    continued-style words came before it, as long as the child was never stopped. -/
theorem normal_exit_no_failure (pre : List WaitOutcome) (s : BitVec 32) (post : List WaitOutcome)
    (hpre : ∀ o ∈ pre, o.nonFinal = true) (hb : eintrCount pre ≤ retryBound + 1)
    (hstops : stopCount pre = 0) (hs : classify s = .exited 0) :
    (parentLoop 0 (pre ++ .status s :: post)).failures = [] ∧
    (parentLoop 0 (pre ++ .status s :: post)).ended = .childGone := by
  rw [parentLoop_of_stops 0 hpre hb (.childGone s post (by simp [hs, StatusClass.terminal]))]
  have h : classes (pre.flatMap outcomeFailures ++ statusFailures s) = [] := by
    rw [classes_append, classes_of_nonFinal pre hpre, statusFailures_classes, hs, hstops]
    rfl
  exact ⟨List.map_eq_nil_iff.mp h, rfl⟩

/-- **Stops, for every result list at all:** the number of `stopped` failures equals the number
    of stop results used equals the number of SIGCONTs sent. -/
theorem stop_recorded_once (outs : List WaitOutcome) (r : Nat) :
    (classes (parentLoop r outs).failures).count .stopped = stopCount (outs.take (parentLoop r outs).consumed) ∧
    (parentLoop r outs).conts = stopCount (outs.take (parentLoop r outs).consumed) := by
  refine ⟨?_, conts_exact outs r⟩
  rw [failures_exact, classes_append, List.count_append,
    count_outcomeFailures _ _ (fun o => (count_in_outcomeFailures o).1)]
  cases (parentLoop r outs).ended <;> rfl

/-! ## fork and wait failures -/

/-- **fork fails:** exactly one failure, nothing is waited for. -/
theorem fork_failure_reported (outs : List WaitOutcome) :
    runSeparate { forkOk := false, outs := outs } =
      { failures := [forkFailure], consumed := 0, conts := 0, ended := .forkFailed } := rfl

/-- **waitpid fails (not EINTR):** exactly one more failure, and the parent returns. -/
theorem wait_error_reported (pre post : List WaitOutcome)
    (hpre : ∀ o ∈ pre, o.nonFinal = true) (hb : eintrCount pre ≤ retryBound + 1) :
    classes (parentLoop 0 (pre ++ .error :: post)).failures
        = List.replicate (stopCount pre) FailClass.stopped ++ [.waitFailed] ∧
    (parentLoop 0 (pre ++ .error :: post)).consumed = pre.length + 1 ∧
    (parentLoop 0 (pre ++ .error :: post)).ended = .waitError := by
  rw [parentLoop_of_stops 0 hpre hb (.waitError post)]
  exact ⟨by rw [classes_append, classes_of_nonFinal pre hpre]; rfl, rfl, rfl⟩

/-! ## interrupted waits -/

/-- up to `retryBound + 1` interrupted waits in a row are retried: the parent goes on with what
    comes next and records nothing for them (the child is not lost) -/
theorem eintr_retried (n : Nat) (rest : List WaitOutcome) (h : n ≤ retryBound + 1) :
    parentLoop 0 (List.replicate n .eintr ++ rest) =
      { failures := (parentLoop n rest).failures, consumed := n + (parentLoop n rest).consumed,
        conts := (parentLoop n rest).conts, ended := (parentLoop n rest).ended } := by
  have hnf : ∀ o ∈ List.replicate n WaitOutcome.eintr, o.nonFinal = true :=
    fun o ho => List.eq_of_mem_replicate ho ▸ rfl
  have hc : eintrCount (List.replicate n .eintr) = n := by
    simp [eintrCount, List.countP_replicate, WaitOutcome.isEintr]
  rw [parentLoop_append _ 0 rest hnf (by omega), hc]
  simp [stopCount, WaitOutcome.isStop, outcomeFailures]

/-- `retryBound + 2` or more interrupted waits in a row: the parent returns after exactly
    `retryBound + 2` of them with exactly one failure, whatever follows -/
theorem eintr_gives_up (n : Nat) (rest : List WaitOutcome) (h : retryBound + 2 ≤ n) :
    parentLoop 0 (List.replicate n .eintr ++ rest) =
      { failures := [giveUpFailure], consumed := retryBound + 2, conts := 0, ended := .gaveUp } := by
  obtain ⟨k, rfl⟩ : ∃ k, n = (retryBound + 1) + (k + 1) := ⟨n - (retryBound + 2), by omega⟩
  rw [← List.replicate_append_replicate, List.append_assoc, eintr_retried _ _ (Nat.le_refl _),
    List.replicate_succ, List.cons_append, parentLoop_eintr, if_pos (by omega)]
  rfl

/-- **Interrupted waits are retried a bounded number of times — for every result list:** the
    parent never uses more than `retryBound + 2` EINTR results in total (the counter is not reset
    by a successful wait), it gives up exactly when it has used that many, and giving up is
    exactly one failure. -/
theorem eintr_retries_bounded (outs : List WaitOutcome) :
    eintrCount (outs.take (parentLoop 0 outs).consumed) ≤ retryBound + 2 ∧
    ((parentLoop 0 outs).ended = .gaveUp ↔
      eintrCount (outs.take (parentLoop 0 outs).consumed) = retryBound + 2) ∧
    (classes (parentLoop 0 outs).failures).count .eintrGiveUp
      = (if (parentLoop 0 outs).ended = .gaveUp then 1 else 0) := by
  rw [← and_assoc]
  refine ⟨?_, ?_⟩
  · obtain ⟨pre, rest, res, rfl, _, hb, hs, e⟩ := parentLoop_outcome 0 outs
    rw [e, List.take_length_add_append, eintrCount_append]
    cases hs with
    | gaveUp tl hlt =>
      -- the stop that uses one more EINTR: `retryBound < eintrCount pre ≤ retryBound + 1`
      simp at hlt ⊢; omega
    | _ => simp <;> omega
  rw [failures_exact, classes_append, List.count_append,
    count_outcomeFailures _ (fun _ => false) (fun o => (count_in_outcomeFailures o).2)]
  cases (parentLoop 0 outs).ended <;> simp [endFailures, classes, giveUpFailure, waitFailure, forkFailure, noForkFailure]

/-- the bound the source states is a small constant: at most `retryBound + 2 ≤ 1002` waits are
    ever interrupted before the parent returns -/
theorem retry_bound_is_small : retryBound ≤ 1000 := by decide

/-! ## when the loop ends -/

/-- **The loop leaves through its condition iff the child exited or was killed**, and then at
    the first such status: everything before it kept the child alive and stayed within the
    retry budget. -/
theorem loop_ends_iff_exited_or_signalled (outs : List WaitOutcome) :
    (parentLoop 0 outs).ended = .childGone ↔
      ∃ pre s post, outs = pre ++ .status s :: post ∧ (∀ o ∈ pre, o.nonFinal = true) ∧
        eintrCount pre ≤ retryBound + 1 ∧ (classify s).terminal = true := by
  constructor
  · intro h
    obtain ⟨pre, rest, res, rfl, hnf, hb, hs, e⟩ := parentLoop_outcome 0 outs
    rw [e] at h
    cases hs <;> cases h
    exact ⟨pre, _, _, rfl, hnf, by simpa using hb, ‹_›⟩
  · rintro ⟨pre, s, post, rfl, hnf, hb, ht⟩
    rw [parentLoop_of_stops 0 hnf hb (.childGone s post ht)]

/-- the parent never calls `waitpid` again after a result that ended the waiting -/
theorem never_waits_past_the_end (outs : List WaitOutcome) :
    ∀ o ∈ outs.take ((parentLoop 0 outs).consumed - 1), o.nonFinal = true := by
  obtain ⟨pre, rest, res, rfl, hnf, _, hs, e⟩ := parentLoop_outcome 0 outs
  have hk : pre.length + res.consumed - 1 ≤ pre.length := by have := hs.consumed_le_one; omega
  rw [e, List.take_append_of_le_length hk]
  exact fun o ho => hnf o (List.mem_of_mem_take ho)

/-- **No hanging, no lost child:** if the results contain the child's death or a waitpid error,
    or at least `retryBound + 2` EINTRs, the parent returns; if it is still waiting, it has used
    every result it was given. -/
theorem parent_returns (outs : List WaitOutcome)
    (h : HasFinal outs ∨ retryBound + 2 ≤ eintrCount outs) :
    (parentLoop 0 outs).ended ≠ .starved := by
  intro hs
  obtain ⟨hnf, _, hb⟩ := starved_only_if outs 0 hs
  rcases h with ⟨o, ho, hf⟩ | h
  · rw [hnf o ho] at hf; cases hf
  · omega

theorem still_waiting_used_everything (outs : List WaitOutcome)
    (h : (parentLoop 0 outs).ended = .starved) : (parentLoop 0 outs).consumed = outs.length :=
  (starved_only_if outs 0 h).2.1

theorem failures_account (outs : List WaitOutcome) :
    (parentLoop 0 outs).failures =
      (outs.take (parentLoop 0 outs).consumed).flatMap outcomeFailures ++ endFailures (parentLoop 0 outs).ended :=
  failures_exact outs 0

/-! ## composition with the registry loop -/

def failuresOf (ts : List TestScript) : Nat := (ts.map (fun t => (runSeparate t).failures.length)).sum

/-- **The parent goes on to the remaining tests:** when every test's wait returns (see
    `parent_returns`), every test of the registry is started, in order, and counted as run —
    whatever happened to the earlier ones. -/
theorem later_tests_still_run (ts : List TestScript) (h : ∀ t ∈ ts, t.returns) :
    (runAll ts).started = List.range ts.length ∧ (runAll ts).runCount = ts.length ∧
    (runAll ts).hung = false ∧ (runAll ts).failureCount = failuresOf ts := by
  obtain ⟨h1, h2, h3, h4⟩ := runResults_init (ts.map runSeparate)
    (by intro r hr; obtain ⟨t, ht, rfl⟩ := List.mem_map.mp hr; exact h t ht)
  simp only [List.length_map, List.map_map] at h1 h2 h3
  exact ⟨h1, h2, h4, h3⟩

/-- a test "dies" (in the property's sense) exactly when its run adds a failure -/
theorem no_failure_iff_clean (t : TestScript) :
    (runSeparate t).failures = [] ↔
      t.forkOk = true ∧ endFailures (runSeparate t).ended = [] ∧
      ∀ o ∈ t.outs.take (runSeparate t).consumed, outcomeFailures o = [] := by
  unfold runSeparate
  cases hf : t.forkOk with
  | false => simp [forkFailure]
  | true =>
    simp only [if_true, true_and]
    rw [failures_exact]
    simp [List.flatMap_eq_nil_iff, and_comm]

/-- **Overall result:** the run is reported as failed iff some test added a failure; in
    particular one dying test is enough, wherever it is in the registry. -/
theorem overall_failure (ts : List TestScript) (h : ∀ t ∈ ts, t.returns) :
    (runAll ts).overallFailure = true ↔ ∃ t ∈ ts, (runSeparate t).failures ≠ [] := by
  simp [RunState.overallFailure, (later_tests_still_run ts h).2.2.2, failuresOf,
    List.sum_eq_zero_iff_forall_eq_nat]

theorem one_signal_death_fails_the_run (before after : List TestScript) (pre post : List WaitOutcome)
    (s : BitVec 32) (n : Nat)
    (hb : ∀ t ∈ before, t.returns) (ha : ∀ t ∈ after, t.returns)
    (hpre : ∀ o ∈ pre, o.nonFinal = true) (hbud : eintrCount pre ≤ retryBound + 1)
    (hs : classify s = .signaled n) :
    let ts := before ++ { forkOk := true, outs := pre ++ .status s :: post } :: after
    (runAll ts).started = List.range ts.length ∧ (runAll ts).overallFailure = true := by
  intro ts
  have hdeath : runSeparate ⟨true, pre ++ .status s :: post⟩ = _ :=
    parentLoop_of_stops 0 hpre hbud (.childGone s post (by simp [hs, StatusClass.terminal]))
  have hret : ∀ t ∈ ts, t.returns := by
    simp only [ts, List.mem_append, List.mem_cons]
    rintro t (h | rfl | h)
    · exact hb t h
    · simp [TestScript.returns, hdeath]
    · exact ha t h
  refine ⟨(later_tests_still_run ts hret).1, (overall_failure ts hret).mpr
    ⟨_, List.mem_append_right _ (List.mem_cons_self ..), fun hnil => ?_⟩⟩
  -- the last failure recorded is the one of the signal
  rw [hdeath] at hnil
  have h := congrArg classes hnil
  rw [classes_append, statusFailures_classes, hs] at h
  simp [StatusClass.expected, classes] at h

/-! ## every test of the registry is forked (the per-test flag) -/

/-- `runAllTests` sets the separate-process flag for every test, not only at a group start
    (regenerated from the position of the statement in the loop) -/
theorem sep_flag_set_for_every_test : sepFlagPlacement = .everyTest := by decide

/-- **Whatever the grouping of the tests, every test is run through fork:** the registry as the
    source has it behaves like a registry whose tests all carry the flag, and no test is ever
    executed inside the runner process — so a dying test can only kill its own child. -/
theorem registry_forks_every_test (ts : List RegTest) :
    runRegistry ts = runAll (ts.map (·.script)) ∧ (runRegistry ts).inRunner = [] := by
  have h : runRegistry ts = runAll (ts.map (·.script)) := by
    -- `TEST` entries go through fork whatever the run-ignored branch does
    rw [runRegistry, sep_flag_set_for_every_test, runRegistryFrom_eq_kinds .viaRunOneTest false,
      runKindsFrom_forked _ _ _ _ _ _ (by simp [howRun]), List.map_map]
    rfl
  refine ⟨h, ?_⟩
  rw [h, runAll, runTests, runResults_inRunner]; rfl

/-- what the model says about the other placement: with the statement inside `if (groupStart)`,
    the second test of a group is executed in the runner itself (this is the behaviour the
    harness looks for with registries whose dying test is not the first of its group) -/
theorem group_start_only_misses_later_tests (g : Nat) (t1 t2 : TestScript) (h : t1.returns) :
    (runRegistryFrom .groupStartOnly 0 true [⟨g, t1⟩, ⟨g, t2⟩] RunState.init).inRunner = [1] := by
  have hh : ¬ (runSeparate t1).ended = .starved := h
  simp [runRegistryFrom, sepFlag, endOfGroup, hh, runInRunnerAt, runResultAt, RunState.init]

/-- no statement of `initializeTestRun` is coupled to the one before it by `else` -/
theorem init_statements_independent : initStatements.all (fun s => !s.isElse) = true := by decide

theorem switch_acted_on (a : CliArgs) (sw : CliSwitch) (h : sw ∈ initStatements.map (·.switch)) :
    (execInit a false initStatements).contains sw = a.has sw := by
  obtain ⟨s, hs, rfl⟩ := List.mem_map.mp h
  rw [execInit_filter a _ _ init_statements_independent, Bool.eq_iff_iff, List.contains_iff_mem]
  simp only [List.mem_map, List.mem_filter]
  exact ⟨fun ⟨s', ⟨_, h1⟩, h2⟩ => h2 ▸ h1, fun h1 => ⟨s, ⟨hs, h1⟩, rfl⟩⟩

/-- `registry_->setRunTestsInSeperateProcess()` is called iff `-p` was given, whatever else was -/
theorem separateModeOn_eq (a : CliArgs) : separateModeOn a = a.separateProcess :=
  switch_acted_on a .separateProcess (by decide)

theorem runIgnoredOn_eq (a : CliArgs) : runIgnoredOn a = a.runIgnored :=
  switch_acted_on a .runIgnored (by decide)

/-- **`-p` anywhere on the command line switches separate-process mode on, whatever other
    switches are given with it** (the statement list of `initializeTestRun` is regenerated: an
    `else` coupling `-p` to another switch falsifies this) -/
theorem dash_p_switches_separate_mode_on (v vv c ri f : Bool) :
    separateModeOn { verbose := v, veryVerbose := vv, color := c, separateProcess := true,
                     runIgnored := ri, crashOnFail := f } = true :=
  separateModeOn_eq _

theorem dash_p_forks_every_test (a : CliArgs) (ts : List RegTest) (h : a.separateProcess = true) :
    runCommandLine a ts = runAll (ts.map (·.script)) ∧ (runCommandLine a ts).inRunner = [] := by
  unfold runCommandLine
  rw [separateModeOn_eq, h, if_pos rfl]
  exact registry_forks_every_test ts

/-! ## every kind of test is forked: `IGNORE_TEST` entries under run-ignored (`-ri`) -/

/-- the run-ignored branch of `IgnoredUtestShell::runOneTest` goes through `UtestShell::runOneTest`,
    i.e. through the same separate-process decision as every other test (regenerated) -/
theorem ignored_shell_goes_through_runOneTest : ignoredRunCall = .viaRunOneTest := by decide

/-- **Whatever its kind, no test is ever executed inside the runner in separate-process mode**, with
    or without run-ignored; and with run-ignored every entry — `TEST` or `IGNORE_TEST` — is forked
    exactly like a registry of ordinary tests, so every theorem above (one failure per death, later
    tests still run, overall failure) covers dying `IGNORE_TEST`s run with `-ri` as well. -/
theorem every_kind_is_forked (ts : List KTest) (ri : Bool) :
    (runKinds ri ts).inRunner = [] ∧ runKinds true ts = runAll (ts.map (·.script)) := by
  unfold runKinds
  rw [sep_flag_set_for_every_test, ignored_shell_goes_through_runOneTest]
  exact ⟨runKindsFrom_inRunner _ _ _ (by intro gs k; cases k <;> cases ri <;> simp [howRun, sepFlag]) ..,
    runKindsFrom_forked _ _ _ _ _ _ (fun t _ => by cases t.kind <;> rfl)⟩

theorem run_ignored_deaths_contained (ts : List KTest) (h : ∀ t ∈ ts, t.script.returns) :
    (runKinds true ts).started = List.range ts.length ∧ (runKinds true ts).hung = false ∧
    ((runKinds true ts).overallFailure = true ↔ ∃ t ∈ ts, (runSeparate t.script).failures ≠ []) := by
  have hr : ∀ t ∈ ts.map (·.script), t.returns := by
    intro t ht; obtain ⟨k, hk, rfl⟩ := List.mem_map.mp ht; exact h k hk
  rw [(every_kind_is_forked ts true).2]
  have h1 := later_tests_still_run _ hr
  refine ⟨by simpa using h1.1, h1.2.2.1, ?_⟩
  rw [overall_failure _ hr]
  constructor
  · rintro ⟨t, ht, hf⟩; obtain ⟨k, hk, rfl⟩ := List.mem_map.mp ht; exact ⟨k, hk, hf⟩
  · rintro ⟨k, hk, hf⟩; exact ⟨k.script, List.mem_map.mpr ⟨k, hk, rfl⟩, hf⟩

/-- what the model says about the other shape of the branch: an `IGNORE_TEST` run with `-ri` is
    executed in the runner itself (a dying body takes the runner down) -/
theorem ignored_in_current_process_escapes (g : Nat) (t : TestScript) (ts : List KTest) :
    0 ∈ (runKindsFrom .inCurrentProcess .everyTest true 0 true (⟨.ignored, g, t⟩ :: ts) RunState.init).inRunner := by
  simp only [runKindsFrom, howRun, if_true]
  exact runKindsFrom_keeps _ _ _ _ _ _ _ _ (by simp [runInRunnerAt, RunState.init])

theorem dash_p_dash_ri_forks_every_kind (a : CliArgs) (ts : List KTest) (hp : a.separateProcess = true) :
    (runCommandLineKinds a ts).inRunner = [] ∧
    (a.runIgnored = true → runCommandLineKinds a ts = runAll (ts.map (·.script))) := by
  unfold runCommandLineKinds
  rw [separateModeOn_eq, hp, if_pos rfl, runIgnoredOn_eq]
  exact ⟨(every_kind_is_forked ts _).1, fun hri => hri ▸ (every_kind_is_forked ts true).2⟩

/-! ## the build without fork / waitpid / kill -/

/-- **No fork on this platform:** `-p` cannot work; every test run in separate-process mode is
    given exactly one failure saying so, nothing is forked or waited for. -/
theorem no_fork_platform_reports_failure (t : TestScript) :
    runSeparateOn .withoutFork t =
      { failures := [noForkFailure], consumed := 0, conts := 0, ended := .noFork } := rfl

theorem with_fork_platform_is_the_wait_loop (ts : List TestScript) : runAllOn .withFork ts = runAll ts := rfl

theorem no_fork_platform_all_tests_fail (ts : List TestScript) :
    (runAllOn .withoutFork ts).started = List.range ts.length ∧
    (runAllOn .withoutFork ts).runCount = ts.length ∧
    (runAllOn .withoutFork ts).failureCount = ts.length ∧
    (runAllOn .withoutFork ts).hung = false ∧
    (ts ≠ [] → (runAllOn .withoutFork ts).overallFailure = true) := by
  obtain ⟨h1, h2, h3, h4⟩ := runResults_init (ts.map (runSeparateOn .withoutFork))
    (by intro r hr; obtain ⟨t, _, rfl⟩ := List.mem_map.mp hr; simp [runSeparateOn])
  have hc : (runAllOn .withoutFork ts).failureCount = ts.length := by
    rw [runAllOn, h3]; simp [Function.comp_def, runSeparateOn, List.map_const', List.sum_replicate_nat]
  rw [List.length_map] at h1 h2
  refine ⟨h1, h2, hc, h4, fun hne => ?_⟩
  simp only [RunState.overallFailure, hc, bne_iff_ne, ne_eq]
  exact fun h0 => hne (List.eq_nil_of_length_eq_zero h0)

/-! ## the child's side -/

def addedBy : List ChildStep → Nat
  | [] => 0
  | .adds k :: rest => k + addedBy rest
  | .dies _ :: rest => addedBy rest

def noDeath : List ChildStep → Bool
  | [] => true
  | .adds _ :: rest => noDeath rest
  | .dies _ :: _ => false

theorem childStatus_append : ∀ (pre rest : List ChildStep) (initial cur : Nat), noDeath pre = true →
    childStatus initial cur (pre ++ rest) = childStatus initial (cur + addedBy pre) rest
  | [], _, _, _, _ => rfl
  | .adds k :: pre, rest, initial, cur, h => by
    rw [List.cons_append, childStatus, childStatus_append pre rest initial (cur + k) h, addedBy, Nat.add_assoc]
  | .dies _ :: _, _, _, _, h => by cases h

theorem childStatus_no_death (steps : List ChildStep) (initial cur : Nat) (h : noDeath steps = true) :
    childStatus initial cur steps = BitVec.ofNat 32 (childExitCode initial (cur + addedBy steps) * 256) := by
  rw [← List.append_nil steps, childStatus_append steps [] initial cur h, List.append_nil]
  rfl

/-- **A failure anywhere in the child makes it exit non-zero** — in a plugin's pre action, in
    setup, body or teardown, or reported by a plugin's post action straight into `result`; the
    verdict depends only on the failure counter, not on `UtestShell::hasFailed_`.  A child
    without failures exits with 0. -/
theorem child_exit_status (steps : List ChildStep) (initial : Nat) (h : noDeath steps = true) :
    classify (childStatus initial initial steps) = .exited (if addedBy steps = 0 then 0 else 1) := by
  rw [childStatus_no_death steps initial initial h]
  unfold childExitCode
  by_cases h0 : addedBy steps = 0
  · simp [h0]; decide
  · have : initial < initial + addedBy steps := by omega
    simp [h0, this]; decide

theorem child_death_status : ∀ (pre : List ChildStep) (s : BitVec 32) (rest : List ChildStep) (initial cur : Nat),
    noDeath pre = true → childStatus initial cur (pre ++ .dies s :: rest) = s :=
  fun pre _ rest initial cur h => childStatus_append pre (.dies _ :: rest) initial cur h

/-- child and parent together: a child that fails a check (or whose plugin reports a failure)
    and then ends normally is recorded in the parent exactly once; one without failures not at all -/
theorem failing_child_recorded_once (steps : List ChildStep) (initial : Nat) (h : noDeath steps = true)
    (post : List WaitOutcome) :
    classes (parentLoop 0 (.status (childStatus initial initial steps) :: post)).failures
      = (if addedBy steps = 0 then [] else [.exitedNonZero]) := by
  have hc := child_exit_status steps initial h
  have := (every_death_recorded_once [] (childStatus initial initial steps) post (by simp) (by simp [eintrCount])
    (by simp [hc, StatusClass.terminal])).1
  simp only [List.nil_append, stopCount_nil, List.replicate_zero] at this
  rw [this, hc]
  by_cases h0 : addedBy steps = 0 <;> simp [h0, StatusClass.expected]

/-! ## the runner's exit code (`-p` on the command line ends in the same registry call) -/

theorem exit_code_reports_failure (st : RunState) (h : st.runCount ≠ 0) :
    (st.exitCode ≠ 0 ↔ st.overallFailure = true) ∧
    (st.overallFailure = true → st.exitCode = st.failureCount) := by
  unfold RunState.exitCode RunState.overallFailure
  by_cases hf : st.failureCount = 0
  · simp [hf, h]
  · simp [hf]

/-! ## the source itself: the function regenerated from the clang AST

`Gen/SeparateProcessLoop.lean` is produced on every run from the typed AST of
`SetTestFailureByStatusCode` and `GccPlatformSpecificRunTestInASeperateProcess` (macros expanded by
the installed headers, `status` a 32-bit `int`, `amountOfRetries` a 64-bit `size_t`).  The theorems
below say that it *is* the hand model, and restate the main results directly about it. -/

open Gen.SepProcLoop

/-- **The wait loop regenerated from the AST is the hand-written `parentLoop`** (as far as the
    source can tell: texts instead of classes), for every list of waitpid results, from every
    counter value the loop can reach, whatever `status` held before. -/
theorem genLoop_eq_parentLoop : ∀ (outs : List WaitOutcome) (r : Nat) (st : BitVec 32), r ≤ retryBound + 1 →
    genLoop outs (BitVec.ofNat 64 r) st = (parentLoop r outs).gen
  | [], _, _, _ => rfl
  | .eintr :: rest, r, st, h => by
    rw [genLoop, waitBodyGen_eintr r st h, parentLoop_eintr]
    by_cases hgt : r > retryBound
    · simp [hgt, genStep, LoopResult.gen, LoopEnd.gen, giveUpFailure]
    · have ih := genLoop_eq_parentLoop rest (r + 1) st (by omega)
      simp only [hgt, if_false, genStep, if_true, ih, gen_prepend, List.map_nil]
  | .error :: rest, r, st, _ => by
    rw [genLoop, waitBodyGen_error, parentLoop_error]
    simp [genStep, LoopResult.gen, LoopEnd.gen, waitFailure]
  | .status s :: rest, r, st, h => by
    have ih := genLoop_eq_parentLoop rest r s h
    rw [genLoop, waitBodyGen_status, parentLoop_status]
    cases hterm : (wIfExited s || wIfSignaled s)
    · simp [genStep, ih, gen_prepend]
    · simp [genStep, LoopResult.gen, LoopEnd.gen]

/-- the whole parent side of `GccPlatformSpecificRunTestInASeperateProcess`, as regenerated -/
theorem genRunSeparate_eq_model (t : TestScript) : genRunSeparate t = (runSeparate t).gen := by
  unfold genRunSeparate runSeparate
  cases t.forkOk
  · simp [genForkFailed, forkFailedGen, LoopResult.gen, LoopEnd.gen, forkFailure, msgForkFailed]
  · simp only [if_true]
    exact genLoop_eq_parentLoop t.outs 0 loopInitStatus (by omega)

theorem genRunSeparate_forked (outs : List WaitOutcome) :
    genRunSeparate { forkOk := true, outs := outs } = (parentLoop 0 outs).gen :=
  genRunSeparate_eq_model _

/-- the regenerated `SetTestFailureByStatusCode`: one message per death event, none for exit 0 -/
theorem source_status_failures_exact (s : BitVec 32) :
    ∃ fs : List Failure, setTestFailureGen s = fs.map (·.text) ∧ classes fs = (classify s).expected :=
  ⟨statusFailures s, setTestFailureGen_eq s, statusFailures_classes s⟩

theorem source_status_failure_count (s : BitVec 32) :
    (setTestFailureGen s).length = (classify s).expected.length := by
  rw [setTestFailureGen_eq, List.length_map, ← statusFailures_classes s, classes, List.length_map]

/-- **Every death is recorded once — by the code as the source has it.**  Same statement as
    `every_death_recorded_once`, about the function regenerated from the AST: the number of failures
    added is one per stop plus what the final status asks for, the failures are those of the hand
    model (same texts, classes as proved there), one SIGCONT per stop, the loop is left through
    its `while` condition exactly at the final status. -/
theorem source_every_death_recorded_once (pre : List WaitOutcome) (s : BitVec 32) (post : List WaitOutcome)
    (hpre : ∀ o ∈ pre, o.nonFinal = true) (hb : eintrCount pre ≤ retryBound + 1)
    (ht : (classify s).terminal = true) :
    (∃ fs : List Failure,
      (genRunSeparate { forkOk := true, outs := pre ++ .status s :: post }).failures = fs.map (·.text) ∧
      classes fs = List.replicate (stopCount pre) FailClass.stopped ++ (classify s).expected) ∧
    (genRunSeparate { forkOk := true, outs := pre ++ .status s :: post }).failures.length
      = stopCount pre + (classify s).expected.length ∧
    (genRunSeparate { forkOk := true, outs := pre ++ .status s :: post }).consumed = pre.length + 1 ∧
    (genRunSeparate { forkOk := true, outs := pre ++ .status s :: post }).conts = stopCount pre ∧
    (genRunSeparate { forkOk := true, outs := pre ++ .status s :: post }).ended = .condFalse := by
  obtain ⟨hcls, hused, hconts, hend⟩ := every_death_recorded_once pre s post hpre hb ht
  rw [genRunSeparate_forked]
  refine ⟨⟨_, rfl, hcls⟩, ?_, hused, hconts, (gen_ended_condFalse _).mpr hend⟩
  simpa [classes] using congrArg List.length hcls

/-- a signal death, as the source prints it: the last message is one of the source's message
    literals followed by the decimal number of the signal -/
theorem source_signal_message_names_signal (s : BitVec 32) (n : Nat) (h : classify s = .signaled n) :
    ∃ e ∈ statusChain, setTestFailureGen s = [e.msg ++ toString n] := by
  obtain ⟨e, he, hs⟩ := signal_message_names_signal s n h
  exact ⟨e, he, by rw [setTestFailureGen_eq, hs]; rfl⟩

theorem source_normal_exit_no_failure (pre : List WaitOutcome) (s : BitVec 32) (post : List WaitOutcome)
    (hpre : ∀ o ∈ pre, o.nonFinal = true) (hb : eintrCount pre ≤ retryBound + 1)
    (hstops : stopCount pre = 0) (hs : classify s = .exited 0) :
    (genRunSeparate { forkOk := true, outs := pre ++ .status s :: post }).failures = [] := by
  rw [genRunSeparate_forked, gen_failures, (normal_exit_no_failure pre s post hpre hb hstops hs).1]
  rfl

theorem source_fork_failure_reported (outs : List WaitOutcome) :
    genRunSeparate { forkOk := false, outs := outs } =
      { failures := [msgForkFailed], consumed := 0, conts := 0, ended := .returned } := by
  rw [genRunSeparate_eq_model]; rfl

theorem source_wait_error_reported (pre post : List WaitOutcome)
    (hpre : ∀ o ∈ pre, o.nonFinal = true) (hb : eintrCount pre ≤ retryBound + 1) :
    (genRunSeparate { forkOk := true, outs := pre ++ .error :: post }).failures.length = stopCount pre + 1 ∧
    (genRunSeparate { forkOk := true, outs := pre ++ .error :: post }).ended = .returned := by
  obtain ⟨hcls, _, hend⟩ := wait_error_reported pre post hpre hb
  rw [genRunSeparate_forked]
  exact ⟨by simpa [classes] using congrArg List.length hcls, by rw [gen_ended, hend]; rfl⟩

/-- **Bounded retry and no hanging — in the regenerated function:** it never uses more than
    `retryBound + 2` interrupted waits, and it returns whenever the results contain the child's
    death, a waitpid error or that many interruptions. -/
theorem source_retries_bounded_and_returns (outs : List WaitOutcome) :
    eintrCount (outs.take (genRunSeparate { forkOk := true, outs := outs }).consumed) ≤ retryBound + 2 ∧
    ((HasFinal outs ∨ retryBound + 2 ≤ eintrCount outs) →
      (genRunSeparate { forkOk := true, outs := outs }).ended ≠ .starved) := by
  rw [genRunSeparate_forked]
  exact ⟨(eintr_retries_bounded outs).1, fun h hs => parent_returns outs h ((gen_ended_starved _).mp hs)⟩

theorem source_loop_ends_iff (outs : List WaitOutcome) :
    (genRunSeparate { forkOk := true, outs := outs }).ended = .condFalse ↔
      ∃ pre s post, outs = pre ++ .status s :: post ∧ (∀ o ∈ pre, o.nonFinal = true) ∧
        eintrCount pre ≤ retryBound + 1 ∧ (classify s).terminal = true := by
  rw [← loop_ends_iff_exited_or_signalled, genRunSeparate_forked, gen_ended_condFalse]

/-! ### the child's `_exit` argument, regenerated -/

/-- `_exit(initialFailureCount < result->getFailureCount())` on 64-bit counters is the hand model's
    exit code, shifted into the status word -/
theorem genChildStatus_eq (i f : Nat) (hi : i < 2 ^ 64) (hf : f < 2 ^ 64) :
    genChildStatus i f = BitVec.ofNat 32 (childExitCode i f * 256) := by
  unfold genChildStatus childExitGen childExitCode
  simp only [BitVec.ult, BitVec.toNat_ofNat, Nat.mod_eq_of_lt hi, Nat.mod_eq_of_lt hf]
  by_cases h : i < f <;> simp [h] <;> decide

/-- **A child that records any new failure exits non-zero, one that records none exits 0 — whatever
    number of failures the shared result object already held** (the count the earlier tests left),
    as long as the 64-bit counter does not wrap. -/
theorem source_child_exit_status (steps : List ChildStep) (initial : Nat) (h : noDeath steps = true)
    (hw : initial + addedBy steps < 2 ^ 64) :
    classify (genChildStatus initial (initial + addedBy steps)) = .exited (if addedBy steps = 0 then 0 else 1) ∧
    genChildStatus initial (initial + addedBy steps) = childStatus initial initial steps := by
  have e := genChildStatus_eq initial (initial + addedBy steps) (by omega) hw
  rw [e, ← childStatus_no_death steps initial initial h]
  exact ⟨child_exit_status steps initial h, rfl⟩

/-- child and parent, both regenerated: the child's verdict arrives in the parent as exactly one
    failure, or none -/
theorem source_failing_child_recorded_once (steps : List ChildStep) (initial : Nat) (h : noDeath steps = true)
    (hw : initial + addedBy steps < 2 ^ 64) (post : List WaitOutcome) :
    (genRunSeparate ⟨true, .status (genChildStatus initial (initial + addedBy steps)) :: post⟩).failures.length
      = (if addedBy steps = 0 then 0 else 1) := by
  have hc := (source_child_exit_status steps initial h hw).1
  have := (source_every_death_recorded_once [] (genChildStatus initial (initial + addedBy steps)) post (by simp)
    (by simp [eintrCount]) (by rw [hc]; rfl)).2.1
  simp only [List.nil_append, stopCount_nil, Nat.zero_add] at this
  rw [this, hc]
  by_cases h0 : addedBy steps = 0 <;> simp [h0, StatusClass.expected]

/-! ## non-vacuity: concrete scripts that meet the hypotheses -/

/-- two interrupted waits, a stop (SIGSTOP), one more interrupted wait, then SIGSEGV with core -/
example : classes (parentLoop 0 [.eintr, .eintr, .status 0x137f#32, .eintr, .status 0x8b#32, .status 0#32]).failures
    = [.stopped, .killedBySignal 11] := by decide +kernel
example : (parentLoop 0 [.eintr, .eintr, .status 0x137f#32, .eintr, .status 0x8b#32, .status 0#32]).consumed = 5 := by decide +kernel
example : (∀ o ∈ [WaitOutcome.eintr, .eintr, .status 0x137f#32, .eintr], o.nonFinal = true) ∧
    eintrCount [.eintr, .eintr, .status 0x137f#32, .eintr] ≤ retryBound + 1 ∧
    classify 0x8b#32 = .signaled 11 := by decide +kernel
example : classify 0x0300#32 = .exited 3 ∧ classify 0#32 = .exited 0 ∧ classify 0xffff#32 = .other ∧
    classify 0x137f#32 = .stopped 19 := by decide +kernel
example : (parentLoop 0 [.status 0#32]).failures = [] := by decide +kernel
example : (parentLoop 0 (List.replicate (retryBound + 2) .eintr ++ [.status 0#32])).ended = .gaveUp := by decide +kernel
example : (parentLoop 0 (List.replicate (retryBound + 1) .eintr ++ [.status 0#32])).ended = .childGone := by decide +kernel
example : (runAll [⟨true, [.status 9#32]⟩, ⟨false, []⟩, ⟨true, [.status 0#32]⟩]).started = [0, 1, 2] ∧
    (runAll [⟨true, [.status 9#32]⟩, ⟨false, []⟩, ⟨true, [.status 0#32]⟩]).failureCount = 2 := by decide +kernel
example : HasFinal [.eintr, .status 0x137f#32, .error] := ⟨.error, by simp, rfl⟩
/-- three tests of one group, the second is killed: it is forked, nothing runs in the runner -/
example : (runRegistry [⟨7, ⟨true, [.status 0#32]⟩⟩, ⟨7, ⟨true, [.status 9#32]⟩⟩, ⟨7, ⟨true, [.status 0#32]⟩⟩]).started = [0, 1, 2] ∧
    (runRegistry [⟨7, ⟨true, [.status 0#32]⟩⟩, ⟨7, ⟨true, [.status 9#32]⟩⟩, ⟨7, ⟨true, [.status 0#32]⟩⟩]).inRunner = [] ∧
    (runRegistry [⟨7, ⟨true, [.status 0#32]⟩⟩, ⟨7, ⟨true, [.status 9#32]⟩⟩, ⟨7, ⟨true, [.status 0#32]⟩⟩]).failureCount = 1 := by decide +kernel
/-- an `IGNORE_TEST` killed by SIGKILL between two ordinary tests, run with `-ri`: forked, recorded once -/
example : (runKinds true [⟨.normal, 1, ⟨true, [.status 0#32]⟩⟩, ⟨.ignored, 1, ⟨true, [.status 9#32]⟩⟩, ⟨.normal, 1, ⟨true, [.status 0#32]⟩⟩]).started = [0, 1, 2] ∧
    (runKinds true [⟨.normal, 1, ⟨true, [.status 0#32]⟩⟩, ⟨.ignored, 1, ⟨true, [.status 9#32]⟩⟩, ⟨.normal, 1, ⟨true, [.status 0#32]⟩⟩]).failureCount = 1 ∧
    (runKinds false [⟨.normal, 1, ⟨true, [.status 0#32]⟩⟩, ⟨.ignored, 1, ⟨true, [.status 9#32]⟩⟩, ⟨.normal, 1, ⟨true, [.status 0#32]⟩⟩]).failureCount = 0 ∧
    (runKinds false [⟨.normal, 1, ⟨true, [.status 0#32]⟩⟩, ⟨.ignored, 1, ⟨true, [.status 9#32]⟩⟩, ⟨.normal, 1, ⟨true, [.status 0#32]⟩⟩]).runCount = 2 := by decide +kernel
/-- plugin pre ok, setup ok, body fails one check, teardown ok, plugin post reports a leak -/
example : classify (childStatus 3 3 [.adds 0, .adds 0, .adds 1, .adds 0, .adds 1]) = .exited 1 := by decide +kernel
example : childStatus 0 0 [.adds 0, .adds 1, .dies 0x8b#32, .adds 0] = 0x8b#32 := by decide +kernel
/-- the regenerated function on the first script above: same texts, same counts -/
example : (genRunSeparate ⟨true, [.eintr, .eintr, .status 0x137f#32, .eintr, .status 0x8b#32, .status 0#32]⟩).failures
    = ["Stopped in separate process - continuing", "Failed in separate process - killed by signal 11"] ∧
    (genRunSeparate ⟨true, [.eintr, .eintr, .status 0x137f#32, .eintr, .status 0x8b#32, .status 0#32]⟩).consumed = 5 ∧
    (genRunSeparate ⟨true, [.eintr, .eintr, .status 0x137f#32, .eintr, .status 0x8b#32, .status 0#32]⟩).conts = 1 := by decide +kernel
example : (genRunSeparate ⟨true, List.replicate (retryBound + 2) .eintr ++ [.status 0#32]⟩).ended = .returned := by decide +kernel
example : (genRunSeparate ⟨true, List.replicate (retryBound + 1) .eintr ++ [.status 0#32]⟩).ended = .condFalse := by decide +kernel
/-- 7 failures from earlier tests, this child's plugin reports two more: exit status 1 -/
example : genChildStatus 7 9 = 0x100#32 ∧ genChildStatus 7 7 = 0#32 ∧ genChildStatus 0 300 = 0x100#32 := by decide +kernel

/-! ## from the argument vector to separate-process mode (`Model/SeparateProcessArgv.lean` over C12's parser model)

What reaches `initializeTestRun` is the *parsed* configuration.  An option that takes its value from the
next argument swallows a `-p` standing there; `-r` takes its optional count from the next argument only
when that is a non-zero number, so `-r -p` is (repeat 2, separate process on). -/

theorem separate_mode_is_the_parsed_flag (c : CommandLine.Config) :
    separateModeOn (cliArgsOfConfig c) = c.separateProcess :=
  separateModeOn_eq _

/-- **For every argument vector the runner forks every test iff the parsed configuration has
    `runTestsInSeperateProcess`**: with the flag nothing is executed inside the runner (and with run-ignored
    the run is the all-forked run the theorems above are about); without it the very first test already
    runs inside the runner, where its death is the runner's. -/
theorem argv_forks_every_test_iff (args : List Text.Bytes) (t : KTest) (ts : List KTest) (hk : t.kind = .normal) :
    ((runArgv args (t :: ts)).inRunner = [] ↔ (parsedConfig args).separateProcess = true) ∧
    ((parsedConfig args).separateProcess = true → (parsedConfig args).runIgnored = true →
       runArgv args (t :: ts) = runAll ((t :: ts).map (·.script))) := by
  refine ⟨?_, ?_⟩
  · unfold runArgv runCommandLineKinds
    rw [separate_mode_is_the_parsed_flag]
    cases h : (parsedConfig args).separateProcess
    · simp only [Bool.false_eq_true, if_false, iff_false]
      intro he
      have : 0 ∈ (runKindsInRunner (runIgnoredOn (cliArgsOfConfig (parsedConfig args))) 0 (t :: ts) RunState.init).inRunner := by
        unfold runKindsInRunner
        simp only [hk]
        exact runKindsInRunner_keeps _ 0 ts 1 _ (by simp [runInRunnerAt, RunState.init])
      simp [he] at this
    · simp only [if_true, iff_true]
      exact (every_kind_is_forked (t :: ts) _).1
  · intro hp hri
    exact (dash_p_dash_ri_forks_every_kind (cliArgsOfConfig (parsedConfig args)) (t :: ts) hp).2 hri

def argDashR : Text.Bytes := [45, 114]          -- "-r"
def argDashP : Text.Bytes := [45, 112]          -- "-p"
def argDashR2 : Text.Bytes := [45, 114, 50]     -- "-r2"
def argTwo : Text.Bytes := [50]                 -- "2"
def argDashG : Text.Bytes := [45, 103]          -- "-g"

/-- **`-r -p`: a bare `-r` followed by something that is not a count does not consume it** — the run is
    repeated twice and separate-process mode is on; likewise for the other orders and spellings -/
theorem dash_r_dash_p_parses :
    (parseArgs [argDashR, argDashP]).isOk = true ∧
    (parsedConfig [argDashR, argDashP]).repeatCount = 2 ∧ (parsedConfig [argDashR, argDashP]).separateProcess = true ∧
    (parsedConfig [argDashP, argDashR]).repeatCount = 2 ∧ (parsedConfig [argDashP, argDashR]).separateProcess = true ∧
    (parsedConfig [argDashR2, argDashP]).repeatCount = 2 ∧ (parsedConfig [argDashR2, argDashP]).separateProcess = true ∧
    (parsedConfig [argDashR, argTwo, argDashP]).repeatCount = 2 ∧ (parsedConfig [argDashR, argTwo, argDashP]).separateProcess = true := by
  decide +kernel

/-- … so a test that is killed under `-r -p` is forked and recorded, in every repetition -/
theorem dash_r_dash_p_forks_every_test (t : KTest) (ts : List KTest) (hk : t.kind = .normal) :
    (runArgv [argDashR, argDashP] (t :: ts)).inRunner = [] ∧ repeatsOf [argDashR, argDashP] = 2 := by
  obtain ⟨_, hrepeat, hsep, _⟩ := dash_r_dash_p_parses
  exact ⟨((argv_forks_every_test_iff _ t ts hk).1).2 hsep, hrepeat⟩

theorem repeated_run_failure_reaches_exit_code (rounds : List (Nat × Bool)) (r : Nat × Bool) (hr : r ∈ rounds) (hf : r.1 ≠ 0) :
    exitCodeOfRounds rounds ≠ 0 := by
  have hne : (rounds.map (·.1)).sum ≠ 0 := fun h0 =>
    hf (List.sum_eq_zero_iff_forall_eq_nat.mp h0 _ (List.mem_map.mpr ⟨r, hr, rfl⟩))
  simp [exitCodeOfRounds, hne]

/-- non-vacuity: three tests, the second killed by SIGSEGV, `-r -p`: all forked, one failure, all started;
    with `-g -p` (the group option really takes the next argument) everything runs inside the runner -/
example : (runArgv [argDashR, argDashP] [⟨.normal, 0, ⟨true, [.status 0#32]⟩⟩, ⟨.normal, 0, ⟨true, [.status 11#32]⟩⟩, ⟨.normal, 0, ⟨true, [.status 0#32]⟩⟩]).inRunner = [] ∧
    (runArgv [argDashR, argDashP] [⟨.normal, 0, ⟨true, [.status 0#32]⟩⟩, ⟨.normal, 0, ⟨true, [.status 11#32]⟩⟩, ⟨.normal, 0, ⟨true, [.status 0#32]⟩⟩]).started = [0, 1, 2] ∧
    (runArgv [argDashR, argDashP] [⟨.normal, 0, ⟨true, [.status 0#32]⟩⟩, ⟨.normal, 0, ⟨true, [.status 11#32]⟩⟩, ⟨.normal, 0, ⟨true, [.status 0#32]⟩⟩]).failureCount = 1 ∧
    (parsedConfig [argDashG, argDashP]).separateProcess = false ∧
    (runArgv [argDashG, argDashP] [⟨.normal, 0, ⟨true, [.status 0#32]⟩⟩, ⟨.normal, 0, ⟨true, [.status 11#32]⟩⟩]).inRunner = [0, 1] ∧
    exitCodeOfRounds [(1, true), (1, true)] = 2 ∧ exitCodeOfRounds [(0, true), (0, false)] = 1 := by decide +kernel

end SepProc
