import CppUModel.Props.C01
import CppUModel.Props.C17
import CppUModel.Model.LeakPlugin
/-!
# C17x — the order of plugin actions around a test in the runner model is the one C17 proves

Composition theorems.  They connect

* `Model/Plugins.lean` (C17): the chain `firstPlugin_ → next_ → …` as a `List Plugin` with
  `runAllPre` (own action, then `next_`) and `runAllPost` (`next_` first, then own action) returning the NAMES of the
  plugins whose action ran, and C17's `pre_order_is_chain_order`, `post_order_is_reverse_of_pre`, with
* `Model/Runner.lean` (C01): `runAllPre` / `runAllPost` inside `runOneTestInCurrentProcess`, which thread the
  `TestResult` through the chain and emit `Ev.plug name post depth` around the `Ev.enter phase` events of `Utest::run`,
  and with
* `Gen/LeakPluginCode.lean` (C07): `runOneTestOrder`, the regenerated call order of
  `UtestShell::runOneTestInCurrentProcess` that the C07 model interprets.
-/
namespace Compose.C17x
open Runner

/-- the runner model's chain as a C17 chain (position in the chain as identity; the runner model's plugins only record) -/
def toChainFrom : Nat → List Runner.Plugin → Plugins.Chain
  | _, [] => []
  | i, p :: rest => { id := i, name := p.name, enabled := p.enabled, kind := .recording } :: toChainFrom (i + 1) rest

def toChain (ps : List Runner.Plugin) : Plugins.Chain := toChainFrom 0 ps

inductive Tag
  | pre (name : String)
  | phase (ph : Phase)
  | post (name : String)
deriving DecidableEq, Repr

def Ev.tag? : Ev → Option Tag
  | .plug n false _ => some (.pre n)
  | .plug n true _ => some (.post n)
  | .enter ph _ => some (.phase ph)
  | _ => none

/-- lifecycle of an event list: plugin actions and phase entries, in order -/
def lifeOf (evs : List Ev) : List Tag := evs.filterMap Ev.tag?

@[simp] theorem lifeOf_nil : lifeOf [] = [] := rfl
@[simp] theorem lifeOf_append (a b : List Ev) : lifeOf (a ++ b) = lifeOf a ++ lifeOf b := by
  simp [lifeOf, List.filterMap_append]

/-- a statement leaves a mark or a failure record, neither of which has a tag -/
theorem Stmt.ev_tag? (cfg : Cfg) (t : Test) (ph : Phase) (d : Int) (s : Stmt) : (s.ev cfg t ph d).bind Ev.tag? = none := by
  have h : ∀ o : Option FailRec, (o.map Ev.failure).bind Ev.tag? = none := by rintro (_ | _) <;> rfl
  cases s with
  | mark => rfl
  | _ => simp only [Stmt.ev, h]

theorem lifeOf_phases (cfg : Cfg) (t : Test) (d : Int) (phs : List Phase) :
    lifeOf (phs.flatMap (phaseTrace cfg t d)) = phs.map Tag.phase := by
  rw [lifeOf, List.filterMap_flatMap, List.map_eq_flatMap]
  refine congrArg (List.flatMap · phs) (funext fun ph => ?_)
  simp [phaseTrace_proj, Stmt.ev_tag?, Ev.tag?]

/-! ## the chain -/

theorem toChainFrom_enabled_names : ∀ (ps : List Runner.Plugin) (i : Nat),
    ((toChainFrom i ps).filter (·.enabled)).map (·.name) = (ps.filter (·.enabled)).map (·.name)
  | [], _ => rfl
  | p :: rest, i => by
    unfold toChainFrom
    cases h : p.enabled <;> simp [h, toChainFrom_enabled_names rest (i + 1)]

theorem runAllPre_toChainFrom (i : Nat) (ps : List Runner.Plugin) :
    Plugins.runAllPre (toChainFrom i ps) = (ps.filter (·.enabled)).map (·.name) := by
  rw [Plugins.pre_order_is_chain_order, toChainFrom_enabled_names]

theorem runAllPost_toChainFrom (i : Nat) (ps : List Runner.Plugin) :
    Plugins.runAllPost (toChainFrom i ps) = (ps.reverse.filter (·.enabled)).map (·.name) := by
  rw [Plugins.post_order_is_reverse_of_pre, runAllPre_toChainFrom, List.filter_reverse, List.map_reverse]

/-- of what a walk over the chain emits (`Runner.preTrace`, `Runner.postTrace`) the life cycle keeps the notifications,
    one per plugin: the failure records an action reports carry no tag -/
theorem lifeOf_walk (cfg : Cfg) (t : Test) (post : Bool) (d : Int) (errs : Runner.Plugin → List PErr) (g : String → Tag)
    (hg : ∀ n, Ev.tag? (.plug n post d) = some (g n)) (ps : List Runner.Plugin) :
    lifeOf (ps.flatMap fun p => plugEvs cfg t post d p.name (errs p)) = (ps.map (·.name)).map g := by
  rw [lifeOf, List.filterMap_flatMap, List.map_map, List.map_eq_flatMap]
  refine congrArg (List.flatMap · ps) (funext fun p => ?_)
  rw [plugEvs_proj, hg]
  simp [show ∀ r, Ev.tag? (.failure r) = none from fun _ => rfl]

theorem lifeOf_preTrace (cfg : Cfg) (t : Test) (ps : List Runner.Plugin) (d : Int) (i : Nat) :
    lifeOf (preTrace cfg ps t d) = (Plugins.runAllPre (toChainFrom i ps)).map Tag.pre := by
  rw [runAllPre_toChainFrom]
  exact lifeOf_walk cfg t false d _ Tag.pre (fun _ => rfl) _

theorem lifeOf_postTrace (cfg : Cfg) (t : Test) (ps : List Runner.Plugin) (d : Int) (i : Nat) :
    lifeOf (postTrace cfg ps t d) = (Plugins.runAllPost (toChainFrom i ps)).map Tag.post := by
  rw [runAllPost_toChainFrom]
  exact lifeOf_walk cfg t true d _ Tag.post (fun _ => rfl) _

/-- **Pre actions.**  Connects `Runner.runAllPre` (C01) with `Plugins.runAllPre` (C17): the plugins whose pre action
    runs, in the order in which it runs, whatever the pre actions report. -/
theorem pre_actions_agree (cfg : Cfg) (t : Test) : ∀ (ps : List Runner.Plugin) (st : TSt) (i : Nat),
    lifeOf (Runner.runAllPre cfg t ps st).evs = (Plugins.runAllPre (toChainFrom i ps)).map Tag.pre := by
  intro ps st i
  rw [runAllPre_eq]
  exact lifeOf_preTrace cfg t ps st.depth i

/-- **Post actions.**  Connects `Runner.runAllPost` with `Plugins.runAllPost`. -/
theorem post_actions_agree (cfg : Cfg) (t : Test) : ∀ (ps : List Runner.Plugin) (st : TSt) (i : Nat),
    lifeOf (Runner.runAllPost cfg t ps st).evs = (Plugins.runAllPost (toChainFrom i ps)).map Tag.post := by
  intro ps st i
  rw [runAllPost_eq]
  exact lifeOf_postTrace cfg t ps st.depth i

/-- **The life cycle of one test.**  Connects `Runner.runOneTest` (C01) with the chain order of C17: pre actions in
    chain order, then the phases `Utest::run` enters, then the post actions — for every test, chain, start state
    inside the jump-buffer array, with and without exception support. -/
theorem test_lifecycle (cfg : Cfg) (plugins : List Runner.Plugin) (t : Test) (st : TSt)
    (hr : cfg.rethrow = false) (h0 : 0 ≤ st.depth) (h1 : st.depth + 2 ≤ Int.ofNat Gen.Runner.jmpBufLen) :
    ∃ j, runOneTest cfg plugins t st = .ok j ∧
      lifeOf j.evs = (Plugins.runAllPre (toChain plugins)).map Tag.pre ++ (phasesRun cfg t).map Tag.phase ++
        (Plugins.runAllPost (toChain plugins)).map Tag.post := by
  have hb := inBuf_of h0 h1
  obtain ⟨j, hj, -, -, hc⟩ := runOneTest_closed cfg plugins t st (quiet_of_rethrow_off hr t) hb.1 hb.2
  -- `lifeOf` sees neither plain strings nor clock readings: it is a projection of the test's trace
  refine ⟨j, hj, (proj_of_core hc).trans ?_⟩
  show lifeOf (testTrace cfg plugins t (st.depth + 1)) = _
  rw [testTrace, traceUpTo, lifeOf_append, lifeOf_append, lifeOf_preTrace cfg t plugins _ 0, lifeOf_phases,
    lifeOf_postTrace cfg t plugins _ 0]
  rfl

/-- … and therefore (C17's `post_order_is_reverse_of_pre`, `pre_order_is_chain_order`): in the runner model the post
    actions run in exactly the reverse order of the pre actions, the pre actions in chain order over the enabled
    plugins, and a disabled plugin sees neither. -/
theorem test_lifecycle_ordered (cfg : Cfg) (plugins : List Runner.Plugin) (t : Test) (st : TSt)
    (hr : cfg.rethrow = false) (h0 : 0 ≤ st.depth) (h1 : st.depth + 2 ≤ Int.ofNat Gen.Runner.jmpBufLen) :
    ∃ j, runOneTest cfg plugins t st = .ok j ∧
      lifeOf j.evs = ((plugins.filter (·.enabled)).map (fun p => Tag.pre p.name)) ++ (phasesRun cfg t).map Tag.phase ++
        ((plugins.filter (·.enabled)).map (fun p => Tag.post p.name)).reverse := by
  obtain ⟨j, hj, hl⟩ := test_lifecycle cfg plugins t st hr h0 h1
  refine ⟨j, hj, ?_⟩
  rw [hl, toChain, runAllPre_toChainFrom, runAllPost_toChainFrom, List.filter_reverse]
  simp [List.map_reverse, List.map_map, Function.comp_def]

/-! ## the regenerated call order of `runOneTestInCurrentProcess` (C07) -/

/-- what each call of `UtestShell::runOneTestInCurrentProcess` contributes to the life cycle -/
def segment (cfg : Cfg) (plugins : List Runner.Plugin) (t : Test) : LeakPlugin.RStep → List Tag
  | .preActions => (Plugins.runAllPre (toChain plugins)).map Tag.pre
  | .createTest => []
  | .runTest => (phasesRun cfg t).map Tag.phase
  | .destroyTest => []
  | .postActions => (Plugins.runAllPost (toChain plugins)).map Tag.post

/-- **The C07 model's call order is the runner model's.**  Connects `Gen.LeakCode.runOneTestOrder` (regenerated from
    `Utest.cpp`, interpreted by `LeakPlugin.runOneTest`) with `Runner.runOneTest`: laying out the segments in the
    regenerated order gives exactly the life cycle of the runner model. -/
theorem leak_model_order_is_runner_order (cfg : Cfg) (plugins : List Runner.Plugin) (t : Test) (st : TSt)
    (hr : cfg.rethrow = false) (h0 : 0 ≤ st.depth) (h1 : st.depth + 2 ≤ Int.ofNat Gen.Runner.jmpBufLen) :
    ∃ j, runOneTest cfg plugins t st = .ok j ∧
      lifeOf j.evs = Gen.LeakCode.runOneTestOrder.flatMap (segment cfg plugins t) := by
  obtain ⟨j, hj, hl⟩ := test_lifecycle cfg plugins t st hr h0 h1
  refine ⟨j, hj, ?_⟩
  rw [hl]
  simp [Gen.LeakCode.runOneTestOrder, segment]

/-! ## non-vacuity -/

def exPlugins : List Runner.Plugin :=
  [ { name := "a", enabled := true, pre := [], post := [⟨none, ⟨"h.c", 7⟩, "leak"⟩] },
    { name := "off", enabled := false, pre := [⟨none, ⟨"x.c", 1⟩, "never"⟩], post := [] },
    { name := "b", enabled := true, pre := [⟨none, ⟨"p.c", 2⟩, "pre"⟩], post := [] } ]

def exT : Test :=
  { group := "G", name := "t", file := "t.cpp", line := 10, ignored := false,
    setup := [.mark 1], body := [.failCpp ⟨"t.cpp", 12⟩ "boom", .mark 2], teardown := [.mark 3] }

def exCfg : Cfg :=
  { exceptions := true, rethrow := false, verbose := false, veryVerbose := true, color := false, runIgnored := false,
    groupFilters := [], nameFilters := [], stdExcMsg := "std", otherExcMsg := "other", clock := [] }

/-- the life-cycle theorem applied to a concrete chain (one plugin disabled), with the `-vv` trace switched on -/
example : ∃ j, runOneTest exCfg exPlugins exT ⟨{}, false, 0, none⟩ = .ok j ∧
    lifeOf j.evs = [.pre "a", .pre "b", .phase .setup, .phase .body, .phase .teardown, .post "b", .post "a"] := by
  obtain ⟨j, hj, hl⟩ := test_lifecycle_ordered exCfg exPlugins exT ⟨{}, false, 0, none⟩ rfl (by decide) (by decide)
  refine ⟨j, hj, ?_⟩
  rw [hl]
  decide +kernel

example : Plugins.runAllPre (toChain exPlugins) = ["a", "b"] ∧ Plugins.runAllPost (toChain exPlugins) = ["b", "a"] := by
  decide +kernel

end Compose.C17x
