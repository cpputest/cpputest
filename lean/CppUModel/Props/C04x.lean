import CppUModel.Props.C04
import CppUModel.Props.C14
import CppUModel.Model.LeakReportText
/-!
# C04 × C14 — the report text as a function of the records

Composition of the detector model (C04: which records a report visits) with the report-buffer model
(C14: how a list of leaks becomes text in the fixed buffer).  `Node.toLeak base n` is what
`reportMemoryLeak` reads from the record `n` and its block; `Diag.leakText` / `Diag.fullListing` /
`Diag.reportText` are C14's definitions.
-/
namespace LeakDetector
open Gen.LeakDetector (Period)

/-- The text of one entry is this function of the record: allocation number (`%u`), size (`%lu`), file, line
    through `(int)`, `alloc_name()` of the record's allocator (wrappers forward to the original), the address. -/
theorem entry_text_of_record (base : Nat) (n : Node) :
    Diag.leakText (n.toLeak base) =
      Fmt.render Gen.Diag.leakFmt [.nat n.number, .nat n.size, .str (Fmt.ofString n.file), .int (Fmt.castInt32 n.line),
        .str (Fmt.ofString n.allocator.allocName), .str (ptrText base n.addr)] := rfl

/-- `report(period)` on an empty text buffer is, byte for byte, C14's report text of exactly the records the period
    sees, in table order: header, every entry with the dump of its user bytes, cut at the lowered limit with the
    too-many notice, then the complete footer with the TRUE total and the malloc note. -/
theorem report_text_exact (s : State) (inv : s.Inv) (p : Period) (base : Nat) (hn : s.nodes.length < 2147483648) :
    reportTextOf s p base = Diag.reportText ((s.nodes.filter (Spec.inPeriod p)).map (Node.toLeak base)) := by
  unfold reportTextOf
  rw [(iteration_enumerates s inv p).1]
  apply Diag.report_total_true_when_cleared _ _ rfl rfl
  rw [List.length_map]
  exact Nat.lt_of_le_of_lt (List.length_filter_le _ _) hn

/-- the closed form the drivers evaluate is C14's report text, hence the text of the buffer fold -/
theorem fast_report_text_eq (leaks : List Diag.Leak) : fastReportText leaks = Diag.reportText leaks := rfl

theorem fast_report_text_exact (s : State) (inv : s.Inv) (p : Period) (base : Nat) (hn : s.nodes.length < 2147483648) :
    fastReportTextOf s p base = reportTextOf s p base := by
  unfold fastReportTextOf
  rw [fast_report_text_eq, (iteration_enumerates s inv p).1]
  exact (report_text_exact s inv p base hn).symm

/-- when the period sees no record the text is exactly "No memory leaks were detected." -/
theorem report_text_no_leaks (s : State) (inv : s.Inv) (p : Period) (base : Nat) (hn : s.nodes.length < 2147483648) :
    (∀ n ∈ s.nodes, Spec.inPeriod p n = false) → reportTextOf s p base = Diag.noLeaksText := by
  intro h
  rw [report_text_exact s inv p base hn]
  have : s.nodes.filter (Spec.inPeriod p) = [] := by
    rw [List.filter_eq_nil_iff]; intro n hn'; simp [h n hn']
  simp [this, Diag.reportText]

end LeakDetector
