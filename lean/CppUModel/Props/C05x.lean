import CppUModel.Proofs.ComposeAlloc
import CppUModel.Props.C04
import CppUModel.Props.C05
/-!
# C05x — the tracked set of the C05 layout model is the record set of the C04 table model

The layout model (`Model/AllocLayout.lean`: byte blocks, `size_t` arithmetic in `BitVec 64`) and the table model
(`Model/LeakDetector.lean`: the hash table, sizes as `Nat` with explicit `wrap64`) are two independent translations of the
same C++.  Shared, and proved here: the size arithmetic agrees for every `size_t` value; and the relation `R5 al s t` — the
table's records and the layout model's `tracked` list agree as multisets on (address, size, allocation number, layout flag,
allocator), and on the next allocation number — is kept by every completed operation.

Not shared: the table model has no build without guard bytes (`noCheckCfg`), the layout model has no periods, stages
or type-checking switch; a `reallocMemory` whose accounting-node allocation fails is undefined behaviour in the layout
model (known finding c05-node-alloc-null) and is outside `Completed`.
-/
namespace Compose.C05x
open LeakDetector Compose.Alloc
open AllocLayout (defaultCfg Ans RAns Outcome W NodeImage)

/-! ## size arithmetic -/

/-- The two translations of the size expressions agree for every `size_t` value (default build): the overflow guards of
    `allocMemory` and `reallocMemory`, the padded size, and the size passed to the platform in both layouts. -/
theorem sizes_agree (size : W) (sep : Bool) :
    AllocLayout.rejectsAlloc defaultCfg size = sizeOverflows size.toNat ∧
    AllocLayout.rejectsRealloc defaultCfg size = sizeOverflows size.toNat ∧
    (AllocLayout.swci defaultCfg size).toNat = sizeWithCorruptionInfo size.toNat ∧
    (AllocLayout.allocReq defaultCfg sep size).toNat = requestSize size.toNat sep ∧
    (AllocLayout.reallocReq defaultCfg sep size).toNat = requestSize size.toNat sep :=
  ⟨rejectsAlloc_eq size, rejectsAlloc_eq size, swci_toNat_eq size, allocReq_toNat_eq sep size, allocReq_toNat_eq sep size⟩

/-- the constants the two extractors read from the source are the same -/
theorem constants_agree :
    Gen.AllocLayout.sizeofNode = Gen.LeakDetector.nodeStructBytes ∧
    Gen.AllocLayout.corruptionBufferSizeCheck = Gen.LeakDetector.guardSize ∧
    Gen.AllocLayout.guardBytes = Gen.LeakDetector.guardBytes := by decide

/-- the bytes `addMemoryCorruptionInformation` writes are the same in both models -/
theorem guard_pattern_agrees : AllocLayout.guardImage defaultCfg = guardPattern := by decide

/-- The platform is asked for the same number of bytes: the first event of `AllocLayout.allocMemory` and of
    `LeakDetector.alloc`, for any size the guard accepts and any answer of the platform. -/
theorem alloc_requests_same_size (img : NodeImage) (t : AllocLayout.State) (s : State) (a : Allocator) (fam : Nat)
    (size : W) (sep0 : Bool) (a1 a2 : Ans) (file : String) (line : Nat) (nodeOk : Bool) (fill : UInt8)
    (hacc : AllocLayout.rejectsAlloc defaultCfg size = false) :
    (AllocLayout.allocMemory defaultCfg img t fam size sep0 a1 a2).2.1.head? =
        some (.ualloc (AllocLayout.allocReq defaultCfg sep0 size) a1.id) ∧
    (alloc s a size.toNat file line sep0 a1.id nodeOk fill).2.head? =
        some (.ualloc (AllocLayout.allocReq defaultCfg sep0 size).toNat) := by
  have hfs := forcedSep_default sep0
  have ho : sizeOverflows size.toNat = false := by rw [← rejectsAlloc_eq]; exact hacc
  constructor
  · cases a1 with
    | block id bytes =>
      by_cases hn : AllocLayout.forcedSep defaultCfg sep0 = true ∧ a2 = .null
      · obtain ⟨hs, rfl⟩ := hn
        rw [AllocLayout.alloc_node_failure_leaves_state defaultCfg img t fam size sep0 id bytes hacc hs]
        rw [hfs] at hs; subst hs; rfl
      · rw [AllocLayout.allocMemory_block_eq defaultCfg img t fam size sep0 id bytes a2 hacc hn, hfs]
        rcases AllocLayout.account_cases defaultCfg img _ fam size sep0 id a2 _ with ⟨m', h, _⟩ | ⟨s', w, h, _⟩ | ⟨h, _⟩ <;>
          rw [h] <;> cases sep0 <;> rfl
    | _ => simp [AllocLayout.allocMemory, hacc, hfs, Ans.id]
  · rw [allocReq_toNat_eq]
    unfold alloc
    simp only [ho, Bool.false_eq_true, if_false]
    split
    · rfl
    · split <;> rfl

/-! ## the record set -/

abbrev Key := Nat × Nat × Nat × Bool × Allocator

def nodeKey (n : Node) : Key := (n.addr, n.size, n.number, n.sepNode, n.allocator)

/-- `al` says which allocator object stands behind a family number of the layout model (0 new, 1 new[], 2 malloc) -/
def recKey (al : Nat → Allocator) (r : AllocLayout.Rec) : Key := (r.id, r.size.toNat, r.number, r.sep, al r.fam)

structure R5 (al : Nat → Allocator) (s : State) (t : AllocLayout.State) : Prop where
  inv : s.Inv
  recs : (s.nodes.map nodeKey).Perm (t.tracked.map (recKey al))
  seq : s.seq = t.seq

theorem R5.dead_iff {al : Nat → Allocator} {s : State} {t : AllocLayout.State} (h : R5 al s t) (id : Nat) :
    isLive s id = false ↔ ∀ r ∈ t.tracked, r.id ≠ id := by
  rw [isLive_false_iff]
  constructor
  · intro hn r hr e
    have : recKey al r ∈ s.nodes.map nodeKey := h.recs.mem_iff.mpr (List.mem_map_of_mem hr)
    obtain ⟨n, hnm, hk⟩ := List.mem_map.mp this
    have : n.addr = r.id := congrArg (·.1) hk
    exact hn n hnm (this.trans e)
  · intro hr n hn e
    have : nodeKey n ∈ t.tracked.map (recKey al) := h.recs.mem_iff.mp (List.mem_map_of_mem hn)
    obtain ⟨r, hrm, hk⟩ := List.mem_map.mp this
    have : r.id = n.addr := congrArg (·.1) hk
    exact hr r hrm (this.trans e)

theorem R5.ids_nodup {al : Nat → Allocator} {s : State} {t : AllocLayout.State} (h : R5 al s t) :
    (t.tracked.map (·.id)).Nodup := by
  have hp : ((s.nodes.map nodeKey).map (·.1)).Perm ((t.tracked.map (recKey al)).map (·.1)) := h.recs.map _
  rw [List.map_map, List.map_map] at hp
  exact hp.nodup_iff.mp h.inv.distinct

/-- what the table model additionally needs to know about a call -/
structure Env where
  file : String
  line : Nat
  fill : UInt8
deriving Repr, Inhabited

/-- the pointer a layout-model operation returned, as the table model reports it (`Ev.ret`) -/
def retOf : Outcome → Nat
  | .ptr id => id
  | _ => 0

theorem R5.filter {al : Nat → Allocator} {s : State} {t : AllocLayout.State} (h : R5 al s t) (id : Nat) :
    ((s.nodes.filter (fun n => n.addr != id)).map nodeKey).Perm ((t.tracked.filter (·.id != id)).map (recKey al)) := by
  have := h.recs.filter (fun k => k.1 != id)
  rwa [List.filter_map, List.filter_map] at this

theorem removed_perm {al : Nat → Allocator} {s : State} {t : AllocLayout.State} (h : R5 al s t) (id : Nat)
    (o : AllocLayout.Rec) (rest : List AllocLayout.Rec) (hrem : AllocLayout.removeRec t.tracked id = some (o, rest)) :
    ((s.nodes.filter (fun n => n.addr != id)).map nodeKey).Perm (rest.map (recKey al)) := by
  rw [AllocLayout.removeRec_rest h.ids_nodup hrem]; exact h.filter id

theorem perm_cons_key {al : Nat → Allocator} {N L : List Node} {n : Node} {r : AllocLayout.Rec} {R : List AllocLayout.Rec}
    (hN : N.Perm (n :: L)) (hk : nodeKey n = recKey al r) (hL : (L.map nodeKey).Perm (R.map (recKey al))) :
    (N.map nodeKey).Perm ((r :: R).map (recKey al)) := by
  rw [List.map_cons, ← hk]; exact (hN.map nodeKey).trans (List.Perm.cons _ hL)

theorem R5.step {al s t} {t' : AllocLayout.State} {k : Nat} (h : R5 al s t) (op : Op) (hf : FreshAddr s op)
    (recs : ((nodesAfter s op).map nodeKey).Perm (t'.tracked.map (recKey al)))
    (hk : successes (step s op).2 = k) (seq : s.seq + k = t'.seq) : R5 al (step s op).1 t' :=
  have ⟨inv, hp, _⟩ := step_nodes h.inv op hf
  ⟨inv, (hp.map nodeKey).trans recs, (step_scalars s op).1.trans (hk ▸ seq)⟩

theorem R5.pushed {al s t} {t' : AllocLayout.State} {id size fam sep nid L R} (h : R5 al s t) (e : Env)
    (hL : (L.map nodeKey).Perm (R.map (recKey al))) (htr : t'.tracked = ⟨id, size, fam, sep, nid, t.seq⟩ :: R) :
    ((Spec.newNode (abs s) id size.toNat (al fam) e.file e.line sep e.fill :: L).map nodeKey).Perm (t'.tracked.map (recKey al)) := by
  rw [htr]; exact perm_cons_key .rfl (by simp [nodeKey, recKey, Spec.newNode, abs, h.seq]) hL

/-! ## allocation -/

/-- `allocMemory` agrees: with the platform's answers the same on both sides (`result` = the block's address or 0, `nodeOk` = a
    node block was available) every completed call — success, over-large size, platform NULL, no memory for the accounting
    node — keeps the relation, the C04 environment hypothesis `FreshAddr` holds, and both return the same pointer. -/
theorem alloc_agrees (al : Nat → Allocator) (e : Env) {s : State} {t : AllocLayout.State} (h : R5 al s t)
    (img : NodeImage) (fam : Nat) (size : W) (sep0 : Bool) (a1 a2 : Ans)
    (hc : Completed (AllocLayout.allocMemory defaultCfg img t fam size sep0 a1 a2).2.2)
    (hfresh : ∀ id b, a1 = .block id b → id ≠ 0 ∧ ∀ r ∈ t.tracked, r.id ≠ id) :
    FreshAddr s (.alloc (al fam) size.toNat e.file e.line sep0 a1.id (!a2.isNull) e.fill) ∧
    R5 al (step s (.alloc (al fam) size.toNat e.file e.line sep0 a1.id (!a2.isNull) e.fill)).1
      (AllocLayout.allocMemory defaultCfg img t fam size sep0 a1 a2).1 ∧
    (step s (.alloc (al fam) size.toNat e.file e.line sep0 a1.id (!a2.isNull) e.fill)).2.getLast? =
      some (.ret (retOf (AllocLayout.allocMemory defaultCfg img t fam size sep0 a1 a2).2.2)) := by
  have hspec := allocMemory_spec defaultCfg img t fam size sep0 a1 a2 hc
  rw [forcedSep_default] at hspec
  have hf : FreshAddr s (.alloc (al fam) size.toNat e.file e.line sep0 a1.id (!a2.isNull) e.fill) := by
    cases a1 with
    | block id b => exact Or.inr ((h.dead_iff id).mpr (hfresh id b rfl).2)
    | _ => exact Or.inl rfl
  refine ⟨hf, ?_⟩
  by_cases hst : AllocLayout.AllocStops defaultCfg size sep0 a1 a2
  · obtain ⟨htr, hseq', hout⟩ := hspec.1 hst
    have E := alloc_refused s (al fam) size.toNat e.file e.line sep0 a1.id (!a2.isNull) e.fill (by
      rcases hst with h1 | h2 | ⟨hs, rfl⟩
      · exact .inl (by rw [← rejectsAlloc_eq]; exact h1)
      · exact .inr (.inl (by cases a1 with | block id b => cases h2 | _ => rfl))
      · exact .inr (.inr ⟨hs, rfl⟩))
    rw [hout]
    exact ⟨h.step _ hf (E.nodes ▸ htr ▸ h.recs) E.successes (h.seq.trans hseq'.symm), E.ret⟩
  · obtain ⟨hnn, hnode, ⟨nid, htr⟩, hseq', hout⟩ := hspec.2 hst
    have E := alloc_stored s (al fam) size.toNat e.file e.line sep0 a1.id (!a2.isNull) e.fill
      (by rw [← rejectsAlloc_eq]; exact Bool.eq_false_iff.mpr fun ho => hst (.inl ho))
      (by cases a1 with | block id b => exact (hfresh id b rfl).1 | _ => cases hnn)
      (fun hs => by rw [hnode hs]; rfl)
    rw [hout]
    exact ⟨h.step _ hf (E.nodes ▸ h.pushed e h.recs htr) E.successes (hseq' ▸ congrArg (· + 1) h.seq), E.ret⟩

/-! ## release -/

/-- `deallocMemory` agrees.  Connects `AllocLayout.deallocMemory` with `LeakDetector.step (.dealloc …)`: NULL,
    an unknown pointer, a clean release, a release with allocator mismatch or damaged guard bytes — in every case the
    record of exactly that block (if any) leaves both record sets. -/
theorem dealloc_agrees (al : Nat → Allocator) (e : Env) {s : State} {t : AllocLayout.State} (h : R5 al s t)
    (a : Allocator) (fam : Nat) (ptr : Option Nat) (sep0 : Bool) :
    R5 al (step s (.dealloc a (ptr.getD 0) e.file e.line sep0)).1 (AllocLayout.deallocMemory defaultCfg t fam ptr sep0).1 := by
  have hspec := deallocMemory_table defaultCfg t fam ptr sep0
  refine h.step _ trivial ?_ (dealloc_table_only s a (ptr.getD 0) e.file e.line sep0).2 (h.seq.trans hspec.1.symm)
  rw [hspec.2]
  cases ptr with
  | none =>
    simp only [nodesAfter, Option.getD_none]
    rw [ListLemmas.filter_key_ne_self Node.addr (l := s.nodes) fun n hn => h.inv.nonnull n hn]
    exact h.recs
  | some id =>
    -- tracked or not, the records of that block are dropped on both sides
    simp only [nodesAfter, Option.getD_some]
    rw [ListLemmas.eraseP_key_eq_filter AllocLayout.Rec.id h.ids_nodup id]; exact h.filter id

/-- A release is "Deallocating non-allocated memory" in both models for the same pointers (non-NULL, not tracked). -/
theorem dealloc_misuse_agrees (al : Nat → Allocator) (e : Env) {s : State} {t : AllocLayout.State} (h : R5 al s t)
    (a : Allocator) (fam : Nat) (id : Nat) (sep0 : Bool) (hz : id ≠ 0) :
    (AllocLayout.deallocMemory defaultCfg t fam (some id) sep0).2.1 = [.misuse "nonallocated"] ↔
      firstFail (step s (.dealloc a id e.file e.line sep0)).2 = some .nonAllocated := by
  show _ ↔ firstFail (dealloc s a id e.file e.line sep0).2 = some .nonAllocated
  rw [free_non_allocated_iff s h.inv, h.dead_iff]
  simp only [ne_eq, hz, not_false_eq_true, true_and]
  rcases AllocLayout.deallocMemory_cases defaultCfg t fam (some id) sep0 with
    ⟨hx, _⟩ | ⟨_, hx, hrem, he⟩ | ⟨_, r, rest, m1, evs, hx, hrem, ⟨_, he⟩ | ⟨_, he⟩⟩ <;> cases hx <;> rw [he]
  · exact ⟨fun _ => AllocLayout.removeRec_none_not_mem _ _ hrem, fun _ => rfl⟩
  -- a tracked pointer: the events end in the release of the block, or are empty
  all_goals
    obtain ⟨hmem, hid⟩ := AllocLayout.removeRec_mem hrem
    refine ⟨fun hev => ?_, fun hall => absurd hid (hall r hmem)⟩
  · have : (evs ++ [AllocLayout.Ev.ufree id]).getLast? = some (.ufree id) := by simp
    rw [show evs ++ [AllocLayout.Ev.ufree id] = _ from hev] at this
    cases this
  · cases hev

/-! ## reallocation -/

/-- `reallocMemory` agrees.  Connects `AllocLayout.reallocMemory` with `LeakDetector.step (.realloc …)`,
    `result` being the address `PlatformSpecificRealloc` answered with (0 = NULL): over-large size, `realloc(NULL, n)`
    (either outcome), an unknown pointer, a moved block, and a FAILED platform realloc (the old record stays, with
    its size, number and allocator) all keep the relation. -/
theorem realloc_agrees (al : Nat → Allocator) (e : Env) {s : State} {t : AllocLayout.State} (h : R5 al s t)
    (img : NodeImage) (fam : Nat) (ptr : Option Nat) (size : W) (sep0 : Bool) (ar : RAns) (a2 : Ans)
    (hc : Completed (AllocLayout.reallocMemory defaultCfg img t fam ptr size sep0 ar a2).2.2)
    (hptr : ptr ≠ some 0)
    (hfresh : ∀ nid nb, ar = .moved nid nb → nid ≠ 0 ∧ (ptr = some nid ∨ ∀ r ∈ t.tracked, r.id ≠ nid)) :
    FreshAddr s (.realloc (al fam) (ptr.getD 0) size.toNat e.file e.line sep0 ar.id e.fill) ∧
    R5 al (step s (.realloc (al fam) (ptr.getD 0) size.toNat e.file e.line sep0 ar.id e.fill)).1
      (AllocLayout.reallocMemory defaultCfg img t fam ptr size sep0 ar a2).1 := by
  have hfs := forcedSep_default sep0
  have hf : FreshAddr s (.realloc (al fam) (ptr.getD 0) size.toNat e.file e.line sep0 ar.id e.fill) := by
    cases ar with
    | null => exact Or.inl rfl
    | moved nid nb =>
      rcases (hfresh nid nb rfl).2 with hq | hq
      · exact Or.inr (Or.inl (by rw [hq]; rfl))
      · exact Or.inr (Or.inr ((h.dead_iff nid).mpr hq))
  refine ⟨hf, ?_⟩
  have ho : sizeOverflows size.toNat = AllocLayout.rejectsRealloc defaultCfg size := (rejectsAlloc_eq size).symm
  -- the layout model's case tree; in each case the table's ending is the lemma of `LeakDetector` for that case
  rcases AllocLayout.reallocMemory_cases defaultCfg img t fam ptr size sep0 ar a2 with
    ⟨hrej, he⟩ | ⟨hrej, rfl, he⟩ | ⟨id, hrej, rfl, hrem, he⟩ | ⟨id, o, rest, m1, evs, hrej, rfl, hrem, ⟨_, he⟩ | ⟨_, he⟩⟩ <;>
    rw [he] at hc ⊢ <;> rw [hrej] at ho
  · have E := realloc_nothing s (al fam) (ptr.getD 0) size.toNat e.file e.line sep0 ar.id e.fill (.inl ho)
    exact h.step _ hf (E.nodes ▸ h.recs) E.successes h.seq
  · rw [hfs] at hc ⊢
    cases ar with
    | null =>
      have E := realloc_nothing s (al fam) (Option.getD none 0) size.toNat e.file e.line sep0 RAns.null.id e.fill
        (.inr (.inl ⟨rfl, rfl⟩))
      exact h.step _ hf (E.nodes ▸ h.recs) E.successes h.seq
    | moved nid nb =>
      obtain ⟨_, ⟨k, htr⟩, hseq', _⟩ := reallocRest_moved_spec defaultCfg img t fam none size sep0 nid nb a2 [] hc
      have E := realloc_null s (al fam) (Option.getD none 0) size.toNat e.file e.line sep0 (RAns.moved nid nb).id e.fill ho rfl
        (hfresh nid nb rfl).1
      exact h.step _ hf (E.nodes ▸ h.pushed e h.recs htr) E.successes (hseq' ▸ congrArg (· + 1) h.seq)
  · have hnone : s.table.retrieveNode id = none := by
      rw [retrieve_none_iff h.inv]
      exact (isLive_false_iff id).mp ((h.dead_iff id).mpr (AllocLayout.removeRec_none_not_mem _ _ hrem))
    have E := realloc_nothing s (al fam) ((some id).getD 0) size.toNat e.file e.line sep0 ar.id e.fill
      (.inr (.inr ⟨fun e => hptr (congrArg some e), hnone⟩))
    exact h.step _ hf (E.nodes ▸ h.recs) E.successes h.seq
  · rw [hfs] at hc ⊢
    obtain ⟨hmem, hid⟩ := AllocLayout.removeRec_mem hrem
    have hkey : recKey al o ∈ s.nodes.map nodeKey := h.recs.mem_iff.mpr (List.mem_map_of_mem hmem)
    obtain ⟨n, hnm, hnk⟩ := List.mem_map.mp hkey
    have hna : n.addr = id := (congrArg (·.1) hnk).trans hid
    have hret : s.table.retrieveNode id = some n := (retrieve_some_iff h.inv).mpr ⟨hnm, hna⟩
    have hz := addr_ne_zero_of_retrieve h.inv hret
    have hrestp := removed_perm h id o rest hrem
    cases ar with
    | null =>
      obtain ⟨_, ⟨k, htr⟩, hseq', _⟩ := retrack_spec defaultCfg img _ o sep0 a2 _ hc
      have E := realloc_failed s (al fam) ((some id).getD 0) size.toNat e.file e.line sep0 e.fill ho hret hz
      refine h.step _ hf ?_ E.successes (h.seq.trans hseq'.symm)
      rw [show (AllocLayout.reallocRest defaultCfg img _ fam (some o) size sep0 .null a2 evs).1.tracked = _ from htr]
      -- the old record is back, with the layout flag of this call
      refine perm_cons_key ((List.Perm.of_eq E.nodes).trans (hna ▸ atAddr_perm _ h.inv.distinct hnm)) ?_ hrestp
      simp only [nodeKey, recKey, Prod.mk.injEq] at hnk ⊢
      obtain ⟨h1, h2, h3, _, h5⟩ := hnk
      exact ⟨h1, h2, h3, trivial, h5⟩
    | moved nid nb =>
      obtain ⟨_, ⟨k, htr⟩, hseq', _⟩ := reallocRest_moved_spec defaultCfg img _ fam (some o) size sep0 nid nb a2 evs hc
      have E := realloc_moved s (al fam) ((some id).getD 0) size.toNat e.file e.line sep0 (RAns.moved nid nb).id e.fill ho hret hz
        (hfresh nid nb rfl).1
      exact h.step _ hf (E.nodes ▸ h.pushed e hrestp htr) E.successes (hseq' ▸ congrArg (· + 1) h.seq)
  · exact hc.elim

theorem init_related (al : Nat → Allocator) (hp : Nat) (h : 0 < hp) : R5 al (State.init hp) {} :=
  { inv := inv_init hp h,
    recs := nodes_init hp ▸ List.Perm.refl _
    seq := rfl }

/-- Sizes and ids: the layout model's `trackedSet` (C05's observable) is the table's `(address, size)` set. -/
theorem tracked_set_agrees {al : Nat → Allocator} {s : State} {t : AllocLayout.State} (h : R5 al s t) :
    (s.nodes.map (fun n => (n.addr, n.size))).Perm (t.trackedSet.map (fun p => (p.1, p.2.toNat))) := by
  have := h.recs.map (fun k : Key => (k.1, k.2.1))
  simp only [List.map_map] at this
  unfold AllocLayout.State.trackedSet
  rw [List.map_map]
  exact this

/-! ## non-vacuity: one history run through both models -/

def exAl : Nat → Allocator
  | 0 => .plain 1 "Standard New Allocator" "new" "delete"
  | 1 => .plain 2 "Standard New [] Allocator" "new []" "delete []"
  | _ => .plain 3 "Standard Malloc Allocator" "malloc" "free"

def exE : Env := { file := "f.c", line := 1, fill := 0 }

open AllocLayout in
/-- `malloc(10)` (separate node), `new char[4]` (inline node, same bucket), a failing `realloc` of the first block, a
    moving `realloc`, `delete[]` of the second, `free` of an unknown pointer -/
def exT1 : AllocLayout.State :=
  (allocMemory defaultCfg img0 {} 2 10#64 true (.block 1168 (List.replicate 16 0)) (.block 5000 (List.replicate 64 0))).1
def exS1 : State := (step (State.init 73) (.alloc (exAl 2) 10 "f.c" 1 true 1168 true 0)).1

theorem ex1 : R5 exAl exS1 exT1 :=
  (alloc_agrees exAl exE (init_related exAl 73 (by decide +kernel)) AllocLayout.img0 2 10#64 true
    (.block 1168 (List.replicate 16 0)) (.block 5000 (List.replicate 64 0)) (by decide +kernel)
    (by intro id b hb; cases hb; exact ⟨by decide +kernel, by decide +kernel⟩)).2.1

open AllocLayout in
def exT2 : AllocLayout.State := (allocMemory defaultCfg img0 exT1 1 4#64 false (.block 1241 (List.replicate 72 0)) .null).1
def exS2 : State := (step exS1 (.alloc (exAl 1) 4 "f.c" 1 false 1241 false 0)).1

theorem ex2 : R5 exAl exS2 exT2 :=
  (alloc_agrees exAl exE ex1 AllocLayout.img0 1 4#64 false (.block 1241 (List.replicate 72 0)) .null (by decide +kernel)
    (by intro id b hb; cases hb; exact ⟨by decide +kernel, by decide +kernel⟩)).2.1

open AllocLayout in
/-- the platform realloc fails: the old record stays -/
def exT3 : AllocLayout.State :=
  (reallocMemory defaultCfg img0 exT2 2 (some 1168) 100#64 true .null (.block 5001 (List.replicate 64 0))).1
def exS3 : State := (step exS2 (.realloc (exAl 2) 1168 100 "f.c" 1 true 0 0)).1

theorem ex3 : R5 exAl exS3 exT3 :=
  (realloc_agrees exAl exE ex2 AllocLayout.img0 2 (some 1168) 100#64 true .null (.block 5001 (List.replicate 64 0))
    (by decide +kernel) (by decide +kernel) (by intro nid nb hb; cases hb)).2

open AllocLayout in
/-- the platform realloc moves the block to 1314 (same bucket as 1168 and 1241) -/
def exT4 : AllocLayout.State :=
  (reallocMemory defaultCfg img0 exT3 2 (some 1168) 20#64 true (.moved 1314 (List.replicate 24 0))
    (.block 5002 (List.replicate 64 0))).1
def exS4 : State := (step exS3 (.realloc (exAl 2) 1168 20 "f.c" 1 true 1314 0)).1

theorem ex4 : R5 exAl exS4 exT4 :=
  (realloc_agrees exAl exE ex3 AllocLayout.img0 2 (some 1168) 20#64 true (.moved 1314 (List.replicate 24 0))
    (.block 5002 (List.replicate 64 0)) (by decide +kernel) (by decide +kernel)
    (by intro nid nb hb; cases hb; exact ⟨by decide +kernel, Or.inr (by decide +kernel)⟩)).2

/-- a concrete non-trivial related pair, after a release on top -/
example : R5 exAl (step exS4 (.dealloc (exAl 1) 1241 "f.c" 1 false)).1
    (AllocLayout.deallocMemory defaultCfg exT4 1 (some 1241) false).1 :=
  dealloc_agrees exAl exE ex4 (exAl 1) 1 (some 1241) false

example : exT4.trackedSet = [(1314, 20#64), (1241, 4#64)] := by decide +kernel
example : exS4.nodes.map (fun n => (n.addr, n.size, n.number)) = [(1314, 20, 3), (1241, 4, 2)] := by decide +kernel
example : exT3.trackedSet = [(1168, 10#64), (1241, 4#64)] := by decide +kernel
example : exS3.nodes.map (fun n => (n.addr, n.size, n.number)) = [(1168, 10, 1), (1241, 4, 2)] := by decide +kernel
-- the sizes asked from the platform: 16 bytes for malloc(10) with a separate node, 72 for new char[4] with an inline node
example : (AllocLayout.allocReq defaultCfg true 10#64).toNat = 16 ∧ requestSize 10 true = 16 ∧
    (AllocLayout.allocReq defaultCfg false 4#64).toNat = 72 ∧ requestSize 4 false = 72 := by decide +kernel
-- a size whose bookkeeping wraps `size_t` is refused by both
example : AllocLayout.rejectsAlloc defaultCfg (BitVec.ofNat 64 (2^64 - 69)) = true ∧ sizeOverflows (2^64 - 69) = true := by decide +kernel

end Compose.C05x
