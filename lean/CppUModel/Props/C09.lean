import CppUModel.Gen.MockEquals
import CppUModel.Proofs.MockValue
import CppUModel.Proofs.BitVecLemmas
import CppUModel.Model.MockNamedValueList
import CppUModel.Model.MockEntry
import CppUModel.Model.MockReturn
import CppUModel.Model.MockData
/-!
# C09 — mock parameter values compare by mathematical value, symmetrically

The property theorems, in sections by what they speak of.  Lemmas about the model and the specification alone stand in
Proofs/MockValue.lean; a helper that stands here stands next to its first use.  `equalsGen` and the six `get…Gen` functions are REGENERATED from the current
`src/CppUTestExt/MockNamedValue.cpp` (clang AST → Lean, `translate/cxx2lean_c09.py`) before this file
is compiled, so every theorem below is about the code as it is now; the callee models
(`simpleStringEq`, `MemCmpSz`, `doubles_equal`, `comparatorIsEqual`) and the value type are in
`Model/MockValue.lean`, the vocabulary (`denote?`, `isInt`, `WF`) in `Spec/MockValue.lean`.
All quantifiers range over every bit pattern / byte string.  Integer facts are proved by reading each bit pattern
through `BitVecLemmas.toInt_cases32/64` (a split at the sign boundary relating `toInt` and `toNat`) and closing with `omega`.
-/
namespace Mock
open Gen.MockEquals

-- every reader of `MVal` is the payload on its own constructor
attribute [local simp] MVal.type_ MVal.boolValue_ MVal.intValue_ MVal.unsignedIntValue_ MVal.longIntValue_
  MVal.unsignedLongIntValue_ MVal.longLongIntValue_ MVal.unsignedLongLongIntValue_ MVal.doubleValue_value
  MVal.doubleValue_tolerance MVal.stringValue_ MVal.pointerValue_ MVal.constPointerValue_ MVal.functionPointerValue_
  MVal.memoryBufferValue_ MVal.size_ MVal.comparator_ MVal.constObjectPointerValue_ MVal.objectPointerValue_

/-- the table (type name, union member, C type) extracted from the `setValue` overloads is the one
    the value type `MVal` and its readers were written for -/
theorem setters_as_modelled : Gen.MockEquals.setters = modelledSetters := by decide +kernel

/-! ## integers: 36 ordered type pairs, all values -/

/-- Two integer values of any two of the six integer types compare equal exactly when they denote
    the same mathematical integer. -/
theorem equals_int_iff (a b : MVal) (ha : a.isInt = true) (hb : b.isInt = true) :
    equalsGen a b = true ↔ denote? a = denote? b := by
  cases a <;> cases b <;> simp [MVal.isInt] at ha hb <;> rename_i x y <;>
    -- each payload at the sign boundary: below it `toInt = toNat`, from it on `toInt = toNat - 2^width`
    (first | have hx := BitVecLemmas.toInt_cases32 x | have hx := BitVecLemmas.toInt_cases64 x) <;>
    (first | have hy := BitVecLemmas.toInt_cases32 y | have hy := BitVecLemmas.toInt_cases64 y) <;>
    -- the branch of `equals` for this pair, its guard and comparison turned into (in)equalities of `toInt`s; linear then
    simp [equalsGen, denote?, ← BitVec.toInt_inj, BitVec.sle_iff_toInt_le,
      BitVecLemmas.toInt_zext_32_64, BitVecLemmas.toInt_sext_32_64, -BitVec.toInt_setWidth] <;> omega

/-- The answer does not depend on which side is the expectation. -/
theorem equals_int_symm (a b : MVal) (ha : a.isInt = true) (hb : b.isInt = true) :
    equalsGen a b = equalsGen b a := by
  rw [Bool.eq_iff_iff, equals_int_iff a b ha hb, equals_int_iff b a hb ha]
  exact eq_comm

theorem equals_int_refl (a : MVal) (ha : a.isInt = true) : equalsGen a a = true :=
  (equals_int_iff a a ha ha).mpr rfl

/-! ## different types never compare equal (integer vs non-integer, or two different non-integer types)

Every cross-type branch of `equals` tests both type names against integer type names.  When either operand's type
name is none of the six, only the same-type comparison is left, and different type names fail its first test. -/

theorem equals_false_of_notIntName (a b : MVal) (h : NotIntName a.type_ ∨ NotIntName b.type_) (ht : a.type_ ≠ b.type_) :
    equalsGen a b = false := by
  rcases h with ⟨h1, h2, h3, h4, h5, h6⟩ | ⟨h1, h2, h3, h4, h5, h6⟩ <;>
    simp only [equalsGen, h1, h2, h3, h4, h5, h6, Bool.false_and, Bool.and_false, Bool.false_eq_true, if_false,
      bne_iff_ne.mpr ht, if_true]

theorem equals_other_type_false (a b : MVal) (hwa : a.WF) (hwb : b.WF) (ht : a.type_ ≠ b.type_)
    (hni : ¬ (a.isInt = true ∧ b.isInt = true)) : equalsGen a b = false := by
  cases ha : a.isInt
  · exact equals_false_of_notIntName a b (.inl (notIntName_of_nonint a hwa ha)) ht
  · cases hb : b.isInt
    · exact equals_false_of_notIntName a b (.inr (notIntName_of_nonint b hwb hb)) ht
    · exact absurd ⟨ha, hb⟩ hni

theorem equals_int_nonint_false (a b : MVal) (hwb : b.WF) (ha : a.isInt = true) (hb : b.isInt = false) :
    equalsGen a b = false ∧ equalsGen b a = false := by
  have hn := notIntName_of_nonint b hwb hb
  have ht : a.type_ ≠ b.type_ := fun e => intName_of_int a ha (e ▸ hn)
  exact ⟨equals_false_of_notIntName a b (.inr hn) ht, equals_false_of_notIntName b a (.inl hn) (Ne.symm ht)⟩

/-! ## identity within bool / pointer types -/

theorem equals_bool_iff (x y : Bool) : equalsGen (.bool x) (.bool y) = true ↔ x = y := by
  cases x <;> cases y <;> simp [equalsGen, boolToBV]

theorem equals_ptr_iff (x y : Nat) : equalsGen (.ptr x) (.ptr y) = true ↔ x = y := by
  simp [equalsGen]

theorem equals_cptr_iff (x y : Nat) : equalsGen (.cptr x) (.cptr y) = true ↔ x = y := by
  simp [equalsGen]

theorem equals_fptr_iff (x y : Nat) : equalsGen (.fptr x) (.fptr y) = true ↔ x = y := by
  simp [equalsGen]

/-! ## strings by content, buffers by length and content -/

/-- `const char*` values compare by the content of the C strings (NULL counts as the empty string) -/
theorem str_eq_iff_content (a b : Option Bytes) (ha : NulFree (cstrContent a)) (hb : NulFree (cstrContent b)) :
    equalsGen (.str a) (.str b) = true ↔ cstrContent a = cstrContent b := by
  have e : ∀ s, simpleStringOfCStr s = cstrContent s := fun s => by cases s <;> rfl
  simpa [equalsGen, e, simpleStringEq] using Text.cmp_eq_zero_iff ha hb

theorem mem_eq_iff_len_and_content (a b : Bytes) (ha : SizeOk a) (hb : SizeOk b) :
    equalsGen (.mem a) (.mem b) = true ↔ a.length = b.length ∧ a = b := by
  have h : equalsGen (.mem a) (.mem b) = (decide (a.length = b.length) && MemCmp a b a.length == 0#32) := by
    simp [equalsGen, MemCmpSz, toNat_ofNat64_length a ha,
      ofNat64_length_eq_iff a b ha hb]
  rw [h, Bool.and_eq_true, decide_eq_true_eq, beq_iff_eq]
  exact and_congr_right fun hl => memCmp_eq_zero_iff a b hl

/-! ## doubles: the LEFT operand's tolerance, NaN equal to nothing -/

/-- the double branch is `doubles_equal(this.value, p.value, this.tolerance)`: the right operand's
    tolerance plays no role -/
theorem dbl_eq_uses_left_tolerance (v t w t' : D Float) :
    equalsGen (.dbl v t) (.dbl w t') = doublesEqual floatClose v w t := by
  simp [equalsGen, doubles_equal]

/-- NaN is equal to nothing: as either value or as the expectation's tolerance -/
theorem dbl_nan_equals_nothing (v w t t' : D Float) (h : v = .nan ∨ w = .nan ∨ t = .nan) :
    equalsGen (.dbl v t) (.dbl w t') = false := by
  rw [dbl_eq_uses_left_tolerance]
  rcases h with h | h | h <;> subst h
  · exact doublesEqual_nan_left _ _ _
  · exact doublesEqual_nan_right _ _ _
  · exact doublesEqual_nan_tol _ _ _

/-- finite doubles are compared by the expectation's (left operand's) tolerance -/
theorem dbl_fin_iff (x y t : Float) (t' : D Float) :
    equalsGen (.dbl (.fin x) (.fin t)) (.dbl (.fin y) t') = floatClose x y t := by
  rw [dbl_eq_uses_left_tolerance]; rfl

/-! ## custom objects: the LEFT operand's comparator, none = not equal -/

theorem obj_eq_comparator (ty : String) (hty : ty ∉ builtinTypeNames) (x y : Nat) (f : Nat → Nat → Bool)
    (c : Option (Nat → Nat → Bool)) : equalsGen (.obj ty x (some f)) (.obj ty y c) = f x y := by
  simp [builtinTypeNames] at hty
  simp [equalsGen, comparatorIsEqual, hty]

/-- without a comparator for the type, object values never compare equal (not even to themselves) -/
theorem obj_no_comparator_false (ty : String) (hty : ty ∉ builtinTypeNames) (x y : Nat)
    (c : Option (Nat → Nat → Bool)) : equalsGen (.obj ty x none) (.obj ty y c) = false := by
  simp [builtinTypeNames] at hty
  simp [equalsGen, hty]

/-! ## getters: exactly the stored integer, or the test fails — never a different number

`get…Gen v = .ok n` means the getter returned `n`; `.error` is the failing `STRCMP_EQUAL` on the type
name.  `denote? v = some …` also says that a getter never succeeds on a non-integer value. -/

section getters

local macro "getter_tac" g:ident : tactic => `(tactic| (
  intro v hw n h
  cases v
  case obj ty a c =>
    exfalso
    have e := obj_type_beq_false ty a c hw
    simp only [$g:ident, e "int" (by decide), e "unsigned int" (by decide), e "long int" (by decide),
      e "unsigned long int" (by decide), e "long long int" (by decide), e "unsigned long long int" (by decide),
      Bool.false_and, Bool.false_eq_true, if_false, reduceCtorEq] at h
  all_goals (
    clear hw
    simp [$g:ident, MVal.type_, MVal.longIntValue_, MVal.intValue_, MVal.unsignedIntValue_,
      MVal.unsignedLongIntValue_, MVal.longLongIntValue_, MVal.unsignedLongLongIntValue_, denote?, resultInt,
      getIntValueSigned, getUnsignedIntValueSigned, getLongIntValueSigned, getUnsignedLongIntValueSigned,
      getLongLongIntValueSigned, getUnsignedLongLongIntValueSigned] at h ⊢ <;>
    (try (rename_i x
          first | (have hx := toInt_cases32 x; have hs := toNat_sext_32_64 x) | have hx := toInt_cases64 x)) <;>
    (try (repeat' split at h)) <;>
    (try simp at h) <;>
    (try subst h) <;>
    (try simp [BitVec.sle_iff_toInt_le, toInt_zext_32_64, toInt_sext_32_64, -BitVec.toInt_setWidth] at *) <;>
    (try omega))))

/-- Every integer getter on every stored value returns exactly the stored integer or fails.  On a value that is no
    integer every type-name test of every getter fails; on an integer value each getter is evaluated to
    `guard ∧ converted = n` and the conversion compared with the denotation. -/
theorem getter_exact_or_fail (v : MVal) (hw : v.WF) :
    (∀ n, getIntValueGen v = .ok n → denote? v = some n.toInt) ∧
    (∀ n, getUnsignedIntValueGen v = .ok n → denote? v = some (n.toNat : Int)) ∧
    (∀ n, getLongIntValueGen v = .ok n → denote? v = some n.toInt) ∧
    (∀ n, getUnsignedLongIntValueGen v = .ok n → denote? v = some (n.toNat : Int)) ∧
    (∀ n, getLongLongIntValueGen v = .ok n → denote? v = some n.toInt) ∧
    (∀ n, getUnsignedLongLongIntValueGen v = .ok n → denote? v = some (n.toNat : Int)) := by
  cases hi : v.isInt
  · -- no integer: all six type-name tests fail (`h1 … h6`), so every getter is `.error`, contradicting `h`
    obtain ⟨h1, h2, h3, h4, h5, h6⟩ := notIntName_of_nonint v hw hi
    refine ⟨?_, ?_, ?_, ?_, ?_, ?_⟩ <;> intro n h <;>
      simp only [getIntValueGen, getUnsignedIntValueGen, getLongIntValueGen, getUnsignedLongIntValueGen,
        getLongLongIntValueGen, getUnsignedLongLongIntValueGen, h1, h2, h3, h4, h5, h6, Bool.false_and,
        Bool.false_eq_true, if_false, reduceCtorEq] at h
  · cases v <;> first
      | exact Bool.noConfusion hi
      | (rename_i x
         -- an integer with payload `x`, read at the sign boundary (`hs`: the unsigned reading of its sign extension)
         first | (have hx := BitVecLemmas.toInt_cases32 x; have hs := BitVecLemmas.toNat_sext_32_64 x) | have hx := BitVecLemmas.toInt_cases64 x
         -- each getter on this constructor: `h` becomes `converted x = n`, with the guard `0 ≤ x.toInt` where it has one
         refine ⟨?_, ?_, ?_, ?_, ?_, ?_⟩ <;> intro n h <;>
           simp [getIntValueGen, getUnsignedIntValueGen, getLongIntValueGen, getUnsignedLongIntValueGen,
             getLongLongIntValueGen, getUnsignedLongLongIntValueGen,
             ite_ok_iff, BitVec.sle_iff_toInt_le] at h <;>
           (first | subst h | obtain ⟨hg, rfl⟩ := h) <;>
           -- the reading of the converted pattern against the denotation of `x`: linear in `toInt`, `toNat`
           simp [denote?, BitVecLemmas.toInt_zext_32_64, BitVecLemmas.toInt_sext_32_64, -BitVec.toInt_setWidth] <;>
           omega)

theorem getIntValue_exact : ∀ (v : MVal), v.WF → ∀ n, getIntValueGen v = .ok n →
    denote? v = some (resultInt getIntValueSigned n) :=
  fun v hw => have ⟨e, _⟩ := getter_exact_or_fail v hw; e
theorem getUnsignedIntValue_exact : ∀ (v : MVal), v.WF → ∀ n, getUnsignedIntValueGen v = .ok n →
    denote? v = some (resultInt getUnsignedIntValueSigned n) :=
  fun v hw => have ⟨_, e, _⟩ := getter_exact_or_fail v hw; e
theorem getLongIntValue_exact : ∀ (v : MVal), v.WF → ∀ n, getLongIntValueGen v = .ok n →
    denote? v = some (resultInt getLongIntValueSigned n) :=
  fun v hw => have ⟨_, _, e, _⟩ := getter_exact_or_fail v hw; e
theorem getUnsignedLongIntValue_exact : ∀ (v : MVal), v.WF → ∀ n, getUnsignedLongIntValueGen v = .ok n →
    denote? v = some (resultInt getUnsignedLongIntValueSigned n) :=
  fun v hw => have ⟨_, _, _, e, _⟩ := getter_exact_or_fail v hw; e
theorem getLongLongIntValue_exact : ∀ (v : MVal), v.WF → ∀ n, getLongLongIntValueGen v = .ok n →
    denote? v = some (resultInt getLongLongIntValueSigned n) :=
  fun v hw => have ⟨_, _, _, _, e, _⟩ := getter_exact_or_fail v hw; e
theorem getUnsignedLongLongIntValue_exact : ∀ (v : MVal), v.WF → ∀ n, getUnsignedLongLongIntValueGen v = .ok n →
    denote? v = some (resultInt getUnsignedLongLongIntValueSigned n) :=
  fun v hw => have ⟨_, _, _, _, _, e⟩ := getter_exact_or_fail v hw; e

end getters

/-- the return types are read signed / unsigned as declared (regenerated flags) -/
theorem getter_signedness :
    getIntValueSigned = true ∧ getUnsignedIntValueSigned = false ∧ getLongIntValueSigned = true ∧
    getUnsignedLongIntValueSigned = false ∧ getLongLongIntValueSigned = true ∧
    getUnsignedLongLongIntValueSigned = false := by decide

/-- an `unsigned long` above LLONG_MAX read as `long long` fails the test (it is not returned as the negative number
    with the same bit pattern) -/
theorem getLongLong_of_ulong_above_max_fails (v : BitVec 64) (h : 9223372036854775808 ≤ v.toNat) :
    getLongLongIntValueGen (.ulong v) = .error (.typeMismatch "long long int") := by
  have hv := BitVecLemmas.toInt_cases64 v
  have hs : ¬ (0 ≤ v.toInt) := by omega
  simp [getLongLongIntValueGen, BitVec.sle_iff_toInt_le, hs]

/-- … and at or below LLONG_MAX it is returned unchanged -/
theorem getLongLong_of_ulong_in_range (v : BitVec 64) (h : v.toNat < 9223372036854775808) :
    getLongLongIntValueGen (.ulong v) = .ok v := by
  have hv := BitVecLemmas.toInt_cases64 v
  have hs : 0 ≤ v.toInt := by omega
  simp [getLongLongIntValueGen, BitVec.sle_iff_toInt_le, hs]

/-- a negative value read as unsigned fails the test (the example the property names) -/
theorem getUnsigned_of_negative_int_fails (v : BitVec 32) (h : v.toInt < 0) :
    getUnsignedIntValueGen (.int v) = .error (.typeMismatch "unsigned int") ∧
    getUnsignedLongIntValueGen (.int v) = .error (.typeMismatch "unsigned long int") ∧
    getUnsignedLongLongIntValueGen (.int v) = .error (.typeMismatch "unsigned long long int") := by
  have hs : ¬ (0 ≤ v.toInt) := by omega
  simp [getUnsignedIntValueGen, getUnsignedLongIntValueGen, getUnsignedLongLongIntValueGen,
    BitVec.sle_iff_toInt_le, hs]

/-- `isnan` / `isinf` of the double itself and libc's `fabs`, as wired in src/Platforms/Gcc/UtestPlatform.cpp -/
theorem platform_predicates_as_modelled : Gen.MockEquals.platformPredicates = modelledPlatformPredicates := by decide +kernel

/-! ## every setter stores the right type name and its argument; reading back through the getter of the same type

`Gen.MockEquals.setters` is regenerated from the `setValue` / `setMemoryBuffer` overloads (the translator also checks
that the stored payload is the argument itself); the constructors of `MVal` are the setters' model. -/

/-- for every supported C++ argument type: (type name, union member, argument type) is what the source does, the
    model value carries that type name, and the getter of the same type returns exactly what was stored -/
theorem stored_value_roundtrip :
    (("bool", "boolValue_", "bool") ∈ setters ∧ ∀ b, (MVal.bool b).type_ = "bool" ∧ getBoolValueGen (.bool b) = .ok b) ∧
    (("int", "intValue_", "int") ∈ setters ∧ ∀ v, (MVal.int v).type_ = "int" ∧ getIntValueGen (.int v) = .ok v) ∧
    (("unsigned int", "unsignedIntValue_", "unsigned int") ∈ setters ∧
      ∀ v, (MVal.uint v).type_ = "unsigned int" ∧ getUnsignedIntValueGen (.uint v) = .ok v) ∧
    (("long int", "longIntValue_", "long") ∈ setters ∧
      ∀ v, (MVal.long v).type_ = "long int" ∧ getLongIntValueGen (.long v) = .ok v) ∧
    (("unsigned long int", "unsignedLongIntValue_", "unsigned long") ∈ setters ∧
      ∀ v, (MVal.ulong v).type_ = "unsigned long int" ∧ getUnsignedLongIntValueGen (.ulong v) = .ok v) ∧
    (("long long int", "longLongIntValue_", "long long") ∈ setters ∧
      ∀ v, (MVal.llong v).type_ = "long long int" ∧ getLongLongIntValueGen (.llong v) = .ok v) ∧
    (("unsigned long long int", "unsignedLongLongIntValue_", "unsigned long long") ∈ setters ∧
      ∀ v, (MVal.ullong v).type_ = "unsigned long long int" ∧ getUnsignedLongLongIntValueGen (.ullong v) = .ok v) ∧
    (("double", "doubleValue_value", "double") ∈ setters ∧ ("double", "doubleValue_tolerance", "double") ∈ setters ∧
      ∀ v t, (MVal.dbl v t).type_ = "double" ∧ getDoubleValueGen (.dbl v t) = .ok v ∧ getDoubleToleranceGen (.dbl v t) = .ok t) ∧
    (("const char*", "stringValue_", "const char *") ∈ setters ∧
      ∀ s, (MVal.str s).type_ = "const char*" ∧ getStringValueGen (.str s) = .ok s) ∧
    (("void*", "pointerValue_", "void *") ∈ setters ∧
      ∀ a, (MVal.ptr a).type_ = "void*" ∧ getPointerValueGen (.ptr a) = .ok a) ∧
    (("const void*", "constPointerValue_", "const void *") ∈ setters ∧
      ∀ a, (MVal.cptr a).type_ = "const void*" ∧ getConstPointerValueGen (.cptr a) = .ok a) ∧
    (("void (*)()", "functionPointerValue_", "void (*)()") ∈ setters ∧
      ∀ a, (MVal.fptr a).type_ = "void (*)()" ∧ getFunctionPointerValueGen (.fptr a) = .ok a) ∧
    (("const unsigned char*", "memoryBufferValue_", "const unsigned char *") ∈ setters ∧
      ∀ b, (MVal.mem b).type_ = "const unsigned char*" ∧ getMemoryBufferGen (.mem b) = .ok b ∧
        getSizeGen (.mem b) = .ok (BitVec.ofNat 64 b.length)) := by
  simp [setters, getBoolValueGen, getIntValueGen, getUnsignedIntValueGen, getLongIntValueGen, getUnsignedLongIntValueGen,
    getLongLongIntValueGen, getUnsignedLongLongIntValueGen, getDoubleValueGen, getDoubleToleranceGen, getStringValueGen,
    getPointerValueGen, getConstPointerValueGen, getFunctionPointerValueGen, getMemoryBufferGen, getSizeGen]

theorem getter_same_type (x : BitVec 32) (y : BitVec 64) :
    getIntValueGen (.int x) = .ok x ∧ getUnsignedIntValueGen (.uint x) = .ok x ∧
    getLongIntValueGen (.long y) = .ok y ∧ getUnsignedLongIntValueGen (.ulong y) = .ok y ∧
    getLongLongIntValueGen (.llong y) = .ok y ∧ getUnsignedLongLongIntValueGen (.ullong y) = .ok y :=
  ⟨rfl, rfl, rfl, rfl, rfl, rfl⟩

theorem stored_object_roundtrip (ty : String) (a : Nat) (c : Option (Nat → Nat → Bool)) :
    (MVal.obj ty a c).type_ = ty ∧ getObjectPointerGen (.obj ty a c) = .ok a ∧
    getConstObjectPointerGen (.obj ty a c) = .ok a := by
  simp [getObjectPointerGen, getConstObjectPointerGen]

/-- `setObjectPointer` / `setConstObjectPointer`: type and pointer as given; the comparator is the one the default
    repository has for the type at that moment, none without a default repository -/
theorem setObjectPointer_stores (repo : Option Repo) (sem : Nat → Nat → Nat → Bool) (ty : String) (p : Nat) :
    (setObjectPointer repo sem ty p).type_ = ty ∧
    getObjectPointerGen (setObjectPointer repo sem ty p) = .ok p ∧
    (setObjectPointer repo sem ty p).comparator_ = (match repo with
      | none => none
      | some r => (r.getComparatorForType ty).map sem) := by
  cases repo <;>
    simp [setObjectPointer, lookupForType, getObjectPointerGen]

/-- a typed getter of a non-integer type succeeds on values of exactly its own type (`getConstPointerValue`,
    which reads `pointerValue_`, still returns the stored `const void*`) -/
theorem typed_getter_own_type_only (v : MVal) (hw : v.WF) :
    (∀ b, getBoolValueGen v = .ok b → v = .bool b) ∧
    (∀ s, getStringValueGen v = .ok s → v = .str s) ∧
    (∀ a, getPointerValueGen v = .ok a → v = .ptr a) ∧
    (∀ a, getConstPointerValueGen v = .ok a → v = .cptr a) ∧
    (∀ a, getFunctionPointerValueGen v = .ok a → v = .fptr a) ∧
    (∀ b, getMemoryBufferGen v = .ok b → v = .mem b) := by
  cases v <;> simp [MVal.WF, builtinTypeNames] at hw <;>
    simp [getBoolValueGen, getStringValueGen, getPointerValueGen, getConstPointerValueGen, getFunctionPointerValueGen,
      getMemoryBufferGen, *]

theorem typed_getter_dbl_own_type_only (v : MVal) (hw : v.WF) :
    (∀ d, getDoubleValueGen v = .ok d → ∃ t, v = .dbl d t) ∧
    (∀ t, getDoubleToleranceGen v = .ok t → ∃ d, v = .dbl d t) := by
  cases v <;> simp [MVal.WF, builtinTypeNames] at hw <;>
    simp [getDoubleValueGen, getDoubleToleranceGen, *]

/-- the REGENERATED default tolerance of `setValue(double)` is the documented 0.005 -/
theorem default_tolerance_value : defaultDoubleTolerance = 0.005 := rfl

theorem compatibleForCopying_iff (a b : MVal) :
    compatibleForCopyingGen a b = true ↔ a.type_ = b.type_ ∨ (a.type_ = "const void*" ∧ b.type_ = "void*") := by
  unfold compatibleForCopyingGen
  -- `a`, `b` are free: their type names stay folded
  by_cases h : a.type_ = b.type_
  · simp [-MVal.type_, h]
  · by_cases h2 : a.type_ = "const void*" ∧ b.type_ = "void*"
    · simp [-MVal.type_, h2.1, h2.2]
    · simp only [beq_iff_eq, h, if_false, Bool.and_eq_true, h2, false_or]; simp

/-- a `void*` may be copied into a `const void*` slot, not the other way round -/
theorem compatibleForCopying_cptr_ptr (x y : Nat) :
    compatibleForCopyingGen (.cptr x) (.ptr y) = true ∧ compatibleForCopyingGen (.ptr x) (.cptr y) = false := by
  simp [compatibleForCopyingGen]

/-! ## toString: the text shown in failure messages -/

/-- integers: decimal of the denoted integer, a blank, the hexadecimal two's-complement pattern at the type's own
    width in brackets (`-1` as `int` is `-1 (0xffffffff)`, as `long` `-1 (0xffffffffffffffff)`) -/
theorem toString_integer (env : Env) (v : MVal) (hv : v.isInt = true) :
    ∃ d, denote? v = some d ∧ toStringGen env v = integerText d v.width := by
  -- the six integer constructors; `d` is the denotation itself.  Both sides unfold to decimal ++ " (0x" ++ hex ++ ")"
  cases v <;> simp [MVal.isInt] at hv <;> rename_i x <;> refine ⟨_, rfl, ?_⟩ <;>
    simp [toStringGen, MVal.width, integerText,
      StringFrom_int, StringFrom_uint, StringFrom_long, StringFrom_ulong, StringFrom_llong, StringFrom_ullong,
      BracketsFormattedHexStringFrom_int, BracketsFormattedHexStringFrom_uint, BracketsFormattedHexStringFrom_long,
      BracketsFormattedHexStringFrom_ulong, BracketsFormattedHexStringFrom_llong, BracketsFormattedHexStringFrom_ullong,
      bracketsHex, decInt_ofNat] <;>
    -- left: the hex digits are those of the bit pattern, i.e. of the denotation modulo 2^width
    congr 1 <;>
    first
      | exact BitVecLemmas.toNat_eq_toInt_emod32 x
      | exact BitVecLemmas.toNat_eq_toInt_emod64 x
      | (have := x.isLt; omega)

theorem toString_bool (env : Env) (b : Bool) :
    toStringGen env (.bool b) = ascii (if b then "true" else "false") := by
  cases b <;> simp [toStringGen, StringFrom_bool]

/-- strings are shown as they are (NULL as the empty string) -/
theorem toString_str (env : Env) (s : Option Bytes) : toStringGen env (.str s) = cstrContent s := by
  cases s <;> simp [toStringGen, simpleStringOfCStr, cstrContent]

/-- memory buffers of at most 128 bytes: `Size = n | HexContents = ` and the blank-separated upper-case hex bytes -/
theorem toString_mem_small (env : Env) (b : Bytes) (h : b.length ≤ 128) :
    toStringGen env (.mem b) =
      ascii "Size = " ++ decNat b.length ++ ascii " | HexContents = " ++
        List.intercalate [32] (b.map hex2U) := by
  have h1 : b.length % 18446744073709551616 = b.length := Nat.mod_eq_of_lt (by omega)
  have h2 : b.length % 4294967296 = b.length := Nat.mod_eq_of_lt (by omega)
  have h3 : ¬ (b.length > 128) := by omega
  simp [toStringGen, StringFromBinaryWithSizeOrNull,
    StringFromBinaryWithSize, h1, h2, h3, stringFromBinary_eq b b.length (Nat.le_refl _)]

/-- longer buffers: the first 128 bytes, then ` ...`; the size is shown modulo 2^32 (`(unsigned) size`) -/
theorem toString_mem_large (env : Env) (b : Bytes) (h : 128 < b.length) (hs : SizeOk b) :
    toStringGen env (.mem b) =
      ascii "Size = " ++ decNat (b.length % 4294967296) ++ ascii " | HexContents = " ++
        List.intercalate [32] ((b.take 128).map hex2U) ++ ascii " ..." := by
  have h1 : b.length % 18446744073709551616 = b.length := Nat.mod_eq_of_lt hs
  simp [toStringGen, StringFromBinaryWithSizeOrNull,
    StringFromBinaryWithSize, h1, h, stringFromBinary_eq b 128 (by omega)]

/-- doubles: the two special texts, otherwise libc's `%.6g` rendering (an input) -/
theorem toString_dbl (env : Env) (x : Float) (n : Bool) (t : D Float) :
    toStringGen env (.dbl .nan t) = ascii "Nan - Not a number" ∧
    toStringGen env (.dbl (.inf n) t) = ascii "Inf - Infinity" ∧
    toStringGen env (.dbl (.fin x) t) = env.g6 := by
  simp [toStringGen, StringFrom_double]

/-- pointers of the three kinds: `0x` and the lower-case hexadecimal machine address -/
theorem toString_pointer (env : Env) (a : Nat) :
    toStringGen env (.ptr a) = ascii "0x" ++ hexNat (env.addrOf a) ∧
    toStringGen env (.cptr a) = ascii "0x" ++ hexNat (env.addrOf a) ∧
    toStringGen env (.fptr a) = ascii "0x" ++ hexNat (env.addrOf a) := by
  simp [toStringGen,
    StringFrom_constVoidPtr, StringFrom_fnPtr]

/-- custom objects: the comparator's text, or the "No comparator found" message naming the type -/
theorem toString_obj (env : Env) (ty : String) (hty : ty ∉ builtinTypeNames) (a : Nat) (f : Nat → Nat → Bool) :
    toStringGen env (.obj ty a (some f)) = env.valueToString a ∧
    toStringGen env (.obj ty a none) =
      ascii "No comparator found for type: \"" ++ ascii ty ++ ascii "\"" := by
  simp [builtinTypeNames] at hty
  simp [toStringGen, hty]

/-- a fresh value has the given name and holds the `int` 0; `setName` replaces the name only (NULL = empty) -/
theorem name_roundtrip (n : Bytes) (m : Option Bytes) :
    (NamedValue.new n).getName = n ∧ (NamedValue.new n).val = .int 0 ∧
    ((NamedValue.new n).setName m).getName = cstrContent m ∧ ((NamedValue.new n).setName m).val = .int 0 := by
  cases m <;> simp [NamedValue.new, NamedValue.getName, NamedValue.setName, simpleStringOfCStr, cstrContent]

/-! ## MockNamedValueList: insertion order, the FIRST value of a name wins -/

theorem list_add_appends {α} (l : NList α) (x : Bytes × α) : l.add x = l ++ [x] := by
  induction l with
  | nil => rfl
  | cons h t ih => simp [NList.add, ih]

/-- adding never changes the answer for a name that is already present: the first added value wins, a later one
    with the same name is unreachable through `getValueByName` -/
theorem list_first_added_wins {α} (l : NList α) (name : Bytes) (a : α) (x : Bytes × α)
    (h : l.getValueByName name = some a) : (l.add x).getValueByName name = some a := by
  rw [getValueByName_eq_findSome?] at h ⊢
  rw [list_add_appends, List.findSome?_append, h]; rfl

/-- … and for a name not yet present the new value is found exactly when its name compares equal -/
theorem list_add_new {α} (l : NList α) (name : Bytes) (x : Bytes × α) (h : l.getValueByName name = none) :
    (l.add x).getValueByName name = if simpleStringEq x.1 name then some x.2 else none := by
  rw [getValueByName_eq_findSome?] at h ⊢
  rw [list_add_appends, List.findSome?_append, h]; simp

theorem list_get_first_match {α} (l1 l2 : NList α) (n name : Bytes) (a : α)
    (h1 : ∀ y ∈ l1, simpleStringEq y.1 name = false) (h2 : simpleStringEq n name = true) :
    (l1 ++ (n, a) :: l2).getValueByName name = some a := by
  rw [getValueByName_eq_findSome?, List.findSome?_append,
    List.findSome?_eq_none_iff.mpr fun y hy => by rw [h1 y hy]; rfl, List.findSome?_cons, h2]; rfl

theorem list_clear_empty {α} (l : NList α) (name : Bytes) : l.clear.getValueByName name = none := rfl

/-! ## the comparator / copier repository: the LATEST install of a name wins; importing reverses -/

theorem repo_install_comparator_shadows (r : Repo) (name : String) (c : Nat) :
    (r.installComparator name c).getComparatorForType name = some c := by
  simp [Repo.installComparator, Repo.getComparatorForType]

theorem repo_install_comparator_other (r : Repo) (name other : String) (c : Nat) (h : name ≠ other) :
    (r.installComparator name c).getComparatorForType other = r.getComparatorForType other ∧
    (r.installComparator name c).getCopierForType other = r.getCopierForType other := by
  simp [Repo.installComparator, Repo.getComparatorForType, Repo.getCopierForType, h]

theorem repo_install_kinds_independent (r : Repo) (name q : String) (c : Nat) :
    (r.installCopier name c).getComparatorForType q = r.getComparatorForType q ∧
    (r.installComparator name c).getCopierForType q = r.getCopierForType q := by
  simp [Repo.installCopier, Repo.installComparator, Repo.getComparatorForType, Repo.getCopierForType]

theorem repo_install_copier_shadows (r : Repo) (name : String) (c : Nat) :
    (r.installCopier name c).getCopierForType name = some c := by
  simp [Repo.installCopier, Repo.getCopierForType]

/-- `installComparatorsAndCopiers(other)` pushes the nodes of `other` head first, i.e. in REVERSED order -/
theorem repo_import_reverses (r other : Repo) : r.installAll other = other.reverse ++ r := by
  induction other generalizing r with
  | nil => simp [Repo.installAll]
  | cons n rest ih => simp [Repo.installAll, ih]

/-- after an import the imported entries shadow the own ones, and among the imported ones the lookup order is the
    reverse of `other`'s -/
theorem repo_import_lookup (r other : Repo) (name : String) :
    (r.installAll other).getComparatorForType name =
      (match Repo.getComparatorForType other.reverse name with
       | some c => some c
       | none => r.getComparatorForType name) ∧
    (r.installAll other).getCopierForType name =
      (match Repo.getCopierForType other.reverse name with
       | some c => some c
       | none => r.getCopierForType name) := by
  simp only [repo_import_reverses, getComparatorForType_eq_findSome?, getCopierForType_eq_findSome?, List.findSome?_append]
  constructor <;> split <;> rename_i h <;> rw [h] <;> rfl

/-- consequence (behaviour of the code as it is): a name installed twice answers with the later comparator in the
    original repository but with the EARLIER one in a repository that imported it -/
theorem repo_import_flips_shadowing (name : String) (c1 c2 : Nat) :
    Repo.getComparatorForType (Repo.installComparator (Repo.installComparator [] name c1) name c2) name = some c2 ∧
    Repo.getComparatorForType
      (Repo.installAll [] (Repo.installComparator (Repo.installComparator [] name c1) name c2)) name = some c1 := by
  simp [Repo.installComparator, Repo.getComparatorForType, Repo.installAll]

theorem repo_clear_empty (r : Repo) (name : String) :
    r.clear.getComparatorForType name = none ∧ r.clear.getCopierForType name = none := ⟨rfl, rfl⟩

/-! ## values entering through the API: every typed entry point creates a value of its own type

`entryKind` follows the REGENERATED wiring: C struct member ↦ initialiser ↦ forwarder body (callee, declared parameter
type; `Gen.CMock`, C19's translator) and the C++ `withParameter` overloads / explicit methods (`Gen.MockEquals`). -/

/-- all 36 entry points (expected / actual × C++ overload, explicit C++ method, C interface × six integer kinds)
    store a value of exactly the kind they are named for -/
theorem api_entry_kind :
    ∀ cls ∈ ["expected", "actual"], ∀ api ∈ ["ovl", "exp", "c"], ∀ k ∈ intKinds, entryKind cls api k = some k := by
  decide +kernel

theorem mkInt_isInt (k : String) (hk : k ∈ intKinds) (v : Int) : ∃ m, mkInt k v = some m ∧ m.isInt = true := by
  simp [intKinds] at hk
  rcases hk with h | h | h | h | h | h <;> subst h <;> simp [mkInt, MVal.isInt]

def InRange (k : String) (v : Int) : Prop :=
  (k = "int" ∧ -2147483648 ≤ v ∧ v ≤ 2147483647) ∨ (k = "uint" ∧ 0 ≤ v ∧ v ≤ 4294967295) ∨
  (k = "long" ∧ -9223372036854775808 ≤ v ∧ v ≤ 9223372036854775807) ∨ (k = "ulong" ∧ 0 ≤ v ∧ v ≤ 18446744073709551615) ∨
  (k = "llong" ∧ -9223372036854775808 ≤ v ∧ v ≤ 9223372036854775807) ∨ (k = "ullong" ∧ 0 ≤ v ∧ v ≤ 18446744073709551615)

theorem inRange_mem {k : String} {v : Int} (h : InRange k v) : k ∈ intKinds := by
  rcases h with h | h | h | h | h | h <;> simp [intKinds, h.1]

theorem inRange_denote {k : String} {v : Int} (h : InRange k v) : (mkInt k v).bind denote? = some v := by
  rcases h with ⟨rfl, h1, h2⟩ | ⟨rfl, h1, h2⟩ | ⟨rfl, h1, h2⟩ | ⟨rfl, h1, h2⟩ | ⟨rfl, h1, h2⟩ | ⟨rfl, h1, h2⟩ <;>
    simp [mkInt, denote?, BitVec.toInt_ofInt, BitVec.toNat_ofInt, Int.bmod_def] <;> omega

theorem mkInt_denote (k : String) (v : Int) :
    (k = "int" → -2147483648 ≤ v → v ≤ 2147483647 → (mkInt k v).bind denote? = some v) ∧
    (k = "uint" → 0 ≤ v → v ≤ 4294967295 → (mkInt k v).bind denote? = some v) ∧
    (k = "long" → -9223372036854775808 ≤ v → v ≤ 9223372036854775807 → (mkInt k v).bind denote? = some v) ∧
    (k = "ulong" → 0 ≤ v → v ≤ 18446744073709551615 → (mkInt k v).bind denote? = some v) ∧
    (k = "llong" → -9223372036854775808 ≤ v → v ≤ 9223372036854775807 → (mkInt k v).bind denote? = some v) ∧
    (k = "ullong" → 0 ≤ v → v ≤ 18446744073709551615 → (mkInt k v).bind denote? = some v) := by
  refine ⟨?_, ?_, ?_, ?_, ?_, ?_⟩ <;> intro hk h1 h2 <;> exact inRange_denote (by simp [InRange, hk, h1, h2])

/-- Whichever way the expected and the actual integer enter (any of the three entry points on either side, any two
    integer kinds): the expectation's `equals` accepts the actual value exactly when they are the same integer. -/
theorem api_equals_iff (ea aa ke ka : String) (hea : ea ∈ ["ovl", "exp", "c"]) (haa : aa ∈ ["ovl", "exp", "c"])
    (x y : Int) (hx : InRange ke x) (hy : InRange ka y) :
    ∃ e a, entryValue "expected" ea ke x = some e ∧ entryValue "actual" aa ka y = some a ∧
      (equalsGen e a = true ↔ x = y) := by
  have hke := inRange_mem hx
  have hka := inRange_mem hy
  have k1 := api_entry_kind "expected" (by simp) ea hea ke hke
  have k2 := api_entry_kind "actual" (by simp) aa haa ka hka
  obtain ⟨e, he, hie⟩ := mkInt_isInt ke hke x
  obtain ⟨a, ha, hia⟩ := mkInt_isInt ka hka y
  refine ⟨e, a, by simp [entryValue, k1, he], by simp [entryValue, k2, ha], ?_⟩
  have dx : denote? e = some x := by simpa [he] using inRange_denote hx
  have dy : denote? a = some y := by simpa [ha] using inRange_denote hy
  rw [equals_int_iff e a hie hia, dx, dy]
  exact Option.some_inj

/-! ## return values read back: every integer reader at every level ends in its own getter

`retReaders` is regenerated from MockActualCall.cpp / MockSupport.cpp (plain readers: `return returnValue().getX();`,
`…OrDefault`: the default exactly when `hasReturnValue()` is false, otherwise the plain reader). -/

/-- every reader is wired to the getter of its own return type, every `…OrDefault` to its own plain reader -/
theorem ret_readers_as_required : retReaders = requiredRetReaders := by decide +kernel

theorem mapInt_exact {w : Nat} {s : Bool} {r : Except Fail (BitVec w)} {v : MVal} {n : Int}
    (e : ∀ x, r = .ok x → denote? v = some (resultInt s x)) (h : mapInt s r = .ok n) : denote? v = some n := by
  cases r with
  | error _ => cases h
  | ok x => cases h; exact e x rfl

theorem getterRun_exact (g : String) (v : MVal) (hw : v.WF) (n : Int) (h : getterRun g v = .ok n) :
    denote? v = some n := by
  obtain ⟨e1, e2, e3, e4, e5, e6⟩ := getter_exact_or_fail v hw
  unfold getterRun at h
  rcases ite_eq_cases h with h | h
  · exact mapInt_exact e1 h
  rcases ite_eq_cases h with h | h
  · exact mapInt_exact e2 h
  rcases ite_eq_cases h with h | h
  · exact mapInt_exact e3 h
  rcases ite_eq_cases h with h | h
  · exact mapInt_exact e4 h
  rcases ite_eq_cases h with h | h
  · exact mapInt_exact e5 h
  rcases ite_eq_cases h with h | h
  · exact mapInt_exact e6 h
  · cases h

/-- Whatever integer return value the expectation stored, a reader of any level and form returns exactly that integer
    or fails the test — never a different number. -/
theorem reader_exact_or_fail (level reader : String) (v : MVal) (hw : v.WF) (d n : Int)
    (h : readerResult level reader (some v) d = some (.ok n)) : denote? v = some n := by
  unfold readerResult at h
  cases hp : readerPlan level reader with
  | none => simp [hp] at h
  | some plan =>
    obtain ⟨od, g⟩ := plan
    cases od <;> simp [hp] at h <;> exact getterRun_exact g v hw n h

theorem reader_default (level reader g : String) (d : Int) (hp : readerPlan level reader = some (true, g)) :
    readerResult level reader none d = some (.ok d) := by
  simp [readerResult, hp]

/-- the twelve `…OrDefault` readers are the default-returning form, the twelve others are not -/
theorem reader_forms :
    ∀ row ∈ retReaders, (readerPlan row.1 row.2.1).map (·.1) = some (row.2.2.2.1 == "orDefault") := by decide +kernel

/-- … so every one of the 24 readers is of the modelled shape (no conversion between getter and reader) -/
theorem ret_readers_total : ∀ row ∈ retReaders, (readerPlan row.1 row.2.1).isSome = true := by
  intro row hr
  have h := reader_forms row hr
  cases hp : readerPlan row.1 row.2.1 with
  | none => rw [hp] at h; cases h
  | some p => rfl

/-! ## the whole of `equals` at once, and symmetry for ALL ordered type pairs

`specEq` (Spec/MockValue.lean) is the property written as one function of the two values.  `equals_eq_spec` says that the
REGENERATED `equalsGen` is that function on every pair of valid values — all 14 x 14 ordered pairs of value types, all
payloads.  Symmetry then holds for every pair with exactly two exceptions, both stated with a witness: two doubles
(the LEFT operand's tolerance decides) and two objects (the LEFT operand's comparator decides). -/

theorem valid_wf {a : MVal} (h : a.Valid) : a.WF := by
  cases a <;> first | exact h | trivial

theorem obj_same_type_spec (ty : String) (hty : ty ∉ builtinTypeNames) (x y : Nat) (c c' : Option (Nat → Nat → Bool)) :
    equalsGen (.obj ty x c) (.obj ty y c') = specEq (.obj ty x c) (.obj ty y c') := by
  cases c with
  | none => rw [obj_no_comparator_false ty hty]; simp [specEq]
  | some f => rw [obj_eq_comparator ty hty]; simp [specEq]

theorem equals_eq_spec (a b : MVal) (ha : a.Valid) (hb : b.Valid) : equalsGen a b = specEq a b := by
  have hwa := valid_wf ha
  have hwb := valid_wf hb
  cases hia : a.isInt <;> cases hib : b.isInt
  · -- two non-integers: off the diagonal both sides are `false`, on it the single-type theorem applies
    cases a <;> first
      | exact Bool.noConfusion hia
      | (cases b <;> first
          | exact Bool.noConfusion hib
          -- different constructors (type names differ: two literals, or a custom type against a built-in one)
          | (refine (equals_other_type_false _ _ hwa hwb ?_ (by simp [MVal.isInt])).trans rfl
             first | exact obj_type_ne hwa rfl rfl | exact (obj_type_ne hwb rfl rfl).symm | simp)
          | (rw [Bool.eq_iff_iff]
             first | rw [equals_bool_iff] | rw [str_eq_iff_content _ _ ha hb] | rw [equals_ptr_iff]
                   | rw [equals_cptr_iff] | rw [equals_fptr_iff]
             exact beq_iff_eq.symm)
          | (rw [dbl_eq_uses_left_tolerance]; rfl)
          | (rw [Bool.eq_iff_iff, mem_eq_iff_len_and_content _ _ ha hb]; simp [specEq])
          | (rename_i t1 _ _ t2 _ _
             by_cases ht : t1 = t2
             · subst ht; exact obj_same_type_spec _ ha _ _ _ _
             · rw [equals_other_type_false _ _ hwa hwb ht (by simp [MVal.isInt])]; simp [specEq, ht]))
  · -- non-integer, integer: `false` on both sides
    rw [(equals_int_nonint_false b a hwa hib hia).2, (specEq_int_nonint b a hib hia).2]
  · -- integer, non-integer
    rw [(equals_int_nonint_false a b hwb hia hib).1, (specEq_int_nonint a b hia hib).1]
  · -- two integers: both sides say "the same denotation"
    rw [Bool.eq_iff_iff, equals_int_iff a b hia hib, specEq_int_iff a b hia hib]

theorem specEq_symm (a b : MVal) (hd : ¬ (a.isDbl = true ∧ b.isDbl = true)) (ho : ¬ (a.isObj = true ∧ b.isObj = true)) :
    specEq a b = specEq b a := by
  -- by the rows of `specEq`, in the order they are written there
  rw [specEq.eq_def a b]
  split
  next => exact Bool.beq_comm
  next => exact absurd ⟨rfl, rfl⟩ hd
  next => exact BEq.comm
  next => exact BEq.comm
  next => exact BEq.comm
  next => exact BEq.comm
  next => exact congr (congrArg and BEq.comm) BEq.comm
  next => exact absurd ⟨rfl, rfl⟩ ho
  next n1 n2 n3 n4 n5 n6 n7 n8 =>
    -- the last row, with `n1 … n8` saying that `a, b` is in none of the rows above; then `b, a` is in none of them
    -- either, and the last row compares the denoted integers
    symm
    rw [specEq.eq_def b a]
    split
    iterate 8 (next => first
      | exact (n1 _ _ rfl rfl).elim | exact (n2 _ _ _ _ rfl rfl).elim | exact (n3 _ _ rfl rfl).elim
      | exact (n4 _ _ rfl rfl).elim | exact (n5 _ _ rfl rfl).elim | exact (n6 _ _ rfl rfl).elim
      | exact (n7 _ _ rfl rfl).elim | exact (n8 _ _ _ _ _ _ rfl rfl).elim)
    next => cases denote? a <;> cases denote? b <;> first | rfl | exact BEq.comm

/-- SYMMETRY FOR ALL TYPE PAIRS: `a.equals(b) = b.equals(a)` for every pair of valid values unless both are doubles or both
    are objects (all 36 integer pairs, bool, strings, buffers, the three pointer types, and every mixed pair) -/
theorem equals_symm_all (a b : MVal) (ha : a.Valid) (hb : b.Valid)
    (hd : ¬ (a.isDbl = true ∧ b.isDbl = true)) (ho : ¬ (a.isObj = true ∧ b.isObj = true)) :
    equalsGen a b = equalsGen b a := by
  rw [equals_eq_spec a b ha hb, equals_eq_spec b a hb ha, specEq_symm a b hd ho]

theorem doublesEqual_symm {F} (c : F → F → F → Bool) (hc : ∀ x y t, c x y t = c y x t) (v w t : D F) :
    doublesEqual c v w t = doublesEqual c w v t := by
  cases v <;> cases w <;> cases t <;> simp [doublesEqual, Bool.beq_comm] <;> exact hc _ _ _

/-- doubles ARE symmetric when both carry the same tolerance (hypothesis: `fabs(x-y) <= t` is symmetric in x, y — IEEE) -/
theorem dbl_symm_same_tolerance (hc : ∀ x y t, floatClose x y t = floatClose y x t) (v w t : D Float) :
    equalsGen (.dbl v t) (.dbl w t) = equalsGen (.dbl w t) (.dbl v t) := by
  rw [dbl_eq_uses_left_tolerance, dbl_eq_uses_left_tolerance]; exact doublesEqual_symm _ hc _ _ _

/-- … and are NOT in general: +inf with tolerance +inf accepts 0, 0 with tolerance 0 does not accept +inf -/
theorem dbl_not_symm_witness :
    equalsGen (.dbl (.inf false) (.inf false)) (.dbl (.fin 0) (.fin 0)) = true ∧
    equalsGen (.dbl (.fin 0) (.fin 0)) (.dbl (.inf false) (.inf false)) = false := by
  rw [dbl_eq_uses_left_tolerance, dbl_eq_uses_left_tolerance]; exact ⟨rfl, rfl⟩

/-- objects are symmetric when both sides carry the same symmetric comparator -/
theorem obj_symm_same_comparator (ty : String) (hty : ty ∉ builtinTypeNames) (f : Nat → Nat → Bool)
    (hf : ∀ x y, f x y = f y x) (x y : Nat) :
    equalsGen (.obj ty x (some f)) (.obj ty y (some f)) = equalsGen (.obj ty y (some f)) (.obj ty x (some f)) := by
  rw [obj_eq_comparator ty hty, obj_eq_comparator ty hty, hf]

/-- … and are NOT when only one side has a comparator -/
theorem obj_not_symm_witness :
    equalsGen (.obj "T" 1 (some fun _ _ => true)) (.obj "T" 1 none) = true ∧
    equalsGen (.obj "T" 1 none) (.obj "T" 1 (some fun _ _ => true)) = false := by
  have h : "T" ∉ builtinTypeNames := by decide
  rw [obj_eq_comparator "T" h, obj_no_comparator_false "T" h]; exact ⟨rfl, rfl⟩

theorem equals_refl_all (a : MVal) (ha : a.Valid) (hd : a.isDbl = false) (ho : a.isObj = false) : equalsGen a a = true := by
  rw [equals_eq_spec a a ha ha]
  cases a <;> simp [MVal.isDbl, MVal.isObj] at hd ho <;> simp [specEq, denote?]

example : (MVal.str (some [97])).Valid ∧ (MVal.mem [1,2]).Valid ∧ (MVal.obj "T" 1 none).Valid := by
  refine ⟨?_, ?_, ?_⟩
  · intro c hc; simp [cstrContent] at hc; subst hc; decide
  · unfold MVal.Valid SizeOk; decide
  · unfold MVal.Valid; decide

/-! ## every parameter kind through every typed entry point (the whole scenario: expectation, actual call, `hasInputParameter`)

`Gen.MockEquals.cppOverloadsX / cppExplicitX / hasInputParameterGen` are REGENERATED from MockExpectedCall.h/.cpp and
MockActualCall.h/.cpp, the C side is followed through C19's regenerated `Gen.CMock` (struct member ↦ initialiser ↦ forwarder:
callee, argument order, `(value != 0)` for bool, the function-pointer cast). -/

/-- the only call site of `equals` (REGENERATED `hasInputParameter`): the expectation's own parameter is the LEFT operand, the
    actual parameter the right one; without an expected parameter of that name the answer is `ignoreOtherParameters_` -/
theorem hasInputParameter_expectation_left (e a : MVal) (ig : Bool) :
    hasInputParameterGen (some e) a ig = equalsGen e a ∧ hasInputParameterGen none a ig = ig := ⟨rfl, rfl⟩

/-- every non-integer `withParameter` overload forwards to the explicit method of its own kind, arguments in order -/
theorem apix_overloads_as_required : cppOverloadsX = requiredOverloadsX := rfl

/-- every explicit method stores its argument(s) with the one setter call of its kind -/
theorem apix_explicit_as_required : cppExplicitX = requiredExplicitX := rfl

/-- C++ entry points (overload or explicit method, either side): the value created holds exactly the argument, of the
    argument's own type; a double gets the default tolerance -/
theorem apix_stored_cpp (cls api : String) (hcls : cls ∈ ["expected", "actual"]) (hapi : api ∈ ["ovl", "exp"]) :
    (∀ b, entryValueX cls api (.bool b) = some (.bool b)) ∧
    (∀ v, entryValueX cls api (.dbl v) = some (.dbl v defaultTol)) ∧
    (∀ s, entryValueX cls api (.str s) = some (.str s)) ∧
    (∀ x, entryValueX cls api (.ptr x) = some (.ptr x)) ∧
    (∀ x, entryValueX cls api (.cptr x) = some (.cptr x)) ∧
    (∀ x, entryValueX cls api (.fptr x) = some (.fptr x)) ∧
    (∀ b, entryValueX cls api (.mem b) = some (.mem b)) ∧
    (∀ n, entryValueX cls api (.cint n) = none) := by
  rcases mem_pair hcls with rfl | rfl <;> rcases mem_pair hapi with rfl | rfl <;>
    refine ⟨?_, ?_, ?_, ?_, ?_, ?_, ?_, ?_⟩ <;> intro _ <;> rfl

/-- C interface (either side): the same, a bool arrives as an `int` and is true exactly when that int is not 0 -/
theorem apix_stored_c (cls : String) (hcls : cls ∈ ["expected", "actual"]) :
    (∀ n, entryValueX cls "c" (.cint n) = some (.bool (n != 0))) ∧
    (∀ v, entryValueX cls "c" (.dbl v) = some (.dbl v defaultTol)) ∧
    (∀ s, entryValueX cls "c" (.str s) = some (.str s)) ∧
    (∀ x, entryValueX cls "c" (.ptr x) = some (.ptr x)) ∧
    (∀ x, entryValueX cls "c" (.cptr x) = some (.cptr x)) ∧
    (∀ x, entryValueX cls "c" (.fptr x) = some (.fptr x)) ∧
    (∀ b, entryValueX cls "c" (.mem b) = some (.mem b)) ∧
    (∀ b, entryValueX cls "c" (.bool b) = none) := by
  rcases mem_pair hcls with rfl | rfl <;>
    refine ⟨?_, ?_, ?_, ?_, ?_, ?_, ?_, ?_⟩ <;> intro _ <;> rfl

/-- a tolerance can be given on the expectation side only, through all three entry points, and is stored as given -/
theorem apix_tolerance_expected_only (api : String) (hapi : api ∈ ["ovl", "exp", "c"]) (v t : D Float) :
    entryValueX "expected" api (.dbl2 v t) = some (.dbl v t) ∧ entryValueX "actual" api (.dbl2 v t) = none := by
  rcases mem_triple hapi with rfl | rfl | rfl <;> exact ⟨rfl, rfl⟩

theorem apix_value_nonint (cls api : String) (hcls : cls ∈ ["expected", "actual"]) (hapi : api ∈ ["ovl", "exp", "c"])
    (x : XArg) (m : MVal) (h : entryValueX cls api x = some m) : m.isInt = false ∧ m.WF := by
  unfold entryValueX at h
  rcases ite_eq_cases h with h | h
  · obtain ⟨s, -, hs⟩ := Option.bind_eq_some_iff.mp h; exact storeX_nonint hs
  rcases ite_eq_cases h with h | h
  · obtain ⟨s, -, hs⟩ := Option.bind_eq_some_iff.mp h; exact storeX_nonint hs
  rcases ite_eq_cases h with h | h
  · obtain ⟨r, -, h⟩ := Option.bind_eq_some_iff.mp h
    obtain ⟨s, -, hs⟩ := Option.bind_eq_some_iff.mp h; exact storeX_nonint hs
  · cases h

/-- Whatever entry points the expectation and the actual call use and whatever they pass: the expectation accepts the
    actual parameter exactly as the property's `specEq` says, with the EXPECTATION as the left operand. -/
theorem apix_equals_spec (ea aa : String) (x y : XArg) (e a : MVal) (ig : Bool)
    (_he : entryValueX "expected" ea x = some e) (_ha : entryValueX "actual" aa y = some a) (ve : e.Valid) (va : a.Valid) :
    hasInputParameterGen (some e) a ig = specEq e a := equals_eq_spec e a ve va

theorem apix_stored_dbl (cls api : String) (hcls : cls ∈ ["expected", "actual"]) (hapi : api ∈ ["ovl", "exp", "c"])
    (v : D Float) : entryValueX cls api (.dbl v) = some (.dbl v defaultTol) := by
  rcases mem_triple hapi with rfl | rfl | rfl
  · exact (apix_stored_cpp cls "ovl" hcls (by simp)).2.1 v
  · exact (apix_stored_cpp cls "exp" hcls (by simp)).2.1 v
  · exact (apix_stored_c cls hcls).2.1 v

/-- doubles through the API: the tolerance given on the EXPECTATION decides, through any pair of entry points -/
theorem apix_double_expectation_tolerance (ea aa : String) (hea : ea ∈ ["ovl", "exp", "c"]) (haa : aa ∈ ["ovl", "exp", "c"])
    (v t w : D Float) (ig : Bool) :
    ∃ e a, entryValueX "expected" ea (.dbl2 v t) = some e ∧ entryValueX "actual" aa (.dbl w) = some a ∧
      hasInputParameterGen (some e) a ig = doublesEqual floatClose v w t :=
  ⟨.dbl v t, .dbl w defaultTol, (apix_tolerance_expected_only ea hea v t).1, apix_stored_dbl "actual" aa (by simp) haa w,
    dbl_eq_uses_left_tolerance v t w defaultTol⟩

/-- … and without one the default tolerance of the expectation's `setValue(double)` -/
theorem apix_double_default_tolerance (ea aa : String) (hea : ea ∈ ["ovl", "exp", "c"]) (haa : aa ∈ ["ovl", "exp", "c"])
    (v w : D Float) (ig : Bool) :
    ∃ e a, entryValueX "expected" ea (.dbl v) = some e ∧ entryValueX "actual" aa (.dbl w) = some a ∧
      hasInputParameterGen (some e) a ig = doublesEqual floatClose v w defaultTol :=
  ⟨.dbl v defaultTol, .dbl w defaultTol, apix_stored_dbl "expected" ea (by simp) hea v,
    apix_stored_dbl "actual" aa (by simp) haa w, dbl_eq_uses_left_tolerance v defaultTol w defaultTol⟩

/-- an integer parameter never matches a non-integer one, whichever side is the expectation and whichever entry points
    are used -/
theorem apix_int_vs_nonint_never_match (ci cx ai ax k : String)
    (hcx : cx ∈ ["expected", "actual"]) (hax : ax ∈ ["ovl", "exp", "c"]) (n : Int) (x : XArg) (i m : MVal)
    (hi : entryValue ci ai k n = some i) (hm : entryValueX cx ax x = some m) :
    equalsGen i m = false ∧ equalsGen m i = false := by
  have hmi := apix_value_nonint cx ax hcx hax x m hm
  obtain ⟨k', -, hk'⟩ := Option.bind_eq_some_iff.mp hi
  exact equals_int_nonint_false i m hmi.2 (isInt_of_mkInt hk') hmi.1

example : entryValueX "expected" "c" (.cint 256) = some (.bool true) ∧ entryValueX "actual" "c" (.cint 0) = some (.bool false) :=
  ⟨(apix_stored_c "expected" (by simp)).1 256, (apix_stored_c "actual" (by simp)).1 0⟩
example : entryValueX "actual" "ovl" (.mem [1, 2]) = some (.mem [1, 2]) :=
  (apix_stored_cpp "actual" "ovl" (by simp) (by simp)).2.2.2.2.2.2.1 _
example : entryValueX "expected" "exp" (.dbl2 (.fin 1) (.inf false)) = some (.dbl (.fin 1) (.inf false)) :=
  (apix_tolerance_expected_only "exp" (by simp) _ _).1
example : entryValueX "actual" "exp" (.dbl2 (.fin 1) (.inf false)) = none :=
  (apix_tolerance_expected_only "exp" (by simp) _ _).2

/-! ## one object written several times; the data store (`setData` … `getData`) as a whole-history refinement

`Cell` / `Store` are in Model/MockData.lean; which setter every `setData` overload and every C `set…Data` function reaches is
read from the REGENERATED `Gen.MockEquals.dataSetters` and C19's `Gen.CMock`. -/

/-- what `equals` and the getters see after a plain setter is what that setter stored: nothing of the object's past matters -/
theorem cell_plain_last_wins (sem : Nat → Nat → Nat → Bool) (c : Cell) (hist : List (Option Repo × SetOp)) (repo : Option Repo)
    (v : MVal) : (Cell.run sem c (hist ++ [(repo, .plain v)])).val = v := by
  rw [Cell.run_eq_foldl, List.foldl_append]; rfl

/-- … and after `setMemoryBuffer` the buffer and its size -/
theorem cell_mem_last_wins (sem : Nat → Nat → Nat → Bool) (c : Cell) (hist : List (Option Repo × SetOp)) (repo : Option Repo)
    (b : Bytes) : (Cell.run sem c (hist ++ [(repo, .mem b)])).val = .mem b ∧
      (Cell.run sem c (hist ++ [(repo, .mem b)])).size = b.length := by
  rw [Cell.run_eq_foldl, List.foldl_append]; exact ⟨rfl, rfl⟩

/-- an object setter with a default repository: exactly the value a fresh object would get (`setObjectPointer`) -/
theorem cell_object_with_repo (sem : Nat → Nat → Nat → Bool) (c : Cell) (hist : List (Option Repo × SetOp)) (r : Repo)
    (ty : String) (p : Nat) :
    (Cell.run sem c (hist ++ [(some r, .obj ty p)])).val = setObjectPointer (some r) sem ty p := by
  rw [Cell.run_eq_foldl, List.foldl_append]; rfl

/-- behaviour of the code as it is: WITHOUT a default repository an object setter keeps the comparator of an earlier
    object setter — the value can compare equal through a comparator installed for ANOTHER type -/
theorem cell_object_without_repo_keeps_comparator (sem : Nat → Nat → Nat → Bool) (c : Cell) (ty : String) (p : Nat) :
    (c.setObject none sem ty p).val = .obj ty p (c.cmp.map sem) ∧ (c.setObject none sem ty p).cmp = c.cmp := ⟨rfl, rfl⟩

/-- `size_` survives every setter except `setMemoryBuffer` -/
theorem cell_size_sticky (repo : Option Repo) (sem : Nat → Nat → Nat → Bool) (c : Cell) (op : SetOp)
    (h : ∀ b, op ≠ .mem b) : (c.apply repo sem op).size = c.size := by
  cases op with
  | plain v => rfl
  | mem b => exact absurd rfl (h b)
  | obj ty p => cases repo <;> rfl

theorem sseq_iff (a b : Bytes) (ha : NulFree a) (hb : NulFree b) : simpleStringEq a b = true ↔ a = b := by
  rw [simpleStringEq_eq_decide a b ha hb, decide_eq_true_eq]

theorem store_update_namesOk (s : Store) (name : Bytes) (f : Cell → Cell) (hs : s.NamesOk) (hn : NulFree name) :
    (s.update name f).NamesOk := by
  induction s with
  | nil => intro x hx; simp [Store.update] at hx; subst hx; exact hn
  | cons h t ih =>
    obtain ⟨n, c⟩ := h
    have ht : Store.NamesOk t := fun x hx => hs x (by simp [hx])
    have hh : NulFree n := hs (n, c) (by simp)
    unfold Store.update
    split <;> intro x hx <;> rcases List.mem_cons.mp hx with hx | hx
    · subst hx; exact hh
    · exact ht x hx
    · subst hx; exact hh
    · exact ih ht x hx

theorem store_get_update (s : Store) (name q : Bytes) (f : Cell → Cell) (hs : s.NamesOk) (hn : NulFree name) (hq : NulFree q) :
    (s.update name f).getData q = if name = q then f (s.getData q) else s.getData q := by
  -- names are C strings, so comparing them is equality: the store is an association list, and the head node is the
  -- written name or not (`e1`), the asked name or not (`e2`)
  have e := simpleStringEq_eq_decide
  induction s with
  | nil =>
    simp only [Store.update, Store.getData, NList.getValueByName, e name q hn hq, decide_eq_true_eq]
    by_cases e0 : name = q <;> simp [e0]
  | cons h t ih =>
    obtain ⟨n, c⟩ := h
    have hh : NulFree n := hs (n, c) (by simp)
    have ih := ih fun x hx => hs x (by simp [hx])
    simp only [Store.getData] at ih
    simp only [Store.update, e n name hh hn, decide_eq_true_eq]
    by_cases e1 : n = name
    · subst e1
      simp only [if_true, Store.getData, NList.getValueByName, e n q hh hq, decide_eq_true_eq]
      by_cases e2 : n = q <;> simp [e2]
    · simp only [e1, if_false, Store.getData, NList.getValueByName, e n q hh hq, decide_eq_true_eq]
      by_cases e2 : n = q
      · have : name ≠ q := fun h => e1 (e2.trans h.symm)
        simp [e2, this]
      · simp [e2, ih]

/-- WHOLE HISTORY: after any sequence of writes the store answers for every name exactly what "the writes to that name, in
    order, applied to a fresh value" gives — the linked list with in-place writes refines the map `lastWrites` -/
theorem store_run_refines (ops : List (Bytes × (Cell → Cell))) (s : Store) (q : Bytes) (hs : s.NamesOk)
    (hops : ∀ op ∈ ops, NulFree op.1) (hq : NulFree q) :
    (Store.run s ops).getData q = lastWrites q (s.getData q) ops := by
  rw [Store.run_eq_foldl, lastWrites_eq_foldl]
  exact (List.foldl_rel (r := fun s c => Store.NamesOk s ∧ s.getData q = c) ⟨hs, rfl⟩
    (fun op hop s c ⟨hn, hc⟩ => ⟨store_update_namesOk s _ _ hn (hops op hop),
      by rw [store_get_update s _ q _ hn (hops op hop) hq, hc]⟩)).2

theorem lastWrites_untouched (q : Bytes) (c : Cell) (ops : List (Bytes × (Cell → Cell))) (h : ∀ op ∈ ops, op.1 ≠ q) :
    lastWrites q c ops = c := by
  rw [lastWrites_eq_foldl]
  exact List.foldlRecOn (motive := (· = c)) ops _ rfl fun b hb op hop => by rw [if_neg (h op hop), hb]

theorem lastWrites_append (q : Bytes) (c : Cell) (a b : List (Bytes × (Cell → Cell))) :
    lastWrites q c (a ++ b) = lastWrites q (lastWrites q c a) b := by
  simp only [lastWrites_eq_foldl, List.foldl_append]

/-- END TO END: if the last write to `q` in a history stored the integer `v` (any integer kind the data API has, `v` in its
    range), then reading `q` back and asking ANY integer getter gives exactly `v` or fails the test — whatever was stored
    under that or other names before, and whatever was stored under other names afterwards. -/
theorem data_integer_read_back (pre post : List (Bytes × (Cell → Cell))) (q : Bytes) (k : String) (v : Int) (m : MVal)
    (hk : InRange k v) (hm : mkInt k v = some m)
    (hnames : ∀ op ∈ pre ++ (q, Cell.setPlain m) :: post, NulFree op.1) (hq : NulFree q)
    (hpost : ∀ op ∈ post, op.1 ≠ q) (g : String) (n : Int)
    (h : getterRun g ((Store.run [] (pre ++ (q, Cell.setPlain m) :: post)).getData q).val = .ok n) : n = v := by
  rw [store_run_refines _ [] q (fun x hx => by simp at hx) hnames hq, lastWrites_append] at h
  simp only [lastWrites, if_true] at h
  rw [lastWrites_untouched q _ post hpost] at h
  simp only [Cell.setPlain] at h
  have d : denote? m = some v := by simpa [hm] using inRange_denote hk
  exact Option.some.inj ((getterRun_exact g m (wf_of_isInt m (isInt_of_mkInt hm)) n h).symm.trans d)

/-- every `setData` overload / `setDataObject` / `setDataConstObject` makes exactly the setter call of its own kind on the value
    `retrieveDataFromStore(name)` returned -/
theorem data_setters_as_required : dataSetters = requiredDataSetters := rfl

/-- the forwarder the data member of the C support table for an argument list of kind `k` is initialised with -/
def cDataFwdOf (k : String) : Option MockC.Fwd :=
  (cDataField k).bind fun field =>
    (zipLookup Gen.CMock.supportFields Gen.CMock.supportInit field).bind fun fn =>
      Gen.CMock.forwarders.find? fun f => f.name == fn

theorem cDataForwarder_eq (d : DArg) : cDataForwarder d = cDataFwdOf d.kind := rfl

/-- the shape of the eight `set…Data_c` forwarders: `mock().setData(name, <value, converted as `arg` says>)` -/
def setDataFwd (fn ty : String) (arg : MockC.ArgExpr) : MockC.Fwd :=
  { name := fn, params := [("name", "string"), ("value", ty)],
    body := .void_ .sup "setData" [.param "name" "string", arg] }

/-- the ten lookups through the two tables, evaluated once (the members and their forwarders stand late in both
    tables, every entry theorem below would otherwise walk them again) -/
theorem cDataFwdOf_table :
    cDataFwdOf "cint" = some (setDataFwd "setBoolData_c" "int" (.neZero "value")) ∧
    cDataFwdOf "int" = some (setDataFwd "setIntData_c" "int" (.param "value" "int")) ∧
    cDataFwdOf "uint" = some (setDataFwd "setUnsignedIntData_c" "uint" (.param "value" "uint")) ∧
    cDataFwdOf "double" = some (setDataFwd "setDoubleData_c" "double" (.param "value" "double")) ∧
    cDataFwdOf "string" = some (setDataFwd "setStringData_c" "string" (.param "value" "string")) ∧
    cDataFwdOf "ptr" = some (setDataFwd "setPointerData_c" "ptr" (.param "value" "ptr")) ∧
    cDataFwdOf "cptr" = some (setDataFwd "setConstPointerData_c" "cptr" (.param "value" "cptr")) ∧
    cDataFwdOf "fptr" = some (setDataFwd "setFunctionPointerData_c" "fptr" (.fnCast "value")) ∧
    cDataFwdOf "obj" = some ⟨"setDataObject_c", [("name", "string"), ("type", "string"), ("value", "ptr")],
      .void_ .sup "setDataObject" [.param "name" "string", .param "type" "string", .param "value" "ptr"]⟩ ∧
    cDataFwdOf "cobj" = some ⟨"setDataConstObject_c", [("name", "string"), ("type", "string"), ("value", "cptr")],
      .void_ .sup "setDataConstObject" [.param "name" "string", .param "type" "string", .param "value" "cptr"]⟩ := by
  decide +kernel

/-- every entry of the data API (C++ and C) for an integer stores it as a value of its own kind, in place -/
theorem data_entry_int (repo : Option Repo) (sem : Nat → Nat → Nat → Bool) (api k : String) (hapi : api ∈ ["cpp", "c"])
    (hk : k ∈ ["int", "uint"]) (v : Int) :
    dataEntry repo sem api (.int k v) = (mkInt k v).map Cell.setPlain := by
  rcases mem_pair hapi with rfl | rfl <;> rcases mem_pair hk with rfl | rfl <;>
    simp only [dataEntry, cDataForwarder_eq, DArg.kind, cDataFwdOf_table] <;> rfl

/-- … and for the other kinds: bool (C: any non-zero int), double with the default tolerance, string, pointers, objects -/
theorem data_entry_other (repo : Option Repo) (sem : Nat → Nat → Nat → Bool) :
    (∀ b, dataEntry repo sem "cpp" (.x (.bool b)) = some (Cell.setPlain (.bool b))) ∧
    (∀ n, dataEntry repo sem "c" (.x (.cint n)) = some (Cell.setPlain (.bool (n != 0)))) ∧
    (∀ api ∈ ["cpp", "c"],
      (∀ d, dataEntry repo sem api (.x (.dbl d)) = some (Cell.setPlain (.dbl d defaultTol))) ∧
      (∀ s, dataEntry repo sem api (.x (.str s)) = some (Cell.setPlain (.str s))) ∧
      (∀ a, dataEntry repo sem api (.x (.ptr a)) = some (Cell.setPlain (.ptr a))) ∧
      (∀ a, dataEntry repo sem api (.x (.cptr a)) = some (Cell.setPlain (.cptr a))) ∧
      (∀ a, dataEntry repo sem api (.x (.fptr a)) = some (Cell.setPlain (.fptr a))) ∧
      (∀ ty p, dataEntry repo sem api (.obj ty p) = some (Cell.setObject repo sem ty p)) ∧
      (∀ ty p, dataEntry repo sem api (.cobj ty p) = some (Cell.setObject repo sem ty p))) := by
  refine ⟨fun _ => rfl, fun _ => ?_, fun api hapi => ?_⟩
  · simp only [dataEntry, cDataForwarder_eq, DArg.kind, XArg.kind, cDataFwdOf_table]; rfl
  · rcases mem_pair hapi with rfl | rfl <;> refine ⟨?_, ?_, ?_, ?_, ?_, ?_, ?_⟩ <;> intros <;>
      simp only [dataEntry, cDataForwarder_eq, DArg.kind, XArg.kind, cDataFwdOf_table] <;> rfl

example : (Store.run [] [([97], Cell.setPlain (.int 5)), ([98], Cell.setPlain (.bool true)), ([97], Cell.setPlain (.uint 7))]).getData [97]
    = { val := .uint 7, size := 0, cmp := none, cop := none } := rfl
example : Store.NamesOk ([] : Store) := fun x hx => by simp at hx

/-! ## non-vacuity: concrete values on both sides of every boundary the theorems talk about -/

-- −1 as int, 2^32−1 as unsigned, 2^64−1 as unsigned long: same low bits, three different integers
example : equalsGen (.int (-1)) (.uint 4294967295#32) = false := by decide +kernel
example : equalsGen (.ulong 18446744073709551615#64) (.int (-1)) = false := by decide +kernel
example : equalsGen (.uint 4294967295#32) (.long 4294967295#64) = true := by decide +kernel
example : equalsGen (.llong (-1)) (.int (-1)) = true := by decide +kernel
example : denote? (.int (-1)) = some (-1) ∧ denote? (.uint 4294967295#32) = some 4294967295 := by decide +kernel
example : (MVal.int 5#32).isInt = true ∧ (MVal.ullong 5#64).isInt = true ∧ (MVal.bool true).isInt = false := by decide +kernel
-- hypotheses of `equals_other_type_false` are satisfiable, also with the same representation on both sides
example : (MVal.ptr 3).WF ∧ (MVal.cptr 3).WF ∧ (MVal.ptr 3).type_ ≠ (MVal.cptr 3).type_ ∧
    ¬ ((MVal.ptr 3).isInt = true ∧ (MVal.cptr 3).isInt = true) := by simp [MVal.WF, MVal.isInt]
example : (MVal.obj "MyType" 1 none).WF := by simp [MVal.WF, builtinTypeNames]
example : NulFree (cstrContent (some [97, 98])) ∧ NulFree (cstrContent none) := by
  constructor <;> intro c hc <;> simp [cstrContent] at hc <;> rcases hc with h | h <;> subst h <;> decide
example : equalsGen (.str none) (.str (some [])) = true := by decide +kernel
example : equalsGen (.str (some [97])) (.str (some [97, 98])) = false := by decide +kernel
example : SizeOk [1, 2, 3] := by unfold SizeOk; decide
example : equalsGen (.mem [1, 2]) (.mem [1, 2, 0]) = false ∧ equalsGen (.mem []) (.mem []) = true := by decide +kernel
-- doubles: class logic with any finite comparison
example : doublesEqual (fun (_ _ _ : Nat) => true) (.fin 1) (.nan) (.fin 1) = false := rfl
example : doublesEqual (fun (x y t : Nat) => x - y ≤ t) (.fin 5) (.fin 3) (.fin 2) = true := by decide +kernel
example : doublesEqual (fun (_ _ _ : Nat) => true) (.inf false) (.inf true) (.fin 1) = false := rfl
example : doublesEqual (fun (_ _ _ : Nat) => false) (.inf false) (.inf true) (.inf false) = true := rfl
-- getters: one success and one failure each way
example : getLongLongIntValueGen (.ulong 9223372036854775808#64) = .error (.typeMismatch "long long int") := rfl
example : getLongLongIntValueGen (.ulong 9223372036854775807#64) = .ok 9223372036854775807#64 := rfl
example : getUnsignedIntValueGen (.int (-1)) = .error (.typeMismatch "unsigned int") := rfl
example : getLongIntValueGen (.uint 4294967295#32) = .ok 4294967295#64 := rfl

example : toStringGen ⟨[], id, fun _ => []⟩ (.int (-1)) = ascii "-1 (0xffffffff)" := by decide +kernel
example : toStringGen ⟨[], id, fun _ => []⟩ (.long (-1)) = ascii "-1 (0xffffffffffffffff)" := by decide +kernel
example : toStringGen ⟨[], id, fun _ => []⟩ (.uint 255#32) = ascii "255 (0xff)" := by decide +kernel
example : toStringGen ⟨[], id, fun _ => []⟩ (.mem [0, 255, 16]) = ascii "Size = 3 | HexContents = 00 FF 10" := by decide +kernel
example : toStringGen ⟨[], id, fun _ => []⟩ (.mem []) = ascii "Size = 0 | HexContents = " := by decide +kernel
example : toStringGen ⟨[], id, fun _ => []⟩ (.ptr 255) = ascii "0xff" := by decide +kernel
example : integerText (-1) 32 = ascii "-1 (0xffffffff)" := by decide +kernel
example : compatibleForCopyingGen (.cptr 1) (.ptr 2) = true ∧ compatibleForCopyingGen (.int 1#32) (.uint 1#32) = false := by decide +kernel
example : NList.getValueByName (NList.add (NList.add [] ([97], 1)) ([97], 2)) [97] = some 1 := by decide +kernel
example : NList.getValueByName (NList.add (NList.add [] ([97], 1)) ([98], 2)) [98] = some 2 := by decide +kernel
example : Repo.getComparatorForType (Repo.installCopier (Repo.installComparator [] "T" 3) "T" 1) "T" = some 3 := by decide +kernel
example : (setObjectPointer none (fun _ _ _ => true) "T" 5).comparator_.isNone = true := rfl

example : entryValue "actual" "c" "ullong" 18446744073709551615 = some (.ullong 18446744073709551615#64) := by
  rw [entryValue, api_entry_kind "actual" (by simp) "c" (by simp) "ullong" (by simp [intKinds])]; rfl
example : InRange "ullong" 18446744073709551615 ∧ InRange "llong" (-1) := by simp [InRange]

example : readerResult "support" "returnUnsignedIntValueOrDefault" (some (.ulong 4294967296#64)) 7 =
    some (.error (.typeMismatch "unsigned int")) := rfl
example : readerResult "support" "returnUnsignedIntValueOrDefault" none 7 = some (.ok 7) := rfl
example : readerResult "call" "returnLongLongIntValue" (some (.int (-1))) 7 = some (.ok (-1)) := rfl

end Mock
