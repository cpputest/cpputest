import CppUModel.Props.C12
import CppUModel.Props.C13
/-!
# C12x — the command-line parser's string operations executed on the C13 string objects

Composition theorems.  They connect

* `Model/CommandLine.lean` (C12): the parser over textbook byte strings — `Entry.hits` (`==` / `startsWith`),
  `dispatch` (the `if / else if` chain), `getParameterField`, `addGroupDotName` (`split(".")`, `subString`),
  `addTestForm` (`subStringFromTill`, `subString(2)`, `at(0)`), with
* `Model/SimpleString.lean` (C13): `equals`, `startsWith`, `size`, `ctorCStr`, `split` into a collection, `collGet`,
  `subString`, `subStringFromTill`, `subString1`, `assign`, `at_`.

Each `…M` / `…Obj` function below is the C++ body on C pointers / objects.  For all NUL-free arguments (shorter than
`SIZE_MAX`) it returns `.ok` — no access outside a buffer — and its result objects hold exactly the strings the C12
model computes.  Two paths are carried end to end: `-t group.name` (and `-st`, `-xt`, `-xst`, attached or detached
value) and `"TEST(group, name)"` / `"IGNORE_TEST(group, name)"`.  (Allocator pairing of these sequences is C13's
subject and is not re-stated here; the destructors at the end of the C++ scopes are left out.)
-/
namespace Compose.C12x
open CStr SStr Text
open CommandLine (Entry Handler)

/-- a non-NULL `const char*`: an allocation and an offset into it -/
structure CPtr where
  buf : Buf
  off : Nat

/-! ## the dispatch chain -/

/-- one condition of the chain: `argument == "lit"` or `argument.startsWith("lit")` -/
def hitsObj (exact : Bool) (arg lit : Obj) : Except Err Bool :=
  if exact then equals arg lit else startsWith arg lit

/-- the `if / else if` chain of `CommandLineArguments::parse`: first branch whose condition holds -/
def dispatchObj (arg : Obj) : List (Obj × Bool × Handler) → Except Err (Option Handler)
  | [] => .ok none
  | (lit, exact, h) :: rest =>
    match hitsObj exact arg lit with
    | .error e => .error e
    | .ok true => .ok (some h)
    | .ok false => dispatchObj arg rest

/-- the literal objects represent the entries of the table -/
def RepTable : List (Obj × Bool × Handler) → List Entry → Prop
  | [], [] => True
  | (lit, exact, h) :: os, e :: es => Holds lit e.lit ∧ exact = e.exact ∧ h = e.h ∧ RepTable os es
  | _, _ => False

/-- Connects `CommandLine.Entry.hits` (C12) with `SStr.equals` / `SStr.startsWith` (C13). -/
theorem hits_on_objects (e : Entry) {arg lit : Obj} {a : Bytes} (ha : Holds arg a) (hl : Holds lit e.lit) :
    hitsObj e.exact arg lit = .ok (e.hits a) := by
  unfold hitsObj Entry.hits
  cases e.exact with
  | true => simp only [if_true]; rw [C13.eq_eq ha hl, Bool.beq_eq_decide_eq]
  | false => simp only [Bool.false_eq_true, if_false]; exact C13.startsWith_eq ha hl

/-- Connects the lookup `CommandLine.dispatch` makes (first entry that hits, here of any table `tbl`) with
    the chain evaluated on objects that represent `tbl`, for every NUL-free argument. -/
theorem dispatch_on_objects {arg : Obj} {a : Bytes} (ha : Holds arg a) :
    ∀ {objs : List (Obj × Bool × Handler)} {tbl : List Entry}, RepTable objs tbl →
      dispatchObj arg objs = .ok ((tbl.find? (·.hits a)).map (·.h))
  | [], [], _ => rfl
  | (lit, exact, h) :: os, e :: es, hr => by
    obtain ⟨hl, he, hh, hrest⟩ := hr
    simp only [dispatchObj, he, hits_on_objects e ha hl, List.find?_cons]
    cases e.hits a with
    | true => simp [hh]
    | false => exact dispatch_on_objects ha hrest
  | [], _ :: _, h => h.elim
  | _ :: _, [], h => h.elim

/-- the table's literals as exact-size objects -/
def tableObjs : List (Obj × Bool × Handler) := CommandLine.table.map (fun e => (mkObj 0 e.lit, e.exact, e.h))

theorem rep_map : ∀ (tbl : List Entry), (∀ e ∈ tbl, TextExt.NulFree e.lit) →
    RepTable (tbl.map (fun e => (mkObj 0 e.lit, e.exact, e.h))) tbl
  | [], _ => trivial
  | e :: es, h =>
    ⟨holds_mkObj (h e (List.mem_cons_self ..)), rfl, rfl, rep_map es (fun x hx => h x (List.mem_cons_of_mem _ hx))⟩

theorem tableObjs_rep : RepTable tableObjs CommandLine.table := rep_map _ (by decide)

theorem dispatch_table_on_objects {arg : Obj} {a : Bytes} (ha : Holds arg a) :
    dispatchObj arg tableObjs = .ok (CommandLine.dispatch a) :=
  dispatch_on_objects ha tableObjs_rep

/-! ## getParameterField -/

def RepNext : Option CPtr → Option Bytes → Prop
  | none, none => True
  | some p, some s => CAt p.buf p.off s
  | _, _ => False

/-- `getParameterField(ac, av, i, parameterName)`:
```
size_t parameterLength = parameterName.size();
SimpleString parameter(av[i]);
if (parameter.size() > parameterLength) return av[i] + parameterLength;
else if (i + 1 < ac) return av[++i];
return "";
```
returns the field and whether `i` was advanced -/
def getParameterFieldM (arg : CPtr) (next : Option CPtr) (pname : Obj) : M (Obj × Bool) := do
  let plen ← liftE (size pname)
  let p ← ctorCStr arg.buf arg.off
  let n ← liftE (size p)
  if n > plen then do
    let r ← ctorCStr arg.buf (arg.off + plen)
    dtor p
    pure (r, false)
  else
    match next with
    | some nx => do
      let r ← ctorCStr nx.buf nx.off
      dtor p
      pure (r, true)
    | none => do
      let r ← ctorCStr emptyLit 0
      dtor p
      pure (r, false)

/-- Connects `CommandLine.getParameterField` (C12: `drop`, next argument, or `""`) with the
    pointer arithmetic `av[i] + parameterLength` on the C13 buffers: the offset stays inside the argument. -/
theorem getParameterField_on_objects {arg : CPtr} {next : Option CPtr} {pname : Obj} {a lit : Bytes} {nx : Option Bytes}
    (ha : CAt arg.buf arg.off a) (hn : RepNext next nx) (hl : Holds pname lit) (w : World) :
    ∃ r w', getParameterFieldM arg next pname w =
        .ok ((r, (CommandLine.getParameterField lit.length a nx).consumed), w') ∧
      Holds r (CommandLine.getParameterField lit.length a nx).val := by
  unfold getParameterFieldM CommandLine.getParameterField
  simp only [bind_run, size_ok hl, liftE_ok, ctorCStr_ok ha w, size_ok (holds_mkObj (i := w.next) ha.nulFree)]
  by_cases hlen : a.length > lit.length
  · simp only [hlen, if_true]
    have hd := ha.drop lit.length (Nat.le_of_lt hlen)
    simp only [bind_run, ctorCStr_ok hd, dtor_run, pure_run]
    exact ⟨_, _, rfl, holds_mkObj hd.nulFree⟩
  · simp only [hlen, if_false]
    match next, nx, hn with
    | none, none, _ =>
      exact ⟨_, _, rfl, holds_mkObj (by intro c hc; cases hc)⟩
    | some p, some s, hp =>
      simp only [bind_run, ctorCStr_ok hp, dtor_run, pure_run]
      exact ⟨_, _, rfl, holds_mkObj hp.nulFree⟩

/-! ## `-t group.name` -/

def dotLit : Buf := [46, 0]

/-- `addGroupDotNameFilter` up to the two `new TestFilter(…)`:
```
SimpleString groupDotName = getParameterField(ac, av, i, parameterName);
SimpleStringCollection collection;
groupDotName.split(".", collection);
if (collection.size() != 2) return false;
… collection[0].subString(0, collection[0].size()-1) …  collection[1] …
```
`size()-1` is `size_t` arithmetic (`npos` for an empty token) -/
def addGroupDotNameM (arg : CPtr) (next : Option CPtr) (pname : Obj) : M (Option (Obj × Obj) × Bool) := do
  let fc ← getParameterFieldM arg next pname
  let col0 ← collCtor
  let d ← ctorCStr dotLit 0
  let col ← split fc.1 d col0
  dtor d
  if col.items.length ≠ 2 then pure (none, fc.2)
  else do
    let g0 ← collGet col 0
    let n0 ← liftE (size g0.2)
    let g ← subString g0.2 0 (if n0 = 0 then npos else n0 - 1)
    let n1 ← collGet g0.1 1
    let nm ← ctorCopy n1.2
    pure (some (g, nm), fc.2)

theorem split_eq_splitCode (a : Bytes) : TextExt.split a [46] = CommandLine.splitCode a [46] := by
  unfold CommandLine.splitCode
  cases a with
  | nil => decide
  | cons x t =>
    exact C13.split_spec_eq_text_split (by simp) (by simp)

theorem subString_npos_nil : Text.subString [] 0 npos = [] := by simp [Text.subString]

/-- The `-t` / `-st` / `-xt` / `-xst` path, end to end: connects `CommandLine.addGroupDotName`'s token
    computation (`splitCode field "."`, then `subString g 0 (|g|-1)` and the second token) with the C13 objects:
    `split` into a collection, `collection[0]`, `size()`, `subString`, `collection[1]`.  The handler returns `false`
    exactly when the C12 model's `dotNameFilters` is `none` (not exactly two tokens). -/
theorem dotName_on_objects {arg : CPtr} {next : Option CPtr} {pname : Obj} {a lit : Bytes} {nx : Option Bytes}
    (ha : CAt arg.buf arg.off a) (hn : RepNext next nx) (hl : Holds pname lit) (w : World) :
    ∃ r w', addGroupDotNameM arg next pname w =
        .ok ((r, (CommandLine.getParameterField lit.length a nx).consumed), w') ∧
      match CommandLine.splitCode (CommandLine.getParameterField lit.length a nx).val [46] with
      | [g, n] => ∃ go no, r = some (go, no) ∧ Holds go (Text.subString g 0 (g.length - 1)) ∧ Holds no n
      | _ => r = none := by
  obtain ⟨f, w1, hf, hfh⟩ := getParameterField_on_objects ha hn hl w
  have hdot : CAt dotLit 0 [46] := ⟨by decide, [], rfl⟩
  have hcol : collCtor w1 = .ok (⟨[], mkObj w1.next []⟩, w1.alloc 1) := by
    simp only [collCtor, bind_run, ctorEmpty_ok, pure_run]
  obtain ⟨items, w3, hs, hall, _⟩ := C13.split_eq hfh (holds_mkObj (i := (w1.alloc 1).next) hdot.nulFree) (mkObj w1.next [])
    ((w1.alloc 1).alloc 2)
  rw [split_eq_splitCode] at hall
  unfold addGroupDotNameM
  simp only [alloc_next] at hs
  simp only [bind_run, hf, hcol, ctorCStr_ok hdot, alloc_next, List.length_cons, List.length_nil, Nat.zero_add,
    Nat.reduceAdd, hs, dtor_run]
  generalize CommandLine.splitCode (CommandLine.getParameterField lit.length a nx).val [46] = toks at hall ⊢
  have hlen := holdAll_length hall
  -- the collection has as many items as there are tokens, so both sides branch on the same length
  rcases toks with _ | ⟨g, _ | ⟨n, _ | ⟨x, ts⟩⟩⟩
  · simp [hlen]
  · simp [hlen]
  · rcases items with _ | ⟨o0, _ | ⟨o1, _ | ⟨o2, os⟩⟩⟩ <;> try simp at hlen
    obtain ⟨h0, _, h1, _, _⟩ := hall
    simp only [List.length_cons, List.length_nil, ne_eq, not_true_eq_false, if_false, bind_run, collGet,
      List.getElem?_cons_zero, List.getElem?_cons_succ, pure_run, size_ok h0, liftE_ok]
    have hamount : Text.subString g 0 (if g.length = 0 then npos else g.length - 1) = Text.subString g 0 (g.length - 1) := by
      by_cases hg : g.length = 0
      · rw [List.length_eq_zero_iff.mp hg]; exact subString_npos_nil
      · simp [hg]
    obtain ⟨go, w5, hsub, hgo, _, _⟩ := C13.subString_eq h0 0 (if g.length = 0 then npos else g.length - 1)
      (w3.free (w1.next + 1) (([46] : Bytes).length + 1))
    rw [hamount] at hgo
    simp only [mkObj_id, mkObj_size] at hsub ⊢
    simp only [hsub, ctorCopy_ok h1]
    exact ⟨_, _, rfl, go, _, rfl, hgo, holds_mkObj h1.nulFree⟩
  · simp [hlen]

/-! ## `"TEST(group, name)"` -/

/-- `addTestToRunBasedOnVerboseOutput` up to the two `new TestFilter(…)`:
```
SimpleString wholename = getParameterField(ac, av, index, parameterName);
SimpleString testname = wholename.subStringFromTill(',', ')');
testname = testname.subString(2);
… wholename.subStringFromTill(wholename.at(0), ',') …
``` -/
def addTestFormM (arg : CPtr) (next : Option CPtr) (pname : Obj) : M ((Obj × Obj) × Bool) := do
  let fc ← getParameterFieldM arg next pname
  let t1 ← subStringFromTill fc.1 44 41
  let t2 ← subString1 t1 2
  let nm ← assign t1 t2
  dtor t2
  let c0 ← liftE (at_ fc.1 0)
  let g ← subStringFromTill fc.1 c0 44
  pure ((g, nm), fc.2)

/-- The `TEST(` / `IGNORE_TEST(` path, end to end: connects `CommandLine.testFormGroup` / `testFormName` (C12)
    with `subStringFromTill`, `subString(2)`, `operator=` and `at(0)` on the C13 objects, for every NUL-free
    argument (`subString` of an empty string included). -/
theorem testForm_on_objects {arg : CPtr} {next : Option CPtr} {pname : Obj} {a lit : Bytes} {nx : Option Bytes}
    (ha : CAt arg.buf arg.off a) (hn : RepNext next nx) (hl : Holds pname lit) (w : World)
    (hfit : (CommandLine.getParameterField lit.length a nx).val.length < npos) :
    ∃ go no w', addTestFormM arg next pname w =
        .ok (((go, no), (CommandLine.getParameterField lit.length a nx).consumed), w') ∧
      Holds go (CommandLine.testFormGroup (CommandLine.getParameterField lit.length a nx).val) ∧
      Holds no (CommandLine.testFormName (CommandLine.getParameterField lit.length a nx).val) := by
  obtain ⟨f, w1, hf, hfh⟩ := getParameterField_on_objects ha hn hl w
  generalize (CommandLine.getParameterField lit.length a nx).val = v at hfh hfit ⊢
  obtain ⟨t1, w2, h1, ht1, _, _⟩ := C13.subStringFromTill_eq hfh hfit 44 41 w1
  have hfit1 : (Text.subStringFromTill v 44 41).length < npos :=
    Nat.lt_of_le_of_lt (Text.subStringFromTill_infix v 44 41).length_le hfit
  obtain ⟨t2, w3, h2, ht2, _, _⟩ := C13.subStringFrom_eq ht1 hfit1 2 w2
  have h3 := C13.assign_eq t1 ht2 w3
  have hat := C13.at_eq hfh 0 (Nat.zero_le _)
  obtain ⟨go, w5, h5, hgo, _, _⟩ := C13.subStringFromTill_eq hfh hfit ((TextExt.cz v).getD 0 0) 44
    (((w3.free t1.id t1.size).alloc ((Text.subStringFrom (Text.subStringFromTill v 44 41) 2).length + 1)).free t2.id t2.size)
  refine ⟨go, mkObj w3.next (Text.subStringFrom (Text.subStringFromTill v 44 41) 2), w5, ?_, ?_, ?_⟩
  · unfold addTestFormM
    simp only [bind_run, hf, h1, h2, h3, dtor_run, hat, liftE_ok, h5, pure_run]
  · cases v with
    | nil =>
      exact hgo
    | cons c t =>
      exact hgo
  · exact holds_mkObj ht2.nulFree

/-! ## non-vacuity -/

def okVal {α} : Except Err α → Option α | .ok a => some a | .error _ => none

/-- `-tGrp.nm` (attached value) -/
def exArgT : CPtr := ⟨[45, 116, 71, 114, 112, 46, 110, 109, 0], 0⟩
/-- `TEST(Grp, nm)` inside `argv` memory with junk behind it -/
def exArgTest : CPtr := ⟨[84, 69, 83, 84, 40, 71, 114, 112, 44, 32, 110, 109, 41, 0, 9, 9], 0⟩

theorem exArgT_at : CAt exArgT.buf exArgT.off [45, 116, 71, 114, 112, 46, 110, 109] := ⟨by decide, [], rfl⟩
theorem exArgTest_at : CAt exArgTest.buf exArgTest.off [84, 69, 83, 84, 40, 71, 114, 112, 44, 32, 110, 109, 41] :=
  ⟨by decide, [9, 9], rfl⟩

example : okVal (dispatchObj (mkObj 7 [45, 116, 71, 114, 112, 46, 110, 109]) tableObjs) =
    some (some (.dotName [45, 116] false false)) := by decide +kernel
example : okVal (dispatchObj (mkObj 7 [45, 118, 118]) tableObjs) = some (some .veryVerbose) := by decide +kernel
example : okVal (dispatchObj (mkObj 7 [45, 122]) tableObjs) = some none := by decide +kernel

/-- the `-t` theorem applied to `-tGrp.nm`: the handler accepts, the filters are "Grp" and "nm" -/
example : ∃ go no w', addGroupDotNameM exArgT none (mkObj 0 [45, 116]) {} = .ok ((some (go, no), false), w') ∧
    Holds go [71, 114, 112] ∧ Holds no [110, 109] := by
  obtain ⟨r, w', h, hm⟩ := dotName_on_objects (next := none) (lit := [45, 116]) (nx := none) exArgT_at trivial
    (holds_mkObj (i := 0) (by decide)) {}
  obtain ⟨go, no, rfl, hg, hn⟩ := hm
  exact ⟨go, no, w', h, hg, hn⟩

/-- `-t` with a detached value without a dot: the handler rejects (and has consumed the next argument) -/
example : ∃ w', addGroupDotNameM ⟨[45, 116, 0], 0⟩ (some ⟨[71, 0], 0⟩) (mkObj 0 [45, 116]) {} = .ok ((none, true), w') := by
  obtain ⟨r, w', h, hm⟩ := dotName_on_objects (arg := ⟨[45, 116, 0], 0⟩) (next := some ⟨[71, 0], 0⟩) (a := [45, 116])
    (lit := [45, 116]) (nx := some [71]) ⟨by decide, [], rfl⟩ ⟨by decide, [], rfl⟩ (holds_mkObj (i := 0) (by decide)) {}
  have e1 : (CommandLine.getParameterField ([45, 116] : Bytes).length [45, 116] (some [71])).consumed = true := by decide
  rw [e1, hm] at h
  exact ⟨w', h⟩

/-- the `TEST(` theorem applied to `TEST(Grp, nm)` -/
example : ∃ go no w', addTestFormM exArgTest none (mkObj 0 CommandLine.litTEST) {} = .ok (((go, no), false), w') ∧
    Holds go [71, 114, 112] ∧ Holds no [110, 109] := by
  obtain ⟨go, no, w', h, hg, hn⟩ := testForm_on_objects (next := none) (lit := CommandLine.litTEST) (nx := none) exArgTest_at trivial
    (holds_mkObj (i := 0) (by decide)) {} (by decide)
  exact ⟨go, no, w', h, hg, hn⟩

end Compose.C12x
