import CppUModel.Proofs.AllocLayout
import CppUModel.Proofs.AllocLayoutInv
import CppUModel.Proofs.AllocLayoutCode
/-!
# C05 — tracked allocations return sound blocks for every size, or fail cleanly

Every theorem holds for both build configurations (`c.check`: guard bytes compiled in or not) and for every
`sizeof(MemoryLeakDetectorNode)` that is a multiple of 8 below 2^32 (`NodeOk c`).  Assumed of the environment, as explicit
hypotheses: an answer of the platform is NULL or a block of exactly the requested length (`Ans.Ok`), a separately allocated
node is a block different from the data block, `realloc` hands back the common prefix (`RAns.Ok`); for histories the contract
is `OpOk`, which excludes the two listed findings by name.  That two distinct blocks do not overlap is the platform's contract
and is not a theorem.
-/
namespace AllocLayout
open Gen.AllocLayout

/-! ## the regenerated constants are admissible -/

theorem defaultCfg_ok : NodeOk defaultCfg := ⟨by decide, by decide⟩
theorem noCheckCfg_ok : NodeOk noCheckCfg := ⟨by decide, by decide⟩

/-- every field of the regenerated struct layout lies inside `sizeofNode` -/
theorem node_fields_fit : ∀ f ∈ nodeFields, f.2.1 + f.2.2 ≤ sizeofNode := by decide

/-! ## the overflow guard -/

/-- The coded guard of `allocMemory` rejects exactly the sizes whose bookkeeping-extended size
    (user bytes + guard bytes + alignment padding + record) does not fit `size_t`. -/
theorem guard_iff_overflow (c : Cfg) (h : NodeOk c) (size : W) :
    rejectsAlloc c size = true ↔ extNat c size.toNat ≥ 2 ^ 64 :=
  rejectsAlloc_iff c h size

/-- … and so does the guard of `reallocMemory`. -/
theorem realloc_guard_iff_overflow (c : Cfg) (h : NodeOk c) (size : W) :
    rejectsRealloc c size = true ↔ extNat c size.toNat ≥ 2 ^ 64 :=
  rejectsAlloc_iff c h size

/-- For an accepted size no step of the size arithmetic wraps: the coded `BitVec 64` values are
    the unbounded ones. -/
theorem accepted_no_wrap (c : Cfg) (h : NodeOk c) (size : W) (sep : Bool) (hacc : rejectsAlloc c size = false) :
    (swci c size).toNat = swciNat c size.toNat ∧
    (nodeOff c size).toNat = swciNat c size.toNat ∧
    (allocReq c sep size).toNat = (if sep then swciNat c size.toNat else extNat c size.toNat) ∧
    (reallocReq c sep size).toNat = (if sep then swciNat c size.toNat else extNat c size.toNat) :=
  ⟨swci_toNat_acc c h size hacc, nodeOff_toNat_acc c h size hacc, allocReq_toNat_acc c h size sep hacc,
   by rw [reallocReq_eq]; exact allocReq_toNat_acc c h size sep hacc⟩

example : rejectsAlloc defaultCfg (BitVec.ofNat 64 (2^64 - 1)) = true := by decide +kernel
example : rejectsAlloc defaultCfg (BitVec.ofNat 64 (2^64 - 69)) = true := by decide +kernel
example : rejectsAlloc defaultCfg (BitVec.ofNat 64 (2^64 - 76)) = false := by decide +kernel
example : rejectsAlloc defaultCfg 10#64 = false ∧ allocReq defaultCfg false 10#64 = 80#64 := by decide +kernel

/-! ## layout of an accepted request -/

/-- Accepted size ⇒ user bytes, guard bytes and the (inline) record are pairwise disjoint, in this
    order, all inside the block requested from the platform, and (guard bytes compiled in) the record is 8-aligned. -/
theorem layout_sound (c : Cfg) (h : NodeOk c) (size : W) (sep : Bool) (hacc : rejectsAlloc c size = false) :
    (userIv size).disjoint (guardIv c size) ∧
    (guardIv c size).disjoint (nodeIv c size) ∧
    (userIv size).disjoint (nodeIv c size) ∧
    (userIv size).inside (allocReq c sep size).toNat ∧
    (guardIv c size).inside (allocReq c sep size).toNat ∧
    (sep = false → (nodeIv c size).inside (allocReq c sep size).toNat) ∧
    (c.check = true → (nodeIv c size).1 % 8 = 0) := by
  obtain ⟨hord, _, hin⟩ := accepted_room c h size hacc
  have hfit := accepted_fits c h size sep hacc
  unfold Iv.disjoint Iv.inside userIv guardIv nodeIv
  refine ⟨.inl (Nat.le_refl _), .inl hord, .inl (by omega), ⟨Nat.zero_le _, by omega⟩, ⟨by omega, hfit⟩, ?_, ?_⟩
  · rintro rfl; exact ⟨by omega, Nat.le_of_eq hin.symm⟩
  · intro hc
    rw [nodeOff_toNat_acc c h size hacc]; exact swciNat_aligned c hc size.toNat

/-- The same layout serves the block obtained from `PlatformSpecificRealloc`. -/
theorem realloc_layout_sound (c : Cfg) (h : NodeOk c) (size : W) (sep : Bool) (hacc : rejectsRealloc c size = false) :
    (guardIv c size).inside (reallocReq c sep size).toNat ∧
    (sep = false → (nodeIv c size).inside (reallocReq c sep size).toNat) := by
  obtain ⟨_, _, _, _, hg, hn, _⟩ := layout_sound c h size sep hacc
  exact ⟨hg, hn⟩

/-- An accepted request asks the platform for at least `size` usable bytes plus the guard bytes. -/
theorem usable_bytes_ge_request (c : Cfg) (h : NodeOk c) (size : W) (sep : Bool) (hacc : rejectsAlloc c size = false) :
    size.toNat + c.guard.toNat ≤ (allocReq c sep size).toNat ∧
    size.toNat + c.guard.toNat ≤ (reallocReq c sep size).toNat :=
  ⟨accepted_fits c h size sep hacc, accepted_fits c h size sep hacc⟩

example : guardIv defaultCfg 13#64 = (13, 16) ∧ nodeIv defaultCfg 13#64 = (24, 88) ∧ allocReq defaultCfg false 13#64 = 88#64 := by decide +kernel

/-! ## calloc -/

/-- The coded test `size != 0 && num > SIZE_MAX / size` is true exactly when `num * size`
    does not fit `size_t`. -/
theorem calloc_null_on_overflow (num size : W) :
    callocOverflowTest num size = true ↔ num.toNat * size.toNat ≥ 2 ^ 64 :=
  calloc_test_iff num size

/-- When the test lets the request through, the requested and the zeroed length are the exact product. -/
theorem calloc_product_exact (num size : W) (h : callocOverflowTest num size = false) :
    (callocRequest num size).toNat = num.toNat * size.toNat ∧
    (callocMemset num size).toNat = num.toNat * size.toNat :=
  calloc_request_exact num size h

example : callocOverflowTest (BitVec.ofNat 64 (2^63 + 1)) 2#64 = true := by decide +kernel
example : callocOverflowTest (BitVec.ofNat 64 (2^32)) (BitVec.ofNat 64 (2^32)) = true := by decide +kernel
example : callocOverflowTest (BitVec.ofNat 64 (2^32 + 1)) (BitVec.ofNat 64 (2^32 - 1)) = false := by decide +kernel
example : callocOverflowTest 0#64 0#64 = false := by decide +kernel

/-! ## a successful allocation -/

/-- A successful `allocMemory` (the platform handed out a block of the requested length; in the separate-node layout also a
    node block): the caller's pointer is that block, tracked on top of the old records, its first `size` bytes untouched by
    the bookkeeping writes, the guard bytes right behind them, and no other block changed. -/
theorem alloc_returns_sound_block (c : Cfg) (h : NodeOk c) (img : NodeImage) (hi : ImgOk c img) (s : State) (fam : Nat)
    (size : W) (sep0 : Bool) (id : Nat) (bytes : List UInt8) (a2 : Ans)
    (hacc : rejectsAlloc c size = false)
    (hlen : bytes.length = (allocReq c (forcedSep c sep0) size).toNat)
    (h2 : forcedSep c sep0 = true → ∃ nid nb, a2 = .block nid nb ∧ nb.length = c.node.toNat ∧ nid ≠ id) :
    ∃ s' evs, allocMemory c img s fam size sep0 (.block id bytes) a2 = (s', evs, .ptr id) ∧
      s'.trackedSet = (id, size) :: s.trackedSet ∧
      (∃ b', findBlock s'.mem id = some b' ∧ b'.bytes.length = bytes.length ∧
          b'.bytes.take size.toNat = bytes.take size.toNat ∧ size.toNat + c.guard.toNat ≤ b'.bytes.length ∧
          (b'.bytes.drop size.toNat).take c.guard.toNat = guardImage c) ∧
      (∀ j, j ≠ id → j ≠ a2.id → findBlock s'.mem j = findBlock s.mem j) := by
  obtain ⟨s', evs, he, ht, ⟨b', hb', hs, hfit⟩, hfr⟩ := allocMemory_ok c h img hi s fam size sep0 id bytes a2 hacc hlen h2
  exact ⟨s', evs, he, ht, ⟨b', hb', hs.len, hs.user, hfit, hs.guard⟩, hfr⟩

/-- Under the environment contract `allocMemory` never writes outside a block and never
    dereferences NULL, for any size and any answers of the platform. -/
theorem alloc_never_ub (c : Cfg) (h : NodeOk c) (img : NodeImage) (hi : ImgOk c img) (s : State) (fam : Nat)
    (size : W) (sep0 : Bool) (a1 a2 : Ans)
    (h1 : a1.Ok (allocReq c (forcedSep c sep0) size).toNat) (h2 : a2.Ok c.node.toNat)
    (hne : a2.isNull = true ∨ a2.id ≠ a1.id) :
    (allocMemory c img s fam size sep0 a1 a2).2.2.isUb = false := by
  by_cases hst : AllocStops c size (forcedSep c sep0) a1 a2
  · obtain ⟨evs, o, he, ho⟩ := allocMemory_stops c img s fam size sep0 a1 a2 hst
    rw [he]; rcases ho with rfl | ⟨rfl, _⟩ <;> rfl
  · obtain ⟨id, bytes, rfl, hacc, he⟩ := allocMemory_goes c img s fam size sep0 _ a2 hst
    rw [he]
    exact account_never_ub c h img hi _ _ _ fam size _ id bytes a2 _ hacc h1 h2 hne fun hs e => hst (.inr (.inr ⟨hs, e⟩))

/-! ## failure leaves the state as it was -/

/-- An over-large size or a platform that answers NULL (or, default allocators, fails the test):
    `allocMemory` returns NULL (resp. the test failure) and the state is exactly what it was. -/
theorem alloc_failure_leaves_state (c : Cfg) (img : NodeImage) (s : State) (fam : Nat) (size : W) (sep0 : Bool) (a1 a2 : Ans)
    (hf : rejectsAlloc c size = true ∨ a1.isNull = true) :
    ∃ evs o, allocMemory c img s fam size sep0 a1 a2 = (s, evs, o) ∧ o.cleanFailure = true ∧
      (o = .null ∨ (o = .testFail ∧ a1 = .fail)) := by
  obtain ⟨evs, o, he, ho⟩ := allocMemory_stops c img s fam size sep0 a1 a2 (hf.imp_right .inl)
  exact ⟨evs, o, he, by rcases ho with rfl | ⟨rfl, _⟩ <;> rfl, ho⟩

/-- The accounting node cannot be allocated (separate-node layout): NULL, the data block is given
    back to the allocator, the state is what it was. -/
theorem alloc_node_failure_leaves_state (c : Cfg) (img : NodeImage) (s : State) (fam : Nat) (size : W) (sep0 : Bool)
    (id : Nat) (bytes : List UInt8) (hacc : rejectsAlloc c size = false) (hsep : forcedSep c sep0 = true) :
    allocMemory c img s fam size sep0 (.block id bytes) .null =
      (s, [.ualloc (allocReq c true size) id, .unode c.node 0, .ufree id], .null) := by
  simp [allocMemory, hacc, hsep]

/-- Whatever happens, an `allocMemory` that does not return a block leaves the tracked set untouched. -/
theorem alloc_tracked_frame (c : Cfg) (img : NodeImage) (s : State) (fam : Nat) (size : W) (sep0 : Bool) (a1 a2 : Ans) :
    (∀ id, (allocMemory c img s fam size sep0 a1 a2).2.2 ≠ .ptr id) →
    (allocMemory c img s fam size sep0 a1 a2).1.trackedSet = s.trackedSet := by
  intro hp
  unfold State.trackedSet
  rw [(allocMemory_outcome c img s fam size sep0 a1 a2).2.2 hp]

/-! ## operator new -/

/-- the regenerated table of `mem_leak_operator_new*`: the four throwing forms end in
    `UT_THROW_BAD_ALLOC_WHEN_NULL`, the two nothrow forms do not -/
theorem new_table : newVariants.map (fun (v : NewVariant) => (v.1, v.array, v.throws, v.nothrow)) =
    [("mem_leak_operator_new", false, true, false), ("mem_leak_operator_new_nothrow", false, false, true),
     ("mem_leak_operator_new_debug", false, true, false), ("mem_leak_operator_new_array", true, true, false),
     ("mem_leak_operator_new_array_nothrow", true, false, true), ("mem_leak_operator_new_array_debug", true, true, false)] := rfl

/-- every variant either throws on NULL or is a nothrow overload, never both -/
theorem new_table_exclusive : ∀ v ∈ newVariants, NewVariant.throws v = !NewVariant.nothrow v := by decide

/-- the detector itself never throws `std::bad_alloc` -/
theorem alloc_never_badAlloc (c : Cfg) (img : NodeImage) (s : State) (fam : Nat) (size : W) (sep0 : Bool) (a1 a2 : Ans) :
    (allocMemory c img s fam size sep0 a1 a2).2.2 ≠ .badAlloc :=
  (allocMemory_outcome c img s fam size sep0 a1 a2).1

/-- `operator new` throws `std::bad_alloc` exactly when the detector returned NULL and the variant is a throwing one, and
    returns NULL exactly when the detector did and the variant is not.  State and events are the detector's. -/
theorem new_throws_iff_null (c : Cfg) (img : NodeImage) (s : State) (v : NewVariant) (size : W) (a1 a2 : Ans) :
    let d := allocMemory c img s (if v.array then famNewArray else famNew) size false a1 a2
    let r := operatorNew c img s v size a1 a2
    r.1 = d.1 ∧ r.2.1 = d.2.1 ∧
    (r.2.2 = .badAlloc ↔ (d.2.2 = .null ∧ v.throws = true)) ∧
    (r.2.2 = .null ↔ (d.2.2 = .null ∧ v.throws = false)) ∧
    (∀ id, r.2.2 = .ptr id ↔ d.2.2 = .ptr id) := by
  intro d r
  exact newWrap_spec v d (alloc_never_badAlloc c img s (if v.array then famNewArray else famNew) size false a1 a2)

/-- for the variants of the regenerated table: a throwing `operator new` never hands NULL to the caller -/
theorem throwing_new_never_null (c : Cfg) (img : NodeImage) (s : State) (v : NewVariant) (hv : v ∈ newVariants)
    (ht : v.nothrow = false) (size : W) (a1 a2 : Ans) :
    (operatorNew c img s v size a1 a2).2.2 ≠ .null := by
  have hx := new_table_exclusive v hv
  rw [ht] at hx
  obtain ⟨_, _, _, hnull, _⟩ := new_throws_iff_null c img s v size a1 a2
  intro h0
  have := (hnull.mp h0).2
  rw [hx] at this; cases this

/-- the tracked set after a failed `operator new` is what it was -/
theorem new_tracked_frame (c : Cfg) (img : NodeImage) (s : State) (v : NewVariant) (size : W) (a1 a2 : Ans) :
    (∀ id, (operatorNew c img s v size a1 a2).2.2 ≠ .ptr id) →
    (operatorNew c img s v size a1 a2).1.trackedSet = s.trackedSet := by
  intro hp
  obtain ⟨hst, _, _, _, hptr⟩ := new_throws_iff_null c img s v size a1 a2
  rw [hst]
  exact alloc_tracked_frame c img s _ size false a1 a2 fun id hid => hp id ((hptr id).mpr hid)

/-- platform NULL ⇒ `bad_alloc` from the throwing forms, NULL from the nothrow forms, state untouched -/
theorem new_failure_leaves_state (c : Cfg) (img : NodeImage) (s : State) (v : NewVariant) (size : W) (a2 : Ans) :
    operatorNew c img s v size .null a2 =
      (s, (allocMemory c img s (if v.array then famNewArray else famNew) size false .null a2).2.1,
       if v.throws then .badAlloc else .null) := by
  obtain ⟨evs, o, he, _, ho⟩ := alloc_failure_leaves_state c img s (if v.array then famNewArray else famNew) size false .null a2
    (Or.inr rfl)
  rw [operatorNew_eq, he]
  unfold newWrap
  rcases ho with rfl | ⟨_, h⟩
  · cases v.throws <;> rfl
  · cases h

/-! ## calloc, strdup, strndup -/

/-- A successful `cpputest_calloc`: the block is tracked with the exact product as its size and
    its first `num * size` bytes are zero. -/
theorem calloc_zero_filled (c : Cfg) (h : NodeOk c) (img : NodeImage) (hi : ImgOk c img) (s : State)
    (num size : W) (id : Nat) (bytes : List UInt8) (nid : Nat) (nb : List UInt8)
    (htest : callocOverflowTest num size = false)
    (hacc : rejectsAlloc c (callocRequest num size) = false)
    (hlen : bytes.length = (allocReq c true (callocRequest num size)).toNat)
    (hnl : nb.length = c.node.toNat) (hne : nid ≠ id) :
    ∃ s' evs, cCalloc c img s num size (.block id bytes) (.block nid nb) = (s', evs, .ptr id) ∧
      s'.trackedSet = (id, callocRequest num size) :: s.trackedSet ∧
      (callocRequest num size).toNat = num.toNat * size.toNat ∧
      userView s' id (num.toNat * size.toNat) = some (List.replicate (num.toNat * size.toNat) 0) := by
  obtain ⟨hp1, hp2⟩ := calloc_request_exact num size htest
  obtain ⟨s1, evs, he, ht, ⟨b', hb', _, hfit⟩, _⟩ :=
    allocMemory_ok c h img hi s famMalloc (callocRequest num size) true id bytes (.block nid nb) hacc
      (by rw [forcedSep_true]; exact hlen) (fun _ => ⟨nid, nb, rfl, hnl, hne⟩)
  obtain ⟨m', bs', he1, hw, hf, _⟩ := thenWrite_ptr s1 evs id 0 (List.replicate (callocMemset num size).toNat 0)
    "memset outside the block" hb' (by rw [List.length_replicate, hp2, ← hp1]; omega)
  refine ⟨{ s1 with mem := m' }, evs, ?_, ht, hp1, ?_⟩
  · unfold cCalloc cMalloc
    simp only [htest, Bool.false_eq_true, if_false, he]; exact he1
  · have := writeAt_zero_take hw
    rw [List.length_replicate, hp2] at this
    rw [userView_of_find (s := { s1 with mem := m' }) hf, this]

/-- `cpputest_calloc` with an overflowing product: NULL, nothing requested from the platform,
    state untouched. -/
theorem calloc_overflow_leaves_state (c : Cfg) (img : NodeImage) (s : State) (num size : W) (a1 a2 : Ans)
    (hov : num.toNat * size.toNat ≥ 2 ^ 64) :
    cCalloc c img s num size a1 a2 = (s, [], .null) := by
  have := (calloc_test_iff num size).mpr hov
  simp [cCalloc, this]

/-- A successful `cpputest_strdup` of a NUL-terminated buffer: the new block holds exactly the C
    string followed by its terminator, nothing of the source behind the terminator is read. -/
theorem strdup_copies_exactly (c : Cfg) (h : NodeOk c) (img : NodeImage) (hi : ImgOk c img) (s : State)
    (buf : List UInt8) (id : Nat) (bytes : List UInt8) (nid : Nat) (nb : List UInt8)
    (hnul : (0 : UInt8) ∈ buf) (hshort : buf.length < 2 ^ 62)
    (hlen : bytes.length = (allocReq c true (BitVec.ofNat 64 ((cstrOf buf).length + 1))).toNat)
    (hnl : nb.length = c.node.toNat) (hne : nid ≠ id) :
    ∃ s' evs, cStrdup c img s buf (.block id bytes) (.block nid nb) = (s', evs, .ptr id) ∧
      s'.trackedSet = (id, BitVec.ofNat 64 ((cstrOf buf).length + 1)) :: s.trackedSet ∧
      userView s' id ((cstrOf buf).length + 1) = some (cstrOf buf ++ [0]) := by
  obtain ⟨hn, hlt, hpre⟩ := cstrlen_of_nul buf hnul
  obtain ⟨s', evs, he, ht, hv⟩ := strdupAlloc_copies c h img hi s buf _ _ id bytes nid nb
    (BitVecLemmas.toNat_ofNat_lt (by omega)) hlt (by rw [BitVecLemmas.toNat_ofNat_lt (by omega)]; omega) hlen hnl hne
  refine ⟨s', evs, ?_, ht, by rw [hv, hpre]⟩
  unfold cStrdup
  simp only [hn, strdupLength_ofNat]; exact he

/-- A successful `cpputest_strndup`: the new block holds the first `min (strlen) n` bytes of the
    C string followed by a terminator. -/
theorem strndup_copies_prefix (c : Cfg) (h : NodeOk c) (img : NodeImage) (hi : ImgOk c img) (s : State)
    (buf : List UInt8) (n : W) (id : Nat) (bytes : List UInt8) (nid : Nat) (nb : List UInt8)
    (hnul : (0 : UInt8) ∈ buf) (hshort : buf.length < 2 ^ 62)
    (hlen : bytes.length = (allocReq c true (BitVec.ofNat 64 (((cstrOf buf).take n.toNat).length + 1))).toNat)
    (hnl : nb.length = c.node.toNat) (hne : nid ≠ id) :
    ∃ s' evs, cStrndup c img s buf n (.block id bytes) (.block nid nb) = (s', evs, .ptr id) ∧
      s'.trackedSet = (id, BitVec.ofNat 64 (((cstrOf buf).take n.toNat).length + 1)) :: s.trackedSet ∧
      userView s' id (((cstrOf buf).take n.toNat).length + 1) = some ((cstrOf buf).take n.toNat ++ [0]) := by
  obtain ⟨hn, hlt, hpre⟩ := cstrlen_of_nul buf hnul
  have hk : ((cstrOf buf).take n.toNat).length = min n.toNat (cstrOf buf).length := List.length_take
  have htake : (cstrOf buf).take n.toNat = buf.take (min n.toNat (cstrOf buf).length) := by
    rw [← List.take_take, hpre]
  rw [hk] at hlen ⊢
  obtain ⟨s', evs, he, ht, hv⟩ := strdupAlloc_copies c h img hi s buf _ _ id bytes nid nb
    (BitVecLemmas.toNat_ofNat_lt (by omega)) (by omega) (by rw [BitVecLemmas.toNat_ofNat_lt (by omega)]; omega) hlen hnl hne
  refine ⟨s', evs, ?_, ht, by rw [hv, htake]⟩
  unfold cStrndup
  simp only [hn, strndupLength_ofNat _ _ (show (cstrOf buf).length < 2 ^ 64 by omega)]; exact he

/-- Out of memory (the allocator answers NULL, as `cpputest_malloc_set_out_of_memory()` arranges):
    malloc, calloc, strdup and strndup return NULL without touching the source or the state. -/
theorem c_wrappers_failure_leave_state (c : Cfg) (img : NodeImage) (s : State) (a2 : Ans) :
    (∀ size, ∃ evs, cMalloc c img s size .null a2 = (s, evs, .null)) ∧
    (∀ num size, ∃ evs, cCalloc c img s num size .null a2 = (s, evs, .null)) ∧
    (∀ buf, (0 : UInt8) ∈ buf → ∃ evs, cStrdup c img s buf .null a2 = (s, evs, .null)) ∧
    (∀ buf n, (0 : UInt8) ∈ buf → ∃ evs, cStrndup c img s buf n .null a2 = (s, evs, .null)) := by
  have hm : ∀ size, ∃ evs, cMalloc c img s size .null a2 = (s, evs, .null) := by
    intro size
    obtain ⟨evs, o, he, _, ho⟩ := alloc_failure_leaves_state c img s famMalloc size true .null a2 (Or.inr rfl)
    rcases ho with rfl | ⟨_, hx⟩
    · exact ⟨evs, he⟩
    · cases hx
  have hsd : ∀ buf size, ∃ evs, strdupAlloc c img s buf size .null a2 = (s, evs, .null) := by
    intro buf size
    obtain ⟨evs, he⟩ := hm size
    refine ⟨evs, ?_⟩
    unfold strdupAlloc
    split
    · rw [he]
    · rw [he]; rfl
  refine ⟨hm, ?_, ?_, ?_⟩
  · intro num size
    unfold cCalloc
    split
    · exact ⟨[], rfl⟩
    · obtain ⟨evs, he⟩ := hm (callocRequest num size)
      exact ⟨evs, by rw [he]⟩
  · intro buf hnul
    unfold cStrdup; simp only [(cstrlen_of_nul buf hnul).1]; exact hsd _ _
  · intro buf n hnul
    unfold cStrndup; simp only [(cstrlen_of_nul buf hnul).1]; exact hsd _ _

/-! ## realloc -/

/-- An over-large new size: NULL before anything is touched. -/
theorem realloc_rejected_leaves_state (c : Cfg) (img : NodeImage) (s : State) (fam : Nat) (ptr : Option Nat) (size : W)
    (sep0 : Bool) (ar : RAns) (a2 : Ans) (hrej : rejectsRealloc c size = true) :
    reallocMemory c img s fam ptr size sep0 ar a2 = (s, [], .null) := by
  simp [reallocMemory, hrej]

/-- A failing `PlatformSpecificRealloc`: whenever `reallocMemory` then returns NULL, the detector
    tracks exactly the blocks (address and size) it tracked before — the old block is re-tracked. -/
theorem realloc_null_keeps_tracked (c : Cfg) (img : NodeImage) (s : State) (fam : Nat) (ptr : Option Nat) (size : W)
    (sep0 : Bool) (a2 : Ans) :
    (reallocMemory c img s fam ptr size sep0 .null a2).2.2 = .null →
    ((reallocMemory c img s fam ptr size sep0 .null a2).1.trackedSet).Perm s.trackedSet := by
  intro hnull
  rcases reallocMemory_cases c img s fam ptr size sep0 .null a2 with
    ⟨_, h⟩ | ⟨_, _, h⟩ | ⟨_, _, _, _, h⟩ | ⟨id, o, rest, m1, evs, _, _, hrem, ⟨_, h⟩ | ⟨_, h⟩⟩ <;> rw [h] at hnull ⊢
  · exact .refl _
  -- a tracked pointer: its record is put back
  · have hp := ((removeRec_perm hrem).1.map fun r => (r.id, r.size)).symm
    rcases retrack_cases c img { s with tracked := rest, mem := m1 } o (forcedSep c sep0) a2
        (evs ++ [.urealloc o.id (reallocReq c (forcedSep c sep0) size) 0])
      with ⟨m', evs', hr, _⟩ | ⟨evs', o', hr, ho⟩ <;>
      rw [show reallocRest c img _ fam (some o) size _ .null a2 evs = retrack c img _ o _ a2 _ from rfl, hr] at hnull ⊢
    · exact hp
    · obtain rfl : o' = .null := hnull
      rcases ho with ho | ho <;> cases ho
  · cases hnull

/-- A failing platform realloc of a live, intact block in the inline layout: NULL is returned, the
    old record is back in the table, and the old block keeps its length, its user bytes and its
    guard bytes (only the record behind them is rewritten). -/
theorem realloc_failure_retracks_inline (c : Cfg) (h : NodeOk c) (img : NodeImage) (hi : ImgOk c img) (s : State)
    (fam oid : Nat) (size : W) (sep0 : Bool) (a2 : Ans) (o : Rec) (rest : List Rec) (m1 : List Block) (evs0 : List Ev)
    (ob : Block)
    (hacc : rejectsRealloc c size = false) (hsep : forcedSep c sep0 = false)
    (hrem : removeRec s.tracked oid = some (o, rest))
    (hcfc : checkForCorruption c s.mem o fam false = (m1, evs0, false))
    (hoacc : rejectsAlloc c o.size = false)                              -- the old size had been accepted
    (hob : findBlock m1 oid = some ob) (hol : ob.bytes.length = (allocReq c false o.size).toNat) :
    ∃ s' evs, reallocMemory c img s fam (some oid) size sep0 .null a2 = (s', evs, .null) ∧
      s'.trackedSet = (oid, o.size) :: rest.map (fun r => (r.id, r.size)) ∧
      ∃ b', findBlock s'.mem oid = some b' ∧ b'.bytes.length = ob.bytes.length ∧
        b'.bytes.take (o.size.toNat + c.guard.toNat) = ob.bytes.take (o.size.toNat + c.guard.toNat) := by
  obtain ⟨_, hoid⟩ := removeRec_perm hrem
  obtain ⟨hord, _, hin⟩ := accepted_room c h o.size hoacc
  obtain ⟨m2, b1, hw, hb1, hl1, ht1, _, _⟩ := writeNode_ok c img hi m1 { o with sep := false, nodeId := 0 } (b := ob)
    (by rw [hoid]; exact hob) (fun _ => ⟨hord, by rw [hol, hin]; exact Nat.le_refl _⟩) nofun
  refine ⟨{ tracked := { o with sep := false, nodeId := 0 } :: rest, mem := m2, seq := s.seq },
    evs0 ++ [.urealloc o.id (reallocReq c false size) 0], ?_, ?_, b1, by rw [← hoid]; exact hb1, hl1, ht1 _ (Nat.le_refl _)⟩
  · rw [reallocMemory_some img .null a2 hacc hrem (by rw [hsep]; exact hcfc), hsep]
    simp only [reallocRest, retrack, Bool.false_eq_true, if_false, hw]
  · simp [State.trackedSet, hoid]

/-- The same in the separate-node layout when the allocator provides the new node block. -/
theorem realloc_failure_retracks_separate (c : Cfg) (img : NodeImage) (hi : ImgOk c img) (s : State)
    (fam oid : Nat) (size : W) (sep0 : Bool) (nid : Nat) (nb : List UInt8) (o : Rec) (rest : List Rec) (m1 : List Block)
    (evs0 : List Ev)
    (hacc : rejectsRealloc c size = false) (hsep : forcedSep c sep0 = true)
    (hrem : removeRec s.tracked oid = some (o, rest))
    (hcfc : checkForCorruption c s.mem o fam true = (m1, evs0, false))
    (hnl : nb.length = c.node.toNat) :
    ∃ s' evs, reallocMemory c img s fam (some oid) size sep0 .null (.block nid nb) = (s', evs, .null) ∧
      s'.trackedSet = (oid, o.size) :: rest.map (fun r => (r.id, r.size)) ∧
      ∀ j, j ≠ nid → findBlock s'.mem j = findBlock m1 j := by
  obtain ⟨_, hoid⟩ := removeRec_perm hrem
  obtain ⟨m2, bs1, hw, _, _, hfr⟩ := writeBlock_spec (m := ⟨nid, nb⟩ :: m1) (off := 0)
    (src := img { o with sep := true, nodeId := nid }) (findBlock_cons_self nid nb m1) (by rw [hi]; simp only; omega)
  refine ⟨{ tracked := { o with sep := true, nodeId := nid } :: rest, mem := m2, seq := s.seq },
    evs0 ++ [.urealloc o.id (reallocReq c true size) 0] ++ [.unode c.node nid], ?_, ?_, fun j hj => ?_⟩
  · rw [reallocMemory_some img .null _ hacc hrem (by rw [hsep]; exact hcfc), hsep]
    simp only [reallocRest, retrack, writeNode, if_true, hw]
  · simp [State.trackedSet, hoid]
  · rw [hfr j hj, findBlock_cons_ne nb m1 (Ne.symm hj)]

/-- A successful `reallocMemory` of a live, intact block under the platform realloc contract (`RAns.Ok`): the new block is
    tracked in place of the old one and its first `min old new` user bytes are the old block's — the guard bytes and the
    record written afterwards do not touch them. -/
theorem realloc_preserves_prefix (c : Cfg) (h : NodeOk c) (img : NodeImage) (hi : ImgOk c img) (s : State)
    (fam oid : Nat) (size : W) (sep0 : Bool) (nid : Nat) (nb : List UInt8) (a2 : Ans)
    (o : Rec) (rest : List Rec) (m1 : List Block) (evs0 : List Ev) (ob : Block)
    (hacc : rejectsRealloc c size = false)
    (hrem : removeRec s.tracked oid = some (o, rest))
    (hcfc : checkForCorruption c s.mem o fam (forcedSep c sep0) = (m1, evs0, false))
    (_hob : findBlock m1 oid = some ob) (hosz : o.size.toNat ≤ ob.bytes.length)
    (hok : RAns.Ok ob.bytes (reallocReq c (forcedSep c sep0) size).toNat (.moved nid nb))
    (h2 : forcedSep c sep0 = true → ∃ k kb, a2 = .block k kb ∧ kb.length = c.node.toNat ∧ k ≠ nid) :
    ∃ s' evs, reallocMemory c img s fam (some oid) size sep0 (.moved nid nb) a2 = (s', evs, .ptr nid) ∧
      s'.trackedSet = (nid, size) :: rest.map (fun r => (r.id, r.size)) ∧
      userView s' nid (min o.size.toNat size.toNat) = some (ob.bytes.take (min o.size.toNat size.toNat)) := by
  have hacc' : rejectsAlloc c size = false := hacc
  obtain ⟨hl, hpre⟩ := hok
  have hus := accepted_fits c h size (forcedSep c sep0) hacc'
  obtain ⟨m', evs, he, ⟨b', hb', hs⟩, _, _⟩ :=
    account_ok c h img hi rest (dropBlock m1 o.id) s.seq fam size (forcedSep c sep0) nid nb a2
      (evs0 ++ [.urealloc o.id (reallocReq c (forcedSep c sep0) size) nid]) hacc' hl h2
  refine ⟨_, evs, (reallocMemory_some img _ a2 hacc hrem hcfc).trans he, rfl, ?_⟩
  -- the new block is the platform's up to `size`, the platform's is the old one up to the common length
  rw [userView_of_find (s := ⟨_, m', _⟩) hb']
  exact congrArg some ((ListLemmas.take_eq_of_le hs.user (Nat.min_le_right ..)).trans
    (ListLemmas.take_eq_of_le hpre (by have := Nat.min_le_left o.size.toNat size.toNat; rw [reallocReq_eq]; omega)))

/-- `realloc(NULL, n)` behaves as an allocation: a sound, tracked block. -/
theorem realloc_null_pointer_allocates (c : Cfg) (h : NodeOk c) (img : NodeImage) (hi : ImgOk c img) (s : State)
    (fam : Nat) (size : W) (sep0 : Bool) (nid : Nat) (nb : List UInt8) (a2 : Ans)
    (hacc : rejectsRealloc c size = false)
    (hl : nb.length = (reallocReq c (forcedSep c sep0) size).toNat)
    (h2 : forcedSep c sep0 = true → ∃ k kb, a2 = .block k kb ∧ kb.length = c.node.toNat ∧ k ≠ nid) :
    ∃ s' evs, reallocMemory c img s fam none size sep0 (.moved nid nb) a2 = (s', evs, .ptr nid) ∧
      s'.trackedSet = (nid, size) :: s.trackedSet := by
  obtain ⟨m', evs, he, _⟩ :=
    account_ok c h img hi s.tracked s.mem s.seq fam size (forcedSep c sep0) nid nb a2
      ([] ++ [.urealloc 0 (reallocReq c (forcedSep c sep0) size) nid]) hacc hl h2
  exact ⟨_, evs, (reallocMemory_none img s fam sep0 _ a2 hacc).trans he, rfl⟩

/-! ## the listed finding c05-node-alloc-null, visible in the model -/

/-- Full-strength statement for `reallocMemory`: under the environment contract a reallocation never runs into undefined
    behaviour. -/
def realloc_never_ub_full : Prop :=
  ∀ (c : Cfg) (img : NodeImage) (s : State) (fam : Nat) (size : W) (sep0 : Bool) (nid : Nat) (nb : List UInt8) (a2 : Ans),
    NodeOk c → ImgOk c img → nb.length = (reallocReq c (forcedSep c sep0) size).toNat → a2.Ok c.node.toNat →
    (reallocMemory c img s fam none size sep0 (.moved nid nb) a2).2.2.isUb = false

/-- It is FALSE for the current source: in the separate-node layout (`cpputest_realloc`, or any
    allocation of the build without guard bytes) a NULL from `allocMemoryLeakNode` is dereferenced
    by `storeLeakInformation` (known finding c05-node-alloc-null; witness: `realloc(NULL, 10)`). -/
theorem realloc_never_ub_full_fails_known : ¬ realloc_never_ub_full := by
  intro hfull
  have := hfull defaultCfg (fun _ => List.replicate 64 0) {} famMalloc 10#64 true 1 (List.replicate 16 0) .null
    defaultCfg_ok (by intro r; simp [defaultCfg, sizeofNode]) (by decide) trivial
  revert this
  decide +kernel

/-- What is proved instead: the only way `realloc(NULL, n)` reaches undefined behaviour is the NULL node. -/
theorem realloc_never_ub_partial (c : Cfg) (h : NodeOk c) (img : NodeImage) (hi : ImgOk c img) (s : State)
    (fam : Nat) (size : W) (sep0 : Bool) (nid : Nat) (nb : List UInt8) (a2 : Ans)
    (hl : nb.length = (reallocReq c (forcedSep c sep0) size).toNat) (h2 : a2.Ok c.node.toNat)
    (hne : a2.id ≠ nid)
    (hnn : ¬ (forcedSep c sep0 = true ∧ a2 = .null)) :
    (reallocMemory c img s fam none size sep0 (.moved nid nb) a2).2.2.isUb = false := by
  cases hacc : rejectsRealloc c size
  · rw [reallocMemory_none img s fam sep0 _ a2 hacc]
    exact account_never_ub c h img hi _ _ _ fam size _ nid nb a2 _ hacc hl h2 (.inr hne) fun hs e => hnn ⟨hs, e⟩
  · rw [realloc_rejected_leaves_state c img s fam none size sep0 _ a2 hacc]; rfl

/-! ## the listed finding c05-nothrow-new-terminate, visible in the model -/

/-- the detector reports a test failure only when an allocator did (`checkedMalloc`'s FAIL) -/
theorem alloc_testFail_only_if_fail (c : Cfg) (img : NodeImage) (s : State) (fam : Nat) (size : W) (sep0 : Bool) (a1 a2 : Ans) :
    (allocMemory c img s fam size sep0 a1 a2).2.2 = .testFail → a1 = .fail ∨ a2 = .fail :=
  (allocMemory_outcome c img s fam size sep0 a1 a2).2.1

/-- Full-strength statement: no `operator new` variant of the regenerated table runs into
    undefined behaviour, whatever the platform answers. -/
def new_never_ub_full : Prop :=
  ∀ (c : Cfg) (img : NodeImage) (s : State) (v : NewVariant) (size : W) (a1 a2 : Ans),
    v ∈ newVariants → NodeOk c → ImgOk c img →
    a1.Ok (allocReq c (forcedSep c false) size).toNat → a2.Ok c.node.toNat → (a2.isNull = true ∨ a2.id ≠ a1.id) →
    (operatorNew c img s v size a1 a2).2.2.isUb = false

/-- FALSE for the current source: with the default allocator a platform NULL becomes a test
    failure that is thrown through the `noexcept` nothrow overloads (`std::terminate`; known finding
    c05-nothrow-new-terminate; witness `new (std::nothrow) char[10]`). -/
theorem new_never_ub_full_fails_known : ¬ new_never_ub_full := by
  intro hfull
  have := hfull defaultCfg (fun _ => List.replicate 64 0) {} ("mem_leak_operator_new_array_nothrow", true, false, true)
    10#64 .fail .null (by decide +kernel) defaultCfg_ok (by intro r; simp [defaultCfg, sizeofNode]) trivial trivial (Or.inl rfl)
  revert this
  decide +kernel

/-- What is proved: with allocators that signal failure by NULL (every allocator except the default
    ones under platform out-of-memory) no `operator new` variant reaches undefined behaviour, and
    the throwing variants never do. -/
theorem new_never_ub_partial (c : Cfg) (h : NodeOk c) (img : NodeImage) (hi : ImgOk c img) (s : State) (v : NewVariant)
    (size : W) (a1 a2 : Ans)
    (h1 : a1.Ok (allocReq c (forcedSep c false) size).toNat) (h2 : a2.Ok c.node.toNat)
    (hne : a2.isNull = true ∨ a2.id ≠ a1.id)
    (hnf : v.nothrow = false ∨ (a1 ≠ .fail ∧ a2 ≠ .fail)) :
    (operatorNew c img s v size a1 a2).2.2.isUb = false := by
  rw [operatorNew_eq, Bool.eq_false_iff, Ne, newWrap_isUb]
  rintro (hub | ⟨htf, hnt⟩)
  · rw [alloc_never_ub c h img hi s _ size false a1 a2 h1 h2 hne] at hub; cases hub
  · rcases hnf with hn | ⟨hn1, hn2⟩
    · rw [hn] at hnt; cases hnt
    · exact (alloc_testFail_only_if_fail c img s _ size false a1 a2 htf).elim hn1 hn2

/-! ## non-vacuity: concrete runs of the model -/

def img0 : NodeImage := fun _ => List.replicate 64 0x4e

example : ImgOk defaultCfg img0 := by intro r; simp [img0, defaultCfg, sizeofNode]

/-- inline layout, 2 user bytes: 72-byte block, guard `BAS` at offset 2, record at offset 8 -/
example : (allocMemory defaultCfg img0 {} famNew 2#64 false (.block 1 (List.replicate 72 0)) .null).2.2 = .ptr 1 := by decide +kernel

example : ((allocMemory defaultCfg img0 {} famNew 2#64 false (.block 1 (List.replicate 72 0)) .null).1.mem.map
    (fun b => b.bytes.take 8)) = [[0, 0, 66, 65, 83, 0, 0, 0]] := by decide +kernel

/-- without the guard the wrapped arithmetic would ask for 72 bytes for SIZE_MAX; the guard rejects it -/
example : (allocMemory defaultCfg img0 {} famNew (BitVec.ofNat 64 (2^64 - 1)) false (.block 1 (List.replicate 72 0)) .null).2.2 = .null := by
  decide +kernel

/-- a failing platform realloc keeps the block tracked -/
example :
    let s1 := (allocMemory defaultCfg img0 {} famNew 2#64 false (.block 1 (List.replicate 72 0)) .null).1
    (reallocMemory defaultCfg img0 s1 famNew (some 1) 5#64 false .null .null).2.2 = .null ∧
    (reallocMemory defaultCfg img0 s1 famNew (some 1) 5#64 false .null .null).1.trackedSet = [(1, 2#64)] := by decide +kernel

/-! ## the whole-history invariant -/

theorem inv_empty (c : Cfg) : Inv c {} := InvTM.empty c []

/-- Every public operation keeps the invariant and never reaches undefined behaviour, for every answer of the platform that
    meets its contract (`OpOk`, which excludes the two listed findings by name). -/
theorem step_preserves_inv (c : Cfg) (hn : NodeOk c) (img : NodeImage) (hi : ImgOk c img) (s : State) (h : Inv c s)
    (op : Op) (hop : OpOk c s op) :
    Inv c (step c img s op).1 ∧ (step c img s op).2.2.isUb = false :=
  ⟨(step_inv c hn img hi h op hop).1, (step_inv c hn img hi h op hop).2.1⟩

/-- Every state reachable from the empty detector through the public operations and client stores into user bytes satisfies
    the invariant. -/
theorem history_inv (c : Cfg) (hn : NodeOk c) (img : NodeImage) (hi : ImgOk c img) (ops : List Op)
    (hok : OpsOk c img {} ops) : Inv c (run c img {} ops) :=
  run_inv c hn img hi ops {} (inv_empty c) hok

/-- … and no operation of such a history reaches undefined behaviour (no write outside a block, no
    NULL dereference): the last step of any history, hence every step. -/
theorem history_never_ub (c : Cfg) (hn : NodeOk c) (img : NodeImage) (hi : ImgOk c img) (ops : List Op) (op : Op)
    (hok : OpsOk c img {} (ops ++ [op])) :
    (step c img (run c img {} ops) op).2.2.isUb = false := by
  obtain ⟨h1, h2⟩ := opsOk_append c img ops {} op hok
  exact (step_inv c hn img hi (history_inv c hn img hi ops h1) op h2).2.1

/-- What the invariant says, spelled out: tracked blocks are pairwise different live platform blocks of the requested length
    with intact guard bytes, and each record is where the layout puts it. -/
theorem inv_meaning (c : Cfg) (hn : NodeOk c) (s : State) (h : Inv c s) :
    (s.tracked.map (·.id)).Nodup ∧
    (∀ r ∈ s.tracked, ∀ r' ∈ s.tracked, r.sep = true → r.nodeId ≠ r'.id) ∧
    (∀ r ∈ s.tracked, ∃ b, findBlock s.mem r.id = some b ∧
        b.bytes.length = (allocReq c r.sep r.size).toNat ∧
        r.size.toNat + c.guard.toNat ≤ b.bytes.length ∧
        (b.bytes.drop r.size.toNat).take c.guard.toNat = guardImage c ∧
        (r.sep = false → (guardIv c r.size).disjoint (nodeIv c r.size) ∧ (nodeIv c r.size).inside b.bytes.length ∧
            (c.check = true → (nodeIv c r.size).1 % 8 = 0)) ∧
        (r.sep = true → ∃ nb, findBlock s.mem r.nodeId = some nb ∧ nb.bytes.length = c.node.toNat)) := by
  refine ⟨(ids_sublist_owned s.tracked).nodup h.nodup, ?_, ?_⟩
  · intro r hr r' hr' hs he
    have h1 : r.nodeId ∈ r.owned := nodeId_mem_owned hs
    have h2 : r.nodeId ∈ r'.owned := by rw [he]; exact id_mem_owned r'
    have : r = r' := owned_inj h.nodup hr hr' h1 h2
    subst this
    exact ((h.recs r hr).node.1 hs).1 he
  · intro r hr
    have ok := h.recs r hr
    obtain ⟨b, hb, hl, hg⟩ := ok.blk
    obtain ⟨_, hgn, _, _, _, hnin, hal⟩ := layout_sound c hn r.size r.sep ok.acc
    refine ⟨b, hb, hl, ?_, hg, ?_, fun hs => (ok.node.1 hs).2⟩
    · rw [hl]; exact (usable_bytes_ge_request c hn r.size r.sep ok.acc).1
    · intro hs
      rw [hl]
      exact ⟨hgn, hnin hs, hal⟩

/-! ## realloc of a tracked block, from the invariant alone -/

/-- `cpputest_realloc` of any tracked malloc-family block that the platform moves, from the invariant: the new block is tracked
    in place of the old one, its first `min old new` user bytes are the old block's, and the invariant holds again.  No
    hypothesis about the table lookup or the guard check is left: both follow from the invariant. -/
theorem realloc_preserves_prefix_inv (c : Cfg) (hn : NodeOk c) (img : NodeImage) (hi : ImgOk c img) (s : State) (h : Inv c s)
    (o : Rec) (ho : o ∈ s.tracked) (hfam : o.fam = famMalloc) (size : W) (nid : Nat) (nb : List UInt8) (k : Nat) (kb : List UInt8)
    (hacc : rejectsRealloc c size = false)
    (har : RAns.EnvOk s.mem (some o.id) (reallocReq c true size).toNat (.moved nid nb))
    (hkl : kb.length = c.node.toNat) (hkf : Fresh s.mem k) (hkn : k ≠ nid) :
    ∃ s' evs rest, cRealloc c img s (some o.id) size (.moved nid nb) (.block k kb) = (s', evs, .ptr nid) ∧
      removeRec s.tracked o.id = some (o, rest) ∧
      s'.trackedSet = (nid, size) :: rest.map (fun r => (r.id, r.size)) ∧
      userView s' nid (min o.size.toNat size.toNat) = userView s o.id (min o.size.toNat size.toNat) ∧
      Inv c s' := by
  obtain ⟨rest, hrem⟩ := removeRec_of_tracked c h ho
  have old := realloc_old_record c h hrem hfam
  obtain ⟨ob, hob1, hob, hol, _⟩ := old.blk
  obtain ⟨hl, _, hpre⟩ := har
  have hosz : o.size.toNat ≤ ob.bytes.length := by
    have := (usable_bytes_ge_request c hn o.size true old.acc).1
    omega
  have hfs := forcedSep_true c
  obtain ⟨s', evs, he, ht, hv⟩ := realloc_preserves_prefix c hn img hi s famMalloc o.id size true nid nb (.block k kb)
    o rest (dropBlock s.mem o.nodeId) [.unodefree o.nodeId] ob hacc hrem (by rw [hfs]; exact old.check) hob1 hosz
    (by rw [hfs]; exact ⟨hl, hpre o.id ob rfl hob⟩) (fun _ => ⟨k, kb, rfl, hkl, hkn⟩)
  have hinv := (cRealloc_inv c hn img hi h (some o.id) size (.moved nid nb) (.block k kb)
    (hfam ▸ ptrOk_of_mem h ho)
    ⟨hl, ‹_›, hpre⟩ hkl hkf (Or.inr hkn) (by simp))
  refine ⟨s', evs, rest, he, hrem, ht, ?_, hinv.inv_of_eq he⟩
  rw [hv]; unfold userView; rw [hob]; rfl

/-- A failing `PlatformSpecificRealloc` on any tracked malloc-family block (node block
    available): NULL, the old block is tracked again with its old size, its bytes are untouched, every
    other block is untouched, the invariant holds again. -/
theorem realloc_failure_retracks_inv (c : Cfg) (hn : NodeOk c) (img : NodeImage) (hi : ImgOk c img) (s : State) (h : Inv c s)
    (o : Rec) (ho : o ∈ s.tracked) (hfam : o.fam = famMalloc) (size : W) (k : Nat) (kb : List UInt8)
    (hacc : rejectsRealloc c size = false) (hkl : kb.length = c.node.toNat) (hkf : Fresh s.mem k) :
    ∃ s' evs rest, cRealloc c img s (some o.id) size .null (.block k kb) = (s', evs, .null) ∧
      removeRec s.tracked o.id = some (o, rest) ∧
      s'.trackedSet = (o.id, o.size) :: rest.map (fun r => (r.id, r.size)) ∧
      (∀ j, j ≠ k → j ≠ o.nodeId → findBlock s'.mem j = findBlock s.mem j) ∧
      Inv c s' := by
  obtain ⟨rest, hrem⟩ := removeRec_of_tracked c h ho
  have hfs := forcedSep_true c
  obtain ⟨s', evs, he, ht, hfr⟩ := realloc_failure_retracks_separate c img hi s famMalloc o.id size true k kb o rest
    (dropBlock s.mem o.nodeId) [.unodefree o.nodeId] hacc hfs hrem (realloc_old_record c h hrem hfam).check hkl
  have hinv := (cRealloc_inv c hn img hi h (some o.id) size .null (.block k kb)
    (hfam ▸ ptrOk_of_mem h ho)
    trivial hkl hkf trivial (by simp))
  refine ⟨s', evs, rest, he, hrem, ht, ?_, hinv.inv_of_eq he⟩
  intro j hj1 hj2
  rw [hfr j hj1, findBlock_dropBlock_ne hj2]

/-! ## release: `cpputest_free`, `operator delete`, `operator delete[]` -/

/-- Releasing any tracked block with the release function of its family, in both layouts: nothing is reported; `free_memory`
    is called exactly once, with the very pointer the platform handed out, after `freeMemoryLeakNode` for a separately kept
    node; exactly this record, its data block and its node block go, every other block is untouched, and the invariant
    holds again. -/
theorem release_exact (c : Cfg) (hn : NodeOk c) (s : State) (h : Inv c s) (r : Rec) (hr : r ∈ s.tracked)
    (sep0 : Bool) (hsep0 : sep0 = (r.fam == famMalloc)) :
    ∃ s' rest, release c s r.fam (some r.id) sep0 =
        (s', (if r.sep then [.unodefree r.nodeId] else []) ++ [.ufree r.id], .null) ∧
      removeRec s.tracked r.id = some (r, rest) ∧ s'.tracked = rest ∧
      findBlock s'.mem r.id = none ∧ (r.sep = true → findBlock s'.mem r.nodeId = none) ∧
      (∀ j, j ∉ r.owned → findBlock s'.mem j = findBlock s.mem j) ∧ Inv c s' := by
  obtain ⟨rest, hrem⟩ := removeRec_of_tracked c h hr
  obtain ⟨m', he, hinv, h1, h2, h3⟩ := release_tracked c hn h hrem rfl hsep0
  exact ⟨_, rest, he, hrem, rfl, h1, h2, h3, hinv⟩

/-- `cpputest_free(p)` of a tracked malloc-family block -/
theorem free_releases_exactly (c : Cfg) (hn : NodeOk c) (s : State) (h : Inv c s) (r : Rec) (hr : r ∈ s.tracked)
    (hfam : r.fam = famMalloc) :
    ∃ s' rest, cFree c s (some r.id) = (s', [.unodefree r.nodeId, .ufree r.id], .null) ∧
      removeRec s.tracked r.id = some (r, rest) ∧ s'.tracked = rest ∧
      findBlock s'.mem r.id = none ∧ findBlock s'.mem r.nodeId = none ∧
      (∀ j, j ≠ r.id → j ≠ r.nodeId → findBlock s'.mem j = findBlock s.mem j) ∧ Inv c s' := by
  have hsep : r.sep = true := by rw [(h.recs r hr).lay, hfam]; exact sepOf_malloc c
  obtain ⟨s', rest, he, hrem, ht, h1, h2, h3, hinv⟩ := release_exact c hn s h r hr true (by rw [hfam]; rfl)
  rw [hfam, hsep] at he
  refine ⟨s', rest, he, hrem, ht, h1, h2 hsep, ?_, hinv⟩
  intro j hj1 hj2
  exact h3 j fun hjo => ((mem_owned_iff r j).mp hjo).elim hj1 fun hx => hj2 hx.2

/-- `operator delete(p)` / `operator delete[](p)` of a tracked block of that family: in the default
    build the record is inline and only `free_memory(p)` is called; without guard bytes the node is
    separate and is handed back first -/
theorem delete_releases_exactly (c : Cfg) (hn : NodeOk c) (s : State) (h : Inv c s) (r : Rec) (hr : r ∈ s.tracked)
    (array : Bool) (hfam : r.fam = (if array then famNewArray else famNew)) :
    ∃ s' rest, operatorDelete c s array (some r.id) =
        (s', (if c.check then [] else [.unodefree r.nodeId]) ++ [.ufree r.id], .null) ∧
      r.sep = !c.check ∧
      removeRec s.tracked r.id = some (r, rest) ∧ s'.tracked = rest ∧
      findBlock s'.mem r.id = none ∧
      (∀ j, j ∉ r.owned → findBlock s'.mem j = findBlock s.mem j) ∧ Inv c s' := by
  have hnm : (r.fam == famMalloc) = false := by rw [hfam]; cases array <;> decide
  have hsep : r.sep = !c.check := by
    rw [(h.recs r hr).lay]; unfold sepOf forcedSep; rw [hnm]; simp
  obtain ⟨s', rest, he, hrem, ht, h1, _, h3, hinv⟩ := release_exact c hn s h r hr false hnm.symm
  refine ⟨s', rest, ?_, hsep, hrem, ht, h1, h3, hinv⟩
  unfold operatorDelete
  rw [← hfam, he, hsep]
  cases c.check <;> rfl

/-- releasing NULL or a pointer the detector does not track changes nothing (the latter is reported) -/
theorem release_untracked_leaves_state (c : Cfg) (s : State) (fam : Nat) (sep0 : Bool) :
    release c s fam none sep0 = (s, [], .null) ∧
    ∀ id, (∀ r ∈ s.tracked, r.id ≠ id) → release c s fam (some id) sep0 = (s, [.misuse "nonallocated"], .null) := by
  refine ⟨rfl, fun id hid => (release_untracked c s fam sep0).2 id ?_⟩
  cases hr : removeRec s.tracked id with
  | none => rfl
  | some p =>
    exact absurd (removeRec_mem hr).2 (hid p.1 (removeRec_mem hr).1)

/-! ## the pointer handed to the caller is the pointer the platform returned -/

/-- The pointer a successful allocation hands to the caller is the block the platform returned for this very call, at offset 0
    (a model pointer is a block: `Outcome.ptr id` is the first byte of block `id`; that the C++ stores and returns `memory`
    itself is shape-checked by the translator and the offset is observed by the harness).  So the caller's pointer has the
    platform's alignment, and it is the pointer later handed to `free_memory` (`release_exact`). -/
theorem returned_pointer_is_platform_pointer (c : Cfg) (hn : NodeOk c) (img : NodeImage) (hi : ImgOk c img) (s : State)
    (h : Inv c s) (op : Op) (hop : OpOk c s op) (id : Nat) (hp : (step c img s op).2.2 = .ptr id) :
    op.platformBlock = id :=
  (step_inv c hn img hi h op hop).2.2 id hp

/-! ## `realloc(p, 0)` and `realloc(NULL, n)` -/

/-- the platform is never asked for 0 bytes, in either build and either layout (a zero-byte
    `realloc` may free the block although NULL is returned, which is why the build without guard
    bytes turns a zero-byte request into one byte) -/
theorem request_never_zero (c : Cfg) (hn : NodeOk c) (size : W) (sep : Bool) (hacc : rejectsAlloc c size = false) :
    1 ≤ (allocReq c sep size).toNat ∧ 1 ≤ (reallocReq c sep size).toNat := by
  have hreq := allocReq_toNat_acc c hn size sep hacc
  have := (swciNat_bounds c size.toNat).2.2
  rw [reallocReq_eq, hreq]
  unfold extNat
  split <;> omega

/-- a request for 0 bytes is an ordinary, accepted request -/
theorem zero_size_accepted (c : Cfg) (hn : NodeOk c) : rejectsAlloc c 0#64 = false ∧ rejectsRealloc c 0#64 = false := by
  have := small_accepted c hn 0#64 (by simp)
  exact ⟨this, by rw [rejectsRealloc_eq]; exact this⟩

/-- `cpputest_realloc(p, 0)` of any tracked block: the platform realloc is asked for at least one byte; when it answers, the
    new block replaces the old one in the table and the invariant holds. -/
theorem realloc_to_zero (c : Cfg) (hn : NodeOk c) (img : NodeImage) (hi : ImgOk c img) (s : State) (h : Inv c s)
    (o : Rec) (ho : o ∈ s.tracked) (hfam : o.fam = famMalloc) (nid : Nat) (nb : List UInt8) (k : Nat) (kb : List UInt8)
    (har : RAns.EnvOk s.mem (some o.id) (reallocReq c true 0#64).toNat (.moved nid nb))
    (hkl : kb.length = c.node.toNat) (hkf : Fresh s.mem k) (hkn : k ≠ nid) :
    1 ≤ (reallocReq c true 0#64).toNat ∧
    ∃ (s' : State) (evs : List Ev) (rest : List Rec), cRealloc c img s (some o.id) 0#64 (.moved nid nb) (.block k kb) = (s', evs, .ptr nid) ∧
      s'.trackedSet = (nid, 0#64) :: rest.map (fun r => (r.id, r.size)) ∧ Inv c s' := by
  obtain ⟨ha, hr⟩ := zero_size_accepted c hn
  obtain ⟨s', evs, rest, he, _, ht, _, hinv⟩ :=
    realloc_preserves_prefix_inv c hn img hi s h o ho hfam 0#64 nid nb k kb hr har hkl hkf hkn
  exact ⟨(request_never_zero c hn 0#64 true ha).2, s', evs, rest, he, ht, hinv⟩

/-- `cpputest_realloc(NULL, n)` in any reachable state behaves as `cpputest_malloc(n)`: the
    platform realloc's block is tracked with size `n` on top of what was tracked, the invariant holds. -/
theorem realloc_null_pointer_inv (c : Cfg) (hn : NodeOk c) (img : NodeImage) (hi : ImgOk c img) (s : State) (h : Inv c s)
    (size : W) (nid : Nat) (nb : List UInt8) (k : Nat) (kb : List UInt8)
    (hacc : rejectsRealloc c size = false)
    (hl : nb.length = (reallocReq c true size).toNat) (hnf : Fresh s.mem nid)
    (hkl : kb.length = c.node.toNat) (hkf : Fresh s.mem k) (hkn : k ≠ nid) :
    ∃ s' evs, cRealloc c img s none size (.moved nid nb) (.block k kb) = (s', evs, .ptr nid) ∧
      s'.trackedSet = (nid, size) :: s.trackedSet ∧ Inv c s' := by
  obtain ⟨s', evs, he, ht⟩ := realloc_null_pointer_allocates c hn img hi s famMalloc size true nid nb (.block k kb) hacc
    (by rw [forcedSep_true c]; exact hl) (fun _ => ⟨k, kb, rfl, hkl, hkn⟩)
  have hinv := (cRealloc_inv c hn img hi h none size (.moved nid nb) (.block k kb)
    (fun id hid => nomatch hid) ⟨hl, Or.inl hnf, fun oid b hx => nomatch hx⟩ hkl hkf (Or.inr hkn) (by simp))
  exact ⟨s', evs, he, ht, hinv.inv_of_eq he⟩

/-- `cpputest_realloc(NULL, n)` with a failing platform realloc: NULL, nothing changes -/
theorem realloc_null_pointer_failure (c : Cfg) (img : NodeImage) (s : State) (size : W) (a2 : Ans)
    (hacc : rejectsRealloc c size = false) :
    cRealloc c img s none size .null a2 = (s, [.urealloc 0 (reallocReq c true size) 0], .null) := by
  rw [cRealloc, reallocMemory_none img s famMalloc true .null a2 hacc, forcedSep_true]; rfl

/-! ## non-vacuity of the history theorems -/

def img1 : NodeImage := fun _ => List.replicate 64 0x4e

/-- a concrete history that meets the contract: malloc, a client store, realloc that moves, free -/
def demoOps : List Op :=
  [ .malloc 5#64 (.block 1 (List.replicate 16 0)) (.block 2 (List.replicate 64 0)),
    .write 1 0 [104, 105],
    .realloc (some 1) 9#64 (.moved 3 ([104, 105, 0, 0, 0, 66, 65, 83] ++ List.replicate 8 0)) (.block 4 (List.replicate 64 0)),
    .free (some 3) ]

example : (run defaultCfg img1 {} demoOps).tracked = [] := by decide +kernel
example : ((run defaultCfg img1 {} (demoOps.take 3)).tracked.map (fun r => (r.id, r.size))) = [(3, 9#64)] := by decide +kernel
example : userView (run defaultCfg img1 {} (demoOps.take 3)) 3 2 = some [104, 105] := by decide +kernel

/-- the first step of that history meets its contract (fresh blocks of the requested lengths) -/
example : OpOk defaultCfg {} (.malloc 5#64 (.block 1 (List.replicate 16 0)) (.block 2 (List.replicate 64 0))) :=
  { len1 := by show (List.replicate 16 (0 : UInt8)).length = _; decide
    len2 := by show (List.replicate 64 (0 : UInt8)).length = _; decide
    fresh1 := fun b hb => nomatch hb
    fresh2 := fun b hb => nomatch hb
    differ := Or.inr (by decide) }

/-! ## the statement lists REGENERATED from the current source are the model

The theorems below make every theorem of this file a statement about what the source says: dropping, adding or reordering a
statement changes the list and breaks them. -/
open Gen.AllocLayoutCode

/-- `allocMemory` as the source has it is the hand model: same events, same outcome, and (unless the outcome is undefined
    behaviour) the same state.  Only hypothesis: the allocator does not hand out a block that is still live (needed where
    the source gives the data block back after a NULL node). -/
theorem allocMemoryCode_eq (c : Cfg) (img : NodeImage) (s : State) (fam : Nat) (size : W) (sep0 : Bool) (a1 a2 : Ans)
    (hf : a1.Fresh s.mem) :
    Agree (allocMemoryGen c img s fam size sep0 a1 a2) (allocMemory c img s fam size sep0 a1 a2) :=
  allocMemoryCode_agree c img s fam size sep0 a1 a2 hf

/-- `reallocMemory` as the source has it is the hand model, without any hypothesis. -/
theorem reallocMemoryCode_eq (c : Cfg) (img : NodeImage) (s : State) (fam : Nat) (ptr : Option Nat) (size : W)
    (sep0 : Bool) (ar : RAns) (a2 : Ans) :
    Agree (reallocMemoryGen c img s fam ptr size sep0 ar a2) (reallocMemory c img s fam ptr size sep0 ar a2) := by
  unfold reallocMemoryGen
  -- wherever the (effect-free) declaration of `oldNode` stands
  have hcode : reallocMemoryCode.filter (fun s => s != .declOldNode) = [.forceSepIfNoCheck, .guardReturnNull, .ifMemoryTakeOld] ++
      [.callReallocInner, .ifFailedRetrack, .returnNew] := by decide
  rw [← runTop_drop_decl, hcode]
  -- the model's case tree; the statements up to the call of the inner function are run with the facts of the case
  rcases reallocMemory_cases c img s fam ptr size sep0 ar a2 with
    ⟨hrej, he⟩ | ⟨hrej, rfl, he⟩ | ⟨id, hrej, rfl, hrem, he⟩ | ⟨id, o, rest, m1, evs, hrej, rfl, hrem, ⟨hck, he⟩ | ⟨hck, he⟩⟩ <;>
    rw [he, hrej]
  · exact ⟨rfl, fun _ => rfl⟩
  · exact reallocRest_agree ⟨c, img, fam, size, false, .null, a2, ar⟩ ⟨s, [], forcedSep c sep0, none, .unset, .unset, none, .unset, none⟩ none rfl rfl
  all_goals
    simp only [runTop, stepTop, stepMid, leaf, List.cons_append, List.nil_append, Bool.false_eq_true, if_false, Option.isSome, if_true,
      reallocTakeOldCode, runMid, hrem]
  · exact ⟨rfl, fun _ => rfl⟩
  · simp only [hck]
    exact reallocRest_agree ⟨c, img, fam, size, false, .null, a2, ar⟩
      ⟨{ s with tracked := rest, mem := m1 }, evs, forcedSep c sep0, some id, .unset, .unset, none, .found o, some o⟩ (some o) rfl
      (by simp [(removeRec_perm hrem).2])
  · simp only [hck]; exact ⟨rfl, nofun⟩

/-- whenever the hand model does not reach undefined behaviour the two are EQUAL -/
theorem agree_eq {x y : State × List Ev × Outcome} (h : Agree x y) (hu : y.2.2.isUb = false) : x = y :=
  h.eq hu

/-- Under the environment contract the regenerated `allocMemory` never writes outside a block and never dereferences NULL, and
    is equal to the hand model. -/
theorem allocGen_sound (c : Cfg) (h : NodeOk c) (img : NodeImage) (hi : ImgOk c img) (s : State) (fam : Nat)
    (size : W) (sep0 : Bool) (a1 a2 : Ans)
    (h1 : a1.Ok (allocReq c (forcedSep c sep0) size).toNat) (h2 : a2.Ok c.node.toNat)
    (hne : a2.isNull = true ∨ a2.id ≠ a1.id) (hf : a1.Fresh s.mem) :
    (allocMemoryGen c img s fam size sep0 a1 a2).2.2.isUb = false ∧
    allocMemoryGen c img s fam size sep0 a1 a2 = allocMemory c img s fam size sep0 a1 a2 := by
  have hu := alloc_never_ub c h img hi s fam size sep0 a1 a2 h1 h2 hne
  have he := agree_eq (allocMemoryCode_eq c img s fam size sep0 a1 a2 hf) hu
  exact ⟨by rw [he]; exact hu, he⟩

/-- The regenerated `reallocMemory` equals the hand model wherever the latter stays defined — in
    particular on every step of a history that meets its contract (`history_never_ub`). -/
theorem reallocGen_eq (c : Cfg) (img : NodeImage) (s : State) (fam : Nat) (ptr : Option Nat) (size : W)
    (sep0 : Bool) (ar : RAns) (a2 : Ans) (hu : (reallocMemory c img s fam ptr size sep0 ar a2).2.2.isUb = false) :
    reallocMemoryGen c img s fam ptr size sep0 ar a2 = reallocMemory c img s fam ptr size sep0 ar a2 :=
  agree_eq (reallocMemoryCode_eq c img s fam ptr size sep0 ar a2) hu

/-- … and it reaches undefined behaviour exactly when the hand model does (the listed finding
    c05-node-alloc-null is a property of the source's statement list, not of the hand model only). -/
theorem reallocGen_ub_iff (c : Cfg) (img : NodeImage) (s : State) (fam : Nat) (ptr : Option Nat) (size : W)
    (sep0 : Bool) (ar : RAns) (a2 : Ans) :
    (reallocMemoryGen c img s fam ptr size sep0 ar a2).2.2.isUb = (reallocMemory c img s fam ptr size sep0 ar a2).2.2.isUb := by
  rw [(reallocMemoryCode_eq c img s fam ptr size sep0 ar a2).1]

/-- the witness of c05-node-alloc-null on the regenerated list: `realloc(NULL, 10)`, node allocation NULL -/
theorem reallocGen_node_null_ub :
    (reallocMemoryGen defaultCfg (fun _ => List.replicate 64 0) {} famMalloc none 10#64 true
      (.moved 1 (List.replicate 16 0)) .null).2.2.isUb = true := by decide +kernel

example : allocMemoryGen defaultCfg img0 {} famNew 2#64 false (.block 1 (List.replicate 72 0)) .null =
    allocMemory defaultCfg img0 {} famNew 2#64 false (.block 1 (List.replicate 72 0)) .null := by decide +kernel
example : (allocMemoryGen defaultCfg img0 {} famMalloc 2#64 true (.block 1 (List.replicate 8 0)) .null).2 =
    ([.ualloc 8#64 1, .unode 64#64 0, .ufree 1], .null) := by decide +kernel
example : (reallocMemoryGen defaultCfg img1 (run defaultCfg img1 {} (demoOps.take 2)) famMalloc (some 1) 9#64 true
      (.moved 3 ([104, 105, 0, 0, 0, 66, 65, 83] ++ List.replicate 8 0)) (.block 4 (List.replicate 64 0))).2.2 = .ptr 3 := by decide +kernel

/-! ## a request succeeds exactly when it can be satisfied -/

/-- Converse of the failure theorems: under the environment contract `allocMemory` hands out a block if and only if the size is
    accepted, the allocator answered with a block and — in the separate-node layout — also with a node block. -/
theorem alloc_succeeds_iff (c : Cfg) (h : NodeOk c) (img : NodeImage) (hi : ImgOk c img) (s : State) (fam : Nat)
    (size : W) (sep0 : Bool) (a1 a2 : Ans)
    (h1 : a1.Ok (allocReq c (forcedSep c sep0) size).toNat) (h2 : a2.Ok c.node.toNat)
    (hne : a2.isNull = true ∨ a2.id ≠ a1.id) :
    (∃ id, (allocMemory c img s fam size sep0 a1 a2).2.2 = .ptr id) ↔
      (extNat c size.toNat < 2 ^ 64 ∧ a1.isNull = false ∧ (forcedSep c sep0 = true → a2.isNull = false)) := by
  constructor
  · rintro ⟨id, hp⟩
    by_cases hst : AllocStops c size (forcedSep c sep0) a1 a2
    · obtain ⟨evs, o, he, ho⟩ := allocMemory_stops c img s fam size sep0 a1 a2 hst
      rw [he] at hp
      rcases ho with rfl | ⟨rfl, _⟩ <;> cases hp
    · obtain ⟨bid, bytes, rfl, hacc, he⟩ := allocMemory_goes c img s fam size sep0 _ a2 hst
      refine ⟨accepted_lt c h size hacc, rfl, fun hs => ?_⟩
      cases a2 with
      | null => exact absurd (.inr (.inr ⟨hs, rfl⟩)) hst
      | fail => rw [he, hs] at hp; cases hp
      | block nid nb => rfl
  · rintro ⟨hlt, hb, hn⟩
    have hacc : rejectsAlloc c size = false := by
      cases hr : rejectsAlloc c size
      · rfl
      · have := (guard_iff_overflow c h size).mp hr; omega
    cases a1 with
    | block bid bytes =>
      obtain ⟨s', evs, he, _⟩ := alloc_returns_sound_block c h img hi s fam size sep0 bid bytes a2 hacc h1
        fun hs => node_block_of_env h2 hne (by rintro rfl; cases hn hs) (by rintro rfl; cases hn hs)
      exact ⟨bid, by rw [he]⟩
    | _ => cases hb

example : (∃ id, (allocMemory defaultCfg img0 {} famNew 2#64 false (.block 1 (List.replicate 72 0)) .null).2.2 = .ptr id) :=
  ⟨1, by decide +kernel⟩

/-! ## the global `operator new` / `operator delete` overloads and the C entry points (regenerated wiring) -/

/-- Every global overload of `operator new`, `operator new[]`, `operator delete`, `operator delete[]` in
    `MemoryLeakWarningPlugin.cpp` forwards its own first argument (and file/line where the callee takes them) to the function
    pointer of its family and form. -/
theorem global_operators_dispatch :
    forwarders.map (fun f => (f.overload, f.fptr, f.args)) =
    [("new(size_t)", "operator_new_fptr", "$0"),
     ("new(size_t,const char*,int)", "operator_new_debug_fptr", "$0,$1,(size_t)$2"),
     ("new(size_t,const char*,size_t)", "operator_new_debug_fptr", "$0,$1,$2"),
     ("delete(void*)", "operator_delete_fptr", "$0"),
     ("delete(void*,const char*,int)", "operator_delete_fptr", "$0"),
     ("delete(void*,const char*,size_t)", "operator_delete_fptr", "$0"),
     ("delete(void*,size_t)", "operator_delete_fptr", "$0"),
     ("new[](size_t)", "operator_new_array_fptr", "$0"),
     ("new[](size_t,const char*,int)", "operator_new_array_debug_fptr", "$0,$1,(size_t)$2"),
     ("new[](size_t,const char*,size_t)", "operator_new_array_debug_fptr", "$0,$1,$2"),
     ("delete[](void*)", "operator_delete_array_fptr", "$0"),
     ("delete[](void*,const char*,int)", "operator_delete_array_fptr", "$0"),
     ("delete[](void*,const char*,size_t)", "operator_delete_array_fptr", "$0"),
     ("delete[](void*,size_t)", "operator_delete_array_fptr", "$0"),
     ("new(size_t,const std::nothrow_t&)", "operator_new_nothrow_fptr", "$0"),
     ("delete(void*,const std::nothrow_t&)", "operator_delete_fptr", "$0"),
     ("new[](size_t,const std::nothrow_t&)", "operator_new_array_nothrow_fptr", "$0"),
     ("delete[](void*,const std::nothrow_t&)", "operator_delete_array_fptr", "$0")] := rfl

/-- With the default (not thread safe) overloads switched on, every `operator new` overload reaches a
    variant of the regenerated `mem_leak_operator_new*` table with the SAME array-ness (so the block is
    recorded in the family its `delete` will check) that is a nothrow variant exactly for the
    `std::nothrow` overloads; every `operator delete` overload reaches the delete of ITS array-ness. -/
theorem overloads_reach_matching_variant :
    (∀ f ∈ forwarders, f.isDelete = false →
      ∃ v, f.target.bind findVariant = some v ∧ NewVariant.array v = f.array ∧
        NewVariant.nothrow v = (f.overload == "new(size_t,const std::nothrow_t&)" || f.overload == "new[](size_t,const std::nothrow_t&)")) ∧
    (∀ f ∈ forwarders, f.isDelete = true →
      f.target = some (if f.array then "mem_leak_operator_delete_array" else "mem_leak_operator_delete")) := by
  decide +kernel

/-- The one-line C entry points forward every argument in order, down to the switched function pointers, which the default
    overloads point at `mem_leak_malloc/realloc/free`. -/
theorem c_entry_points_forward :
    cForwarders =
    [("cpputest_malloc", "cpputest_malloc_location", "$0,'<unknown>',0"),
     ("cpputest_strdup", "cpputest_strdup_location", "$0,'<unknown>',0"),
     ("cpputest_strndup", "cpputest_strndup_location", "$0,$1,'<unknown>',0"),
     ("cpputest_calloc", "cpputest_calloc_location", "$0,$1,'<unknown>',0"),
     ("cpputest_realloc", "cpputest_realloc_location", "$0,$1,'<unknown>',0"),
     ("cpputest_free", "cpputest_free_location", "$0,'<unknown>',0"),
     ("cpputest_realloc_location", "cpputest_realloc_location_with_leak_detection", "$0,$1,$2,$3"),
     ("cpputest_free_location", "cpputest_free_location_with_leak_detection", "$0,$1,$2"),
     ("cpputest_malloc_location_with_leak_detection", "malloc_fptr", "$0,$1,$2"),
     ("cpputest_realloc_location_with_leak_detection", "realloc_fptr", "$0,$1,$2,$3"),
     ("cpputest_free_location_with_leak_detection", "free_fptr", "$0,$1,$2")] ∧
    (defaultOverloads.filter (fun p => p.1 == "malloc_fptr" || p.1 == "realloc_fptr" || p.1 == "free_fptr")) =
      [("malloc_fptr", "mem_leak_malloc"), ("realloc_fptr", "mem_leak_realloc"), ("free_fptr", "mem_leak_free")] :=
  ⟨rfl, by decide +kernel⟩

/-- The small bodies the model takes for granted, exactly as the source has them; in particular the default allocator's
    `alloc_memory` is `checkedMalloc` (platform NULL → test failure `FAIL`, never a NULL answer), and the 3-argument
    `allocMemory` / `deallocMemory` forward to the 5-argument ones with the caller's layout flag. -/
theorem one_line_bodies :
    oneLiners =
    [("MemoryLeakDetector::allocMemory/3", "returnallocMemory(allocator,size,UNKNOWN,0,allocatNodesSeperately);"),
     ("MemoryLeakDetector::deallocMemory/3", "deallocMemory(allocator,(char*)memory,UNKNOWN,0,allocatNodesSeperately);"),
     ("checkedMalloc", "char*mem=(char*)PlatformSpecificMalloc(size);if(mem==NULLPTR)FAIL('mallocreturnednullpointer');returnmem;"),
     ("TestMemoryAllocator::alloc_memory", "returncheckedMalloc(size);"),
     ("TestMemoryAllocator::free_memory", "PlatformSpecificFree(memory);"),
     ("TestMemoryAllocator::allocMemoryLeakNode", "returnalloc_memory(size,'MemoryLeakNode',1);"),
     ("TestMemoryAllocator::freeMemoryLeakNode", "free_memory(memory,0,'MemoryLeakNode',1);"),
     ("NullUnknownAllocator::alloc_memory", "returnNULLPTR;"),
     ("NullUnknownAllocator::free_memory", ""),
     ("CrashOnAllocationAllocator::alloc_memory",
      "if(MemoryLeakWarningPlugin::getGlobalDetector()->getCurrentAllocationNumber()==allocationToCrashOn_)UT_CRASH();returnTestMemoryAllocator::alloc_memory(size,file,line);")] := by
  rfl

/-- The thread-safe entry points are the same functions behind a lock: each `threadsafe_mem_leak_*` function is
    `MemLeakScopedMutex lock;` followed by the very body of its plain twin, and `turnOnThreadSafeNewDeleteOverloads` points
    every function pointer at the twin of the function the default switch points it at.  So every theorem about the wrappers
    holds in thread-safe mode too (that the lock is taken and released properly is C10's subject). -/
theorem threadsafe_twins_same_body : ∀ p ∈ threadsafeTwins, p.2 = true := by decide

theorem threadsafe_switch_points_at_twins :
    threadsafeOverloads = defaultOverloads.map (fun p => (p.1, "threadsafe_" ++ p.2)) ∧
    (∀ p ∈ defaultOverloads, p.2 ∈ threadsafeTwins.map (·.1)) := by decide +kernel

/-! ## the release path as the source has it -/

/-- `deallocMemory` as the source has it is the hand model; the branch `if (!allocator->hasBeenDestroyed())` is taken: the
    allocators of a history outlive it. -/
theorem deallocMemoryCode_eq (c : Cfg) (s : State) (fam : Nat) (ptr : Option Nat) (sep0 : Bool) :
    Agree (deallocMemoryGen c s fam ptr sep0) (deallocMemory c s fam ptr sep0) := by
  rcases deallocMemory_cases c s fam ptr sep0 with
    ⟨rfl, he⟩ | ⟨id, rfl, hrem, he⟩ | ⟨id, r, rest, m1, evs, rfl, hrem, ⟨hck, he⟩ | ⟨hck, he⟩⟩ <;> rw [he]
  · exact ⟨rfl, fun _ => rfl⟩
  all_goals
    unfold deallocMemoryGen
    simp only [deallocMemoryCode, deallocAliveCode, runTop, stepTop, stepMid, leaf, runMid, hrem]
  · exact ⟨rfl, fun _ => rfl⟩
  · simp only [hck]; exact ⟨rfl, fun _ => rfl⟩
  · simp only [hck]; exact ⟨rfl, nofun⟩

/-- `mem_leak_free` / `operator delete` with the regenerated `deallocMemory` equal the hand model
    wherever the latter stays defined … -/
theorem releaseGen_eq (c : Cfg) (s : State) (fam : Nat) (ptr : Option Nat) (sep0 : Bool)
    (hu : (release c s fam ptr sep0).2.2.isUb = false) :
    releaseGen c s fam ptr sep0 = release c s fam ptr sep0 := by
  unfold releaseGen release at *
  cases hi : invalidateMemory s ptr with
  | none => rfl
  | some s1 =>
    rw [hi] at hu
    exact agree_eq (deallocMemoryCode_eq c s1 fam ptr sep0) hu

/-- … in particular releasing any tracked block of any reachable state with the release function of
    its family: the regenerated code frees exactly that block, with the caller's own pointer, once
    (`release_exact` transferred to the source's statement list). -/
theorem releaseGen_exact (c : Cfg) (hn : NodeOk c) (s : State) (h : Inv c s) (r : Rec) (hr : r ∈ s.tracked)
    (sep0 : Bool) (hsep0 : sep0 = (r.fam == famMalloc)) :
    ∃ s' rest, releaseGen c s r.fam (some r.id) sep0 =
        (s', (if r.sep then [.unodefree r.nodeId] else []) ++ [.ufree r.id], .null) ∧
      removeRec s.tracked r.id = some (r, rest) ∧ s'.tracked = rest ∧
      findBlock s'.mem r.id = none ∧ Inv c s' := by
  obtain ⟨s', rest, he, hrem, ht, h1, _, _, hinv⟩ := release_exact c hn s h r hr sep0 hsep0
  refine ⟨s', rest, ?_, hrem, ht, h1, hinv⟩
  rw [releaseGen_eq c s r.fam (some r.id) sep0 (by rw [he]; rfl), he]

example : (releaseGen defaultCfg (run defaultCfg img1 {} (demoOps.take 3)) famMalloc (some 3) true).2 =
    ([.unodefree 4, .ufree 3], .null) := by decide +kernel

/-! ## whole histories through the regenerated code -/

/-- One public operation executed by the statement lists of the current source is the model's
    step, in every state that satisfies the invariant and for every operation that meets its
    contract (`OpOk`). -/
theorem stepGen_eq (c : Cfg) (hn : NodeOk c) (img : NodeImage) (hi : ImgOk c img) (s : State) (h : Inv c s)
    (op : Op) (hop : OpOk c s op) : stepGen c img s op = step c img s op := by
  have hnu := (step_preserves_inv c hn img hi s h op hop).2
  cases op with
  | new v size a1 a2 =>
    exact agree_wrap (newWrap v) (newWrap_ub v)
      (allocMemoryCode_eq c img s (if v.array then famNewArray else famNew) size false a1 a2 hop.2.1.fresh1) hnu
  | malloc size a1 a2 => exact agree_eq (allocMemoryCode_eq c img s famMalloc size true a1 a2 hop.fresh1) hnu
  | calloc num size a1 a2 =>
    have hnu' : (cCalloc c img s num size a1 a2).2.2.isUb = false := hnu
    show cCallocGen c img s num size a1 a2 = cCalloc c img s num size a1 a2
    rw [cCalloc_eq] at hnu' ⊢; rw [cCallocGen_eq]
    split
    · rfl
    · exact agree_wrap (thenWrite · 0 _ _) (thenWrite_ub 0 _ _)
        (allocMemoryCode_eq c img s famMalloc (callocRequest num size) true a1 a2 hop.fresh1) (by rwa [if_neg ‹_›] at hnu')
  | strdup buf a1 a2 =>
    show cStrdupGen c img s buf a1 a2 = cStrdup c img s buf a1 a2
    have hnu' : (cStrdup c img s buf a1 a2).2.2.isUb = false := hnu
    unfold cStrdupGen cStrdup at *
    cases hl : cstrlen buf with
    | none => rfl
    | some len =>
      rw [hl] at hnu'
      exact strdupAllocGen_eq c img s buf _ a1 a2 hop.2.2.fresh1 hnu'
  | strndup buf n a1 a2 =>
    show cStrndupGen c img s buf n a1 a2 = cStrndup c img s buf n a1 a2
    have hnu' : (cStrndup c img s buf n a1 a2).2.2.isUb = false := hnu
    unfold cStrndupGen cStrndup at *
    cases hl : cstrlen buf with
    | none => rfl
    | some len =>
      rw [hl] at hnu'
      exact strdupAllocGen_eq c img s buf _ a1 a2 hop.2.2.fresh1 hnu'
  | realloc ptr size ar a2 => exact reallocGen_eq c img s famMalloc ptr size true ar a2 hnu
  | free ptr => exact releaseGen_eq c s famMalloc ptr true hnu
  | delete array ptr => exact releaseGen_eq c s (if array then famNewArray else famNew) ptr false hnu
  | write id off src => rfl

/-- Every history executed by the statement lists of the current source is the model's history, state by state — so
    `history_inv`, `history_never_ub` and `inv_meaning` speak of the states the source's code reaches. -/
theorem history_gen_eq (c : Cfg) (hn : NodeOk c) (img : NodeImage) (hi : ImgOk c img) :
    ∀ (ops : List Op) (s : State), Inv c s → OpsOk c img s ops → runGen c img s ops = run c img s ops
  | [], _, _, _ => rfl
  | op :: ops, s, h, hok => by
    have he := stepGen_eq c hn img hi s h op hok.1
    show runGen c img (stepGen c img s op).1 ops = run c img (step c img s op).1 ops
    rw [he]
    exact history_gen_eq c hn img hi ops _ (step_preserves_inv c hn img hi s h op hok.1).1 hok.2

/-- the invariant for the states the source's code reaches -/
theorem history_gen_inv (c : Cfg) (hn : NodeOk c) (img : NodeImage) (hi : ImgOk c img) (ops : List Op)
    (hok : OpsOk c img {} ops) : Inv c (runGen c img {} ops) := by
  rw [history_gen_eq c hn img hi ops {} (inv_empty c) hok]
  exact history_inv c hn img hi ops hok

example : (runGen defaultCfg img1 {} demoOps).tracked = [] := by decide +kernel

/-! ## no truncation of the recorded size (requests of 2^32 bytes and more)

`node->size_` is what every later step works with: the guard bytes go to `memory + node->size_`,
`realloc` preserves and `invalidateMemory` poisons `node->size_` bytes, the corruption check looks
at `memory + node->size_`.  The declared type of the field is regenerated from the header. -/

/-- the record's size field is declared `size_t` (64 bits on LP64) -/
theorem size_field_is_size_t : nodeSizeFieldType = "size_t" ∧ nodeSizeFieldBits = 64 := by decide

/-- storing a `size_t` request into the field loses nothing, for EVERY size -/
theorem stored_size_exact (size : W) : storedSize size = size := by
  unfold storedSize
  have h : nodeSizeFieldBits = 64 := by decide
  rw [h]; simp

/-- the size-level plan of an accepted request: the recorded size is the requested size, the guard
    bytes start right behind the caller's bytes, and the platform is asked for enough -/
theorem alloc_plan_exact (c : Cfg) (h : NodeOk c) (size : W) (sep0 : Bool) (hacc : rejectsAlloc c size = false) :
    ∃ p, allocPlan c size sep0 = some p ∧ p.recSize = size ∧ p.guardOff = size.toNat ∧
      p.req = allocReq c (forcedSep c sep0) size ∧ p.guardOff + c.guard.toNat ≤ p.req.toNat := by
  refine ⟨planOf c (forcedSep c sep0) (allocReq c (forcedSep c sep0) size) size, by simp [allocPlan, hacc], ?_, ?_, rfl, ?_⟩
  · simp [planOf, stored_size_exact]
  · simp [planOf, stored_size_exact]
  · simp only [planOf, stored_size_exact]
    exact (usable_bytes_ge_request c h size (forcedSep c sep0) hacc).1

theorem realloc_plan_exact (c : Cfg) (h : NodeOk c) (size : W) (sep0 : Bool) (hacc : rejectsRealloc c size = false) :
    ∃ p, reallocPlan c size sep0 = some p ∧ p.recSize = size ∧ p.guardOff = size.toNat ∧
      p.req = reallocReq c (forcedSep c sep0) size ∧ p.guardOff + c.guard.toNat ≤ p.req.toNat :=
  alloc_plan_exact c h size sep0 hacc

/-- No truncation: whatever the size of an accepted request — 2^32 + 16 bytes as well as 16 — `allocMemory` tracks the block
    with exactly the requested size, and the guard bytes sit right behind the caller's `size` bytes. -/
theorem recorded_size_is_request (c : Cfg) (h : NodeOk c) (img : NodeImage) (hi : ImgOk c img) (s : State) (fam : Nat)
    (size : W) (sep0 : Bool) (id : Nat) (bytes : List UInt8) (a2 : Ans)
    (hacc : rejectsAlloc c size = false)
    (hlen : bytes.length = (allocReq c (forcedSep c sep0) size).toNat)
    (h2 : forcedSep c sep0 = true → ∃ nid nb, a2 = .block nid nb ∧ nb.length = c.node.toNat ∧ nid ≠ id) :
    ∃ p s' evs, allocPlan c size sep0 = some p ∧ p.recSize = size ∧
      allocMemory c img s fam size sep0 (.block id bytes) a2 = (s', evs, .ptr id) ∧
      s'.trackedSet = (id, p.recSize) :: s.trackedSet ∧
      (∃ b', findBlock s'.mem id = some b' ∧ (b'.bytes.drop p.guardOff).take c.guard.toNat = guardImage c ∧
        b'.bytes.take size.toNat = bytes.take size.toNat) := by
  obtain ⟨p, hp, hrec, hg, _, _⟩ := alloc_plan_exact c h size sep0 hacc
  obtain ⟨s', evs, he, ht, ⟨b', hb, _, htake, _, hgu⟩, _⟩ :=
    alloc_returns_sound_block c h img hi s fam size sep0 id bytes a2 hacc hlen h2
  exact ⟨p, s', evs, hp, hrec, he, by rw [hrec]; exact ht, b', hb, by rw [hg]; exact hgu, htake⟩

-- non-vacuity: a request of 2^32 + 16 bytes is accepted, planned with its full size, and a field of
-- 32 bits would have kept 16 of it
example : allocPlan defaultCfg (BitVec.ofNat 64 (2^32 + 16)) true =
    some ⟨BitVec.ofNat 64 (2^32 + 24), BitVec.ofNat 64 (2^32 + 16), 2^32 + 16, none⟩ := by decide +kernel
example : allocPlan defaultCfg (BitVec.ofNat 64 (2^32 + 16)) false =
    some ⟨BitVec.ofNat 64 (2^32 + 24 + 64), BitVec.ofNat 64 (2^32 + 16), 2^32 + 16, some (2^32 + 24)⟩ := by decide +kernel
example : reallocPlan defaultCfg (BitVec.ofNat 64 (2^32 + 4096)) true =
    some ⟨BitVec.ofNat 64 (2^32 + 4104), BitVec.ofNat 64 (2^32 + 4096), 2^32 + 4096, none⟩ := by decide +kernel
example : rejectsAlloc defaultCfg (BitVec.ofNat 64 (2^32 + 16)) = false ∧ NodeOk defaultCfg := ⟨by decide +kernel, defaultCfg_ok⟩
example : (((BitVec.ofNat 64 (2^32 + 16) : W).setWidth 32).setWidth 64).toNat = 16 := by decide +kernel

end AllocLayout
