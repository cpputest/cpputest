import CppUModel.Props.C02
import CppUModel.Props.C16
/-!
# C16x — the registry loop of the output-event model is the registry loop of the C02 model

Composition theorems connecting `OutEv.runAll flt scripts` (`Model/OutputEvents.lean`: the callbacks a `TestOutput` receives
during `TestRegistry::runAllTests`, shared by C16 JUnit and C20 TeamCity) with `Registry.runAllTests cfg tests`
(`Model/Registry.lean`, C02).  `toTests` turns the scripts into C02 tests (id = position, `ignored = !willRun`), `cfgOf flt` is
the C02 configuration with the optional name filter and run-ignored off.  Both event lists are projected to the common skeleton
`Sk`; `skeleton_agrees`: the two skeletons are EQUAL, so C02's theorems about the notification structure hold for the event
lists the JUnit and TeamCity writers fold over.
-/
namespace Compose.C16x
open OutEv (Script TestInfo)

/-! ## translation -/

/-- the C02 shell of a script at position `k`: an `IgnoredUtestShell` iff the script does not run; its own
    run-ignored flag is off -/
abbrev mkTest (k : Nat) (s : Script) : Registry.Test :=
  { id := k, group := s.info.group, name := s.info.name, ignored := !s.info.willRun, flag := false,
    file := s.info.file, line := s.info.line }

def toTestsFrom : Nat → List Script → List Registry.Test
  | _, [] => []
  | k, s :: rest => mkTest k s :: toTestsFrom (k + 1) rest

/-- the scripts as C02 tests: id = position in the registry's list -/
def toTests (ss : List Script) : List Registry.Test := toTestsFrom 0 ss

def toFilter (f : OutEv.Filter) : Registry.Filter := ⟨f.pat, f.strict, f.invert⟩

/-- at most one name filter, no group filter, run-ignored off -/
def cfgOf (flt : Option OutEv.Filter) : Registry.Cfg :=
  { groupFilters := [], nameFilters := (flt.map toFilter).toList, runIgnored := false }

/-- the `UtestShell` behind a C02 test id -/
def infoAt (all : List Script) (i : Nat) : TestInfo := (all[i]?.map (·.info)).getD default

/-! ## the common skeleton -/

inductive Sk
  | testsStarted
  | groupStarted (t : TestInfo)
  | testStarted (t : TestInfo)
  | testEnded
  | groupEnded
  | testsEnded (tests runs ignored filtered : Nat)
deriving DecidableEq, Repr

def skO : OutEv.Ev → Option Sk
  | .testRun _ _ => none
  | .testsStarted => some .testsStarted
  | .groupStarted t => some (.groupStarted t)
  | .testStarted t => some (.testStarted t)
  | .print _ => none
  | .failure _ => none
  | .veryVerbose _ => none
  | .testEnded _ _ => some .testEnded
  | .groupEnded _ => some .groupEnded
  | .testsEnded s => some (.testsEnded s.testCount s.runCount s.ignoredCount s.filteredOutCount)

def skR (inf : Nat → TestInfo) (c : Registry.Counters) : Registry.Ev → Option Sk
  | .testsStarted => some .testsStarted
  | .groupStart i => some (.groupStarted (inf i))
  | .testStart i => some (.testStarted (inf i))
  | .exec _ => none
  | .testEnd _ => some .testEnded
  | .groupEnd _ => some .groupEnded
  | .testsEnded => some (.testsEnded c.testCount c.runCount c.ignoredCount c.filteredOutCount)

/-! ## one test -/

theorem testEvs_skel (s : Script) (r : OutEv.R) :
    (OutEv.testEvs s r).filterMap skO = [.testStarted s.info, .testEnded] := by
  -- nothing a running test sends between its start and its end is part of the skeleton
  have hmid : (OutEv.testMid s).filterMap skO = [] :=
    List.filterMap_eq_nil_iff.mpr fun e he => by
      have := OutEv.inBody_testMid he
      cases e <;> first | rfl | cases this
  simp [OutEv.testEvs_eq, List.filterMap_append, hmid, skO]

theorem shouldRun_agrees (flt : Option OutEv.Filter) (s : Script) (k : Nat) :
    Registry.shouldRun (cfgOf flt) (mkTest k s) = OutEv.shouldRun flt s.info := by
  have hm : ∀ f : OutEv.Filter, (toFilter f).matches s.info.name = f.matches s.info.name := fun f => by
    rw [Registry.Filter.matches, Registry.gen_filterMatch]; rfl
  rw [Registry.shouldRun, Registry.gen_shouldRun]
  cases flt with
  | none => rfl
  | some f => simp [cfgOf, Registry.matchFilters, Registry.matchLoop, OutEv.shouldRun, hm]

structure Cn (r : OutEv.R) (c : Registry.Counters) : Prop where
  tests : r.tests = c.testCount
  runs : r.runs = c.runCount
  ignored : r.ignored = c.ignoredCount
  filtered : r.filtered = c.filteredOutCount

theorem step_agrees (flt : Option OutEv.Filter) (inf : Nat → TestInfo) (cf : Registry.Counters) (s : Script) (k : Nat)
    (hinf : inf k = s.info) {r : OutEv.R} {c : Registry.Counters} (h : Cn r c) :
    (OutEv.bodyEvs flt s r).filterMap skO =
        (Registry.testStep (cfgOf flt) (mkTest k s) c).2.filterMap (skR inf cf) ∧
      Cn (OutEv.bodyR flt s r) (Registry.testStep (cfgOf flt) (mkTest k s) c).1 := by
  have hw : Registry.willRun (cfgOf flt) (mkTest k s) = s.info.willRun := by simp [Registry.willRun, cfgOf]
  unfold OutEv.bodyEvs OutEv.bodyR OutEv.afterTest
  rw [Registry.testStep_eq, shouldRun_agrees, hw]
  have ht : r.tests + 1 = c.testCount + 1 := by rw [h.tests]
  cases OutEv.shouldRun flt s.info with
  | false => exact ⟨rfl, ht, h.runs, h.ignored, by show r.filtered + 1 = c.filteredOutCount + 1; rw [h.filtered]⟩
  | true =>
    simp only [if_true, testEvs_skel]
    cases s.info.willRun with
    | true =>
      exact ⟨by rw [← hinf]; rfl, ht, by show r.runs + 1 = c.runCount + 1; rw [h.runs], h.ignored, h.filtered⟩
    | false =>
      exact ⟨by rw [← hinf]; rfl, ht, h.runs, by show r.ignored + 1 = c.ignoredCount + 1; rw [h.ignored], h.filtered⟩

theorem endOfGroup_agrees (s : Script) (rest : List Script) (k : Nat) :
    Registry.endOfGroup (mkTest k s) (toTestsFrom (k + 1) rest) =
      OutEv.endOfGroup s rest := by
  cases rest with
  | nil => exact Registry.endOfGroup_nil _
  | cons n rest => exact Registry.endOfGroup_cons _ _ _

/-! ## the loop -/

theorem loop_agrees (flt : Option OutEv.Filter) (inf : Nat → TestInfo) (cf : Registry.Counters) :
    ∀ (rest : List Script) (k : Nat), (∀ (j : Nat) (s : Script), rest[j]? = some s → inf (k + j) = s.info) →
      ∀ (gs : Bool) (g0 : Nat) (r : OutEv.R) (c : Registry.Counters), Cn r c →
        (OutEv.loop flt gs g0 r rest).filterMap skO =
          (Registry.runLoop (cfgOf flt) gs (toTestsFrom k rest) c).2.filterMap (skR inf cf) ++
            [.testsEnded (Registry.runLoop (cfgOf flt) gs (toTestsFrom k rest) c).1.testCount
              (Registry.runLoop (cfgOf flt) gs (toTestsFrom k rest) c).1.runCount
              (Registry.runLoop (cfgOf flt) gs (toTestsFrom k rest) c).1.ignoredCount
              (Registry.runLoop (cfgOf flt) gs (toTestsFrom k rest) c).1.filteredOutCount]
  | [], k, _, gs, g0, r, c, h => by
    simp [OutEv.loop, toTestsFrom, Registry.runLoop, skO, OutEv.R.summary, h.tests, h.runs, h.ignored, h.filtered]
  | s :: rest, k, hinf, gs, g0, r, c, h => by
    have hk : inf k = s.info := by simpa using hinf 0 s rfl
    have hstep := step_agrees flt inf cf s k hk h
    have hrest : ∀ (j : Nat) (s' : Script), rest[j]? = some s' → inf (k + 1 + j) = s'.info := by
      intro j s' hj
      have := hinf (j + 1) s' (by simpa using hj)
      rw [← this]; congr 1; omega
    have ih := loop_agrees flt inf cf rest (k + 1) hrest (OutEv.endOfGroup s rest) (if gs then r.clock else g0)
      (OutEv.bodyR flt s r) _ hstep.2
    have hstart : (OutEv.startEvs gs s).filterMap skO =
        (if gs then [Registry.Ev.groupStart k] else []).filterMap (skR inf cf) := by
      cases gs <;> simp [OutEv.startEvs, skO, skR, hk]
    have hend : ∀ g r', (OutEv.endEvs s rest g r').filterMap skO =
        (if OutEv.endOfGroup s rest then [Registry.Ev.groupEnd k] else []).filterMap (skR inf cf) := by
      cases he : OutEv.endOfGroup s rest <;> simp [OutEv.endEvs, he, skO, skR]
    simp only [OutEv.loop, toTestsFrom, Registry.runLoop, List.filterMap_append, endOfGroup_agrees, hstart, hend,
      hstep.1, ih, List.append_assoc]

theorem infoAt_spec (all : List Script) : ∀ (j : Nat) (s : Script), all[j]? = some s → infoAt all (0 + j) = s.info := by
  intro j s h
  simp [infoAt, h]

/-- Connects `OutEv.runAll` (C16/C20) with `Registry.runAllTests` (C02): same tests started and ended in the same order (the
    tests the filter selects, ignored ones included), group started/ended at the same places, and the counters printed with
    `testsEnded` are the C02 counters — for every registry content and every name filter. -/
theorem skeleton_agrees (flt : Option OutEv.Filter) (ss : List Script) :
    (OutEv.runAll flt ss).filterMap skO =
      (Registry.runAllTests (cfgOf flt) (toTests ss)).2.filterMap
        (skR (infoAt ss) (Registry.runAllTests (cfgOf flt) (toTests ss)).1) := by
  have h := loop_agrees flt (infoAt ss) (Registry.runAllTests (cfgOf flt) (toTests ss)).1 ss 0 (infoAt_spec ss)
    true 0 {} {} ⟨rfl, rfl, rfl, rfl⟩
  unfold OutEv.runAll Registry.runAllTests toTests
  simp only [List.filterMap_cons, List.filterMap_append, List.filterMap_nil, skO, skR, List.cons_append, List.nil_append]
  rw [h]
  rfl

/-! ## corollaries: C02's theorems about the notifications, for the writers' event lists -/

def groupStartedInfos (evs : List OutEv.Ev) : List TestInfo :=
  evs.filterMap (fun e => match e with | .groupStarted t => some t | _ => none)

def skGroupStarts (l : List Sk) : List TestInfo :=
  l.filterMap (fun e => match e with | .groupStarted t => some t | _ => none)

def skGroupEnds (l : List Sk) : Nat := (l.filter (fun e => e == .groupEnded)).length

theorem skGroupStarts_O (evs : List OutEv.Ev) : skGroupStarts (evs.filterMap skO) = groupStartedInfos evs := by
  rw [skGroupStarts, groupStartedInfos, List.filterMap_filterMap]
  congr 1; funext e; cases e <;> rfl

theorem skGroupStarts_R (inf : Nat → TestInfo) (c : Registry.Counters) (evs : List Registry.Ev) :
    skGroupStarts (evs.filterMap (skR inf c)) = (Registry.groupStarts evs).map inf := by
  rw [skGroupStarts, Registry.groupStarts, List.filterMap_filterMap, List.map_filterMap]
  congr 1; funext e; cases e <;> rfl

theorem skGroupEnds_O (evs : List OutEv.Ev) :
    skGroupEnds (evs.filterMap skO) = (evs.filter (fun e => match e with | .groupEnded _ => true | _ => false)).length := by
  rw [skGroupEnds, List.filter_filterMap, List.length_filterMap_eq_countP, List.countP_eq_length_filter]
  congr 2; funext e; cases e <;> rfl

theorem skGroupEnds_R (inf : Nat → TestInfo) (c : Registry.Counters) (evs : List Registry.Ev) :
    skGroupEnds (evs.filterMap (skR inf c)) = (Registry.groupEnds evs).length := by
  rw [skGroupEnds, Registry.groupEnds, List.filter_filterMap, List.length_filterMap_eq_countP,
    List.length_filterMap_eq_countP]
  congr 1; funext e; cases e <;> rfl

/-- C02's `group_notifications_at_block_boundaries`, carried over to the event list the writers
    consume: `printCurrentGroupStarted` is called exactly for the first test of every block of C02's `groupBlocks`
    (maximal runs of equal group names), in order, and `printCurrentGroupEnded` exactly once per block — so the JUnit
    writer produces one file per C02 block and the TeamCity writer one suite per C02 block. -/
theorem group_placement (flt : Option OutEv.Filter) (ss : List Script) :
    groupStartedInfos (OutEv.runAll flt ss) =
      (Registry.blockHeads (Registry.groupBlocks (toTests ss))).map (infoAt ss) ∧
    ((OutEv.runAll flt ss).filter (fun e => match e with | .groupEnded _ => true | _ => false)).length =
      (Registry.groupBlocks (toTests ss)).length := by
  have hsk := skeleton_agrees flt ss
  have hb := Registry.group_notifications_at_block_boundaries (cfgOf flt) (toTests ss)
  constructor
  · rw [← skGroupStarts_O, hsk, skGroupStarts_R, hb.1]
  · rw [← skGroupEnds_O, hsk, skGroupEnds_R, hb.2.1]
    rw [Registry.blockLasts, List.length_filterMap_eq_countP, List.countP_eq_length]
    intro b hbm
    cases b with
    | nil => exact absurd rfl (Registry.groupBlocks_block_ne_nil _ _ hbm)
    | cons x xs => simp [List.getLast?_isSome]

def testStartedInfos (evs : List OutEv.Ev) : List TestInfo :=
  evs.filterMap (fun e => match e with | .testStarted t => some t | _ => none)

def skTestStarts (l : List Sk) : List TestInfo :=
  l.filterMap (fun e => match e with | .testStarted t => some t | _ => none)

theorem skTestStarts_O (evs : List OutEv.Ev) : skTestStarts (evs.filterMap skO) = testStartedInfos evs := by
  rw [skTestStarts, testStartedInfos, List.filterMap_filterMap]
  congr 1; funext e; cases e <;> rfl

theorem skTestStarts_R (inf : Nat → TestInfo) (c : Registry.Counters) (evs : List Registry.Ev) :
    skTestStarts (evs.filterMap (skR inf c)) = (Registry.started evs).map inf := by
  rw [skTestStarts, Registry.started, List.filterMap_filterMap, List.map_filterMap]
  congr 1; funext e; cases e <;> rfl

/-- C02's `each_selected_once`, carried over: `printCurrentTestStarted` is called exactly for the
    tests the C02 model selects (its `shouldRun`, i.e. by `selected_iff` the documented filter meaning), each once, in
    list order — these are the test cases of the JUnit report and the `testStarted` messages of TeamCity. -/
theorem tests_started_agree (flt : Option OutEv.Filter) (ss : List Script) :
    testStartedInfos (OutEv.runAll flt ss) =
      ((toTests ss).filter (Registry.shouldRun (cfgOf flt))).map (fun t => infoAt ss t.id) := by
  rw [← skTestStarts_O, skeleton_agrees, skTestStarts_R, (Registry.each_selected_once (cfgOf flt) (toTests ss)).1,
    List.map_map]
  rfl

/-- The summary handed to `printTestsEnded` carries C02's counters (`counts_exact` applies to it). -/
theorem summary_counts_agree (flt : Option OutEv.Filter) (ss : List Script) :
    ∃ s pre, OutEv.runAll flt ss = pre ++ [.testsEnded s] ∧
      s.testCount = (Registry.runAllTests (cfgOf flt) (toTests ss)).1.testCount ∧
      s.runCount = (Registry.runAllTests (cfgOf flt) (toTests ss)).1.runCount ∧
      s.ignoredCount = (Registry.runAllTests (cfgOf flt) (toTests ss)).1.ignoredCount ∧
      s.filteredOutCount = (Registry.runAllTests (cfgOf flt) (toTests ss)).1.filteredOutCount := by
  obtain ⟨s, pre, hl⟩ := OutEv.loop_ends flt ss true 0 {}
  have h := loop_agrees flt (infoAt ss) {} ss 0 (infoAt_spec ss) true 0 {} {} ⟨rfl, rfl, rfl, rfl⟩
  rw [hl] at h
  have hrun : OutEv.runAll flt ss = (.testsStarted :: pre) ++ [.testsEnded s] := by
    unfold OutEv.runAll; rw [hl]; rfl
  refine ⟨s, .testsStarted :: pre, hrun, ?_⟩
  -- both sides of `loop_agrees` end with a `testsEnded`: compare the last elements
  have hh := congrArg List.getLast? h
  simp only [List.filterMap_append, List.filterMap_cons, List.filterMap_nil, skO, List.getLast?_append,
    List.getLast?_singleton, Option.some_or, Option.some.injEq, Sk.testsEnded.injEq] at hh
  exact hh

/-! ## JUnit: one report file per C02 group block -/

/-- C16's `groupRuns` (the grouping its `suites_follow_groups` is stated with) and C02's `groupBlocks` cut the list
    at the same places: same block lengths, and both start their first block with the first test. -/
theorem groupRuns_blocks : ∀ (ss : List Script) (k : Nat),
    (JUnit.groupRuns ss).map List.length = (Registry.groupBlocks (toTestsFrom k ss)).map List.length ∧
    (∀ n rest, ss = n :: rest → (∃ run more, JUnit.groupRuns ss = (n :: run) :: more) ∧
      ∃ b bs, Registry.groupBlocks (toTestsFrom k ss) = (mkTest k n :: b) :: bs)
  | [], _ => ⟨rfl, fun n rest h => by cases h⟩
  | t :: rest, k => by
    refine ⟨?_, fun n rest' h => by
      cases h; exact ⟨JUnit.groupRuns_head t rest, Registry.groupBlocks_head _ _⟩⟩
    have ih := (groupRuns_blocks rest (k + 1)).1
    have hag := endOfGroup_agrees t rest k
    rw [toTestsFrom]
    cases he : OutEv.endOfGroup t rest
    · -- both go on: `t` joins the first run and the first block of the rest
      rw [he] at hag
      obtain ⟨run, more, h1, h2⟩ := JUnit.groupRuns_cons_go t rest he
      cases hb : Registry.groupBlocks (toTestsFrom (k + 1) rest) with
      | nil => rw [h1, hb] at ih; cases ih
      | cons b bs =>
        rw [h1, hb] at ih
        rw [h2, Registry.groupBlocks_cons_mid _ _ b bs hag hb]
        simpa using ih
    · rw [he] at hag
      rw [JUnit.groupRuns_cons_end t rest he, Registry.groupBlocks_cons_end _ _ hag, List.map_cons, List.map_cons, ih]
      rfl

/-- Connects C16's `suites_follow_groups` (the reports of a run
    correspond to `groupRuns`) with C02's `groupBlocks`: the number of report files the JUnit writer produces for a
    run is the number of blocks of `Registry.groupBlocks`, and file `i` holds as many test cases as tests of C16's
    run `i` ran, the runs having the lengths of the C02 blocks. -/
theorem junit_reports_are_registry_blocks (package timeString : Text.Bytes) (flt : Option OutEv.Filter) (ss : List Script) :
    (JUnit.reports package timeString (OutEv.runAll flt ss)).length = (Registry.groupBlocks (toTests ss)).length ∧
    (JUnit.groupRuns ss).map List.length = (Registry.groupBlocks (toTests ss)).map List.length := by
  have h1 := congrArg List.length (JUnit.suites_follow_groups package timeString flt ss)
  have h2 := (groupRuns_blocks ss 0).1
  have h3 := congrArg List.length h2
  simp only [List.length_map] at h1 h3
  exact ⟨h1.trans h3, h2⟩

/-! ## non-vacuity -/

def exScripts : List Script :=
  [ ⟨⟨OutEv.lit "A", OutEv.lit "t1", OutEv.lit "a.cpp", 3, true⟩, [.checks 2, .print (OutEv.lit "a.cpp") 4 (OutEv.lit "hi")]⟩,
    ⟨⟨OutEv.lit "A", OutEv.lit "skip", OutEv.lit "a.cpp", 9, true⟩, []⟩,
    ⟨⟨OutEv.lit "B", OutEv.lit "t2", OutEv.lit "b.cpp", 5, false⟩, []⟩,
    ⟨⟨OutEv.lit "A", OutEv.lit "t3", OutEv.lit "a.cpp", 20, true⟩, [.failExit (OutEv.lit "a.cpp") 21 (OutEv.lit "boom"), .checks 5]⟩ ]

def exFilter : OutEv.Filter := ⟨OutEv.lit "t", true, true⟩   -- -xsn t : everything except the test named "t"

example : (OutEv.runAll (some ⟨OutEv.lit "skip", false, true⟩) exScripts).filterMap skO =
    [.testsStarted, .groupStarted exScripts[0]!.info, .testStarted exScripts[0]!.info, .testEnded, .groupEnded,
     .groupStarted exScripts[2]!.info, .testStarted exScripts[2]!.info, .testEnded, .groupEnded,
     .groupStarted exScripts[3]!.info, .testStarted exScripts[3]!.info, .testEnded, .groupEnded,
     .testsEnded 4 2 1 1] := by decide +kernel

example : (Registry.groupBlocks (toTests exScripts)).map (·.map (·.id)) = [[0, 1], [2], [3]] := by decide +kernel

end Compose.C16x
