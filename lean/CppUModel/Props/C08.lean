import CppUModel.Proofs.Mock
import CppUModel.Proofs.MockRun
import CppUModel.Proofs.MockLazy
import CppUModel.Proofs.MockIop
import CppUModel.Proofs.MockOut
import CppUModel.Model.MockParam
import CppUModel.Model.MockText
import CppUModel.Proofs.MockGen
import CppUModel.Gen.MockPlugin
import CppUModel.Model.MockTeardown
import CppUModel.Props.C09
/-!
# C08 — the mock verdict is exact

Model: `CppUModel/Model/Mock.lean` (from `MockSupport.cpp`,
`MockActualCall.cpp`, `MockExpectedCall.cpp`, `MockExpectedCallsList.cpp`, `MockFailure.cpp`);
vocabulary: `CppUModel/Spec/Mock.lean`.

The first theorems are about the *plain* class (no `ignoreOtherParameters`; `ignoreOtherCalls` does
not occur because a run is a list of checked calls on one `MockSupport`), for expectation lists
and call sequences of any length; the sections after them cover every class, lazily finished
calls, `ignoreOtherCalls` and several scopes.  `run es k calls` is the code: every call statement is
`actualCall(name)` + its `with…Parameter` / `withOutputParameter` / `onObject` steps in program
order + the finishing `checkExpectations` of the call, then `MockSupport::checkExpectations`.
-/
namespace Mock

structure Hyp (es : List Exp) (calls : List Call) : Prop where
  /-- no matching flags are set when the first call starts (as `expectNCalls` leaves them) -/
  clean : Clean es
  /-- no `ignoreOtherParameters` -/
  plain : Plain es
  /-- two expectations on the same function have the same signature or differ in a shared parameter -/
  unamb : Unambiguous es
  /-- parameter names inside one expectation are distinct -/
  wfe : ∀ e ∈ es, WFExp e
  /-- parameter names inside one actual call are distinct, `onObject` at most once -/
  wfc : ∀ c ∈ calls, WFCall c

theorem Hyp.ready {es : List Exp} {calls : List Call} (h : Hyp es calls) : Ready es :=
  .of_plain h.clean h.plain h.unamb h.wfe

/-- An actual call made with clean flags is fulfilled iff some expectation
    with capacity has the call's signature; it then consumes the first such expectation in
    declaration order (nothing else changes), and all matching flags are clean again when the
    call is finished — whatever the order of the call's steps. -/
theorem call_succeeds_iff (es : List Exp) (c : Call) (k : Nat) (buf : List UInt8)
    (hclean : Clean es) (hplain : Plain es) (hun : Unambiguous es) (hwfe : ∀ e ∈ es, WFExp e) (hwf : WFCall c) :
    ((callFull es k c.name c.segs buf).fail = none ↔ ∃ e ∈ es, e.canMatch = true ∧ fits e c = true) ∧
    ((callFull es k c.name c.segs buf).fail = none →
      (callFull es k c.name c.segs buf).es.map Exp.norm = modifyFirst (wants c) (fun e => e.bump k) (es.map Exp.norm) ∧
      Clean (callFull es k c.name c.segs buf).es) := by
  have h := Ready.of_plain hclean hplain hun hwfe
  have hf := callFull_fail_none_iff (c := c) k buf h hwf
  refine ⟨hf.trans (by simp [wants, List.any_eq_true]), fun hok => ?_⟩
  exact ⟨(callFull_consumes k buf h hwf (hf.mp hok)).norm, callFull_clean es k c.name c.segs buf hclean hok⟩

/-- A fulfilled call returns the return value of the expectation
    it consumed: the first one in declaration order with capacity and the call's signature.
    (Hence the k-th call with a signature receives the value of the k-th unit of capacity with
    that signature, by `call_succeeds_iff`.) -/
theorem returns_value_of_consumed (es : List Exp) (c : Call) (k : Nat) (buf : List UInt8)
    (hclean : Clean es) (hplain : Plain es) (hun : Unambiguous es) (hwfe : ∀ e ∈ es, WFExp e) (hwf : WFCall c)
    (hok : (callFull es k c.name c.segs buf).fail = none) :
    ∃ x, es.find? (wants c) = some x ∧ returnValueOf (callFull es k c.name c.segs buf).es = x.ret := by
  have h := Ready.of_plain hclean hplain hun hwfe
  obtain ⟨x, hx, hr, _⟩ := (callFull_consumes k buf h hwf ((callFull_fail_none_iff k buf h hwf).mp hok)).first
  exact ⟨x, hx, hr⟩

/-- After a fulfilled call the output buffers
    registered by the `withOutputParameter` steps (one per step, in program order) are the result
    of copying the consumed expectation's output bytes over them: for every buffer whose name the
    consumed expectation gives bytes for, the buffer starts with exactly those bytes.
    (The exact statement, including the untouched tail, is `outputs_copied_from_consumed`.) -/
theorem outputs_copied_from_consumed_partial (es : List Exp) (c : Call) (k : Nat) (buf : List UInt8)
    (hclean : Clean es) (hplain : Plain es) (hun : Unambiguous es) (hwfe : ∀ e ∈ es, WFExp e) (hwf : WFCall c)
    (hok : (callFull es k c.name c.segs buf).fail = none) :
    ∃ x b0, es.find? (wants c) = some x ∧ (callFull es k c.name c.segs buf).call.bufs = copyOutputs x b0 ∧
      b0.map (·.1) = outNames c.segs :=
  callFull_outputs k buf hclean hplain hun hwfe hwf hok

/-- The exact statement about output parameters: the buffers are exactly the caller's
    buffers with the consumed expectation's bytes copied over their beginning — the tail beyond
    the copied size, and buffers the expectation gives no bytes for, are untouched.
    `outputs_copied_from_consumed` proves it. -/
def outputs_copied_from_consumed_full : Prop :=
  ∀ (es : List Exp) (c : Call) (k : Nat) (buf : List UInt8),
    Clean es → Plain es → Unambiguous es → (∀ e ∈ es, WFExp e) → WFCall c →
    (callFull es k c.name c.segs buf).fail = none →
    ∃ x, es.find? (wants c) = some x ∧
      (callFull es k c.name c.segs buf).call.bufs = copyOutputs x ((outNames c.segs).map (fun n => (n, buf)))

theorem outputs_copied_from_consumed : outputs_copied_from_consumed_full :=
  fun _ _ k buf hclean hplain hun hwfe hwf hok => callFull_outputs_full k buf hclean hplain hun hwfe hwf hok

/-- A whole run of the code is the fold of the abstract consumption
    (`consume`: use up the first expectation with capacity and the call's signature) followed by
    the end-of-test check; it fails at the first call for which `consume` fails. -/
theorem run_refines_consume (es : List Exp) (k : Nat) (calls : List Call) (h : Hyp es calls) :
    (∀ es', consumeAll (es.map Exp.norm) k calls = some es' → run es k calls = endCheck es') ∧
    (consumeAll (es.map Exp.norm) k calls = none → run es k calls ≠ none) :=
  run_refinesI calls es k h.ready h.wfc

/-- Without strict ordering the scenario passes iff the multiset of
    actual calls equals the multiset of expected calls with their multiplicities: every call has
    the signature of some expectation, and every signature is called exactly as often as its
    class has capacity left. -/
theorem verdict_iff_multiset_eq (es : List Exp) (k : Nat) (calls : List Call) (h : Hyp es calls)
    (hcap : ∀ e ∈ es, e.actual ≤ e.expected) (hno : NoOrder es) :
    run es k calls = none ↔ MultisetEq es calls :=
  (run_none_iff_multisetEqI es k calls h.clean h.ready.unamb h.wfe h.wfc hcap hno).trans
    (multisetEq_iff_multisetEqI h.plain h.wfe).symm

/-- Any reordering of the actual calls has the same verdict. -/
theorem verdict_order_independent (es : List Exp) (k : Nat) (calls calls' : List Call)
    (h : Hyp es calls) (hp : calls.Perm calls')
    (hcap : ∀ e ∈ es, e.actual ≤ e.expected) (hno : NoOrder es) :
    run es k calls = none ↔ run es k calls' = none := by
  have h' : Hyp es calls' := ⟨h.clean, h.plain, h.unamb, h.wfe, fun c hc => h.wfc c (hp.mem_iff.mpr hc)⟩
  rw [verdict_iff_multiset_eq es k calls h hcap hno, verdict_iff_multiset_eq es k calls' h' hcap hno]
  exact multisetEq_perm hp

/-- With strict ordering (every expectation carries the order
    window `expectNCalls` gave it, per `MockSupport` object, i.e. per scope) the scenario passes
    iff the calls are, one after the other, exactly the declared calls in declaration order with
    their multiplicities. -/
theorem strict_verdict_iff_sequence_eq (es : List Exp) (k : Nat) (calls : List Call) (h : Hyp es calls)
    (hw : windowsFrom k es) : run es k calls = none ↔ SeqEq es calls :=
  run_none_iff_seqEq es k calls h.clean h.ready.unamb h.wfe h.wfc hw

/-- (one call) The failure a call reports — or none — is
    `Spec.diagnose`, which is computed from the signature sets only: no expectation of that name
    with capacity → unexpected call / unexpected additional n-th call; the first step after which
    no expectation with capacity is compatible with the steps made so far → unexpected parameter
    name / value, unexpected output parameter, unexpected object; all steps accepted but no
    expectation has exactly this signature → missing parameter, or missing object. -/
theorem first_deviation_diagnosis (es : List Exp) (c : Call) (k : Nat) (buf : List UInt8)
    (hclean : Clean es) (hplain : Plain es) (hun : Unambiguous es) (hwfe : ∀ e ∈ es, WFExp e) (hwf : WFCall c) :
    (callFull es k c.name c.segs buf).fail = diagnose es c :=
  callFull_diagnose k buf hclean hplain hun hwfe hwf

/-- The whole-run form of `first_deviation_diagnosis`.  The code's verdict is the specification run: the
    test fails at the first call whose diagnosis is not `none`, once, with exactly that
    diagnosis (calls after it are never looked at); if every call is fulfilled, the end-of-test
    check decides (unfulfilled expectations first, then out-of-order calls). -/
theorem run_is_specRun (es : List Exp) (k : Nat) (calls : List Call) (h : Hyp es calls) :
    run es k calls = specRun (es.map Exp.norm) k calls :=
  run_eq_specRun calls es k h.ready h.wfc

/-- the diagnosis is `none` exactly for the calls that are fulfilled -/
theorem diagnose_none_iff (es : List Exp) (c : Call)
    (hclean : Clean es) (hplain : Plain es) (hun : Unambiguous es) (hwfe : ∀ e ∈ es, WFExp e) (hwf : WFCall c) :
    diagnose es c = none ↔ ∃ e ∈ es, e.canMatch = true ∧ fits e c = true :=
  (diagnose_eq_none_iff es c).trans (by simp [wants, List.any_eq_true])

/-! ### every class, also `ignoreOtherParameters` and ambiguous sets -/

/-- Whatever the expectations are (also with
    `ignoreOtherParameters`, also ambiguous) and whatever the steps of the call: a call that
    reports no failure leaves every expectation with clean matching flags — the consumed one, the
    candidates that were not consumed, and the ones dropped on the way.  (This is what the two
    defects of this code area broke: marks surviving on dropped, resp. on non-consumed
    candidates let a later call pass without a required parameter.) -/
theorem no_stale_matching_state (es : List Exp) (k : Nat) (n : String) (segs : List Seg) (buf : List UInt8)
    (hclean : Clean es) (hf : (callFull es k n segs buf).fail = none) : Clean (callFull es k n segs buf).es :=
  callFull_clean es k n segs buf hclean hf

/-- hence every call of a run starts from clean flags -/
theorem calls_leave_clean : ∀ (calls : List Call) (es : List Exp) (k : Nat) (es' : List Exp),
    Clean es → afterCalls es k calls = some es' → Clean es'
  | [], es, k, es', h, ha => by
    simp only [afterCalls, Option.some.injEq] at ha; subst ha; exact h
  | c :: rest, es, k, es', h, ha => by
    simp only [afterCalls] at ha
    cases hf : (callFull es (k + 1) c.name c.segs bufInit).fail with
    | some m => rw [hf] at ha; cases ha
    | none =>
      rw [hf] at ha
      exact calls_leave_clean rest _ (k + 1) es' (callFull_clean es (k + 1) c.name c.segs bufInit h hf) ha

/-- The statement for every class, also with `ignoreOtherParameters` (textbook reading: a call
    matches such an expectation iff name/object agree and every parameter it names occurs in the
    call with an equal value, extra parameters allowed; for sets that are unambiguous in that
    sense the scenario passes iff the calls can be assigned one-to-one to the expected units —
    a count per class).  Plain expectations and expectations that ignore other parameters may be
    mixed.  `iop_verdict_iff_multiset_eq` proves it. -/
def iop_verdict_iff_multiset_eq_full : Prop :=
  ∀ (es : List Exp) (k : Nat) (calls : List Call),
    Clean es → UnambiguousI es → (∀ e ∈ es, WFExp e) → (∀ c ∈ calls, WFCall c) →
    (∀ e ∈ es, e.actual ≤ e.expected) → NoOrder es →
    (run es k calls = none ↔ MultisetEqI es calls)

/-- `call_succeeds_iff` for every class: also with `ignoreOtherParameters` (whose match is only
    taken when the call is finished): a call made with clean flags is fulfilled iff some
    expectation with capacity matches it, it consumes the first such in declaration order and
    returns its value. -/
theorem call_succeeds_iff_general (es : List Exp) (c : Call) (k : Nat) (buf : List UInt8)
    (hclean : Clean es) (hun : UnambiguousI es) (hwfe : ∀ e ∈ es, WFExp e) (hwf : WFCall c) :
    (es.any (wants c) = true →
      (callFull es k c.name c.segs buf).fail = none ∧
      (callFull es k c.name c.segs buf).es.map Exp.norm = modifyFirst (wants c) (fun e => e.bump k) (es.map Exp.norm) ∧
      ∃ x, (es.map Exp.norm).find? (wants c) = some x ∧ returnValueOf (callFull es k c.name c.segs buf).es = x.ret) ∧
    (es.any (wants c) = false → (callFull es k c.name c.segs buf).fail ≠ none) :=
  callFull_specI k buf hclean hun hwfe hwf

/-- The verdict theorem for every unambiguous expectation set,
    with or without `ignoreOtherParameters`. -/
theorem iop_verdict_iff_multiset_eq : iop_verdict_iff_multiset_eq_full :=
  run_none_iff_multisetEqI

/-- `strict_verdict_iff_sequence_eq` for every class, also with `ignoreOtherParameters` -/
theorem strict_verdict_iff_sequence_eq_general (es : List Exp) (k : Nat) (calls : List Call)
    (hclean : Clean es) (hun : UnambiguousI es) (hwfe : ∀ e ∈ es, WFExp e) (hwfc : ∀ c ∈ calls, WFCall c)
    (hw : windowsFrom k es) : run es k calls = none ↔ SeqEq es calls :=
  run_none_iff_seqEq es k calls hclean hun hwfe hwfc hw

/-- the verdict theorem for lazily finished calls, every class, with or without `ignoreOtherCalls` -/
theorem lazy_iop_verdict_iff_multiset_eq (sc : Scope) (stmts : List Stmt)
    (hname : sc.name = "") (hen : sc.enabled = true) (hlast : sc.last = none)
    (hclean : Clean sc.es) (hun : UnambiguousI sc.es) (hwfe : ∀ e ∈ sc.es, WFExp e)
    (hwfc : ∀ c ∈ stmts.map (·.call), WFCall c)
    (hcap : ∀ e ∈ sc.es, e.actual ≤ e.expected) (hno : NoOrder sc.es) :
    sc.lazyVerdict stmts = none ↔
      MultisetEqI sc.es (if sc.ioc then knownCalls sc.es (stmts.map (·.call)) else stmts.map (·.call)) := by
  rw [lazyVerdict_fresh sc stmts hname hen hlast]
  refine iop_verdict_iff_multiset_eq sc.es sc.actualOrder _ hclean hun hwfe (fun c hc => hwfc c ?_) hcap hno
  split at hc
  · exact (List.mem_filter.mp hc).1
  · exact hc

/-! ### the runs of the theorems are what the driver's per-scope functions compute -/

/-- `callFull` — the call statement all theorems talk about — is what the
    scope-level functions used by the correspondence driver compute (`Scope.actualCall`, the steps
    through `Scope.seg`, the finishing `Scope.checkLast`), on a `MockSupport` that is enabled, does
    not ignore the function, and has no call in flight: same failure, and same expectation list
    when the call does not fail; the call gets order number `actualCallOrder_ + 1`. -/
theorem scope_call_is_callFull (sc : Scope) (fn : String) (segs : List Seg) (buf : List UInt8)
    (hlast : sc.last = none) (hen : sc.enabled = true) (hioc : sc.ioc = false) :
    (sc.callNow fn segs buf).2 = (callFull sc.es (sc.actualOrder + 1) (sc.fullName fn) segs buf).fail ∧
    ((sc.callNow fn segs buf).2 = none →
      (sc.callNow fn segs buf).1.es = (callFull sc.es (sc.actualOrder + 1) (sc.fullName fn) segs buf).es ∧
      (sc.callNow fn segs buf).1.actualOrder = sc.actualOrder + 1) := by
  have haf : sc.afterFinish = sc := by cases sc; simp_all [Scope.afterFinish, Scope.settledEs]
  have hact : sc.actualCall fn = sc.startCall (sc.fullName fn) := by
    rw [Scope.actualCall_eq, checkLast_afterFinish, checkLast_eq]; simp only [Scope.settledFail, hlast, haf]
  unfold Scope.callNow
  rw [hact, startCall_checked hen (by rw [hioc]; rfl)]
  cases hw : (callStart sc.es (sc.actualOrder + 1) (sc.fullName fn)).fail with
  | some f =>
    rw [callFull_fail_of_start segs buf hw]
    exact ⟨rfl, fun h => by cases h⟩
  | none =>
    rw [segsLoop_eq buf segs _ _ rfl, callFull_eq]
    simp only [cs_eta _ hw]
    cases hs : (segsFrom (callStart sc.es (sc.actualOrder + 1) (sc.fullName fn)) buf segs).fail with
    | some f =>
      rw [callCheck_fail_some _ f hs]
      exact ⟨rfl, fun h => by cases h⟩
    | none =>
      simp only [Scope.checkLast, cs_eta _ hs]
      exact ⟨trivial, fun _ => ⟨trivial, trivial⟩⟩

/-- `mock().checkExpectations()` on the global mock alone, with no
    call in flight, is `endCheck`. -/
theorem check_is_endCheck (sc : Scope) (hname : sc.name = "") (hlast : sc.last = none) :
    (World.check { glob := sc, subs := [] } "").2 = endCheck sc.es := by
  rw [check_settled]
  simp only [Scope.settledFail, Scope.settledEs, hlast]

/-! ### lazily finished calls, `ignoreOtherCalls`, several scopes -/

/-- On a `MockSupport` (here the global mock, enabled) the run as the API
    performs it — a call stays in flight until the next `actualCall`, the return-value getter or
    `checkExpectations` finishes it; with `ignoreOtherCalls` calls to functions without an
    expectation are skipped — has exactly the verdict of the eager run `runG` in which every
    call is finished before the next statement.  For EVERY expectation list, whatever its class. -/
theorem lazy_run_is_eager (sc : Scope) (stmts : List Stmt) (hname : sc.name = "") (hen : sc.enabled = true) :
    sc.lazyVerdict stmts =
      match sc.settledFail with
      | some f => some f
      | none => runG sc.ioc sc.settledEs sc.actualOrder (stmts.map (·.call)) :=
  lazyVerdict_eq stmts sc hname hen

/-- Hence the verdict theorem holds for lazily finished calls:
    a fresh global mock without `ignoreOtherCalls`, plain unambiguous expectations. -/
theorem lazy_verdict_iff_multiset_eq (sc : Scope) (stmts : List Stmt)
    (hname : sc.name = "") (hen : sc.enabled = true) (hioc : sc.ioc = false) (hlast : sc.last = none)
    (h : Hyp sc.es (stmts.map (·.call))) (hcap : ∀ e ∈ sc.es, e.actual ≤ e.expected) (hno : NoOrder sc.es) :
    sc.lazyVerdict stmts = none ↔ MultisetEq sc.es (stmts.map (·.call)) := by
  rw [lazyVerdict_fresh sc stmts hname hen hlast, hioc]
  exact verdict_iff_multiset_eq sc.es sc.actualOrder _ h hcap hno

/-- `lazy_verdict_iff_multiset_eq` under strict order: lazily finished calls pass iff they are the declared sequence -/
theorem lazy_strict_verdict_iff_sequence_eq (sc : Scope) (stmts : List Stmt)
    (hname : sc.name = "") (hen : sc.enabled = true) (hioc : sc.ioc = false) (hlast : sc.last = none)
    (h : Hyp sc.es (stmts.map (·.call))) (hw : windowsFrom sc.actualOrder sc.es) :
    sc.lazyVerdict stmts = none ↔ SeqEq sc.es (stmts.map (·.call)) := by
  rw [lazyVerdict_fresh sc stmts hname hen hlast, hioc]
  exact strict_verdict_iff_sequence_eq sc.es sc.actualOrder _ h hw

/-- (plain class) With `ignoreOtherCalls` the scenario
    passes iff the multiset of the calls to functions that some expectation names equals the
    expected multiset; calls to other functions do not matter (they are not even numbered). -/
theorem ioc_verdict_iff_multiset_eq_partial (sc : Scope) (stmts : List Stmt)
    (hname : sc.name = "") (hen : sc.enabled = true) (hioc : sc.ioc = true) (hlast : sc.last = none)
    (h : Hyp sc.es (knownCalls sc.es (stmts.map (·.call)))) (hcap : ∀ e ∈ sc.es, e.actual ≤ e.expected) (hno : NoOrder sc.es) :
    sc.lazyVerdict stmts = none ↔ MultisetEq sc.es (knownCalls sc.es (stmts.map (·.call))) := by
  rw [lazyVerdict_fresh sc stmts hname hen hlast, hioc]
  exact verdict_iff_multiset_eq sc.es sc.actualOrder _ h hcap hno

/-- `mock().checkExpectations()` finishes the calls in flight of the global
    mock and of every named scope, then fails iff ANY of them has an unfulfilled expectation (else
    iff any has an out-of-order call). -/
theorem checkExpectations_over_scopes (w : World) :
    (w.check "").2 =
      match firstPendingFail (w.glob :: w.subs) with
      | some f => some f
      | none => endCheck w.allSettledEs :=
  check_over_scopes w

/-- `mock().expectedCallsLeft()` is true iff ANY scope has an unfulfilled expectation -/
theorem expectedCallsLeft_over_scopes (w : World) (h : firstPendingFail (w.glob :: w.subs) = none) :
    (w.left "").2.1 = none ∧ (w.left "").2.2 = w.allSettledEs.any (fun e => !e.isFulfilled) := by
  rw [World.left_global, (checkLasts_spec _).1, h, any_unfulfilled_checkLasts _ h]
  exact ⟨rfl, rfl⟩

/-- an unfulfilled expectation in any scope — global or named, first or last — fails the check -/
theorem unfulfilled_in_any_scope_fails (w : World) (sc : Scope) (e : Exp)
    (hpend : firstPendingFail (w.glob :: w.subs) = none)
    (hsc : sc ∈ w.glob :: w.subs) (he : e ∈ sc.settledEs) (hopen : e.actual ≠ e.expected) :
    (w.check "").2 = some msgUnfulfilled := by
  rw [checkExpectations_over_scopes, hpend]
  have : w.allSettledEs.any (fun x => !x.isFulfilled) = true := by
    simp only [List.any_eq_true, World.allSettledEs, List.mem_flatMap]
    exact ⟨e, ⟨sc, hsc, he⟩, by simp [Exp.isFulfilled, hopen]⟩
  simp [endCheck, this]

/-! ### the expectation history of the failure text (beyond the first line) -/

/-- Every expectation handed to a failure is listed exactly once: in the
    section "EXPECTED calls that WERE NOT fulfilled" or in "EXPECTED calls that WERE fulfilled". -/
theorem history_partition (es : List Exp) : (unfulfilledOf es ++ fulfilledOf es).Perm es := by
  unfold unfulfilledOf fulfilledOf
  have h := List.filter_append_perm (fun e : Exp => e.isFulfilled) es
  refine (List.perm_append_comm).trans ?_
  simpa using h

/-- The "WERE NOT fulfilled" section lists exactly the expectations
    whose call counter differs from the expected count, in declaration order; the "WERE fulfilled"
    section exactly the others. -/
theorem unfulfilled_section_exact (es : List Exp) :
    (∀ e, e ∈ unfulfilledOf es ↔ e ∈ es ∧ e.actual ≠ e.expected) ∧
    (∀ e, e ∈ fulfilledOf es ↔ e ∈ es ∧ e.actual = e.expected) ∧
    (unfulfilledOf es).Sublist es ∧ (fulfilledOf es).Sublist es := by
  refine ⟨fun e => ?_, fun e => ?_, List.filter_sublist, List.filter_sublist⟩
  · simp [unfulfilledOf, Exp.isFulfilled]
  · simp [fulfilledOf, Exp.isFulfilled]

/-- The end-of-test check reports "Expected call WAS
    NOT fulfilled" exactly when its "WERE NOT fulfilled" section is not empty (it never prints
    that failure with `<none>` in the section, and never omits it when something is open). -/
theorem unfulfilled_failure_iff_section_nonempty (es : List Exp) :
    endCheck es = some msgUnfulfilled ↔ unfulfilledOf es ≠ [] := by
  have hne : msgOutOfOrder ≠ msgUnfulfilled := by decide
  have h : unfulfilledOf es ≠ [] ↔ es.any (fun e => !e.isFulfilled) = true := by
    rw [ne_eq, ← List.isEmpty_iff, unfulfilledOf, filter_isEmpty_eq_not_any]; simp
  rw [h]
  unfold endCheck
  cases es.any (fun e => !e.isFulfilled) with
  | true => simp
  | false =>
    simp only [Bool.false_eq_true, if_false, iff_false]
    split
    · intro h'; exact hne (Option.some.inj h')
    · intro h'; cases h'

/-- the related-to history only lists expectations of the function the failing call was made to -/
theorem related_history_is_about_the_function (fn : String) (es : List Exp) :
    (∀ e ∈ unfulfilledOf (relatedTo fn es) ++ fulfilledOf (relatedTo fn es), e.name = fn ∧ e ∈ es) ∧
    (unfulfilledOf (relatedTo fn es) ++ fulfilledOf (relatedTo fn es)).Perm (es.filter (fun e => e.name == fn)) := by
  refine ⟨fun e he => ?_, history_partition _⟩
  have := (history_partition (relatedTo fn es)).mem_iff.mp he
  simp only [relatedTo, List.mem_filter, beq_iff_eq] at this
  exact ⟨this.2, this.1⟩

/-- the text of the history does not depend on the matching flags of the call in flight -/
theorem historyAll_norm (es : List Exp) : historyAll (es.map Exp.norm) = historyAll es := by
  simp only [historyAll, unfulfilledOf_norm, fulfilledOf_norm, sectionLines_norm]

/-- The expectation list the code is left with after a sequence of
    calls that all succeed is, up to the per-call matching flags, the abstract consumption of the
    calls (every class, any length). -/
theorem afterCalls_refines_consume : ∀ (calls : List Call) (es : List Exp) (k : Nat) (fin : List Exp),
    Clean es → UnambiguousI es → (∀ e ∈ es, WFExp e) → (∀ c ∈ calls, WFCall c) →
    afterCalls es k calls = some fin → consumeAll (es.map Exp.norm) k calls = some (fin.map Exp.norm) :=
  fun calls es k fin hclean hun hwfe hwfc h => by
    rw [← afterCalls_eq calls es k ⟨hclean, hun, hwfe⟩ hwfc, h]; rfl

/-- For every unambiguous expectation set (plain or
    ignoring other parameters) and every sequence of calls that are all fulfilled: the expectation
    history the end-of-test failure prints — both sections, every entry with its name, object, order
    window, parameter names and its two counters — is the history of the ABSTRACT state `consumeAll`
    (each call used up one unit of the first expectation with capacity and its signature): the
    "WERE NOT fulfilled" section lists exactly the expectations with capacity left, in declaration order. -/
theorem end_of_test_history_is_unconsumed_capacity (es : List Exp) (k : Nat) (calls : List Call) (fin : List Exp)
    (hclean : Clean es) (hun : UnambiguousI es) (hwfe : ∀ e ∈ es, WFExp e) (hwfc : ∀ c ∈ calls, WFCall c)
    (h : afterCalls es k calls = some fin) :
    ∃ es', consumeAll (es.map Exp.norm) k calls = some es' ∧ historyAll fin = historyAll es' ∧
      (unfulfilledOf fin).map Exp.norm = es'.filter (fun e => decide (e.actual ≠ e.expected)) := by
  refine ⟨fin.map Exp.norm, afterCalls_refines_consume calls es k fin hclean hun hwfe hwfc h, (historyAll_norm fin).symm, ?_⟩
  rw [← unfulfilledOf_norm]
  simp [unfulfilledOf, Exp.isFulfilled]

/-! ### parameter values: composition with the C09 value model -/

/-- The matching model stores parameter values in the normal
    form `paramKey` and compares them structurally; for two integer values of any two of the six
    integer types that is exactly `MockNamedValue::equals` (the regenerated `equalsGen`), and both
    hold iff the two values denote the same mathematical integer.  (From C09's `equals_int_iff`;
    an edit of an integer branch of `equals` in the source breaks that obligation and this one.) -/
theorem param_equal_iff_same_integer (a b : MVal) (ha : a.isInt = true) (hb : b.isInt = true) :
    (Gen.MockEquals.equalsGen a b = true ↔ paramKey a = paramKey b) ∧
    (paramKey a = paramKey b ↔ denote? a = denote? b) := by
  have hk : ∀ m : MVal, m.isInt = true → ∃ z, denote? m = some z ∧ paramKey m = Val.int z := by
    intro m hm
    cases m <;> simp [MVal.isInt] at hm <;> exact ⟨_, rfl, rfl⟩
  obtain ⟨x, hx, hxk⟩ := hk a ha
  obtain ⟨y, hy, hyk⟩ := hk b hb
  have h2 : paramKey a = paramKey b ↔ denote? a = denote? b := by
    rw [hxk, hyk, hx, hy]
    constructor
    · intro h; cases h; rfl
    · intro h; cases h; rfl
  exact ⟨(equals_int_iff a b ha hb).trans h2.symm, h2⟩

/-- an integer value never equals a non-integer one, in the code and in the model -/
theorem param_int_ne_nonint (a b : MVal) (hwb : b.WF) (ha : a.isInt = true) (hb : b.isInt = false) :
    Gen.MockEquals.equalsGen a b = false ∧ paramKey a ≠ paramKey b := by
  refine ⟨(equals_int_nonint_false a b hwb ha hb).1, ?_⟩
  have hka : ∃ z, paramKey a = Val.int z := by
    cases a <;> simp [MVal.isInt] at ha <;> exact ⟨_, rfl⟩
  obtain ⟨z, hz⟩ := hka
  rw [hz]
  cases b <;> simp [MVal.isInt] at hb <;> simp [paramKey, denote?]

/-! ### tests run with `MockSupportPlugin` -/

/-- In a run of any number of tests with `MockSupportPlugin`
    installed, the failures of a test are exactly those of its own scenario on a fresh mock, followed
    — if the test has not failed itself — by those of `mock().checkExpectations()`: the verdict of
    a test does not depend on the tests before it, whether they passed or failed. -/
theorem plugin_verdict_is_scenario_verdict :
    ∀ (bodies : List (World → BodyResult)),
      (∀ b ∈ bodies, ∀ w, w.glob.name = "" → (b w).w.glob.name = "") →
      pluginRun bodies World.init = bodies.map (fun b => testVerdict b World.init)
  | [], _ => rfl
  | b :: rest, h => by
    have hb := h b (by simp) World.init rfl
    simp only [pluginRun, List.map_cons]
    rw [pluginPost_world (b World.init) hb]
    rw [plugin_verdict_is_scenario_verdict rest (fun b' hb' => h b' (by simp [hb']))]

theorem testVerdict_eq (body : World → BodyResult) (w : World) :
    testVerdict body w = (body w).msgs ++ (if (body w).failed then [] else (body w).w.checkAllFailures) := rfl

/-- the guard of the end-of-test check in `MockSupportPlugin::postTestAction`, regenerated from the
    source on every run, is the test's OWN state — not a count over the whole run -/
theorem plugin_guard_is_own_test : Gen.MockPlugin.postGuard = "!test.hasFailed()" := by decide

/-! ### the mock verified in `teardown()` with the library's default reporter -/

/-- the body of `MockFailureReporter::failTest`, regenerated from `MockFailure.cpp` on every run: the
    failure is delivered to the test iff the test has not failed yet -/
theorem reporter_guard_is_not_failed_yet :
    Gen.MockReporter.failTestGuard = "!getTestToFail()->hasFailed()" ∧
    ∀ failed, Gen.MockReporter.reports failed = !failed :=
  ⟨by decide, fun _ => rfl⟩

/-- a delivering reporter ends `checkExpectations` at its first finding -/
theorem teardownDelivering_at_most_one (w : World) : (teardownDelivering w).1.length ≤ 1 := by
  unfold teardownDelivering
  split
  · simp
  · split
    · simp
    · split <;> simp

/-- A test that verifies its mock in `teardown()`
    (`mock().checkExpectations(); mock().clear();`) with the default reporter: if the body was left
    at its first mock failure (`msgs` has at most one entry, and a reported failure means the test has
    failed), the test is failed by the mock at most once over body and teardown — whatever
    `checkExpectations` finds afterwards (unfulfilled expectations, out-of-order calls, a call in
    flight) —, and a test that has already failed gets nothing from the end-of-test check. -/
theorem mock_fails_test_at_most_once (r : BodyResult)
    (h1 : r.msgs.length ≤ 1) (h2 : r.failed = false → r.msgs = []) :
    (r.msgs ++ (teardownPost r).1).length ≤ 1 ∧ (r.failed = true → (teardownPost r).1 = []) := by
  have hsil : r.failed = true → (teardownPost r).1 = [] := by
    intro hf
    simp [teardownPost, teardownPostWith, Gen.MockReporter.reports, hf, teardownSilent]
  refine ⟨?_, hsil⟩
  cases hf : r.failed with
  | true => simp [hsil hf, h1]
  | false =>
    simp only [h2 hf, List.nil_append]
    simp only [teardownPost, teardownPostWith, Gen.MockReporter.reports, hf, Bool.not_false, if_true]
    exact teardownDelivering_at_most_one r.w

/-- the world the seeded scenario leaves: strict order, `first` and `second` expected, called as
    `second`, `first` (out of order, accepted), then the unexpected `third` ended the body -/
def teardownWitness : World :=
  ((((((World.init.strictOrder "").expectN "" 1 "first" []).expectN "" 1 "second" []).call "" "second" [] []).w.call
      "" "first" [] []).w.call "" "third" [] []).w

/-- non-vacuity: on that world the end-of-test check DOES find something (a delivering reporter would
    report "Out of order calls"), the body has reported its one failure, and the teardown adds nothing -/
example :
    ((((((World.init.strictOrder "").expectN "" 1 "first" []).expectN "" 1 "second" []).call "" "second" [] []).w.call
        "" "first" [] []).w.call "" "third" [] []).fail = some "Mock Failure: Unexpected call to function: third" ∧
    (teardownDelivering teardownWitness).1 = [msgOutOfOrder] ∧
    (teardownPost { w := teardownWitness, failed := true, msgs := ["Mock Failure: Unexpected call to function: third"] }).1 = [] ∧
    (teardownPost { w := teardownWitness, failed := false, msgs := [] }).1 = [msgOutOfOrder] := by
  decide +kernel

/-! ### the hypotheses are what the API produces -/

/-- `expectOneCall` / `expectNCalls` / `expectNoCall` with any modifiers leave clean matching
    flags (so `Hyp.clean` holds for every list of declared expectations). -/
theorem expectations_start_clean (sc : Scope) (n : Nat) (fn : String) (segs : List ESeg) (h : Clean sc.es) :
    Clean (sc.expectN n fn segs).es := by
  unfold Scope.expectN
  split
  · exact h
  · intro e he
    simp only [List.mem_append, List.mem_singleton] at he
    rcases he with he | rfl
    · exact h e he
    · apply foldl_addSeg_clean
      split <;> rfl

/-- Under `strictOrder()` the expected units are numbered consecutively in declaration order
    (the hypothesis `windowsFrom` of `strict_verdict_iff_sequence_eq`). -/
theorem strict_numbering (sc : Scope) (k n : Nat) (fn : String) (segs : List ESeg)
    (hs : sc.strict = true) (hen : sc.enabled = true)
    (hw : windowsFrom k sc.es) (ho : sc.expectedOrder = k + totalExpected sc.es) :
    windowsFrom k (sc.expectN n fn segs).es ∧
    (sc.expectN n fn segs).expectedOrder = k + totalExpected (sc.expectN n fn segs).es ∧
    (sc.expectN n fn segs).strict = true ∧ (sc.expectN n fn segs).enabled = true := by
  unfold Scope.expectN
  simp only [hen, Bool.not_true, Bool.false_eq_true, if_false, hs, if_true]
  have h := foldl_addSeg_order segs (Exp.new (sc.fullName fn) n (sc.expectedOrder + 1) (sc.expectedOrder + n))
  simp only [Prod.mk.injEq] at h
  obtain ⟨a, b, c, d, f⟩ := h
  refine ⟨?_, ?_, trivial, trivial⟩
  · apply windowsFrom_snoc sc.es k _ hw
    · rw [a, ← ho]; rfl
    · rw [b, c, ← ho]; rfl
    · rw [d]; rfl
    · rw [f]; rfl
  · simp only [totalExpected, List.map_append, List.sum_append, List.map_cons, List.map_nil, List.sum_cons, List.sum_nil, c]
    simp only [totalExpected] at ho
    show _ = k + ((sc.es.map (·.expected)).sum + (n + 0))
    omega

/-! ### the diagnosis texts (regenerated from `MockFailure.cpp` on every run) -/

/-- The first line of every failure is the documented one, so each kind of deviation is reported
    under its own, distinguishable diagnosis (re-checked against the regenerated
    `Gen/MockMessages.lean`: an edit of a message in the source breaks this obligation). -/
theorem diagnosis_texts :
    Gen.MockMsg.unfulfilled = "Mock Failure: Expected call WAS NOT fulfilled." ∧
    Gen.MockMsg.outOfOrder = "Mock Failure: Out of order calls" ∧
    Gen.MockMsg.unexpectedCallPre = "Mock Failure: Unexpected call to function: " ∧
    Gen.MockMsg.additionalPre = "Mock Failure: Unexpected additional (" ∧
    Gen.MockMsg.additionalMid = ") call to function: " ∧
    Gen.MockMsg.paramNamePre = "Mock Failure: Unexpected parameter name to function \"" ∧
    Gen.MockMsg.paramNameMid = "\": " ∧
    Gen.MockMsg.paramValuePre = "Mock Failure: Unexpected parameter value to parameter \"" ∧
    Gen.MockMsg.paramValueMid = "\" to function \"" ∧
    Gen.MockMsg.paramValueEnd = "\"" ∧
    Gen.MockMsg.outNamePre = "Mock Failure: Unexpected output parameter name to function \"" ∧
    Gen.MockMsg.outNameMid = "\": " ∧
    Gen.MockMsg.outTypePre = "Mock Failure: Unexpected parameter type \"" ∧
    Gen.MockMsg.outTypeMid1 = "\" to output parameter \"" ∧
    Gen.MockMsg.outTypeMid2 = "\" to function \"" ∧
    Gen.MockMsg.outTypeEnd = "\"" ∧
    Gen.MockMsg.missingParamPre = "Mock Failure: Expected parameter for function \"" ∧
    Gen.MockMsg.missingParamEnd = "\" did not happen." ∧
    Gen.MockMsg.unexpectedObjectPre = "MockFailure: Function called on an unexpected object: " ∧
    Gen.MockMsg.missingObjectPre = "Mock Failure: Expected call on object for function \"" ∧
    Gen.MockMsg.missingObjectEnd = "\" but it did not happen." :=
  ⟨rfl, rfl, rfl, rfl, rfl, rfl, rfl, rfl, rfl, rfl, rfl, rfl, rfl, rfl, rfl, rfl, rfl, rfl, rfl, rfl, rfl⟩

/-! ### the list primitives and expectation predicates are the ones in the source -/

/-- Every list primitive of `MockExpectedCallsList` and every
    loop-free query / state change of `MockCheckedExpectedCall` the matching algorithm uses —
    regenerated from the C++ on every run (`Gen/MockLists.lean`) — is the function of the hand-written
    model with which the theorems above are proved. -/
theorem source_primitives_are_the_model (es : List Exp) (e : Exp) (n : String) (v : Val) (o order : Nat) :
    Gen.MockLists.onlyKeepExpectationsRelatedTo n es = es.map (fun e => { e with cand := e.cand && e.name == n }) ∧
    Gen.MockLists.onlyKeepExpectationsWithInputParameter n v es =
      es.map (fun e => if e.cand && !e.hasInput n v then { e.reset with cand := false } else e) ∧
    Gen.MockLists.onlyKeepExpectationsWithOutputParameter n es =
      es.map (fun e => if e.cand && !e.hasOutput n then { e.reset with cand := false } else e) ∧
    Gen.MockLists.onlyKeepExpectationsOnObject o es =
      es.map (fun e => if e.cand && !e.relatesToObject o then { e.reset with cand := false } else e) ∧
    ((∀ x ∈ es, x.isMatch = false) → Gen.MockLists.onlyKeepUnmatchingExpectations es = es.map discardE) ∧
    Gen.MockLists.addPotentiallyMatchingExpectations es = beginCall es ∧
    Gen.MockLists.removeFirstFinalizedMatchingExpectation_result es = es.find? isMF ∧
    Gen.MockLists.removeFirstFinalizedMatchingExpectation_list es = modifyFirst isMF Exp.take es ∧
    Gen.MockLists.getFirstMatchingExpectation_result es = es.find? isM ∧
    Gen.MockLists.removeFirstMatchingExpectation_list es = modifyFirst isM Exp.take es ∧
    Gen.MockLists.resetActualCallMatchingState_all es = resetCands es ∧
    Gen.MockLists.amountOfActualCallsFulfilledFor es n = totalActualFor es n ∧
    Gen.MockLists.hasUnfulfilledExpectations es = es.any (fun e => !e.isFulfilled) ∧
    Gen.MockLists.hasCallsOutOfOrder es = es.any (·.outOfOrder) ∧
    Gen.MockLists.callWasMade e order = e.callWasMade order ∧
    Gen.MockLists.resetActualCallMatchingState e = e.reset ∧
    Gen.MockLists.canMatchActualCalls e = e.canMatch ∧
    Gen.MockLists.isMatchingActualCallAndFinalized e = e.isMatchingFinalized ∧
    Gen.MockLists.unfulfilledCallsSection es = unfulfilledOf es ∧ Gen.MockLists.fulfilledCallsSection es = fulfilledOf es :=
  ⟨gen_onlyKeepExpectationsRelatedTo n es, gen_onlyKeepExpectationsWithInputParameter n v es,
   gen_onlyKeepExpectationsWithOutputParameter n es, gen_onlyKeepExpectationsOnObject o es,
   gen_onlyKeepUnmatchingExpectations es, gen_addPotentiallyMatchingExpectations es,
   rfl, rfl, rfl, rfl,
   gen_resetAll es, gen_amountOfActualCallsFulfilledFor es n, rfl, rfl,
   gen_callWasMade e order, gen_reset e, gen_canMatchActualCalls e, gen_isMatchingActualCallAndFinalized e,
   rfl, rfl⟩

/-- the regenerated out-of-order test of `callWasMade`: outside the window `[lo, hi]` of an expectation that has one -/
theorem source_order_window (e : Exp) (order : Nat) :
    Gen.MockLists.outOfOrderCondition e order = true ↔ e.lo ≠ 0 ∧ (order < e.lo ∨ e.hi < order) := by
  rw [gen_outOfOrderCondition]
  simp [bne_iff_ne]

/-- non-vacuity: the regenerated pruning on a concrete candidate list -/
example : (Gen.MockLists.onlyKeepExpectationsWithInputParameter "b" (.int 3) (Gen.MockLists.onlyKeepExpectationsRelatedTo "foo"
    (Gen.MockLists.addPotentiallyMatchingExpectations [(Exp.new "foo" 2 0 0).addSeg (.inp "a" (.int 1)) |>.addSeg (.inp "b" (.int 2)), (Exp.new "foo" 1 0 0).addSeg (.inp "b" (.int 3)), Exp.new "bar" 1 0 0]))).map (·.cand) = [false, true, false] := by decide +kernel

/-! ### non-vacuity: concrete scenarios that meet the hypotheses -/

/-- `foo(a=1,b=2)` twice returning 7, `foo(a=1,b=3)` on object 5, `bar(out o)` -/
def exA : Exp := (Exp.new "foo" 2 0 0).addSeg (.inp "a" (.int 1)) |>.addSeg (.inp "b" (.int 2)) |>.addSeg (.ret (.int 7))
def exB : Exp := (Exp.new "foo" 1 0 0).addSeg (.inp "a" (.int 1)) |>.addSeg (.inp "b" (.int 3)) |>.addSeg (.obj 5)
def exC : Exp := (Exp.new "bar" 1 0 0).addSeg (.out "o" [1, 2])
def exEs : List Exp := [exA, exB, exC]
def cA : Call := ⟨"foo", [.inp "b" (.int 2), .inp "a" (.int 1)]⟩
def cB : Call := ⟨"foo", [.inp "a" (.int 1), .obj 5, .inp "b" (.int 3)]⟩
def cC : Call := ⟨"bar", [.out "o"]⟩
/-- a shuffled expansion with parameters in another order than declared -/
def exCalls : List Call := [cB, cA, cC, cA]

example : Hyp exEs exCalls := ⟨by decide +kernel, by decide +kernel, by decide +kernel, by decide +kernel, by decide +kernel⟩
example : (∀ e ∈ exEs, e.actual ≤ e.expected) ∧ NoOrder exEs := by decide +kernel
example : run exEs 0 exCalls = none := by decide +kernel                       -- passes …
example : MultisetEq exEs exCalls := by decide +kernel                          -- … and the multisets agree
example : run exEs 0 [cB, cA, cC] ≠ none := by decide +kernel                   -- a unit is left: fails
example : ¬ MultisetEq exEs [cB, cA, cC] := by decide +kernel
example : run exEs 0 [cA, cA, cA] = some "Mock Failure: Unexpected parameter value to parameter \"b\" to function \"foo\"" := by decide +kernel
example : returnValueOf (callFull exEs 1 cA.name cA.segs bufInit).es = some (.int 7) := by decide +kernel
example : (callFull exEs 1 cC.name cC.segs bufInit).call.bufs = [("o", [1, 2, 0xEE, 0xEE, 0xEE, 0xEE, 0xEE, 0xEE])] := by decide +kernel
example : diagnose exEs cA = none := by decide +kernel
example : diagnose exEs ⟨"foo", [.inp "a" (.int 1)]⟩ = some "Mock Failure: Expected parameter for function \"foo\" did not happen." := by decide +kernel
example : diagnose exEs ⟨"foo", [.inp "a" (.int 1), .inp "c" (.int 1)]⟩ = some "Mock Failure: Unexpected parameter name to function \"foo\": c" := by decide +kernel
example : diagnose exEs ⟨"foo", [.inp "a" (.int 1), .inp "b" (.int 3)]⟩ = some "Mock Failure: Expected call on object for function \"foo\" but it did not happen." := by decide +kernel
example : diagnose exEs ⟨"foo", [.obj 6, .inp "a" (.int 1), .inp "b" (.int 3)]⟩ = some "Mock Failure: Unexpected parameter value to parameter \"b\" to function \"foo\"" := by decide +kernel
example : diagnose exEs ⟨"baz", []⟩ = some "Mock Failure: Unexpected call to function: baz" := by decide +kernel

/-- the failure text beyond the first line: `foo(a=1,b=2)` was called once of twice, `bar` not at all -/
def histFin : List Exp := ((afterCalls exEs 0 [cB, cA]).getD [])
example : afterCalls exEs 0 [cB, cA] = some histFin := by decide +kernel
example : historyAll histFin =
    ["hist U-section *", "hist U foo o:- w:- in:a,b out:- iop:0 2 1", "hist U bar o:- w:- in:- out:o iop:0 1 0",
     "hist F-section *", "hist F foo o:5 w:- in:a,b out:- iop:0 1 1"] := by decide +kernel
example : historyRelated "bar" histFin =
    ["hist U-section bar", "hist U bar o:- w:- in:- out:o iop:0 1 0", "hist F-section bar", "hist F none"] := by decide +kernel
example : endCheck histFin = some msgUnfulfilled ∧ unfulfilledOf histFin ≠ [] := by decide +kernel
/-- a call without its second parameter: the candidate and what it misses -/
example : historyMissing "foo" (segsFrom (withName { es := beginCall exEs, call := newCall 1, fail := none } "foo") bufInit [.inp "a" (.int 1)]).es =
    ["hist M-section foo", "hist M foo o:- w:- in:a,b out:- iop:0 2 0", "hist m b", "hist M foo o:5 w:- in:a,b out:- iop:0 1 0", "hist m b",
     "hist U-section foo", "hist U foo o:- w:- in:a,b out:- iop:0 2 0", "hist U foo o:5 w:- in:a,b out:- iop:0 1 0",
     "hist F-section foo", "hist F none"] := by decide +kernel

/-- twice `foo(a=1)` with other parameters ignored -/
def ioA : Exp := (Exp.new "foo" 1 0 0).addSeg (.inp "a" (.int 1)) |>.addSeg .iop |>.addSeg (.ret (.int 10))
def ioB : Exp := (Exp.new "foo" 1 0 0).addSeg (.inp "a" (.int 1)) |>.addSeg .iop |>.addSeg (.ret (.int 11))
def ioC1 : Call := ⟨"foo", [.inp "a" (.int 1), .inp "x" (.int 7)]⟩
def ioC2 : Call := ⟨"foo", [.inp "x" (.int 8), .inp "a" (.int 1)]⟩
def ioBad : Call := ⟨"foo", [.inp "x" (.int 8)]⟩
example : Clean [ioA, ioB] ∧ UnambiguousI [ioA, ioB] := by decide +kernel
example : run [ioA, ioB] 0 [ioC1, ioC2] = none ∧ MultisetEqI [ioA, ioB] [ioC1, ioC2] := by decide +kernel
example : run [ioA, ioB] 0 [ioC1, ioBad] = some "Mock Failure: Expected parameter for function \"foo\" did not happen."
    ∧ ¬ MultisetEqI [ioA, ioB] [ioC1, ioBad] := by decide +kernel
example : returnValueOf (callFull [ioA, ioB] 1 ioC1.name ioC1.segs bufInit).es = some (.int 10) := by decide +kernel

/-- lazily finished calls on a scope built with the API functions; the last call lacks the required parameter -/
def ioScope : Scope := ((Scope.fresh "").expectN 1 "foo" [.inp "a" (.int 1), .iop, .ret (.int 10)]).expectN 1 "foo" [.inp "a" (.int 1), .iop]
example : ioScope.lazyVerdict [⟨ioC1, false⟩, ⟨ioC2, true⟩] = none := by decide +kernel
example : ioScope.lazyVerdict [⟨ioC1, false⟩, ⟨ioBad, false⟩] = some "Mock Failure: Expected parameter for function \"foo\" did not happen." := by decide +kernel
/-- `ignoreOtherCalls`: the call to `bar` is skipped -/
example : ({ ioScope with ioc := true } : Scope).lazyVerdict [⟨ioC1, false⟩, ⟨⟨"bar", []⟩, true⟩, ⟨ioC2, false⟩] = none := by decide +kernel
example : ioScope.lazyVerdict [⟨ioC1, false⟩, ⟨⟨"bar", []⟩, true⟩, ⟨ioC2, false⟩] = some "Mock Failure: Unexpected call to function: bar" := by decide +kernel
/-- three scopes; the open expectation sits in the FIRST named scope -/
def scopesW : World :=
  { glob := (Scope.fresh "").expectN 0 "g" [],
    subs := [(Scope.fresh "s1").expectN 1 "f" [], (Scope.fresh "s2").expectN 0 "f" []] }
example : (scopesW.check "").2 = some "Mock Failure: Expected call WAS NOT fulfilled." := by decide +kernel
example : (scopesW.left "").2.2 = true := by decide +kernel

/-- expected `long` 2^32+5 is not the actual `unsigned` 5, but is the actual `unsigned long long` 2^32+5 -/
example : paramKey (.long (BitVec.ofInt 64 4294967301)) ≠ paramKey (.uint (BitVec.ofInt 32 5)) := by decide +kernel
example : paramKey (.long (BitVec.ofInt 64 4294967301)) = paramKey (.ullong (BitVec.ofInt 64 4294967301)) := by decide +kernel
example : paramKey (.int (BitVec.ofInt 32 (-1))) ≠ paramKey (.ulong (BitVec.ofInt 64 18446744073709551615)) := by decide +kernel

/-- the same expectations declared under `strictOrder()` -/
def sxA : Exp := (Exp.new "foo" 2 1 2).addSeg (.inp "a" (.int 1)) |>.addSeg (.inp "b" (.int 2))
def sxB : Exp := (Exp.new "foo" 1 3 3).addSeg (.inp "a" (.int 1)) |>.addSeg (.inp "b" (.int 3))
example : windowsFrom 0 [sxA, sxB] := ⟨rfl, rfl, rfl, rfl, rfl, rfl, rfl, rfl, trivial⟩
example : Hyp [sxA, sxB] [cA, cA, ⟨"foo", [.inp "a" (.int 1), .inp "b" (.int 3)]⟩] := ⟨by decide +kernel, by decide +kernel, by decide +kernel, by decide +kernel, by decide +kernel⟩
example : run [sxA, sxB] 0 [cA, cA, ⟨"foo", [.inp "a" (.int 1), .inp "b" (.int 3)]⟩] = none := by decide +kernel
example : run [sxA, sxB] 0 [cA, ⟨"foo", [.inp "a" (.int 1), .inp "b" (.int 3)]⟩, cA] = some "Mock Failure: Out of order calls" := by decide +kernel

end Mock
