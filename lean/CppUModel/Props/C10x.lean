import CppUModel.Proofs.ComposeThreadSafe
import CppUModel.Props.C04
import CppUModel.Props.C06
/-!
# C10x — the outstanding-set detector of the C10 model is an abstraction of the C04 finite map and table

Composition theorems.  They connect

* `Model/ThreadSafe.lean` (C10): `ThreadSafe.Det` — the list of outstanding `(id, family)` pairs — with
  `ThreadSafe.body` (`alloc`, `free`, `realloc`; outcome `normal` / `misuse`), and
* `Spec/LeakDetector.lean` (C04): the finite map `address ⇀ record` with `Spec.step`, and through C04's
  `run_refines` / `inv_run` the table model `Model/LeakDetector.lean` with its reports (`Ev.fail`).

An operation of the C10 model is one *wrapper* of MemoryLeakWarningPlugin.cpp; on the table it is
`acquire` (`operator new` / `new[]` / `malloc`), `release` (`invalidateMemory` then `deallocMemory`) or
`reallocMemory` with the malloc allocator (`toOps`, `toOps_are_the_wrappers`).

Two places where the two models do NOT agree are stated with witnesses (`…_differs`): a `realloc` whose
release check reports (the C10 model stops at the report as the `longjmp` does, the table model returns from the
report and stores the new block), and id `0` (the table model's `NULL`).
-/
namespace Compose.C10x
open LeakDetector Compose.TS
open ThreadSafe (Det DetOp Kind Outcome)

/-- what the table model additionally needs to know about a call -/
structure Env where
  size   : Nat
  file   : String
  line   : Nat
  nodeOk : Bool
  fill   : UInt8
deriving Repr, Inhabited

/-- `operator delete` / `delete[]` pass no location, `free` does -/
def relFile (e : Env) : Kind → String
  | .malloc => e.file
  | _ => "<unknown>"

def relLine (e : Env) : Kind → Nat
  | .malloc => e.line
  | _ => 0

/-- the table operations one wrapper performs -/
def toOps (c : Current) (e : Env) : DetOp → List Op
  | .alloc id k => [.alloc (c.of (famOf k)) e.size e.file e.line (sepOf k) id e.nodeOk e.fill]
  | .free id k _ => [.invalidate id, .dealloc (c.of (famOf k)) id (relFile e k) (relLine e k) (sepOf k)]
  | .realloc old new _ => [.realloc c.mallocA old e.size e.file e.line true new e.fill]

/-- `toOps` are exactly the wrapper functions of the table model (`acquire`, `release`, `realloc` with the malloc
    allocator).  Connects the C10 operation alphabet with `Model/LeakDetector.lean`. -/
theorem toOps_are_the_wrappers (c : Current) (e : Env) (s : State) :
    (∀ id k, run s (toOps c e (.alloc id k)) = acquire c (famOf k) s e.size e.file e.line id e.nodeOk e.fill) ∧
    (∀ id k b, run s (toOps c e (.free id k b)) = release c (famOf k) s id e.file e.line) ∧
    (∀ old new b, run s (toOps c e (.realloc old new b)) = realloc s c.mallocA old e.size e.file e.line true new e.fill) := by
  refine ⟨?_, ?_, ?_⟩
  · intro id k
    cases k <;> simp [toOps, run, step, acquire, prependEvs, famOf, sepOf, Current.of]
  · intro id k b
    cases k <;> simp [toOps, run, step, release, prependEvs, famOf, sepOf, Current.of, relFile, relLine]
  · intro old new b
    simp [toOps, run, step, prependEvs]

structure R10 (c : Current) (s : State) (d : Det) : Prop where
  inv : s.Inv
  rs : RS c (abs s) d

/-- When a C10 operation is the image of table operations (the part that does not look at memory contents):
    ids are addresses (not `NULL`), the allocation succeeded with an address that is not outstanding. -/
def PreS (e : Env) (d : Det) : DetOp → Prop
  | .alloc id k => id ≠ 0 ∧ id ∉ ThreadSafe.ids d ∧ sizeOverflows e.size = false ∧ (sepOf k = true → e.nodeOk = true)
  | .free id _ _ => id ≠ 0
  | .realloc old new _ =>
    old ≠ 0 ∧ new ≠ 0 ∧ (new = old ∨ new ∉ ThreadSafe.ids d) ∧ sizeOverflows e.size = false

/-- the `corrupt` flag of a release says whether the guard bytes behind the block have been overwritten -/
def GuardFlag (s : State) : DetOp → Prop
  | .alloc _ _ => True
  | .free id _ b => ∀ n, s.table.retrieveNode id = some n → b = !validGuard n
  | .realloc old _ b => ∀ n, s.table.retrieveNode old = some n → b = !validGuard n

def Pre (e : Env) (s : State) (d : Det) (op : DetOp) : Prop := PreS e d op ∧ GuardFlag s op

/-- a `realloc` whose release check (allocator mismatch / guard bytes) reports -/
def ReallocCheckFails (d : Det) : DetOp → Prop
  | .realloc old _ b => ∃ st, ThreadSafe.lookup d old = some st ∧ ThreadSafe.checkRelease st .malloc b = .misuse
  | _ => False

/-! ## simulation on the finite map (no table involved) -/

/-- **Forward simulation on the finite-map specification.**  Connects `ThreadSafe.body` (C10) with
    `LeakDetector.Spec.step` (C04's specification): alloc inserts, free erases, realloc erases and inserts. -/
theorem spec_simulates (c : Current) (e : Env) {m : Spec.State} {d : Det} (h : RS c m d) (op : DetOp)
    (hp0 : PreS e d op) (hnf : ¬ ReallocCheckFails d op) :
    RS c (Spec.run m (toOps c e op)) (ThreadSafe.body op d).1 := by
  cases op with
  | alloc id k =>
    obtain ⟨hz, hfresh, hsz, hn⟩ := hp0
    exact h.alloc id k e.size e.file e.line e.nodeOk e.fill hz hfresh hsz hn
  | free id k b =>
    rw [ThreadSafe.body_free_eq]
    exact (h.update id poison (fun _ => rfl)).erase (c.of (famOf k)) id (relFile e k) (relLine e k) (sepOf k) hp0
  | realloc old new b =>
    obtain ⟨hoz, hz, hfresh, hsz⟩ := hp0
    simp only [ThreadSafe.body, toOps, Spec.run]
    cases hl : ThreadSafe.lookup d old with
    | none =>
      rw [h.realloc_unknown _ old new e.size e.file e.line true e.fill hoz hl hsz]
      exact h
    | some st =>
      cases hcr : ThreadSafe.checkRelease st .malloc b with
      | misuse => exact absurd ⟨st, hl, hcr⟩ hnf
      | normal =>
        simp only [ThreadSafe.reallocFound, hcr, ThreadSafe.reallocChecked]
        exact h.realloc old new e.size e.file e.line e.fill hz hoz (by rw [hl]; simp) hfresh hsz

/-! ## simulation on the table -/

theorem R10.dead_iff {c : Current} {s : State} {d : Det} (h : R10 c s d) (a : Nat) :
    isLive s a = false ↔ a ∉ ThreadSafe.ids d := by
  rw [← ThreadSafe.lookup_eq_none_iff, ← h.rs.live_iff a]
  show isLive s a = false ↔ s.table.retrieveNode a = none
  rw [isLive_false_iff, retrieve_none_iff h.inv]

theorem fresh_of_pre {c : Current} (e : Env) {s : State} {d : Det} (h : R10 c s d) (op : DetOp) (hp : Pre e s d op) :
    FreshAll s (toOps c e op) := by
  cases op with
  | alloc id k =>
    obtain ⟨⟨-, hfresh, -, -⟩, -⟩ := hp
    exact ⟨Or.inr ((h.dead_iff id).mpr hfresh), trivial⟩
  | free id k b => exact ⟨trivial, trivial, trivial⟩
  | realloc old new b =>
    obtain ⟨⟨-, -, hfresh, -⟩, -⟩ := hp
    refine ⟨?_, trivial⟩
    rcases hfresh with hq | hq
    · exact Or.inr (Or.inl hq)
    · exact Or.inr (Or.inr ((h.dead_iff new).mpr hq))

/-- **Forward simulation on the table.**  Connects `ThreadSafe.body` (C10) with `LeakDetector.run` (C04) over the
    wrapper's table operations, through C04's `run_refines` and `inv_run`; the C04 environment hypothesis
    `FreshAll` follows from `Pre`. -/
theorem table_simulates (c : Current) (e : Env) {s : State} {d : Det} (h : R10 c s d) (op : DetOp)
    (hp : Pre e s d op) (hnf : ¬ ReallocCheckFails d op) :
    FreshAll s (toOps c e op) ∧ R10 c (run s (toOps c e op)).1 (ThreadSafe.body op d).1 := by
  have hf := fresh_of_pre (c := c) e h op hp
  refine ⟨hf, { inv := inv_run _ s h.inv hf, rs := ?_ }⟩
  rw [run_refines _ s h.inv hf]
  exact spec_simulates c e h.rs op hp.1 hnf

/-! ## reports: misuse in the C10 model ⇔ a failure event of the table model -/

/-- the category the C10 model's release check stands for -/
def expectedReport (d : Det) (id : Nat) (used : Kind) (b : Bool) : Option FailKind :=
  match ThreadSafe.lookup d id with
  | none => some .nonAllocated
  | some st => if st ≠ used then some .mismatch else if b then some .corruption else none

/-- no category is expected exactly when the block is outstanding, of the family it is released through, and intact:
    the mirror of `ThreadSafe.released_normal_iff` -/
theorem expectedReport_eq_none_iff (d : Det) (id : Nat) (k : Kind) (b : Bool) :
    expectedReport d id k b = none ↔ ThreadSafe.lookup d id = some k ∧ b = false := by
  unfold expectedReport
  cases ThreadSafe.lookup d id with
  | none => simp
  | some st => by_cases hk : st = k <;> cases b <;> simp [hk]

theorem misuse_iff_expected (d : Det) (id : Nat) (k : Kind) (b : Bool) :
    ThreadSafe.released d id k b = .misuse ↔ expectedReport d id k b ≠ none := by
  rw [Ne, expectedReport_eq_none_iff, ← ThreadSafe.released_normal_iff]
  cases ThreadSafe.released d id k b <;> simp

theorem expectedReport_nonAllocated_iff (d : Det) (id : Nat) (k : Kind) (b : Bool) :
    expectedReport d id k b = some .nonAllocated ↔ ThreadSafe.lookup d id = none := by
  unfold expectedReport
  cases ThreadSafe.lookup d id with
  | none => simp
  | some st => by_cases hk : st = k <;> cases b <;> simp [hk]

theorem verdict_eq {c : Current} (hc : Distinct c) {s : State} {d : Det} (h : R10 c s d) (id : Nat) (k : Kind) (b : Bool)
    (hz : id ≠ 0) (hb : ∀ n, s.table.retrieveNode id = some n → b = !validGuard n) :
    verdict s (c.of (famOf k)) id = expectedReport d id k b := by
  unfold verdict recordVerdict expectedReport
  simp only [hz, if_false]
  have hlook := h.rs.look id
  have htc : s.typeChecking = true := h.rs.tc
  cases hr : s.table.retrieveNode id with
  | none =>
    have : (abs s).map id = none := hr
    rw [(h.rs.live_iff id).mp this]
  | some n =>
    have hm : (abs s).map id = some n := hr
    rw [hm] at hlook
    cases hl : ThreadSafe.lookup d id with
    | none => rw [hl] at hlook; cases hlook
    | some st =>
      rw [hl] at hlook
      have ha : n.allocator = c.of (famOf st) := by simpa using hlook
      simp only [htc, ha, matching_of_distinct hc, hb n hr]
      by_cases hk : st = k <;> simp [hk]

/-- **Misuse of a release.**  Connects `ThreadSafe.body (.free …)` (C10) with the failure events of
    `LeakDetector.release` (C04/C06): the C10 model ends in `misuse` exactly when the table model reports, and the
    category is the one the C10 check stands for — in particular "free of a non-outstanding id" is C04/C06's
    `free_non_allocated_iff` / `non_allocated_iff` case. -/
theorem free_misuse_iff (c : Current) (hc : Distinct c) (e : Env) {s : State} {d : Det} (h : R10 c s d)
    (id : Nat) (k : Kind) (b : Bool) (hp : Pre e s d (.free id k b)) :
    firstFail (run s (toOps c e (.free id k b))).2 = expectedReport d id k b ∧
    ((ThreadSafe.body (.free id k b) d).2 = .misuse ↔ firstFail (run s (toOps c e (.free id k b))).2 ≠ none) ∧
    (firstFail (run s (toOps c e (.free id k b))).2 = some .nonAllocated ↔ id ∉ ThreadSafe.ids d) := by
  have hev : firstFail (run s (toOps c e (.free id k b))).2 = expectedReport d id k b := by
    rw [(toOps_are_the_wrappers c e s).2.1 id k b, release_reports_like_dealloc c (famOf k) s h.inv, firstFail_dealloc]
    exact verdict_eq hc h id k b hp.1 hp.2
  refine ⟨hev, ?_, ?_⟩
  · rw [hev, ← misuse_iff_expected, ThreadSafe.body_free_eq]
  · rw [hev, expectedReport_nonAllocated_iff, ThreadSafe.lookup_eq_none_iff]

/-- An allocation never reports, in either model. -/
theorem alloc_never_misuse (c : Current) (e : Env) (s : State) (d : Det) (id : Nat) (k : Kind) :
    (ThreadSafe.body (.alloc id k) d).2 = .normal ∧ firstFail (run s (toOps c e (.alloc id k))).2 = none := by
  refine ⟨rfl, ?_⟩
  simp only [toOps, run, step, prependEvs, List.append_nil]
  exact firstFail_alloc ..

/-- **Misuse of a realloc.**  Connects `ThreadSafe.body (.realloc …)` with the failure events of
    `LeakDetector.realloc`: reported in the C10 model iff reported by the table model, with the same category. -/
theorem realloc_misuse_iff (c : Current) (hc : Distinct c) (e : Env) {s : State} {d : Det} (h : R10 c s d)
    (old new : Nat) (b : Bool) (hp : Pre e s d (.realloc old new b)) :
    firstFail (run s (toOps c e (.realloc old new b))).2 = expectedReport d old .malloc b ∧
    ((ThreadSafe.body (.realloc old new b) d).2 = .misuse ↔
      firstFail (run s (toOps c e (.realloc old new b))).2 ≠ none) := by
  obtain ⟨⟨hoz, _, _, hsz⟩, hb⟩ := hp
  have hev : firstFail (run s (toOps c e (.realloc old new b))).2 = expectedReport d old .malloc b := by
    rw [(toOps_are_the_wrappers c e s).2.2 old new b, firstFail_realloc, hsz]
    exact verdict_eq hc h old .malloc b hoz hb
  refine ⟨hev, ?_⟩
  rw [hev, ← misuse_iff_expected, ThreadSafe.body_realloc_eq]

/-! ## histories -/

def allOps (c : Current) (xs : List (Env × DetOp)) : List Op := xs.flatMap (fun x => toOps c x.1 x.2)

/-- the preconditions along a history (the table state is needed for the guard-byte flags) -/
def PreAll (c : Current) : State → Det → List (Env × DetOp) → Prop
  | _, _, [] => True
  | s, d, x :: xs =>
    Pre x.1 s d x.2 ∧ ¬ ReallocCheckFails d x.2 ∧
      PreAll c (run s (toOps c x.1 x.2)).1 (ThreadSafe.body x.2 d).1 xs

/-- **Forward simulation, every history.**  Connects `ThreadSafe.runDet` (the C10 schedule semantics: a schedule is
    a sequence of whole wrappers) with `LeakDetector.run`: the table after the wrappers' operations is related to
    the C10 detector after the schedule, and satisfies the C04 environment hypothesis — so C04's theorems
    (`run_totals_exact`, `inv_run`, …) apply to the table every C10 schedule produces. -/
theorem run_simulates (c : Current) : ∀ (xs : List (Env × DetOp)) {s : State} {d : Det}, R10 c s d → PreAll c s d xs →
    FreshAll s (allOps c xs) ∧ R10 c (run s (allOps c xs)).1 (ThreadSafe.runDet (xs.map (·.2)) d)
  | [], _, _, h, _ => ⟨trivial, h⟩
  | x :: xs, s, d, h, hp => by
    have h1 := table_simulates c x.1 h x.2 hp.1 hp.2.1
    have h2 := run_simulates c xs h1.2 hp.2.2
    refine ⟨?_, ?_⟩
    · show FreshAll s (toOps c x.1 x.2 ++ allOps c xs)
      exact freshAll_append _ _ _ h1.1 h2.1
    · show R10 c (run s (toOps c x.1 x.2 ++ allOps c xs)).1 _
      rw [run_append_fst]
      exact h2.2

/-- the empty detectors are related (any table size > 0, type checking on as the constructor leaves it) -/
theorem init_related (c : Current) (hp : Nat) (h : 0 < hp) : R10 c (State.init hp) [] :=
  { inv := inv_init hp h,
    rs := { look := fun id => by rw [abs_init_map hp id]; rfl
            nodup := List.nodup_nil
            tc := rfl } }

/-- The outstanding blocks agree: the table's records are exactly the ids of the C10 detector (each once). -/
theorem outstanding_agree {c : Current} {s : State} {d : Det} (h : R10 c s d) :
    (s.nodes.map (·.addr)).Perm (ThreadSafe.ids d) := by
  refine (List.perm_ext_iff_of_nodup h.inv.distinct h.rs.nodup).mpr fun x => ?_
  have := h.dead_iff x
  rw [isLive_false_iff] at this
  exact Decidable.not_iff_not.mp (by simpa [List.mem_map, State.nodes] using this)

/-! ## where the two models differ (findings, with witnesses) -/

def exC : Current :=
  { newA := .plain 1 "Standard New Allocator" "new" "delete",
    newArrayA := .plain 2 "Standard New [] Allocator" "new []" "delete []",
    mallocA := .plain 3 "Standard Malloc Allocator" "malloc" "free" }

theorem exC_distinct : Distinct exC := by
  intro f g hfg
  cases f <;> cases g <;> first | exact absurd rfl hfg | (constructor <;> decide)

def exEnv : Env := { size := 8, file := "t.c", line := 3, nodeOk := true, fill := 0xA5 }

instance (s : State) : (op : DetOp) → Decidable (GuardFlag s op)
  | .alloc _ _ => isTrue trivial
  | .free id _ b => inferInstanceAs (Decidable (∀ n ∈ s.table.retrieveNode id, b = !validGuard n))
  | .realloc old _ b => inferInstanceAs (Decidable (∀ n ∈ s.table.retrieveNode old, b = !validGuard n))

instance (e : Env) (d : Det) (op : DetOp) : Decidable (PreS e d op) := by
  cases op <;> unfold PreS <;> infer_instance

instance (e : Env) (s : State) (d : Det) (op : DetOp) : Decidable (Pre e s d op) := by
  unfold Pre; infer_instance

instance (d : Det) : (op : DetOp) → Decidable (ReallocCheckFails d op)
  | .alloc _ _ => isFalse id
  | .free _ _ _ => isFalse id
  | .realloc old _ b =>
    inferInstanceAs (Decidable (∃ st ∈ ThreadSafe.lookup d old, ThreadSafe.checkRelease st .malloc b = .misuse))

instance decPreAll (c : Current) : ∀ (s : State) (d : Det) (xs : List (Env × DetOp)), Decidable (PreAll c s d xs)
  | _, _, [] => isTrue trivial
  | s, d, x :: xs => by
    unfold PreAll
    have := decPreAll c (run s (toOps c x.1 x.2)).1 (ThreadSafe.body x.2 d).1 xs
    infer_instance

def exHist1 : List (Env × DetOp) := [(exEnv, .alloc 5 .new)]

theorem ex1_related : R10 exC (run (State.init 73) (allOps exC exHist1)).1 [(5, .new)] :=
  (run_simulates exC exHist1 (init_related exC 73 (by decide)) (by decide)).2

/-- **Finding (model divergence), with witness.**  A `realloc` whose release check reports (here: a block
    obtained with `operator new` is passed to `realloc`, an allocator mismatch): the C10 model stops at the report
    (the reporter leaves by `longjmp`; the new block is never stored, `reallocChecked`), the table model returns
    from the report and stores the new block.  The simulation therefore excludes `ReallocCheckFails`. -/
theorem realloc_check_failure_differs :
    ∃ (s : State) (d : Det) (op : DetOp), R10 exC s d ∧ Pre exEnv s d op ∧ ReallocCheckFails d op ∧
      (ThreadSafe.body op d).2 = .misuse ∧ firstFail (run s (toOps exC exEnv op)).2 = some .mismatch ∧
      ¬ R10 exC (run s (toOps exC exEnv op)).1 (ThreadSafe.body op d).1 := by
  refine ⟨_, _, .realloc 5 6 false, ex1_related, by decide, by decide, by decide, by decide, ?_⟩
  intro h
  have := (h.dead_iff 6).mpr (by decide)
  revert this
  decide

/-- **Finding (id convention), with witness.**  Id `0` is an ordinary id in the C10 model (releasing it when it is
    not outstanding is a misuse) but `NULL` in the table model (`deallocMemory(NULL)` is silent).  The simulation
    therefore requires non-zero ids. -/
theorem free_null_differs (c : Current) (e : Env) (s : State) (k : Kind) (b : Bool) :
    (ThreadSafe.body (.free 0 k b) []).2 = .misuse ∧ firstFail (run s (toOps c e (.free 0 k b))).2 = none := by
  refine ⟨rfl, ?_⟩
  rw [(toOps_are_the_wrappers c e s).2.1 0 k b]
  cases k <;> simp [release, famOf, dealloc, firstFail]

/-! ## non-vacuity -/

/-- a `new` block and a `malloc` block in one bucket, a clean release, a moving realloc, a release of an unknown
    address (misuse), a release through the wrong family (misuse) -/
def exHist : List (Env × DetOp) :=
  [ (exEnv, .alloc 1168 .new), (exEnv, .alloc 1241 .malloc), (exEnv, .free 1168 .new false),
    (exEnv, .realloc 1241 1314 false), (exEnv, .free 999 .malloc false), (exEnv, .alloc 7 .newArray),
    (exEnv, .free 1314 .new false) ]

example : PreAll exC (State.init 73) [] exHist := by decide

example : R10 exC (run (State.init 73) (allOps exC exHist)).1 (ThreadSafe.runDet (exHist.map (·.2)) []) :=
  (run_simulates exC exHist (init_related exC 73 (by decide)) (by decide)).2

example : ThreadSafe.runDet (exHist.map (·.2)) [] = [(7, .newArray)] := by decide
example : (run (State.init 73) (allOps exC exHist)).1.nodes.map (·.addr) = [7] := by decide
example : ThreadSafe.runDet ((exHist.take 4).map (·.2)) [] = [(1314, .malloc)] := by decide
example : (ThreadSafe.body (.free 999 .malloc false) [(1314, .malloc)]).2 = .misuse := by decide
example : (ThreadSafe.body (.free 1314 .new false) [(7, .newArray), (1314, .malloc)]).2 = .misuse := by decide

end Compose.C10x
