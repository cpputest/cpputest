import CppUModel.Proofs.CommandLine
import CppUModel.Proofs.CommandLineGen
import CppUModel.Gen.ParseDispatch
/-!
# C12 — command line: every argv is parsed safely and means what the help text says

Model: `CppUModel/Model/CommandLine.lean` (from
`src/CppUTest/CommandLineArguments.cpp` and `CommandLineTestRunner.cpp`); vocabulary
(`Config`, `Opt`, `render`, `meaning`, `AtoI/AtoU`): `CppUModel/Spec/CommandLine.lean`; the dispatch
chain regenerated from the source: `CppUModel/Gen/ParseDispatch.lean`.

What is proved here is about the MODEL, for all argument vectors / all option lists (no bound);
that the model is the code is checked on every run by the `h_c12` correspondence and by the
regenerated table.  Memory safety of the *compiled* parser is observed under ASan/UBSan, not
proved; for the model it holds by construction (see `parse_total`).
-/
namespace CommandLine
open Text

/-! ## the model's dispatch table is the source's `if / else if` chain -/

def handlerText : Handler → String
  | .help => "needHelp_=true;correctParameters=false;"
  | .verbose => "verbose_=true;"
  | .veryVerbose => "veryVerbose_=true;"
  | .color => "color_=true;"
  | .separateProcess => "runTestsAsSeperateProcess_=true;"
  | .reversing => "reversing_=true;"
  | .listGroups => "listTestGroupNames_=true;"
  | .listNames => "listTestGroupAndCaseNames_=true;"
  | .listLocations => "listTestLocations_=true;"
  | .runIgnored => "runIgnored_=true;"
  | .crashOnFail => "crashOnFail_=true;"
  | .noRethrow => "rethrowExceptions_=false;"
  | .repeatCount => "setRepeatCount(ac_,av_,i);"
  | .groupFilter => "addGroupFilter(ac_,av_,i);"
  | .dotName [45, 116] false false => "correctParameters=addGroupDotNameFilter(ac_,av_,i,\"-t\",false,false);"
  | .dotName [45, 115, 116] true false => "correctParameters=addGroupDotNameFilter(ac_,av_,i,\"-st\",true,false);"
  | .dotName [45, 120, 116] false true => "correctParameters=addGroupDotNameFilter(ac_,av_,i,\"-xt\",false,true);"
  | .dotName [45, 120, 115, 116] true true => "correctParameters=addGroupDotNameFilter(ac_,av_,i,\"-xst\",true,true);"
  | .dotName _ _ _ => "?"
  | .strictGroup => "addStrictGroupFilter(ac_,av_,i);"
  | .exclGroup => "addExcludeGroupFilter(ac_,av_,i);"
  | .exclStrictGroup => "addExcludeStrictGroupFilter(ac_,av_,i);"
  | .nameFilter => "addNameFilter(ac_,av_,i);"
  | .strictName => "addStrictNameFilter(ac_,av_,i);"
  | .exclName => "addExcludeNameFilter(ac_,av_,i);"
  | .exclStrictName => "addExcludeStrictNameFilter(ac_,av_,i);"
  | .shuffle => "correctParameters=setShuffle(ac_,av_,i);"
  | .testForm [84, 69, 83, 84, 40] => "addTestToRunBasedOnVerboseOutput(ac_,av_,i,\"TEST(\");"
  | .testForm [73, 71, 78, 79, 82, 69, 95, 84, 69, 83, 84, 40] => "addTestToRunBasedOnVerboseOutput(ac_,av_,i,\"IGNORE_TEST(\");"
  | .testForm _ => "?"
  | .outputType => "correctParameters=setOutputType(ac_,av_,i);"
  | .plugin => "correctParameters=plugin->parseAllArguments(ac_,av_,i);"
  | .packageName => "setPackageName(ac_,av_,i);"

/-- The regenerated chain of `CommandLineArguments::parse` (literal, exact-vs-`startsWith`,
    statement), in source order, is the table the model's `dispatch` runs on. -/
theorem dispatch_table_eq_source :
    Gen.ParseDispatch.table = table.map (fun e => ⟨e.lit, e.exact, handlerText e.h⟩) := rfl

/-- the final `else` of the chain rejects -/
theorem dispatch_else_eq_source : Gen.ParseDispatch.finalElse = "correctParameters=false;" := rfl

/-- what the model takes each of the eight `add…Filter` functions to do -/
def filterFns : List (Gen.ParseDispatch.FilterFn × Handler) := [
  (⟨"addGroupFilter", [45, 103], true, false, false⟩, .groupFilter),
  (⟨"addStrictGroupFilter", [45, 115, 103], true, true, false⟩, .strictGroup),
  (⟨"addExcludeGroupFilter", [45, 120, 103], true, false, true⟩, .exclGroup),
  (⟨"addExcludeStrictGroupFilter", [45, 120, 115, 103], true, true, true⟩, .exclStrictGroup),
  (⟨"addNameFilter", [45, 110], false, false, false⟩, .nameFilter),
  (⟨"addStrictNameFilter", [45, 115, 110], false, true, false⟩, .strictName),
  (⟨"addExcludeNameFilter", [45, 120, 110], false, false, true⟩, .exclName),
  (⟨"addExcludeStrictNameFilter", [45, 120, 115, 110], false, true, true⟩, .exclStrictName) ]

/-- The option name each `add…Filter` function passes to `getParameterField`, the list it
    prepends to and its `strictMatching()/invertMatching()` calls, regenerated from the source,
    are what the model was written against … -/
theorem filter_functions_eq_source : Gen.ParseDispatch.filterFns = filterFns.map Prod.fst := rfl

/-- … its statement in the chain is the call of that function … -/
theorem filter_functions_dispatched :
    ∀ e ∈ filterFns, handlerText e.2 = e.1.name ++ "(ac_,av_,i);" := by decide +kernel

/-- … and the model's handler does exactly that. -/
theorem filter_handlers_run (env : Env) (c : Config) (arg : Bytes) (next : Option Bytes) :
    ∀ e ∈ filterFns, runHandler env e.2 c arg next =
      (if e.1.group then addGroup e.1.lit.length e.1.strict e.1.invert c arg next
       else addName e.1.lit.length e.1.strict e.1.invert c arg next) := by
  intro e he
  simp only [filterFns, List.mem_cons, List.not_mem_nil, or_false] at he
  rcases he with rfl|rfl|rfl|rfl|rfl|rfl|rfl|rfl <;> rfl

/-! ## documented options mean what the help text says -/

/-- For every list of documented options, in any order and multiplicity, each in
    attached or separated form, with arbitrary identifier-like values and in-range numbers:
    the parser accepts the rendered vector and the configuration is the documented one. -/
theorem parse_render (env : Env) (prog : Bytes) (os : List (Opt × Form)) :
    parse env (prog :: render os) = .ok (meaning env (os.map Prod.fst)) := by
  have h := go_render env os {} [] (by intro a ha; cases ha)
  simpa [parse, meaning, go] using h

/-- One documented option is one step of the loop (the per-option lemma `parse_render` is the
    fold of): whatever the configuration so far and whatever follows, as long as the next
    argument is not a number that `-r`/`-s` would take. -/
theorem parse_step (env : Env) (c : Config) (o : Opt × Form) (rest : List Bytes) (h : NextOk rest.head?) :
    go env c false (render1 o ++ rest) = go env (applyOpt env c o.1) false rest :=
  go_render1 env c o rest h

/-- Documented options followed by anything: the loop reaches the rest with the documented
    configuration of the options. -/
theorem parse_render_then (env : Env) (prog : Bytes) (os : List (Opt × Form)) (rest : List Bytes)
    (h : NextOk rest.head?) :
    parse env (prog :: (render os ++ rest)) = go env (meaning env (os.map Prod.fst)) false rest := by
  simpa [parse, meaning] using go_render env os {} rest h

/-- the group/name filters accumulate, most recent first; scalars take the last value -/
theorem meaning_append (env : Env) (os : List Opt) (o : Opt) :
    meaning env (os ++ [o]) = applyOpt env (meaning env os) o := by
  simp [meaning]

/-! ## rejection -/

/-- `-h` after any documented options: rejected, help requested, nothing after it is read. -/
theorem help_rejects (env : Env) (prog : Bytes) (os : List (Opt × Form)) (rest : List Bytes) :
    parse env (prog :: (render os ++ [45, 104] :: rest)) =
      .reject { meaning env (os.map Prod.fst) with needHelp := true } := by
  rw [parse_render_then env prog os _ (nextOk_cons _ rfl)]
  exact go_cons_reject env _ _ _ rest false (step_help env _ _)

/-- An argument that matches no branch of the chain (and is not a number that a preceding
    `-r`/`-s` takes as its value) after any documented options: rejected, help not requested. -/
theorem unknown_rejects (env : Env) (prog a : Bytes) (os : List (Opt × Form)) (rest : List Bytes)
    (hu : dispatch a = none) (hn : nonNumeric a = true) :
    parse env (prog :: (render os ++ a :: rest)) = .reject (meaning env (os.map Prod.fst)) := by
  rw [parse_render_then env prog os _ (nextOk_cons _ hn)]
  exact go_cons_reject env _ _ _ rest false (step_unknown env _ a _ hu)

/-- `-h` or an unknown argument after any documented options: rejected, and help is requested exactly for `-h`. -/
theorem help_or_unknown_rejects (env : Env) (prog a : Bytes) (os : List (Opt × Form)) (rest : List Bytes)
    (h : a = [45, 104] ∨ (dispatch a = none ∧ nonNumeric a = true)) :
    (parse env (prog :: (render os ++ a :: rest))).isOk = false ∧
    ((parse env (prog :: (render os ++ a :: rest))).cfg.needHelp = true ↔ a = [45, 104]) := by
  rcases h with rfl | ⟨hu, hn⟩
  · rw [help_rejects]; simp [ParseResult.isOk, ParseResult.cfg]
  · rw [unknown_rejects env prog a os rest hu hn]
    have hne : a ≠ [45, 104] := by intro e; subst e; revert hu; decide
    have hm := (documented_meaning env (os.map Prod.fst)).1
    simp [ParseResult.isOk, ParseResult.cfg, hm, hne]

/-- which arguments are unknown: nothing in the chain starts with a byte other than `-`, `T`, `I` -/
theorem unknown_of_first_byte (c : UInt8) (t : Bytes) (h1 : c ≠ 45) (h2 : c ≠ 84) (h3 : c ≠ 73) :
    dispatch (c :: t) = none := dispatch_other_head c t h1 h2 h3

theorem unknown_empty : dispatch [] = none := by decide

/-- attached form `-s0`, `-s000`, …: shuffling with seed 0 is refused. -/
theorem seed_zero_rejects (env : Env) (c : Config) (ds : Bytes) (rest : List Bytes)
    (hnum : isNumber ds = true) (hz : decVal ds = 0) :
    go env c false (([45, 115] ++ ds) :: rest) = .reject { c with shuffling := true, shuffleSeed := 0 } := by
  apply go_cons_reject env c _ _ rest false
  rw [step_shuffle_number env c ds _ hnum (by omega), hz]
  rfl

/-- separated form `-s 0`: the `0` is not taken as a seed (the clock seeds the shuffle) and is then
    an unknown argument: rejected as well. -/
theorem seed_zero_separated_rejects (env : Env) (c : Config) (ds : Bytes) (rest : List Bytes)
    (hnum : isNumber ds = true) (hz : decVal ds = 0) :
    go env c false ([45, 115] :: ds :: rest) =
      .reject { c with shuffling := true, shuffleSeed := timeSeed env.time } := by
  obtain ⟨d, t, rfl, hd⟩ := number_cons ds hnum
  rw [go_cons_ok env c _ _ _ false (step_shuffleDefault env c _ fun a ha => by
    rw [← Option.some.inj ha, atou_number _ hnum (by omega)]; exact hz)]
  exact go_cons_reject env _ _ _ rest false (step_unknown env _ _ _ (dispatch_digit_head d t hd))

theorem seed_zero_rejects_parse (env : Env) (prog : Bytes) (os : List (Opt × Form)) (rest : List Bytes) :
    (parse env (prog :: (render os ++ [45, 115, 48] :: rest))).isOk = false := by
  rw [parse_render_then env prog os _ (nextOk_cons _ rfl)]
  have := seed_zero_rejects env (meaning env (os.map Prod.fst)) [48] rest (by decide) (by decide)
  rw [show (([45, 115] : Bytes) ++ [48]) = [45, 115, 48] from rfl] at this
  rw [this]
  rfl

/-- an output kind other than normal / eclipse / junit / teamcity (or none at all) is refused -/
theorem output_unknown_rejects (env : Env) (c : Config) (v : Bytes) (rest : List Bytes)
    (h : outputOf v = none) :
    go env c false ([45, 111] :: v :: rest) = .reject c := by
  refine ((valueOpt_output env c).go_spell v .separated rest fun h => by cases h).trans ?_
  simp only [h]; rfl

/-- `-p<something>` is the plugins' business: accepted iff the plugin chain accepts that argument;
    nothing is consumed and the configuration is untouched (`-p` alone is the separate-process flag). -/
theorem plugin_decides (env : Env) (c : Config) (x : UInt8) (t : Bytes) (rest : List Bytes) :
    go env c false ((45 :: 112 :: x :: t) :: rest) =
      if env.plugin (45 :: 112 :: x :: t) then go env c false rest else .reject c :=
  go_cons env c c _ rest _ false (step_plugin env c x t _)

/-! ## `-t`, `-st`, `-xt`, `-xst`: exactly one separating dot -/

/-- the value of a `-t` family option is accepted iff `split(".")` yields two tokens, i.e. iff the
    number of dots plus one for a non-empty remainder after the last dot is two -/
theorem t_accept_iff (env : Env) (c : Config) (k : FKind) (v : Bytes) :
    (step env c (k.lit 116) (some v)).good = true ↔
      v.count 46 + (if openEnd v [] then 1 else 0) = 2 := by
  rw [← splitCode_length_eq_two, ← dotNameFilters_isSome k.isStrict k.isExcl c, (valueOpt_dotName env c k).step_separated]
  cases dotNameFilters k.isStrict k.isExcl c (splitCode v [46]) <;> simp

/-- A value that does not end with a dot (so in particular every
    `group.name` with a non-empty name) is accepted iff it contains exactly one dot. -/
theorem t_needs_exactly_one_dot (env : Env) (c : Config) (k : FKind) (v : Bytes) (l : UInt8)
    (hl : v.getLast? = some l) (hnd : l ≠ 46) :
    (step env c (k.lit 116) (some v)).good = true ↔ v.count 46 = 1 := by
  rw [t_accept_iff]
  have : openEnd v [] = true := by simp [openEnd, hl, hnd]
  simp [this]

theorem t_no_dot_rejects (env : Env) (c : Config) (k : FKind) (v : Bytes) (rest : List Bytes)
    (h : (46 : UInt8) ∉ v) : go env c false (k.lit 116 :: v :: rest) = .reject c := by
  have hl : ¬ (splitCode v [46]).length = 2 := by
    rw [splitCode_length_eq_two, List.count_eq_zero.mpr h]
    split <;> decide
  have hnone : dotNameFilters k.isStrict k.isExcl c (splitCode v [46]) = none :=
    Option.not_isSome_iff_eq_none.mp fun hs => hl ((dotNameFilters_isSome _ _ c _).mp hs)
  refine ((valueOpt_dotName env c k).go_spell v .separated rest fun h => by cases h).trans ?_
  simp only [hnone]; rfl

/-- The naive reading "accepted iff the value contains exactly one dot" is NOT what the code
    does at the two corners a trailing dot creates; stated, with the witnesses:
    `-t a.b.` (two dots) is accepted with name filter `b.`, `-t a.` (one dot) is refused.
    Neither vector is built from the documented options, so the property (reject OR produce a
    configuration) is not violated. -/
def t_exactly_one_dot_naive : Prop :=
  ∀ (env : Env) (c : Config) (v : Bytes), (step env c [45, 116] (some v)).good = true ↔ v.count 46 = 1

theorem t_exactly_one_dot_naive_false : ¬ t_exactly_one_dot_naive := by
  intro h
  have := (h ⟨0, []⟩ {} [97, 46]).mpr (by decide)
  revert this; decide

/-! ## `TEST(group, name)` / `IGNORE_TEST(group, name)` -/

/-- Both forms give a strict group filter `g` and a strict name filter `n`. -/
theorem test_form_meaning (env : Env) (prog : Bytes) (ignored : Bool) (g n : Ident) :
    parse env [prog, testPrefix ignored ++ g.val ++ [44, 32] ++ n.val ++ [41]] =
      .ok { groupFilters := [⟨g.val, true, false⟩], nameFilters := [⟨n.val, true, false⟩] } := by
  have := parse_render env prog [(.testForm ignored g n, .attached)]
  simpa [render, render1, meaning, applyOpt, FKind.filter] using this

/-- an unterminated `TEST(` form (no comma, no parenthesis; the vector `{"x", "TEST(abc"}` of DESIGN
    section 6): accepted with strict group filter = the text and an empty strict name filter -/
theorem test_form_unterminated (env : Env) (prog : Bytes) (g : Ident) :
    parse env [prog, litTEST ++ g.val] =
      .ok { groupFilters := [⟨g.val, true, false⟩], nameFilters := [⟨[], true, false⟩] } := by
  refine ((valueOpt_testForm env {} false).go_spell g.val .attached [] fun _ => ident_ne_nil g).trans ?_
  rw [testFormName_no_comma _ (ident_no_comma g), testFormGroup_no_comma _ (ident_no_comma g)]; rfl

/-! ## totality, and what a rejected / accepted vector leads to -/

/-- Every vector is either rejected or yields a configuration.  The statement is the case split of
    `ParseResult`; what carries the weight is that `parse` is a Lean function at all: `Model/CommandLine.lean`
    is accepted by the termination checker (structural recursion on the argument list; `Text.split` and the
    digit loops recurse on their input) and uses total list operations only (`drop`, `take`, `head?`, `find?`,
    `findIdx?`, `isPrefixOf`), so there is no indexing that could leave an argument. -/
theorem parse_total (env : Env) (argv : List Bytes) :
    (∃ c, parse env argv = .ok c) ∨ (∃ c, parse env argv = .reject c) := by
  cases h : parse env argv with
  | ok c => exact Or.inl ⟨c, rfl⟩
  | reject c => exact Or.inr ⟨c, rfl⟩

/-- Reads stay inside the inputs (model level): every string the parser stores — each filter
    text and the package name — is empty or a contiguous part of one of the arguments
    `argv[1..]`, for ALL argument vectors (unterminated `TEST(` forms, lone prefixes, empty
    strings, … included): the slicing (`av[i] + len`, `split`, `subString`, `subStringFromTill`,
    `at(0)`) never produces anything that is not inside an argument.  That the compiled code's
    reads stay inside the buffers is observed under ASan. -/
theorem stored_strings_from_args (env : Env) (argv : List Bytes) :
    StringsFromArgs argv.tail (parse env argv).cfg :=
  go_strings env argv.tail argv.tail {} false (fun _ h => h)
    ⟨fun _ h => (by cases h), fun _ h => (by cases h), Or.inl rfl⟩

/-- arguments after the one that is rejected are never looked at -/
theorem reject_stops (env : Env) (c c' : Config) (a : Bytes) (k : Bool) (rest rest' : List Bytes)
    (h : step env c a rest.head? = ⟨c', false, k⟩) (h' : rest'.head? = rest.head?) :
    go env c false (a :: rest) = go env c false (a :: rest') := by
  rw [go_cons_reject env c c' a rest k h, go_cons_reject env c c' a rest' k (h' ▸ h)]

/-- A rejected vector prints help (iff `-h` was seen) or usage, creates only the console output,
    makes no call to the registry besides installing and removing the `SetPointerPlugin`, runs no
    test and returns 1. -/
theorem runner_reject_runs_nothing (ps : List ProbeTest) (c : Config) :
    (runner ps (.reject c)).ran = [] ∧
    (runner ps (.reject c)).calls = [.install nameSetPointer, .remove nameSetPointer] ∧
    (runner ps (.reject c)).rc = 1 ∧
    (runner ps (.reject c)).printed = (if c.needHelp then .help else .usage) := by
  simp [runner]

/-- An accepted configuration without a list mode: the test bodies that run are, `repeatCount`
    times over, the selected tests (ignored ones only with `-ri`) in registry order, reversed
    with `-b`. -/
theorem runner_ok_runs_selected (ps : List ProbeTest) (c : Config)
    (h : c.listGroups = false ∧ c.listNames = false ∧ c.listLocations = false) :
    (runner ps (.ok c)).ran = (List.replicate c.repeatCount (oneRun c ps)).flatten := by
  simp [runner, h.1, h.2.1, h.2.2, loopRan_eq]

/-- every index that runs is a selected test of the registry, and the ignored ones need `-ri` -/
theorem runner_runs_only_selected (ps : List ProbeTest) (c : Config) (i : Nat) (hi : i ∈ oneRun c ps) :
    ∃ p, ps[i]? = some p ∧ selects c p.group p.name = true ∧ (p.ignored = true → c.runIgnored = true) := by
  have hm : i ∈ bodiesRun c ps := by
    unfold oneRun at hi
    split at hi
    · exact List.mem_reverse.mp hi
    · exact hi
  simp only [bodiesRun, List.mem_filter, List.mem_range] at hm
  cases hp : ps[i]? with
  | none => simp [hp] at hm
  | some p =>
    simp only [hp, Bool.and_eq_true, Bool.or_eq_true, Bool.not_eq_true'] at hm
    refine ⟨p, rfl, hm.2.1, ?_⟩
    intro hig
    rcases hm.2.2 with h | h
    · rw [hig] at h; cases h
    · exact h

theorem runner_list_runs_nothing (ps : List ProbeTest) (c : Config)
    (h : c.listGroups = true ∨ c.listNames = true ∨ c.listLocations = true) :
    (runner ps (.ok c)).ran = [] ∧ (runner ps (.ok c)).rc = 0 := by
  rcases h with h | h | h <;> simp [runner, h]

/-! ## the help and usage texts list exactly the options -/

def Flag.all : List Flag := [.v, .vv, .c, .p, .b, .ri, .f, .e, .ci, .lg, .ln, .ll]
def FKind.all : List FKind := [.sub, .strict, .excl, .exclStrict]
def OutKind.all : List OutKind := [.normal, .eclipse, .junit, .teamcity]

/-- how an option is spelled in the documentation: its literal (for `-o`: with the kind) -/
def Opt.spelling : Opt → Bytes
  | .flag fl => fl.lit
  | .repeatDefault => [45, 114]
  | .repeatN _ => [45, 114]
  | .shuffle => [45, 115]
  | .shuffleSeed _ => [45, 115]
  | .group k _ => k.lit 103
  | .name k _ => k.lit 110
  | .test k _ _ => k.lit 116
  | .testForm i _ _ => testPrefix i
  | .output o => [45, 111] ++ o.lit
  | .package _ => [45, 107]

/-- every spelling an `Opt` can have -/
def optNames : List Bytes :=
  Flag.all.map Flag.lit ++ [[45, 114], [45, 115]] ++ FKind.all.map (·.lit 103) ++ FKind.all.map (·.lit 110) ++
  FKind.all.map (·.lit 116) ++ [testPrefix false, testPrefix true] ++ OutKind.all.map (fun o => [45, 111] ++ o.lit) ++ [[45, 107]]

/-- `optNames` really is every option of the datatype: each block of `optNames` is the image of a
    complete enumeration (or a literal) -/
theorem optNames_complete (o : Opt) : o.spelling ∈ optNames := by
  have flags : ∀ fl : Flag, fl ∈ Flag.all := fun fl => by cases fl <;> decide
  have kinds : ∀ k : FKind, k ∈ FKind.all := fun k => by cases k <;> decide
  have outs : ∀ o : OutKind, o ∈ OutKind.all := fun o => by cases o <;> decide
  simp only [optNames, List.mem_append, List.mem_map, List.mem_cons, List.not_mem_nil, or_false]
  cases o with
  | flag fl => exact .inl <| .inl <| .inl <| .inl <| .inl <| .inl <| .inl ⟨fl, flags fl, rfl⟩
  | repeatDefault | repeatN _ => exact .inl <| .inl <| .inl <| .inl <| .inl <| .inl <| .inr <| .inl rfl
  | shuffle | shuffleSeed _ => exact .inl <| .inl <| .inl <| .inl <| .inl <| .inl <| .inr <| .inr rfl
  | group k _ => exact .inl <| .inl <| .inl <| .inl <| .inl <| .inr ⟨k, kinds k, rfl⟩
  | name k _ => exact .inl <| .inl <| .inl <| .inl <| .inr ⟨k, kinds k, rfl⟩
  | test k _ _ => exact .inl <| .inl <| .inl <| .inr ⟨k, kinds k, rfl⟩
  | testForm i _ _ => exact .inl <| .inl <| .inr <| by cases i <;> simp [Opt.spelling]
  | output o => exact .inl <| .inr ⟨o, outs o, rfl⟩
  | package _ => exact .inr rfl

theorem render_starts_with_name (o : Opt) : ∃ a, render1 (o, .attached) = [a] ∧ startsWith a o.spelling = true := by
  cases o <;> refine ⟨_, rfl, ?_⟩
  case flag fl => cases fl <;> decide
  all_goals simp [startsWith, Opt.spelling, List.append_assoc]

def litHelp : Bytes := [45, 104]   -- -h

/-- a documented spelling is matched by some branch of the (regenerated) chain of `parse` -/
def genDispatches (t : Bytes) : Bool :=
  Gen.ParseDispatch.table.any fun e => if e.exact then t == e.lit else e.lit.isPrefixOf t

/-- The regenerated tables, evaluated once: usage() and help() list `-h` and the spellings of `optNames` and nothing else
    (compared as sorted lists without duplicates), each of these spellings is matched by a branch of the chain, and every
    branch of the chain is among them (`-o` through its four kinds). -/
theorem docs_checked :
    sortUniqueBytes Gen.ParseDispatch.usageEntries = sortUniqueBytes (litHelp :: optNames) ∧
    sortUniqueBytes Gen.ParseDispatch.helpEntries = sortUniqueBytes (litHelp :: optNames) ∧
    (∀ t ∈ litHelp :: optNames, genDispatches t = true) ∧
    (∀ e ∈ Gen.ParseDispatch.table,
      (litHelp :: optNames).any (fun t => t == e.lit || (e.lit == [45, 111] && e.lit.isPrefixOf t)) = true) := by
  decide +kernel

theorem mem_of_sorted {L : List Bytes} (h : sortUniqueBytes L = sortUniqueBytes (litHelp :: optNames)) (t : Bytes) :
    t ∈ L ↔ t = litHelp ∨ t ∈ optNames := by
  rw [← mem_sortUniqueBytes, h, mem_sortUniqueBytes, List.mem_cons]

theorem mem_usageEntries (t : Bytes) : t ∈ Gen.ParseDispatch.usageEntries ↔ t = litHelp ∨ t ∈ optNames :=
  mem_of_sorted docs_checked.1 t

theorem mem_helpEntries (t : Bytes) : t ∈ Gen.ParseDispatch.helpEntries ↔ t = litHelp ∨ t ∈ optNames :=
  mem_of_sorted docs_checked.2.1 t

theorem branch_listed {L : List Bytes} (hL : ∀ t, t ∈ L ↔ t = litHelp ∨ t ∈ optNames) :
    ∀ e ∈ Gen.ParseDispatch.table, L.any (fun t => t == e.lit || (e.lit == [45, 111] && e.lit.isPrefixOf t)) = true := by
  intro e he
  have ⟨_, _, _, branches_listed⟩ := docs_checked
  obtain ⟨t, ht, hp⟩ := List.any_eq_true.mp (branches_listed e he)
  exact List.any_eq_true.mpr ⟨t, (hL t).mpr (List.mem_cons.mp ht), hp⟩

/-- usage() names every option of the `Opt` datatype and, besides `-h`, nothing else -/
theorem usage_mentions_every_option : ∀ n ∈ optNames, n ∈ Gen.ParseDispatch.usageEntries :=
  fun n hn => (mem_usageEntries n).mpr (.inr hn)

theorem usage_mentions_only_options : ∀ t ∈ Gen.ParseDispatch.usageEntries, t ∈ optNames ∨ t = litHelp :=
  fun t ht => ((mem_usageEntries t).mp ht).symm

theorem help_mentions_only_options : ∀ t ∈ Gen.ParseDispatch.helpEntries, t ∈ optNames ∨ t = litHelp :=
  fun t ht => ((mem_helpEntries t).mp ht).symm

/-- the same for help() (`-ri` included) -/
theorem help_mentions_every_option : ∀ n ∈ optNames, n ∈ Gen.ParseDispatch.helpEntries :=
  fun n hn => (mem_helpEntries n).mpr (.inr hn)

/-- **every option mentioned in help() or usage() is dispatched** (removing a branch without
    removing its documentation breaks this) -/
theorem documented_options_dispatched :
    ∀ t ∈ Gen.ParseDispatch.helpEntries ++ Gen.ParseDispatch.usageEntries, genDispatches t = true := fun t ht =>
  have ⟨_, _, listed_dispatched, _⟩ := docs_checked
  listed_dispatched t (List.mem_cons.mpr ((List.mem_append.mp ht).elim (mem_helpEntries t).mp (mem_usageEntries t).mp))

/-- **every branch of the chain is mentioned in usage()** — `-o` through its four kinds (adding a
    branch without documenting it breaks this) -/
theorem dispatched_options_documented :
    ∀ e ∈ Gen.ParseDispatch.table,
      Gen.ParseDispatch.usageEntries.any (fun t => t == e.lit || (e.lit == [45, 111] && e.lit.isPrefixOf t)) = true :=
  branch_listed mem_usageEntries

theorem dispatched_options_in_help :
    ∀ e ∈ Gen.ParseDispatch.table,
      Gen.ParseDispatch.helpEntries.any (fun t => t == e.lit || (e.lit == [45, 111] && e.lit.isPrefixOf t)) = true :=
  branch_listed mem_helpEntries

/-! ## `-p<x>`: the plugin chain (`TestPlugin::parseAllArguments`) -/

theorem chain_accepts_iff_any : ∀ (ps : List (Bytes → Bool)) (a : Bytes), chainAnswer ps a = ps.any (· a)
  | [], _ => rfl
  | p :: ps, a => by
    simp only [chainAnswer, List.any_cons, chain_accepts_iff_any ps a]
    cases p a <;> simp

/-- the first plugin that accepts wins: the plugins before it are asked and say no, it is asked,
    and the plugins behind it are never asked -/
theorem chain_first_accepting_wins (pre post : List (Bytes → Bool)) (p : Bytes → Bool) (a : Bytes)
    (hpre : ∀ q ∈ pre, q a = false) (hp : p a = true) :
    chainAnswer (pre ++ p :: post) a = true ∧ chainAsked (pre ++ p :: post) a = pre.length + 1 := by
  simpa [chainAnswer, chainAsked, hp] using chain_skip pre (p :: post) a hpre

/-- if nobody accepts, everybody is asked and the argument is refused -/
theorem chain_all_refuse (ps : List (Bytes → Bool)) (a : Bytes) (h : ∀ q ∈ ps, q a = false) :
    chainAnswer ps a = false ∧ chainAsked ps a = ps.length := by
  simpa [chainAnswer, chainAsked] using chain_skip ps [] a h

/-- the model's default answer is the source's inline `TestPlugin::parseArguments` … -/
theorem default_parseArguments_eq_source (a : Bytes) :
    defaultParseArguments a = Gen.ParseDispatch.defaultParseArgumentsReturns := by
  rfl

/-- … and `MemoryReporterPlugin` is the only class in the tree that overrides it (so
    `SetPointerPlugin`, `MemoryLeakWarningPlugin`, `MockSupportPlugin` answer with the default) -/
theorem only_memory_reporter_overrides :
    Gen.ParseDispatch.classesOverridingParseArguments = ["MemoryReporterPlugin"] := rfl

/-- With only default plugins in the chain — what `RunAllTests(ac, av)` installs itself
    (`MemoryLeakWarningPlugin`, `SetPointerPlugin`), plus any number of `MockSupportPlugin`s — every
    `-p<x>` argument is refused (usage is printed). -/
theorem default_plugins_refuse (env : Env) (c : Config) (x : UInt8) (t : Bytes) (rest : List Bytes)
    (h : ∀ q ∈ env.plugins, q = defaultParseArguments) :
    go env c false ((45 :: 112 :: x :: t) :: rest) = .reject c := by
  have hs := step_plugin env c x t rest.head?
  have hp : env.plugin (45 :: 112 :: x :: t) = false :=
    (chain_all_refuse env.plugins _ (fun q hq => by rw [h q hq]; rfl)).1
  rw [hp] at hs
  exact go_cons_reject env c c _ rest false hs

/-- `-pmemoryreport=<anything>` is accepted by a chain that contains the `MemoryReporterPlugin` -/
theorem memory_reporter_accepts (ps : List (Bytes → Bool)) (t : Bytes) (h : memoryReporterParseArguments ∈ ps) :
    chainAnswer ps (litMemoryReport ++ t) = true := by
  rw [chain_accepts_iff_any]
  apply List.any_eq_true.mpr
  refine ⟨_, h, ?_⟩
  simp [memoryReporterParseArguments, litMemoryReport, isInfix]

/-- installing `SetPointerPlugin` (and `MemoryLeakWarningPlugin`) in front changes no answer -/
theorem runner_chains_answer_alike (ps : List (Bytes → Bool)) (a : Bytes) :
    chainAnswer (runnerChain ps) a = chainAnswer ps a ∧ chainAnswer (runAllTestsChain ps) a = chainAnswer ps a := by
  simp [runnerChain, runAllTestsChain, chainAnswer, defaultParseArguments]

/-! ## `CommandLineTestRunner::RunAllTests(ac, av)` -/

theorem plugin_names_eq_source :
    nameMemLeak = Gen.ParseDispatch.pluginNameMemLeak ∧ nameSetPointer = Gen.ParseDispatch.pluginNameSetPointer :=
  ⟨rfl, rfl⟩

/-- The two plugins are installed before anything else happens and removed again whatever the
    outcome (also for `-h` and for rejected vectors): the registry ends with the plugins it had. -/
theorem runAllTests_restores_plugins (ps : List ProbeTest) (reg : List String) (r : ParseResult)
    (h1 : nameMemLeak ∉ reg) (h2 : nameSetPointer ∉ reg) :
    (runAllTestsGlue ps reg r).pluginsAfter = reg := by
  -- removing a name takes out the head that carries it and leaves a list without it alone
  have keep : ∀ (n : String) (l : List String), n ∉ l → removePlugin n l = l := fun n l hl =>
    List.filter_eq_self.mpr fun x hx => bne_iff_ne.mpr fun e => hl (e ▸ hx)
  have drop : ∀ (n : String) (l : List String), removePlugin n (n :: l) = removePlugin n l := fun n l => by
    simp [removePlugin]
  have hne : nameSetPointer ∉ nameMemLeak :: reg := by
    intro h
    rcases List.mem_cons.mp h with e | h
    · revert e; decide
    · exact h2 h
  simp only [runAllTestsGlue, pluginsDuring]
  rw [drop, keep _ _ hne, drop, keep _ _ h1]

/-- the calls to the registry are bracketed: leak plugin in, pointer plugin in, …, pointer plugin out,
    leak plugin out -/
theorem runAllTests_brackets_run (ps : List ProbeTest) (reg : List String) (r : ParseResult) :
    ∃ mid, (runAllTestsGlue ps reg r).calls =
      [.install nameMemLeak, .install nameSetPointer] ++ mid ++ [.remove nameSetPointer, .remove nameMemLeak] := by
  cases r with
  | reject c => exact ⟨[], by simp [runAllTestsGlue, runner]⟩
  | ok c =>
    exact ⟨initCalls c ++
      (if c.listGroups then [.listGroups] else if c.listNames then [.listNames]
       else if c.listLocations then [.listLocations]
       else (if c.reversing then [.reverse] else []) ++ loopCalls c c.repeatCount),
      by simp [runAllTestsGlue, runner, List.append_assoc]⟩

/-- `-h` (any rejected vector) returns 1 without running: no registry call between the
    brackets, no test body, help iff help was asked for -/
theorem runAllTests_reject_runs_nothing (ps : List ProbeTest) (reg : List String) (c : Config) :
    (runAllTestsGlue ps reg (.reject c)).rc = 1 ∧ (runAllTestsGlue ps reg (.reject c)).run.ran = [] ∧
    (runAllTestsGlue ps reg (.reject c)).calls =
      [.install nameMemLeak, .install nameSetPointer, .remove nameSetPointer, .remove nameMemLeak] ∧
    (runAllTestsGlue ps reg (.reject c)).run.printed = (if c.needHelp then .help else .usage) := by
  simp [runAllTestsGlue, runner]

/-- return value for an accepted vector (no test of the registry fails): 0 in a list mode or when
    at least one test is selected; otherwise every repetition counts as a failed execution -/
theorem runAllTests_rc (ps : List ProbeTest) (reg : List String) (c : Config) :
    (runAllTestsGlue ps reg (.ok c)).rc =
      if c.listGroups || c.listNames || c.listLocations then 0
      else if (passing c ps).isEmpty then c.repeatCount else 0 := by
  simp [runAllTestsGlue, runner]

/-! ## value options at the end of the vector, or followed by an empty argument -/

/-- every option that wants a value, given as the very LAST argument (`getParameterField`
    returns `""`): filters get the empty text, `-t…` and `-o` are refused, `-k` changes nothing,
    `-r` repeats twice, `-s` takes the clock, `TEST(` gives two empty strict filters -/
theorem value_missing_at_end_all (env : Env) (c : Config) :
    (∀ k : FKind, go env c false [k.lit 103] = .ok { c with groupFilters := k.filter [] :: c.groupFilters }) ∧
    (∀ k : FKind, go env c false [k.lit 110] = .ok { c with nameFilters := k.filter [] :: c.nameFilters }) ∧
    (∀ k : FKind, go env c false [k.lit 116] = .reject c) ∧
    go env c false [[45, 111]] = .reject c ∧
    go env c false [[45, 107]] = .ok c ∧
    go env c false [[45, 114]] = .ok { c with repeatCount := 2 } ∧
    go env c false [[45, 115]] = .ok { c with shuffling := true, shuffleSeed := timeSeed env.time } ∧
    (∀ i : Bool, go env c false [testPrefix i] =
      .ok { c with groupFilters := ⟨[], true, false⟩ :: c.groupFilters, nameFilters := ⟨[], true, false⟩ :: c.nameFilters }) :=
  ⟨fun k => (valueOpt_group env c k).go_last, fun k => (valueOpt_name env c k).go_last,
   fun k => (valueOpt_dotName env c k).go_last, (valueOpt_output env c).go_last, (valueOpt_package env c).go_last, rfl,
   go_cons_ok env c _ _ [] false (step_shuffleDefault env c none (by intro a h; cases h)), fun i => (valueOpt_testForm env c i).go_last⟩

/-- three of these cases with the values written out:
    `-g` adds the filter `""` (which accepts everything), `-k` changes nothing, `-o` is refused -/
theorem value_missing_at_end (env : Env) (c : Config) :
    go env c false [[45, 103]] = .ok { c with groupFilters := ⟨[], false, false⟩ :: c.groupFilters } ∧
    go env c false [[45, 107]] = .ok c ∧
    go env c false [[45, 111]] = .reject c := by
  obtain ⟨hg, _, _, ho, hk, _⟩ := value_missing_at_end_all env c
  exact ⟨hg .sub, hk, ho⟩

/-- the same options followed by an EMPTY argument (`prog -g ""`): the empty string is taken as
    the value (and consumed) by the filters, `-k`, `TEST(`; `-t… ""` and `-o ""` are refused; for `-r`
    and `-s` the empty string is no number, is not consumed, and is then refused as an unknown
    argument -/
theorem value_empty_argument (env : Env) (c : Config) (rest : List Bytes) :
    (∀ k : FKind, go env c false (k.lit 103 :: [] :: rest) =
        go env { c with groupFilters := k.filter [] :: c.groupFilters } false rest) ∧
    (∀ k : FKind, go env c false (k.lit 110 :: [] :: rest) =
        go env { c with nameFilters := k.filter [] :: c.nameFilters } false rest) ∧
    (∀ k : FKind, go env c false (k.lit 116 :: [] :: rest) = .reject c) ∧
    go env c false ([45, 111] :: [] :: rest) = .reject c ∧
    go env c false ([45, 107] :: [] :: rest) = go env c false rest ∧
    go env c false ([45, 114] :: [] :: rest) = .reject { c with repeatCount := 2 } ∧
    go env c false ([45, 115] :: [] :: rest) = .reject { c with shuffling := true, shuffleSeed := timeSeed env.time } ∧
    (∀ i : Bool, go env c false (testPrefix i :: [] :: rest) =
      go env { c with groupFilters := ⟨[], true, false⟩ :: c.groupFilters,
                      nameFilters := ⟨[], true, false⟩ :: c.nameFilters } false rest) := by
  have sep : ∀ {name S}, ValueOpt env c name S → _ := fun {name S} h => h.go_spell [] .separated rest (fun h => by cases h)
  refine ⟨fun k => sep (valueOpt_group env c k), fun k => sep (valueOpt_name env c k), fun k => sep (valueOpt_dotName env c k),
    sep (valueOpt_output env c), sep (valueOpt_package env c), ?_, ?_, fun i => sep (valueOpt_testForm env c i)⟩
  · rw [go_cons_ok env c _ _ ([] :: rest) false (step_repeatDefault env c _ fun a ha => Option.some.inj ha ▸ rfl)]
    exact go_cons_reject env _ _ _ rest false (step_unknown env _ [] _ unknown_empty)
  · rw [go_cons_ok env c _ _ ([] :: rest) false (step_shuffleDefault env c _ fun a ha => Option.some.inj ha ▸ rfl)]
    exact go_cons_reject env _ _ _ rest false (step_unknown env _ [] _ unknown_empty)

/-! ## the four filter kinds mean what the help text says -/

/-- `-g`, `-n`: contains; `-sg`, `-sn`: exactly matches; `-xg`, `-xn`: excluded if it contains;
    `-xsg`, `-xsn`: excluded if it exactly matches -/
theorem filter_kinds_meaning (t s : Bytes) :
    (FKind.sub.filter t).accepts s = isInfix s t ∧
    (FKind.strict.filter t).accepts s = (s == t) ∧
    (FKind.excl.filter t).accepts s = !isInfix s t ∧
    (FKind.exclStrict.filter t).accepts s = !(s == t) := by
  simp [FKind.filter, Filter.accepts]

/-! ## the regenerated source IS the model

`Gen/ParseHandlers.lean` is the statement-by-statement translation of `CommandLineArguments.cpp` (every function
`parse` runs, the body of its `for` loop, the constructor's initialiser list, the getters) and of the output
selection of `CommandLineTestRunner::parseArguments`, regenerated on every check run.  The theorems below tie it to
the hand-written model for ALL inputs, so everything proved above about `parse` holds for what the source says. -/

/-- `getParameterField`: rest of the argument if longer than the option name, else the next argument (index
    advanced), else `""` — the translated function equals the model's, for every argument list and name -/
theorem source_getParameterField_eq (env : Env) (s : Gen.ParseHandlers.St) (a : Bytes) (rest : List Bytes) (name : Bytes) :
    Gen.ParseHandlers.getParameterField env s (a :: rest) 0 name =
      ⟨s, Src.kOf (getParameterField name.length a rest.head?).consumed, (getParameterField name.length a rest.head?).val⟩ := by
  unfold Gen.ParseHandlers.getParameterField getParameterField
  cases rest with
  | nil => by_cases h : a.length > name.length <;> simp [h, Src.kOf]
  | cons b r => by_cases h : a.length > name.length <;> simp [h, Src.kOf]

theorem source_setRepeatCount_eq (env : Env) (c : Config) (p : Bool) (a : Bytes) (rest : List Bytes) :
    Gen.ParseHandlers.setRepeatCount env ⟨c, p⟩ (a :: rest) 0 =
      ⟨⟨(setRepeatCount c a rest.head?).cfg, p⟩, Src.kOf (setRepeatCount c a rest.head?).consumed, ()⟩ := by
  simp only [Gen.ParseHandlers.setRepeatCount, CommandLine.setRepeatCount, repeatRaw, repeatConsumed,
    List.getD_cons_zero, List.getD_cons_succ, List.length_cons, Nat.zero_add, Nat.lt_add_left_iff_pos, bne_iff_ne, ne_eq,
    beq_iff_eq, decide_eq_true_eq, ite_not, eq_comm (a := 0)]
  by_cases h : a.length > 2
  · simp only [if_pos h, Src.kOf_false]
    split <;> rfl
  · simp only [if_neg h]
    cases rest with
    | nil => rfl
    | cons b r =>
      by_cases h0 : atoiSizeT b = 0 <;> simp [h0, Src.kOf]

/-- `setShuffle` (translated) = model; `shufflingPreSeeded_` is set exactly when a seed was given -/
theorem source_setShuffle_eq (env : Env) (c : Config) (p : Bool) (a : Bytes) (rest : List Bytes) :
    Gen.ParseHandlers.setShuffle env ⟨c, p⟩ (a :: rest) 0 =
      ⟨⟨(setShuffle env c a rest.head?).cfg, Src.preSeededOf p a rest.head?⟩,
       Src.kOf (setShuffle env c a rest.head?).consumed, (setShuffle env c a rest.head?).good⟩ := by
  simp only [Gen.ParseHandlers.setShuffle, CommandLine.setShuffle, shuffleSeedOf, shuffleConsumed, Src.preSeededOf, timeSeed,
    List.getD_cons_zero, List.getD_cons_succ, List.length_cons, Nat.zero_add, Nat.lt_add_left_iff_pos, beq_iff_eq,
    decide_eq_true_eq]
  by_cases h : a.length > 2
  · simp only [if_pos h, ite_self, Src.kOf_false]
  · simp only [if_neg h]
    cases rest with
    | nil => simp [Src.kOf]; split <;> simp [*]
    | cons b r =>
      by_cases h0 : atou b = 0
      · simp [h0, Src.kOf]; split <;> simp [*]
      · simp [h0, Src.kOf]

/-- the eight `add…Filter` functions (translated) = the model's `addGroup` / `addName` with the option-name length
    and flags of that function -/
theorem source_filter_functions_eq (env : Env) (c : Config) (p : Bool) (a : Bytes) (rest : List Bytes) :
    Gen.ParseHandlers.addGroupFilter env ⟨c, p⟩ (a :: rest) 0 =
      ⟨⟨(addGroup 2 false false c a rest.head?).cfg, p⟩, Src.kOf (addGroup 2 false false c a rest.head?).consumed, ()⟩ ∧
    Gen.ParseHandlers.addStrictGroupFilter env ⟨c, p⟩ (a :: rest) 0 =
      ⟨⟨(addGroup 3 true false c a rest.head?).cfg, p⟩, Src.kOf (addGroup 3 true false c a rest.head?).consumed, ()⟩ ∧
    Gen.ParseHandlers.addExcludeGroupFilter env ⟨c, p⟩ (a :: rest) 0 =
      ⟨⟨(addGroup 3 false true c a rest.head?).cfg, p⟩, Src.kOf (addGroup 3 false true c a rest.head?).consumed, ()⟩ ∧
    Gen.ParseHandlers.addExcludeStrictGroupFilter env ⟨c, p⟩ (a :: rest) 0 =
      ⟨⟨(addGroup 4 true true c a rest.head?).cfg, p⟩, Src.kOf (addGroup 4 true true c a rest.head?).consumed, ()⟩ ∧
    Gen.ParseHandlers.addNameFilter env ⟨c, p⟩ (a :: rest) 0 =
      ⟨⟨(addName 2 false false c a rest.head?).cfg, p⟩, Src.kOf (addName 2 false false c a rest.head?).consumed, ()⟩ ∧
    Gen.ParseHandlers.addStrictNameFilter env ⟨c, p⟩ (a :: rest) 0 =
      ⟨⟨(addName 3 true false c a rest.head?).cfg, p⟩, Src.kOf (addName 3 true false c a rest.head?).consumed, ()⟩ ∧
    Gen.ParseHandlers.addExcludeNameFilter env ⟨c, p⟩ (a :: rest) 0 =
      ⟨⟨(addName 3 false true c a rest.head?).cfg, p⟩, Src.kOf (addName 3 false true c a rest.head?).consumed, ()⟩ ∧
    Gen.ParseHandlers.addExcludeStrictNameFilter env ⟨c, p⟩ (a :: rest) 0 =
      ⟨⟨(addName 4 true true c a rest.head?).cfg, p⟩, Src.kOf (addName 4 true true c a rest.head?).consumed, ()⟩ := by
  -- each of the eight is `getParameterField` with its own option name, then its flags, then the cons
  simp only [Gen.ParseHandlers.addGroupFilter, Gen.ParseHandlers.addStrictGroupFilter, Gen.ParseHandlers.addExcludeGroupFilter,
    Gen.ParseHandlers.addExcludeStrictGroupFilter, Gen.ParseHandlers.addNameFilter, Gen.ParseHandlers.addStrictNameFilter,
    Gen.ParseHandlers.addExcludeNameFilter, Gen.ParseHandlers.addExcludeStrictNameFilter, source_getParameterField_eq, addGroup,
    addName, List.length_cons, List.length_nil, and_self]

/-- `addGroupDotNameFilter` (translated: `split(".")`, exactly two tokens, `subString(0, size-1)`, flags) = model -/
theorem source_addGroupDotNameFilter_eq (env : Env) (c : Config) (p : Bool) (a : Bytes) (rest : List Bytes)
    (lit : Bytes) (strict exclude : Bool) :
    Gen.ParseHandlers.addGroupDotNameFilter env ⟨c, p⟩ (a :: rest) 0 lit strict exclude =
      ⟨⟨(addGroupDotName lit strict exclude c a rest.head?).cfg, p⟩,
       Src.kOf (addGroupDotName lit strict exclude c a rest.head?).consumed,
       (addGroupDotName lit strict exclude c a rest.head?).good⟩ := by
  simp only [Gen.ParseHandlers.addGroupDotNameFilter, source_getParameterField_eq, addGroupDotName]
  generalize splitCode (getParameterField lit.length a rest.head?).val [46] = l
  match l with
  | [] => simp [dotNameFilters]
  | [x] => simp [dotNameFilters]
  | [g, n] => cases strict <;> cases exclude <;> simp [dotNameFilters]
  | _ :: _ :: _ :: _ => simp [dotNameFilters]

/-- `addTestToRunBasedOnVerboseOutput` (translated: `subStringFromTill(',', ')')`, `subString(2)`,
    `subStringFromTill(at(0), ',')`) = model, including the empty value (`at(0)` reads the terminator) -/
theorem source_addTestToRun_eq (env : Env) (c : Config) (p : Bool) (a : Bytes) (rest : List Bytes) (lit : Bytes) :
    Gen.ParseHandlers.addTestToRunBasedOnVerboseOutput env ⟨c, p⟩ (a :: rest) 0 lit =
      ⟨⟨(addTestForm lit c a rest.head?).cfg, p⟩, Src.kOf (addTestForm lit c a rest.head?).consumed, ()⟩ := by
  simp only [Gen.ParseHandlers.addTestToRunBasedOnVerboseOutput, source_getParameterField_eq, addTestForm]
  generalize (getParameterField lit.length a rest.head?).val = w
  cases w with
  | nil => simp [testFormGroup, testFormName, subStringFromTill, find, findFrom]
  | cons x t => simp [testFormGroup, testFormName]

theorem source_setOutputType_eq (env : Env) (c : Config) (p : Bool) (a : Bytes) (rest : List Bytes) :
    Gen.ParseHandlers.setOutputType env ⟨c, p⟩ (a :: rest) 0 =
      ⟨⟨(setOutputType c a rest.head?).cfg, p⟩, Src.kOf (setOutputType c a rest.head?).consumed,
       (setOutputType c a rest.head?).good⟩ := by
  -- both sides test the same conditions in the same order
  simp only [Gen.ParseHandlers.setOutputType, source_getParameterField_eq, CommandLine.setOutputType, outputOf,
    show ([45, 111] : Bytes).length = 2 from rfl, litNormal, litEclipse, litJunit, litTeamcity, beq_iff_eq]
  generalize (getParameterField 2 a rest.head?) = f
  by_cases h0 : f.val.length = 0
  · simp only [if_pos h0]
  by_cases h1 : (f.val == [110, 111, 114, 109, 97, 108] || f.val == [101, 99, 108, 105, 112, 115, 101]) = true
  · simp only [if_neg h0, if_pos h1]
  by_cases h2 : f.val = [106, 117, 110, 105, 116]
  · simp only [if_neg h0, if_neg h1, if_pos h2]
  by_cases h3 : f.val = [116, 101, 97, 109, 99, 105, 116, 121]
  · simp only [if_neg h0, if_neg h1, if_neg h2, if_pos h3]
  · simp only [if_neg h0, if_neg h1, if_neg h2, if_neg h3]

theorem source_setPackageName_eq (env : Env) (c : Config) (p : Bool) (a : Bytes) (rest : List Bytes) :
    Gen.ParseHandlers.setPackageName env ⟨c, p⟩ (a :: rest) 0 =
      ⟨⟨(setPackageName c a rest.head?).cfg, p⟩, Src.kOf (setPackageName c a rest.head?).consumed, ()⟩ := by
  simp only [Gen.ParseHandlers.setPackageName, source_getParameterField_eq, CommandLine.setPackageName,
    show ([45, 107] : Bytes).length = 2 from rfl, beq_iff_eq]
  generalize (getParameterField 2 a rest.head?) = f
  by_cases h0 : f.val.length = 0
  · simp only [if_pos h0]
  · simp only [if_neg h0]

/-- Both sides are unfolded into the same chain of conditions (`-e`/`-ci` share a branch in the source and a
    handler in the table), the views are pushed into the branches, and each branch agrees by the equality of its function above. -/
theorem Src.parseBody_view (env : Env) (c : Config) (p : Bool) (a : Bytes) (rest : List Bytes) :
    Src.view (Gen.ParseHandlers.parseBody env ⟨c, p⟩ (a :: rest) 0) = Src.viewS (step env c a rest.head?) := by
  rw [Src.step_chain]
  simp only [table, Src.dispatchIn, Entry.hits, ↓reduceIte, Bool.false_eq_true, litTEST, litIGNORE, Src.ite_ite_same,
    Gen.ParseHandlers.parseBody, List.getD_cons_zero, source_setRepeatCount_eq, source_setShuffle_eq,
    source_filter_functions_eq, source_addGroupDotNameFilter_eq, source_addTestToRun_eq, source_setOutputType_eq,
    source_setPackageName_eq, Src.out_of_good, apply_ite Src.view, apply_ite (Src.afterDispatch env c a rest.head?),
    Src.view_mk, Src.afterDispatch_some, Src.afterDispatch_none, Src.viewS, runHandler, Src.kOf_false, addGroup_good,
    addName_good, addTestForm_good, setRepeatCount_good, setPackageName_good]

/-- **The body of the `for` loop of `parse`** (the whole if / else-if chain with its statements and the rejection
    test, translated) is the model's `step`: same configuration, same verdict, same number of consumed arguments,
    for every configuration, argument and rest of the vector. -/
theorem source_loop_body_eq_step (env : Env) (c : Config) (p : Bool) (a : Bytes) (rest : List Bytes) :
    (Gen.ParseHandlers.parseBody env ⟨c, p⟩ (a :: rest) 0).st.cfg = (step env c a rest.head?).cfg ∧
    (Gen.ParseHandlers.parseBody env ⟨c, p⟩ (a :: rest) 0).ret = (step env c a rest.head?).good ∧
    (Gen.ParseHandlers.parseBody env ⟨c, p⟩ (a :: rest) 0).k = (if (step env c a rest.head?).consumed then 1 else 0) :=
  have h := Src.parseBody_view env c p a rest
  ⟨congrArg (·.1) h, congrArg (·.2.1) h, congrArg (·.2.2) h⟩

/-- **The regenerated source is the model**, whole run: the constructor's configuration, then the `for` loop over
    the indices with the translated body, computes `parse` for EVERY argument vector. -/
theorem source_parse_eq_model (env : Env) (argv : List Bytes) : Src.genParse env argv = parse env argv := by
  unfold Src.genParse parse
  rw [Src.genLoop_eq_genLoopOf, Src.genLoopOf_eq_go env _ (Src.parseBody_view env) _ _ _ (Nat.le_refl _)]
  rfl

/-- the constructor's initialiser list (regenerated) sets up the default configuration the model starts from -/
theorem source_constructor_eq_default :
    Gen.ParseHandlers.initialConfig = ({} : Config) ∧ Gen.ParseHandlers.initialPreSeeded = false :=
  ⟨Src.initialConfig_eq, rfl⟩

/-- every `const` getter returns the member the model's `Config` field of that name stands for (regenerated table) -/
theorem source_getters_eq :
    Gen.ParseHandlers.getters =
      [("needHelp", "needHelp", ""), ("isVerbose", "verbose", ""), ("isVeryVerbose", "veryVerbose", ""),
       ("isColor", "color", ""), ("isListingTestGroupNames", "listGroups", ""),
       ("isListingTestGroupAndCaseNames", "listNames", ""), ("isListingTestLocations", "listLocations", ""),
       ("isRunIgnored", "runIgnored", ""), ("runTestsInSeperateProcess", "separateProcess", ""),
       ("getRepeatCount", "repeatCount", ""), ("isReversing", "reversing", ""), ("isCrashingOnFail", "crashOnFail", ""),
       ("isRethrowingExceptions", "rethrow", ""), ("isShuffling", "shuffling", ""), ("getShuffleSeed", "shuffleSeed", ""),
       ("getGroupFilters", "groupFilters", ""), ("getNameFilters", "nameFilters", ""),
       ("isEclipseOutput", "output", "eclipse"), ("isJUnitOutput", "output", "junit"),
       ("isTeamCityOutput", "output", "teamcity"), ("getPackageName", "packageName", "")] := rfl

/-- `CommandLineTestRunner::parseArguments` (regenerated output selection) creates exactly the model's outputs:
    JUnit writer with the package name (plus console and composite when `-v`/`-vv`), TeamCity writer, or console -/
theorem source_created_outputs_eq (c : Config) :
    (Gen.ParseHandlers.createdOutputs c).map Src.toModelEv = outputsOf c := by
  unfold Gen.ParseHandlers.createdOutputs outputsOf
  cases ho : c.output <;> cases hv : c.verbose <;> cases hvv : c.veryVerbose <;> simp [Src.toModelEv] <;> decide

/-- **End to end, on the source**: for every list of documented options (any order and multiplicity, attached or
    separated, arbitrary identifier-like values, in-range numbers) the regenerated parser accepts the rendered vector
    with the documented configuration, and the regenerated runner code creates the documented outputs. -/
theorem source_parse_render (env : Env) (prog : Bytes) (os : List (Opt × Form)) :
    Src.genParse env (prog :: render os) = .ok (meaning env (os.map Prod.fst)) ∧
    (Gen.ParseHandlers.createdOutputs (meaning env (os.map Prod.fst))).map Src.toModelEv =
      outputsOf (meaning env (os.map Prod.fst)) := by
  rw [source_parse_eq_model, parse_render]
  exact ⟨rfl, source_created_outputs_eq _⟩

/-- the regenerated parser is total and stores only parts of its arguments, for every argument vector -/
theorem source_parse_total_and_from_args (env : Env) (argv : List Bytes) :
    ((∃ c, Src.genParse env argv = .ok c) ∨ (∃ c, Src.genParse env argv = .reject c)) ∧
    StringsFromArgs argv.tail (Src.genParse env argv).cfg := by
  rw [source_parse_eq_model]
  exact ⟨parse_total env argv, stored_strings_from_args env argv⟩

/-- documented rejections on the regenerated parser: `-h` (help requested) and `-s0` after any documented options -/
theorem source_rejections (env : Env) (prog : Bytes) (os : List (Opt × Form)) (rest : List Bytes) :
    Src.genParse env (prog :: (render os ++ [45, 104] :: rest)) =
      .reject { meaning env (os.map Prod.fst) with needHelp := true } ∧
    (Src.genParse env (prog :: (render os ++ [45, 115, 48] :: rest))).isOk = false := by
  rw [source_parse_eq_model, source_parse_eq_model]
  exact ⟨help_rejects env prog os rest, seed_zero_rejects_parse env prog os rest⟩

/-- **`CommandLineTestRunner::runAllTests`** (regenerated from the source as the list of calls it makes, with
    `initializeTestRun` inlined and the `while (loopCount++ < repeatCount)` loop as a map over the repetitions): the calls
    to the registry are exactly the model's, for every configuration — separate process first, a list mode returns
    early (group names before names before locations), reverse before the loop, shuffle (with the parsed seed) before
    every run. -/
theorem source_runner_calls_eq (ps : List ProbeTest) (c : Config) :
    (runner ps (.ok c)).calls =
      [.install nameSetPointer] ++ (Gen.ParseHandlers.runAllTests c).filterMap Src.evCall ++ [.remove nameSetPointer] := by
  simp only [Gen.ParseHandlers.runAllTests, runner, loopCalls_eq, List.filterMap_append, Src.init_calls_eq,
    apply_ite (List.filterMap Src.evCall), List.filterMap_flatMap, List.filterMap_cons, List.filterMap_nil, Src.evCall,
    List.append_nil]
  by_cases h1 : c.listGroups = true
  · simp [h1]
  by_cases h2 : c.listNames = true
  · simp [h1, h2]
  by_cases h3 : c.listLocations = true
  · simp [h1, h2, h3]
  by_cases h4 : c.reversing = true <;> by_cases h5 : c.shuffling = true <;> simp [h1, h2, h3, h4, h5]

/-- **`initializeTestRun`** (regenerated): what it switches on is the model's reading of the configuration — verbosity 2
    for `-vv` even together with `-v`, colour, separate process, run-ignored, crash-on-fail, rethrow mode -/
theorem source_init_effects_eq (c : Config) :
    (Gen.ParseHandlers.initializeTestRun c).foldl Src.applyEv {} =
      ⟨verbosityOf c, c.color, c.separateProcess, c.runIgnored, c.crashOnFail, c.rethrow⟩ := by
  -- `-vv` wins over `-v` because its statement comes second; otherwise each of the six switches contributes its event or nothing,
  -- and the 64 combinations are evaluated (pushing `foldl` through the appended `if`s copies the state into every branch)
  simp only [Gen.ParseHandlers.initializeTestRun, verbosityOf]
  cases c.verbose <;> cases c.veryVerbose <;> cases c.color <;> cases c.separateProcess <;> cases c.runIgnored <;>
    cases c.crashOnFail <;> rfl

/-- what the regenerated `runAllTests` prints itself: the seed line (once, with the configured seed) iff shuffling and
    no list mode — the model's `seedLine` — and `printTestRun(i, n)` for i = 1 … n — the model's `runHeaders` -/
theorem source_runner_prints_eq (c : Config) :
    (Gen.ParseHandlers.runAllTests c).filterMap Src.evPrinted =
      (match seedLine c true with
       | some n => ["Test order shuffling enabled with seed: ", toString n, "\n"]
       | none => []) ∧
    (Gen.ParseHandlers.runAllTests c).filterMap Src.evHeader =
      (if listing c then [] else runHeadersFrom c.repeatCount 1 c.repeatCount) := by
  -- each projection distributes over `++`, `if` and `flatMap`; `initializeTestRun` contributes nothing to either
  constructor
  · have hp : (Gen.ParseHandlers.runAllTests c).filterMap Src.evPrinted =
        if c.shuffling && !listing c then ["Test order shuffling enabled with seed: ", toString c.shuffleSeed, "\n"] else [] := by
      simp only [Gen.ParseHandlers.runAllTests, List.filterMap_append, (Src.init_prints_nothing c).1, listing,
        apply_ite (List.filterMap Src.evPrinted), List.filterMap_flatMap, List.filterMap_cons, List.filterMap_nil, Src.evPrinted,
        ite_self, ListLemmas.flatMap_const_nil, List.append_nil, List.nil_append]
      by_cases h1 : c.listGroups = true <;> by_cases h2 : c.listNames = true <;> by_cases h3 : c.listLocations = true <;>
        simp only [h1, h2, h3, if_true, if_false, Bool.or_true, Bool.true_or, Bool.or_self, Bool.not_true, Bool.not_false,
          Bool.and_false, Bool.and_true, Bool.false_eq_true]
    rw [hp]
    simp only [seedLine, Bool.and_true]
    split <;> rfl
  · simp only [Gen.ParseHandlers.runAllTests, List.filterMap_append, (Src.init_prints_nothing c).2, listing,
      apply_ite (List.filterMap Src.evHeader), List.filterMap_flatMap, List.filterMap_cons, List.filterMap_nil, Src.evHeader,
      ite_self, List.append_nil, List.nil_append, ← List.map_eq_flatMap, runHeadersFrom_eq, Nat.add_comm 1]
    cases c.listGroups <;> cases c.listNames <;> cases c.listLocations <;> rfl

/-- the failure accounting of the loop and the returned expression of `runAllTests` are the ones the model's return
    value was written against (kept as parsed text) -/
theorem source_runner_accounting :
    Gen.ParseHandlers.loopAccounting =
      ["(addassign (id failedTestCount) (call (member (id tr) getFailureCount) []))",
       "if(tr.isFailure())(block [(expr (postinc (id failedExecutionCount)))])"] ∧
    Gen.ParseHandlers.returnedExpressions =
      ["(num 0)",
       "(cast int (cond (bin != (id failedTestCount) (num 0)) (id failedTestCount) (id failedExecutionCount)))"] :=
  ⟨rfl, rfl⟩

/-- **Whole run, on the regenerated source**: for every list of documented options the regenerated parser yields the
    documented configuration, the regenerated runner makes exactly the registry calls of that configuration between
    installing and removing the pointer plugin, and the test bodies that run are the selected ones, repeated. -/
theorem source_documented_run (env : Env) (prog : Bytes) (os : List (Opt × Form)) (ps : List ProbeTest) :
    Src.genParse env (prog :: render os) = .ok (meaning env (os.map Prod.fst)) ∧
    (runner ps (Src.genParse env (prog :: render os))).calls =
      [.install nameSetPointer] ++
        (Gen.ParseHandlers.runAllTests (meaning env (os.map Prod.fst))).filterMap Src.evCall ++ [.remove nameSetPointer] ∧
    (listing (meaning env (os.map Prod.fst)) = false →
      (runner ps (Src.genParse env (prog :: render os))).ran =
        (List.replicate (meaning env (os.map Prod.fst)).repeatCount (oneRun (meaning env (os.map Prod.fst)) ps)).flatten) := by
  have h : Src.genParse env (prog :: render os) = .ok (meaning env (os.map Prod.fst)) := by
    rw [source_parse_eq_model, parse_render]
  refine ⟨h, ?_, ?_⟩
  · rw [h]; exact source_runner_calls_eq ps _
  · intro hl
    rw [h]
    simp only [listing, Bool.or_eq_false_iff] at hl
    exact runner_ok_runs_selected ps _ ⟨hl.1.1, hl.1.2, hl.2⟩

/-! ## seed line, run headers, JUnit file names, TeamCity messages, memory formatter -/

theorem shuffle_seed_never_zero_documented (env : Env) (os : List Opt) :
    (meaning env os).shuffling = true → (meaning env os).shuffleSeed ≠ 0 :=
  (documented_meaning env os).2

theorem seed_line_iff (c : Config) (shows : Bool) (n : Nat) :
    seedLine c shows = some n ↔ (c.shuffling = true ∧ listing c = false ∧ shows = true ∧ n = c.shuffleSeed) := by
  unfold seedLine
  cases c.shuffling <;> cases listing c <;> cases shows <;> simp [eq_comm]

theorem seed_line_documented_nonzero (env : Env) (prog : Bytes) (os : List (Opt × Form)) (shows : Bool) (n : Nat)
    (h : seedLine (parse env (prog :: render os)).cfg shows = some n) : n ≠ 0 := by
  rw [parse_render] at h
  obtain ⟨hs, _, _, rfl⟩ := (seed_line_iff _ _ _).mp h
  exact shuffle_seed_never_zero_documented env _ hs

theorem run_headers_eq (c : Config) (shows : Bool) :
    runHeaders c shows =
      if listing c = false ∧ shows = true ∧ c.repeatCount > 1
      then (List.range c.repeatCount).map (fun j => (j + 1, c.repeatCount)) else [] := by
  unfold runHeaders
  cases listing c <;> cases shows <;> simp [runHeadersFrom_eq, Nat.add_comm]

/-- every report file name is built from the `-k` package name and the name of a group of the registry (or the empty
    name), and there is none unless `-ojunit` -/
theorem junit_files_carry_package (c : Config) (ps : List ProbeTest) (f : Bytes) (h : f ∈ junitFiles c ps) :
    c.output = .junit ∧ ∃ g, (g = [] ∨ ∃ p ∈ ps, p.group = g) ∧ f = JUnit.createFileName c.packageName g := by
  unfold junitFiles at h
  split at h
  · rename_i hc
    simp only [Bool.and_eq_true, beq_iff_eq] at hc
    refine ⟨hc.1.1, ?_⟩
    rw [mem_sortUniqueBytes, List.mem_map] at h
    obtain ⟨g, hg, rfl⟩ := h
    refine ⟨g, ?_, rfl⟩
    split at hg
    · simp only [selectedGroups, List.mem_map, List.mem_filter] at hg
      obtain ⟨p, ⟨hp, _⟩, rfl⟩ := hg
      exact Or.inr ⟨p, hp, rfl⟩
    · exact (blockNames_sub c ps none g hg).imp_right fun h => by simpa using h
  · cases h

/-- with `-ojunit` (no list mode, at least one run) every group that has a selected test gets its report file, named
    with the `-k` package -/
theorem junit_selected_group_has_file (c : Config) (ps : List ProbeTest) (p : ProbeTest)
    (hj : c.output = .junit) (hl : listing c = false) (hr : c.repeatCount > 0)
    (hp : p ∈ ps) (hs : selects c p.group p.name = true) :
    JUnit.createFileName c.packageName p.group ∈ junitFiles c ps := by
  unfold junitFiles
  simp only [hj, hl, hr, beq_self_eq_true, Bool.not_false, Bool.and_self, decide_true, if_true]
  rw [mem_sortUniqueBytes]
  apply List.mem_map_of_mem
  split
  · simp only [selectedGroups, List.mem_map, List.mem_filter]
    exact ⟨p, ⟨hp, hs⟩, rfl⟩
  · exact blockNames_selected c ps none p hp hs

theorem teamcity_messages_iff (c : Config) :
    teamcityMessages c = true ↔ (c.output = .teamcity ∧ listing c = false ∧ c.repeatCount > 0) := by
  unfold teamcityMessages
  cases c.output <;> cases listing c <;> simp

theorem memformatter_type_of_plain_value (t : Bytes) (h : (45 : UInt8) ∉ t) :
    memFormatterType (litMemoryReport ++ t) = t := by
  unfold memFormatterType replaceAll
  have hpre : litMemoryReport.isPrefixOf (litMemoryReport ++ t) = true := by simp
  have hdrop : (litMemoryReport ++ t).drop litMemoryReport.length = t := List.drop_left
  have hlen : t.length ≤ (litMemoryReport ++ t).length := by simp
  generalize litMemoryReport ++ t = a at hpre hdrop hlen
  cases a with
  | nil => simp [litMemoryReport] at hpre
  | cons x a' =>
    simp only [replaceAllAux, hpre, if_true, List.nil_append, hdrop]
    exact replaceAllAux_not_mem litMemoryReport.tail _ t h hlen

theorem memformatter_kinds :
    memFormatterKind (memFormatterType (litMemoryReport ++ [110, 111, 114, 109, 97, 108])) = .normal ∧
    memFormatterKind (memFormatterType (litMemoryReport ++ [99, 111, 100, 101])) = .code ∧
    memFormatterKind (memFormatterType (litMemoryReport ++ [122, 122])) = .none ∧
    memFormatterKind (memFormatterType litMemoryReport) = .none ∧
    -- the option text twice: both occurrences are removed, the rest decides
    memFormatterKind (memFormatterType (litMemoryReport ++ litMemoryReport ++ [99, 111, 100, 101])) = .code := by decide +kernel

/-! ## non-vacuity: concrete vectors -/

def idAlpha : Ident := ⟨[65, 108, 112, 104, 97], by decide⟩      -- Alpha
def idOne : Ident := ⟨[111, 110, 101], by decide⟩                -- one
def idPkg : Ident := ⟨[112, 107, 103], by decide⟩                -- pkg
def count3 : Count := ⟨[51], by decide, by decide, by decide⟩    -- 3
def seed42 : Seed := ⟨[52, 50], by decide, by decide, by decide⟩ -- 42
def env0 : Env := ⟨1000, []⟩

/-- `prog -v -r 3 -sgAlpha -xn one -t Alpha.one "TEST(Alpha, one)" -s42 -ojunit -k pkg -b`:
    a non-trivial instance of `parse_render` (both forms, every value kind) -/
def sampleOpts : List (Opt × Form) :=
  [(.flag .v, .attached), (.repeatN count3, .separated), (.group .strict idAlpha, .attached),
   (.name .excl idOne, .separated), (.test .sub idAlpha idOne, .separated), (.testForm false idAlpha idOne, .attached),
   (.shuffleSeed seed42, .attached), (.output .junit, .attached), (.package idPkg, .separated), (.flag .b, .attached)]

example : render sampleOpts =
    [[45, 118], [45, 114], [51], [45, 115, 103, 65, 108, 112, 104, 97], [45, 120, 110], [111, 110, 101],
     [45, 116], [65, 108, 112, 104, 97, 46, 111, 110, 101],
     [84, 69, 83, 84, 40, 65, 108, 112, 104, 97, 44, 32, 111, 110, 101, 41],
     [45, 115, 52, 50], [45, 111, 106, 117, 110, 105, 116], [45, 107], [112, 107, 103], [45, 98]] := by decide +kernel

example : parse env0 ([120] :: render sampleOpts) =
    .ok { verbose := true, repeatCount := 3, reversing := true, shuffling := true, shuffleSeed := 42,
          output := .junit, packageName := idPkg.val,
          groupFilters := [⟨idAlpha.val, true, false⟩, ⟨idAlpha.val, false, false⟩, ⟨idAlpha.val, true, false⟩],
          nameFilters := [⟨idOne.val, true, false⟩, ⟨idOne.val, false, false⟩, ⟨idOne.val, false, true⟩] } := by
  rw [parse_render]; decide +kernel

/-- the same by running the model (no theorem involved) -/
example : parse env0 ([120] :: render sampleOpts) = .ok (meaning env0 (sampleOpts.map Prod.fst)) := by decide +kernel

/-- rejections that are really reached -/
example : parse env0 [[120], [45, 118], [45, 104], [45, 99]] = .reject { verbose := true, needHelp := true } := by decide +kernel
example : parse env0 [[120], [45, 115, 48]] = .reject { shuffling := true, shuffleSeed := 0 } := by decide +kernel
example : parse env0 [[120], [45, 116], [97, 46, 98, 46, 99]] = .reject {} := by decide +kernel          -- -t a.b.c
example : (parse env0 [[120], [45, 116], [97, 46, 98, 46]]).isOk = true := by decide +kernel              -- -t a.b.
example : parse env0 [[120], [45, 111, 120]] = .reject {} := by decide +kernel                              -- -ox
example : parse env0 [[120], []] = .reject {} := by decide +kernel                                          -- ""
/-- `{"x", "TEST(abc"}` -/
example : parse env0 [[120], [84, 69, 83, 84, 40, 97, 98, 99]] =
    .ok { groupFilters := [⟨[97, 98, 99], true, false⟩], nameFilters := [⟨[], true, false⟩] } := by decide +kernel
/-- `-r` takes a following number, not a following option -/
example : parse env0 [[120], [45, 114], [45, 118]] = .ok { repeatCount := 2, verbose := true } := by decide +kernel
example : parse env0 [[120], [45, 114], [53]] = .ok { repeatCount := 5 } := by decide +kernel
/-- the 32-bit wrap-around of `AtoI`, stated: `-r4294967297` repeats once, `-r-1` 2^64-1 times -/
example : parse env0 [[120], [45, 114, 52, 50, 57, 52, 57, 54, 55, 50, 57, 55]] = .ok { repeatCount := 1 } := by decide +kernel
example : parse env0 [[120], [45, 114, 45, 49]] = .ok { repeatCount := 2 ^ 64 - 1 } := by decide +kernel

/-- `-s42` is announced as 42; three repetitions are announced as 1/3, 2/3, 3/3; `-ojunit -k pkg` names the files -/
example : seedLine (parse env0 [[120], [45, 115, 52, 50]]).cfg true = some 42 := by decide +kernel
example : runHeaders { repeatCount := 3 } true = [(1, 3), (2, 3), (3, 3)] := by decide +kernel
example : junitFiles { output := .junit, packageName := idPkg.val, groupFilters := [⟨idAlpha.val, false, false⟩] }
      [⟨idAlpha.val, idOne.val, false⟩, ⟨[66], idOne.val, false⟩] =
    -- cpputest_pkg_.xml, cpputest_pkg_Alpha.xml
    [[99, 112, 112, 117, 116, 101, 115, 116, 95, 112, 107, 103, 95, 46, 120, 109, 108],
     [99, 112, 112, 117, 116, 101, 115, 116, 95, 112, 107, 103, 95, 65, 108, 112, 104, 97, 46, 120, 109, 108]] := by decide +kernel
example : (45 : UInt8) ∉ ([99, 111, 100, 101] : Bytes) := by decide +kernel

/-- the regenerated runner on a concrete configuration: `-p -b -s42 -r2` -/
def sampleRunCfg : Config :=
  { separateProcess := true, reversing := true, shuffling := true, shuffleSeed := 42, repeatCount := 2 }
example : (Gen.ParseHandlers.runAllTests sampleRunCfg).filterMap Src.evCall =
    [.separateProcess, .reverse, .shuffle 42, .runAll, .shuffle 42, .runAll] := by decide +kernel

/-- the regenerated parser run on concrete vectors (no theorem involved): `prog -r 5`, `prog -t a.b.c`, `prog TEST(abc` -/
example : Src.genParse env0 [[120], [45, 114], [53]] = .ok { repeatCount := 5 } := by decide +kernel
example : Src.genParse env0 [[120], [45, 116], [97, 46, 98, 46, 99]] = .reject {} := by decide +kernel
example : Src.genParse env0 [[120], [84, 69, 83, 84, 40, 97, 98, 99]] =
    .ok { groupFilters := [⟨[97, 98, 99], true, false⟩], nameFilters := [⟨[], true, false⟩] } := by decide +kernel
example : Src.genParse env0 ([120] :: render sampleOpts) = .ok (meaning env0 (sampleOpts.map Prod.fst)) := by decide +kernel
/-- the index really is advanced by the translated helper: `-g Alpha` consumes one extra argument -/
example : (Gen.ParseHandlers.addGroupFilter env0 ⟨{}, false⟩ [[45, 103], idAlpha.val] 0).k = 1 := by decide +kernel

end CommandLine
