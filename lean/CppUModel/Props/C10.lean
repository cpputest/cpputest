import CppUModel.Proofs.ThreadSafeOwn
import CppUModel.Proofs.ThreadSafePtrs
/-!
# C10 — thread-safe allocation mode: schedule-independent accounting, no hang

Model: `CppUModel/Model/ThreadSafe.lean` (from
`src/CppUTest/MemoryLeakWarningPlugin.cpp`, `SimpleMutex.cpp`, the detector operations of
`MemoryLeakDetector.cpp`); vocabulary: `CppUModel/Spec/ThreadSafe.lean`; regenerated switch table:
`CppUModel/Gen/ThreadSafeWiring.lean`.

Carried here: the lock discipline (the regenerated constructor / destructor / release / fail statement
lists executed as a state machine over mutex and flag), the wiring obligation over the regenerated
table, and schedule independence of the accounting for interleavings of whole wrappers, for any
number of threads and operations.  NOT carried (runtime facts, observed by `h_c10` under
ThreadSanitizer with forced pre-emption): absence of data races in the compiled code, pthread
mutex semantics.
-/
namespace ThreadSafe
open Gen.ThreadSafe

/-! ## wiring (regenerated from the source on every run) -/

/-- Every allocation entry point goes through a switched pointer; the thread-safe switch assigns
    all of them, each to a function whose first statement takes the scoped lock and which does the
    same detector operations as the unlocked version.  (Evaluated over `Gen/ThreadSafeWiring.lean`.) -/
theorem wiring_complete : WiringComplete = true := by decide +kernel

/-- non-vacuity of the table: eleven pointers, and the entry points include the sized and nothrow forms -/
theorem wiring_nonempty : 11 ≤ fptrs.length ∧ 21 ≤ entries.length ∧ threadSafeOn.length = fptrs.length := by decide

/-- the fifth clause of `WiringComplete`: every function the thread-safe switch installs locks first -/
theorem locksFirstAll_holds : locksFirstAll = true := by
  have hw := wiring_complete
  simp only [WiringComplete, Bool.and_eq_true] at hw
  obtain ⟨⟨⟨-, h⟩, -⟩, -⟩ := hw
  exact h

/-- The switch reaches all eleven pointers from any state with the declared variables: it assigns each
    of them, and each function it assigns takes the lock first (`wiring_complete`). -/
theorem Ptrs.allLocked_threadSafeOn (p : Ptrs) (hp : p.vars.Declared) : p.threadSafeOn.allLocked = true := by
  simp only [Ptrs.allLocked, Ptrs.pointers, Ptrs.threadSafeOn, List.all_map, List.all_eq_true, Function.comp]
  intro f hf
  obtain ⟨a, ha, h⟩ := get_switch (.head _) f hf
  rw [h _ hp]
  exact List.all_eq_true.mp locksFirstAll_holds a ha

/-- in particular from each of the configurations -/
theorem switch_on_locks_all :
    ∀ s ∈ [Ptrs.initial, defaultConfig, offConfig, threadSafeConfig.save], s.threadSafeOn.allLocked = true := by
  intro s hs
  apply Ptrs.allLocked_threadSafeOn
  simp only [List.mem_cons, List.mem_nil_iff, or_false] at hs
  rcases hs with rfl | rfl | rfl | rfl
  · rfl
  · exact Env.Declared.assignAll rfl _
  · exact Env.Declared.assignAll rfl _
  · exact Ptrs.declared_save threadSafeConfig_declared

/-! ## save / restore of the pointer table (regenerated copy lists) -/

/-- the copy lists only mention declared variables; one saved copy per pointer -/
theorem copies_well_formed : copiesWellFormed = true := by decide +kernel

/-- `restoreNewDeleteOverloads (saveAndDisableNewDeleteOverloads s)` puts every one of the eleven
    pointers back where it was and the counter back to its value — for the thread-safe
    configuration (the one the property is about), and for the default and the switched-off one.
    Instances of `Ptrs.save_restore`; a copy dropped from either function breaks `tables`, on which that rests. -/
theorem save_restore_roundtrip :
    ∀ s ∈ [threadSafeConfig, defaultConfig, offConfig],
      s.save.restore.pointers = s.pointers ∧ s.save.restore.counter = s.counter := by
  intro s hs
  simp only [List.mem_cons, List.mem_nil_iff, or_false] at hs
  rcases hs with rfl | rfl | rfl <;> exact Ptrs.save_restore _ (Env.Declared.assignAll rfl _) rfl

/-- in particular every pointer is still on a function that locks first -/
theorem threadsafe_survives_save_restore : threadSafeConfig.save.restore.allLocked = true :=
  (Ptrs.allLocked_congr (Ptrs.save_restore _ threadSafeConfig_declared rfl).1).trans
    (Ptrs.allLocked_threadSafeOn _ rfl)

/-- between save and restore the overloads are off -/
theorem save_disables : threadSafeConfig.save.pointers = offConfig.pointers :=
  Ptrs.pointers_save _ threadSafeConfig_declared rfl

/-- nested cycles (only the outermost pair copies) and repeated cycles (the saved copies then hold
    the thread-safe functions) -/
theorem save_restore_nested_and_repeated :
    threadSafeConfig.save.save.restore.restore.pointers = threadSafeConfig.pointers ∧
    threadSafeConfig.save.restore.save.restore.pointers = threadSafeConfig.pointers ∧
    threadSafeConfig.save.restore.defaultOn.threadSafeOn.save.restore.allLocked = true := by
  have h := Ptrs.save_restore _ threadSafeConfig_declared rfl
  have hd := Ptrs.declared_restore (Ptrs.declared_save threadSafeConfig_declared)
  refine ⟨?_, ?_, ?_⟩
  · rw [Ptrs.save_restore_inner _ (by decide)]
    exact h.1
  · exact (Ptrs.save_restore _ hd h.2).1.trans h.1
  · exact (Ptrs.allLocked_congr (Ptrs.save_restore threadSafeConfig.save.restore.defaultOn.threadSafeOn
      ((hd.assignAll _).assignAll _) h.2).1).trans (Ptrs.allLocked_threadSafeOn _ (hd.assignAll _))

/-- the fresh-process history: thread-safe mode switched on before the first tracked allocation,
    so that the cycle inside the first `getGlobalDetector()` call runs under it -/
theorem first_detector_call_keeps_threadsafe :
    Ptrs.initial.threadSafeOn.save.restore.allLocked = true ∧
    Ptrs.initial.threadSafeOn.save.restore.pointers = threadSafeConfig.pointers :=
  ⟨threadsafe_survives_save_restore, (Ptrs.save_restore _ threadSafeConfig_declared rfl).1⟩

/-! ## lock discipline, over the REGENERATED statement lists (`Gen.ThreadSafe.code`)

`code.ctor` / `code.dtor` / `code.release` / `code.fail` are the constructor and destructor of
`MemLeakScopedMutex`, `MemLeakScopedMutex::releaseBeforeFailing()` and
`MemoryLeakWarningReporter::fail` as they are in the source at check time; `wrapper` executes them.
Every theorem of this section is therefore re-checked against the current source on every run. -/

/-- `static bool memLeakMutexIsHeld = false;` -/
theorem flag_initially_clear : code.flagInit = false := by decide

/-- the constructor, entered with nobody inside: takes the mutex, then sets the flag -/
theorem ctor_takes_lock_and_sets_flag : exec code.ctor LF.idle = some LF.inside := by decide

/-- ... and blocks while the mutex is held (whatever the flag says) -/
theorem ctor_blocks_while_held (f : Bool) : exec code.ctor { lock := .held, flag := f } = none := by
  cases f <;> decide

/-- the destructor (normal exit): clears the flag, then gives the mutex back -/
theorem dtor_clears_flag_and_unlocks : exec code.dtor LF.inside = some LF.idle := by decide

/-- `MemoryLeakWarningReporter::fail` raised inside a wrapper: `releaseBeforeFailing` clears the flag and
    gives the mutex back BEFORE `failWith` leaves by `longjmp` -/
theorem fail_inside_wrapper_gives_lock_back : execFail code code.fail LF.inside = some LF.idle := by decide

/-- `fail` raised OUTSIDE any wrapper (flag clear; default mode, or a direct detector call): the mutex
    is not touched - not even when somebody else holds it -/
theorem fail_outside_wrapper_keeps_lock (l : LockState) :
    execFail code code.fail { lock := l, flag := false } = some { lock := l, flag := false } := by
  cases l <;> decide

/-- whichever way the scope is left, the mutex is free and the flag clear afterwards -/
theorem leave_gives_lock_back (o : Outcome) : leave code o LF.inside = some LF.idle := by
  cases o <;> decide

/-- EVERY wrapper call that starts with nobody inside gets the lock, performs exactly the detector
    operation, and leaves lock and flag as it found them - whether or not a misuse is reported. -/
theorem wrapper_every_op (op : DetOp) (d : Det) :
    wrapper op (Sys.idle d) = some (Sys.idle (body op d).1) := by
  have h : exec Gen.ThreadSafe.code.ctor LF.idle = some LF.inside := ctor_takes_lock_and_sets_flag
  simp only [wrapper, wrapperWith, Sys.idle, h, Option.bind_some]
  rw [leave_gives_lock_back]
  rfl

/-- The property's lock clause, for every operation and every table: after the operation - a misuse
    report included - the detector's lock is free. -/
theorem lock_free_after_every_op (op : DetOp) (d : Det) : LockFreeAfter op d :=
  ⟨_, wrapper_every_op op d, rfl⟩

/-- The property's full lock clause as one proposition. -/
def C10_full : Prop := ∀ (op : DetOp) (d : Det), LockFreeAfter op d

/-- `lock_free_after_every_op` under the name the checks audit -/
theorem C10_full_holds : C10_full := lock_free_after_every_op

/-- the misuse case of `wrapper_every_op` spelled out (the hypothesis only names the case): reported, table as
    the detector left it, lock free, flag clear -/
theorem lock_free_after_misuse (op : DetOp) (d : Det) (_h : isMisuse op d = true) :
    wrapper op (Sys.idle d) = some { lf := LF.idle, det := (body op d).1 } :=
  wrapper_every_op op d

/-- A wrapper never runs its body while another holds the lock: it blocks. -/
theorem wrapper_blocks_when_held (op : DetOp) (f : Bool) (d : Det) :
    wrapper op { lf := { lock := .held, flag := f }, det := d } = none := by
  have h := ctor_blocks_while_held f
  simp only [wrapper, wrapperWith, h, Option.bind_none, Option.map_none]

/-- EVERY history of wrapper calls - any length, any mixture of correct operations and misuses of
    any kind - never blocks, ends with the lock free and the flag clear, and computes exactly the
    sequential detector run.  No hypothesis on the operations is needed. -/
theorem run_wrappers_every_history : ∀ (ops : List DetOp) (d : Det),
    runSys ops (Sys.idle d) = some (Sys.idle (runDet ops d))
  | [], _ => rfl
  | op :: ops, d => by
    have h : wrapperWith Gen.ThreadSafe.code op (Sys.idle d) = some (Sys.idle (body op d).1) := wrapper_every_op op d
    simp only [runSys, runSysWith, runDet, h, Option.bind_some]
    exact run_wrappers_every_history ops (body op d).1

/-- in particular the operation that follows a misuse is served -/
theorem next_operation_served_after_misuse (op next : DetOp) (d : Det) (_h : isMisuse op d = true) :
    (wrapper op (Sys.idle d)).bind (wrapper next) = some (Sys.idle (body next (body op d).1).1) := by
  rw [wrapper_every_op, Option.bind_some, wrapper_every_op]

/-! ### the flag invariant -/

/-- the states one wrapper call goes through, statement by statement (normal exit) -/
theorem wrapper_trace_normal :
    wrapperTrace code .normal =
      [LF.idle, { lock := .held, flag := false }, LF.inside, { lock := .held, flag := false }, LF.idle] := by decide

/-- ... and when a misuse is reported: the flag is cleared BEFORE the mutex is given back -/
theorem wrapper_trace_misuse :
    wrapperTrace code .misuse =
      [LF.idle, { lock := .held, flag := false }, LF.inside, { lock := .held, flag := false }, LF.idle] := by decide

/-- `memLeakMutexIsHeld = true` only while the mutex is held by the wrapper in progress: at no
    statement boundary of a wrapper call, on either exit, does the flag claim a lock that is not held
    (so `releaseBeforeFailing` can never unlock a mutex that is free) -/
theorem flag_implies_held_throughout (o : Outcome) :
    (wrapperTrace code o).all FlagImpliesHeld = true := by
  cases o <;> decide

/-- where the body runs - the only place a misuse report can fire inside a wrapper - the flag is set
    and the mutex held; between wrapper calls the flag is clear and the mutex free:
    at those points `flag = true ↔ lock held` -/
theorem flag_iff_held_at_body_and_between_calls :
    bodyPoint code = some LF.inside ∧ FlagIffHeld LF.inside = true ∧ FlagIffHeld LF.idle = true ∧
    ∀ o, (wrapperTrace code o).getLast? = some LF.idle := by
  refine ⟨by decide, by decide, by decide, fun o => ?_⟩
  cases o <;> decide

/-- the only states in which flag and mutex disagree are the two windows INSIDE the constructor and
    the destructor / release (mutex held, flag not yet set or already cleared) -/
theorem flag_lags_never_leads (o : Outcome) :
    (wrapperTrace code o).all (fun s => FlagIffHeld s || (s == { lock := .held, flag := false })) = true := by
  cases o <;> decide

/-! ### why each statement of the repair is needed (the old witness) -/

/-- `free(&local)` with an empty table: a release of memory that was never allocated -/
def oldWitness : DetOp := .free 7 .malloc false

/-- The code as it was before the repair (`fail` does not call `releaseBeforeFailing`): the report
    leaves by `longjmp`, the destructor is skipped, the lock stays held ... -/
theorem without_release_call_lock_stays_held :
    wrapperWith code.withoutReleaseCall oldWitness (Sys.idle []) = some { lf := LF.inside, det := [] } := by decide

/-- ... and every later allocation or release in this mode blocks for ever. -/
theorem without_release_call_next_operation_blocks (next : DetOp) :
    (wrapperWith code.withoutReleaseCall oldWitness (Sys.idle [])).bind (wrapperWith code.withoutReleaseCall next) = none := by
  rw [without_release_call_lock_stays_held, Option.bind_some]
  have h : exec code.withoutReleaseCall.ctor LF.inside = none := by decide
  simp only [wrapperWith, h, Option.bind_none, Option.map_none]

/-- so the full lock clause is FALSE for that code -/
theorem C10_full_fails_without_release_call : ¬ ∀ op d, LockFreeAfterWith code.withoutReleaseCall op d := by
  intro h
  obtain ⟨s', hs, hl⟩ := h oldWitness []
  rw [without_release_call_lock_stays_held] at hs
  cases hs
  exact absurd hl (by decide)

/-- The same if the constructor forgot to set the flag: `releaseBeforeFailing` then does nothing. -/
theorem C10_full_fails_without_flag_set : ¬ ∀ op d, LockFreeAfterWith code.withoutFlagSet op d := by
  intro h
  obtain ⟨s', hs, hl⟩ := h oldWitness []
  have : wrapperWith code.withoutFlagSet oldWitness (Sys.idle []) =
      some { lf := { lock := .held, flag := false }, det := [] } := by decide
  rw [this] at hs
  cases hs
  exact absurd hl (by decide)

/-- If the destructor forgot to clear the flag, a correct call would leave the flag set with the
    mutex free, and a later report raised outside any wrapper would unlock a mutex it does not hold
    (here: one that another thread has taken in the meantime). -/
theorem stale_flag_without_flag_clear :
    wrapperWith code.withoutFlagClear (.alloc 1 .new) (Sys.idle []) =
        some { lf := { lock := .free, flag := true }, det := [(1, .new)] } ∧
    execFail code.withoutFlagClear code.withoutFlagClear.fail { lock := .held, flag := true } = some LF.idle := by
  decide

/-- the three variants really differ from the code (the filters removed something) -/
theorem repair_ingredients_present :
    code.withoutReleaseCall ≠ code ∧ code.withoutFlagSet ≠ code ∧ code.withoutFlagClear ≠ code := by decide

/-! ### default (unlocked) mode -/

/-- In the default mode (no wrapper in progress, flag clear) an operation - also one that reports a
    misuse through the same `MemoryLeakWarningReporter::fail` - leaves lock and flag exactly as they
    were, whatever state the lock is in. -/
theorem plain_call_keeps_lock (op : DetOp) (s : Sys) (h : s.lf.flag = false) :
    plainCall op s = some { lf := s.lf, det := (body op s.det).1 } := by
  obtain ⟨⟨l, f⟩, d⟩ := s
  simp only at h
  subst h
  simp only [plainCall, plainCallWith]
  cases (body op d).2 with
  | normal => rfl
  | misuse =>
    have := fail_outside_wrapper_keeps_lock l
    simp only [this, Option.map_some, withDet]

/-- ... in particular a misuse in default mode does not unlock (and does not block) -/
theorem plain_misuse_does_not_unlock (op : DetOp) (d : Det) (l : LockState) (_h : isMisuse op d = true) :
    (plainCall op { lf := { lock := l, flag := false }, det := d }).map (·.lf.lock) = some l := by
  rw [plain_call_keeps_lock _ _ rfl]; rfl

def runPlain : List DetOp → Sys → Option Sys
  | [], s => some s
  | op :: ops, s => (plainCall op s).bind (runPlain ops)

theorem run_plain_every_history : ∀ (ops : List DetOp) (d : Det),
    runPlain ops (Sys.idle d) = some (Sys.idle (runDet ops d))
  | [], _ => rfl
  | op :: ops, d => by
    have h : plainCall op (Sys.idle d) = some (Sys.idle (body op d).1) := plain_call_keeps_lock op (Sys.idle d) rfl
    simp only [runPlain, runDet, h, Option.bind_some]
    exact run_plain_every_history ops (body op d).1

/-- switching: any history of locked calls, then any history of plain calls, then locked calls
    again - misuses anywhere - never blocks and ends idle -/
theorem mode_switches_every_history (a b c : List DetOp) (d : Det) :
    ((runSys a (Sys.idle d)).bind (runPlain b)).bind (runSys c) =
      some (Sys.idle (runDet c (runDet b (runDet a d)))) := by
  rw [run_wrappers_every_history, Option.bind_some, run_plain_every_history, Option.bind_some,
    run_wrappers_every_history]

/-! ### the report with ANY output installed (recording the failure is a callback that may allocate) -/

/-- with an output whose `printFailure` does not allocate, `execFailOut` is `execFail` (for any code) -/
theorem quiet_output_is_execFail (c : Code) (l : Bool) : ∀ (fs : List FStmt) (s : LF),
    execFailOut c { alloc := false, locked := l } fs s = execFail c fs s
  | [], _ => rfl
  | .other :: fs, s => by
    simp only [execFailOut, execFail]; exact quiet_output_is_execFail c l fs s
  | .releaseBeforeFailing :: fs, s => by
    simp only [execFailOut, execFail]
    cases exec c.release s with
    | none => rfl
    | some s' => simp only [Option.bind_some]; exact quiet_output_is_execFail c l fs s'
  | .failWith :: _, s => by simp [execFailOut, execFail, callback]
  | .addFailure :: fs, s => quiet_output_is_execFail c l fs s
  | .exitCurrentTest :: _, _ => rfl

/-- The regenerated `fail` gives the lock back BEFORE anything that can allocate: whatever output is
    installed - allocating (JUnit) or not, thread-safe table or plain - a report raised inside a wrapper
    does not block and ends with the mutex free and the flag clear. -/
theorem fail_any_output_gives_lock_back (o : Out) : execFailOut code o code.fail LF.inside = some LF.idle := by
  obtain ⟨a, l⟩ := o
  cases a <;> cases l <;> decide

theorem leave_any_output_gives_lock_back (o : Out) (oc : Outcome) : leaveOut code o oc LF.inside = some LF.idle := by
  obtain ⟨a, l⟩ := o
  cases oc <;> cases a <;> cases l <;> decide

/-- every wrapper call, every table, ANY output: served, exactly the detector operation, lock and flag as found -/
theorem wrapper_every_op_any_output (o : Out) (op : DetOp) (d : Det) :
    wrapperOut o op (Sys.idle d) = some (Sys.idle (body op d).1) := by
  have h : exec Gen.ThreadSafe.code.ctor LF.idle = some LF.inside := ctor_takes_lock_and_sets_flag
  simp only [wrapperOut, wrapperOutWith, Sys.idle, h, Option.bind_some]
  rw [leave_any_output_gives_lock_back]
  rfl

/-- the property's clause "a misuse is reported and the run continues; the lock is never left held", for
    every misuse, every table and ANY output -/
theorem misuse_report_any_output_ends_idle (o : Out) (op : DetOp) (d : Det) (_h : isMisuse op d = true) :
    ∃ s', wrapperOut o op (Sys.idle d) = some s' ∧ s'.lf = LF.idle :=
  ⟨_, wrapper_every_op_any_output o op d, rfl⟩

/-- default mode (plain table, flag clear), any output: the report touches no lock and does not block -/
theorem fail_outside_wrapper_any_output (a : Bool) (l : LockState) :
    execFailOut code { alloc := a, locked := false } code.fail { lock := l, flag := false } =
      some { lock := l, flag := false } := by
  cases a <;> cases l <;> decide

/-- Why the ORDER inside `fail` matters: recording the failure before `releaseBeforeFailing` is invisible
    with an output that does not allocate (and to every theorem about `execFail`), and blocks for ever with
    the JUnit output in thread-safe mode - the reporter's own thread re-enters the locked `operator new`. -/
theorem record_before_release_blocks_allocating_output :
    wrapperOutWith code.recordBeforeRelease Out.junitThreadSafe oldWitness (Sys.idle []) = none ∧
    wrapperOutWith code.recordBeforeRelease Out.quiet oldWitness (Sys.idle []) = some (Sys.idle []) ∧
    wrapperWith code.recordBeforeRelease oldWitness (Sys.idle []) = some (Sys.idle []) ∧
    code.recordBeforeRelease ≠ code := by decide

/-- non-vacuity: the old witness is a misuse, reported with the JUnit output in thread-safe mode, and the
    allocating callback really runs a wrapper (it blocks when started with the mutex held) -/
example : isMisuse oldWitness [] = true ∧
    wrapperOut Out.junitThreadSafe oldWitness (Sys.idle []) = some (Sys.idle []) ∧
    callback code Out.junitThreadSafe LF.inside = none ∧
    callback code Out.junitThreadSafe LF.idle = some LF.idle := by decide

/-! ## every release was outstanding -/

/-- A release that is not reported as misuse released a block that was outstanding, of the same
    allocator family, and removes exactly that block. -/
theorem every_release_was_outstanding (id : Nat) (k : Kind) (c : Bool) (d : Det)
    (h : (body (.free id k c) d).2 = .normal) :
    (id, k) ∈ d ∧ d.Perm ((id, k) :: (body (.free id k c) d).1) := by
  refine ⟨lookup_some_mem (released_normal_iff.mp (body_free_eq d id k c ▸ h)).1, ?_⟩
  simpa [freedOf, allocdOf] using (step_conservation _ d h).symm.trans (List.perm_append_singleton _ _)

/-- Conversely, releasing an address that is not outstanding is always reported. -/
theorem release_of_unknown_is_reported (id : Nat) (k : Kind) (c : Bool) (d : Det) (h : id ∉ ids d) :
    body (.free id k c) d = (d, .misuse) := by
  simp [body, (lookup_eq_none_iff d id).mpr h, freeFound]

/-- The same for `realloc`: the old block must be outstanding. -/
theorem realloc_was_outstanding (old new : Nat) (c : Bool) (d : Det)
    (h : (body (.realloc old new c) d).2 = .normal) :
    (old, Kind.malloc) ∈ d ∧ (d ++ [(new, Kind.malloc)]).Perm ((old, Kind.malloc) :: (body (.realloc old new c) d).1) :=
  ⟨lookup_some_mem (released_normal_iff.mp (body_realloc_eq d old new c ▸ h)).1,
    (step_conservation _ d h).symm.trans (List.perm_append_singleton _ _)⟩

/-! ## schedule independence -/

/-- For EVERY schedule (interleaving of whole wrappers) of any number of threads, misuse-free and
    with distinct live ids, in which every thread releases or hands over only what it holds and
    every hand-over was completed: once the threads finish, the outstanding set is the union of
    what each thread still holds. -/
theorem outstanding_eq_union_held (n : Nat) (sched : List Event)
    (htid : ∀ e ∈ sched, e.1 < n)
    (hok : RunOk (detOps sched) [] = true)
    (hthr : ∀ t, t < n → ThreadOk (proj t sched) [] = true)
    (hbal : (sched.flatMap (fun e => givenOf e.2)).Perm (sched.flatMap (fun e => takenOf e.2))) :
    (runDet (detOps sched) []).Perm (unionHeld n sched) := by
  rw [List.perm_iff_count]; intro x
  have h := sched_conservation n x sched [] Own.empty htid hok hthr
  have h0 : (List.range n).flatMap Own.empty.held = [] := ListLemmas.flatMap_const_nil _
  rw [hbal.count_eq x, ← unionHeld_eq, h0] at h
  simpa using h

/-- Any two such schedules of the same thread scripts leave the same outstanding set. -/
theorem schedules_agree (n : Nat) (s₁ s₂ : List Event)
    (hsame : ∀ t, t < n → proj t s₁ = proj t s₂)
    (h₁ : ∀ e ∈ s₁, e.1 < n) (h₂ : ∀ e ∈ s₂, e.1 < n)
    (ok₁ : RunOk (detOps s₁) [] = true) (ok₂ : RunOk (detOps s₂) [] = true)
    (hthr : ∀ t, t < n → ThreadOk (proj t s₁) [] = true)
    (b₁ : (s₁.flatMap (fun e => givenOf e.2)).Perm (s₁.flatMap (fun e => takenOf e.2)))
    (b₂ : (s₂.flatMap (fun e => givenOf e.2)).Perm (s₂.flatMap (fun e => takenOf e.2))) :
    (runDet (detOps s₁) []).Perm (runDet (detOps s₂) []) := by
  have e₁ := outstanding_eq_union_held n s₁ h₁ ok₁ hthr b₁
  have e₂ := outstanding_eq_union_held n s₂ h₂ ok₂ (fun t ht => by rw [← hsame t ht]; exact hthr t ht) b₂
  have hu : unionHeld n s₁ = unionHeld n s₂ := ListLemmas.flatMap_range_congr fun t ht => by rw [hsame t ht]
  exact e₁.trans (hu ▸ e₂.symm)

/-! ## the ownership discipline makes EVERY interleaving misuse-free -/

/-- No misuse can be reported on ANY schedule in which live ids are distinct, every thread releases
    or hands over only blocks it holds itself, and blocks are taken only after they were given:
    no schedule makes a thread's release hit a block that is not outstanding. -/
theorem owned_schedule_misuse_free (n : Nat) (sched : List Event) (h : Owned n sched Own.empty) :
    RunOk (detOps sched) [] = true :=
  (owned_run n sched Own.empty [] h (tied_empty n)).1

/-- The headline statement.  For every schedule — any interleaving of whole wrappers of any number
    of threads `n` and any number of operations — that respects the ownership discipline:
    no wrapper ever blocks and the lock is free at the end; live ids stay distinct; the outstanding
    set after the threads finish is the union of what each thread still holds plus the blocks still
    in transit (none, if every hand-over was completed). -/
theorem interleaving_outstanding (n : Nat) (sched : List Event) (h : Owned n sched Own.empty) :
    runSys (detOps sched) (Sys.idle []) = some (Sys.idle (runDet (detOps sched) [])) ∧
    (ids (runDet (detOps sched) [])).Nodup ∧
    (runDet (detOps sched) []).Perm
      (unionHeld n sched ++ (ownRun sched Own.empty).moving.map pr) := by
  obtain ⟨hok, hp, hn⟩ := owned_run n sched Own.empty [] h (tied_empty n)
  exact ⟨run_wrappers_every_history _ _, hn, unionHeld_eq n sched ▸ hp⟩

/-! ### ... exactly as if the threads had run one after another -/

/-- running the threads one after another is one of the interleavings -/
theorem sequential_is_interleaving (ts : List (List TOp)) : IsInterleaving (sequential ts 0) ts := by
  refine ⟨fun e he => by simpa using mem_sequential_lt ts 0 e he, fun t ht => ?_⟩
  rw [proj_sequential]
  simp [List.getD_eq_getElem?_getD, ht]

/-- Schedule independence in the property's words: for every interleaving `sched` of the thread
    scripts `ts` that respects the ownership discipline and completes its hand-overs, the
    outstanding set after the threads finish (a) is the union of what each thread's script leaves it
    holding, and (b) equals the result of running the threads one after another (whenever that
    sequential order is itself admissible, i.e. no thread takes a block before it was given). -/
theorem interleaving_equiv_sequential (ts : List (List TOp)) (sched : List Event)
    (hint : IsInterleaving sched ts)
    (hown : Owned ts.length sched Own.empty)
    (hdone : (ownRun sched Own.empty).moving = []) :
    (runDet (detOps sched) []).Perm ((List.range ts.length).flatMap (fun t => holds (ts.getD t []) [])) ∧
    (Owned ts.length (sequential ts 0) Own.empty → (ownRun (sequential ts 0) Own.empty).moving = [] →
      (runDet (detOps sched) []).Perm (runDet (detOps (sequential ts 0)) [])) := by
  have h1 := (interleaving_outstanding ts.length sched hown).2.2
  rw [hdone, List.map_nil, List.append_nil, unionHeld_of_interleaving ts sched hint] at h1
  refine ⟨h1, fun hs hsd => ?_⟩
  have h2 := (interleaving_outstanding ts.length (sequential ts 0) hs).2.2
  rw [hsd, List.map_nil, List.append_nil,
    unionHeld_of_interleaving ts _ (sequential_is_interleaving ts)] at h2
  exact h1.trans h2.symm

/-- Any two admissible schedules of the same scripts agree (no reference to a sequential order). -/
theorem owned_schedules_agree (ts : List (List TOp)) (s₁ s₂ : List Event)
    (i₁ : IsInterleaving s₁ ts) (i₂ : IsInterleaving s₂ ts)
    (o₁ : Owned ts.length s₁ Own.empty) (o₂ : Owned ts.length s₂ Own.empty)
    (d₁ : (ownRun s₁ Own.empty).moving = []) (d₂ : (ownRun s₂ Own.empty).moving = []) :
    (runDet (detOps s₁) []).Perm (runDet (detOps s₂) []) :=
  (interleaving_equiv_sequential ts s₁ i₁ o₁ d₁).1.trans (interleaving_equiv_sequential ts s₂ i₂ o₂ d₂).1.symm

/-- the threads of an admissible schedule each release only what they hold: `owned_threadOk` from the empty
    ownership state, under the name the checks audit -/
theorem owned_threads_ok (n : Nat) (sched : List Event) (h : Owned n sched Own.empty) (t : Nat) :
    ThreadOk (proj t sched) [] = true :=
  owned_threadOk n sched Own.empty t h

/-! ## commutation (the local reason behind schedule independence) -/

/-- Two operations on different blocks commute: if `a; b` is fine from a table with distinct ids,
    then so is `b; a`, and both orders leave the same outstanding set. -/
theorem step_commutes (a b : DetOp) (d : Det) (hd : (ids d).Nodup)
    (hdis : ∀ j, j ∈ opIds a → j ∉ opIds b)
    (ha : stepOk a d = true) (hb : stepOk b (body a d).1 = true) :
    stepOk b d = true ∧ stepOk a (body b d).1 = true ∧
      (body b (body a d).1).1.Perm (body a (body b d).1).1 := by
  have hd1 := nodup_after_step a d hd ha
  have hb' : stepOk b d = true :=
    stepOk_transfer b (body a d).1 d hd1 hd
      (fun j hj => (lookup_body_other a d hd (stepOk_normal ha) j (fun hja => hdis j hja hj)).symm) hb
  have hd2 := nodup_after_step b d hd hb'
  have ha' : stepOk a (body b d).1 = true :=
    stepOk_transfer a d (body b d).1 hd hd2
      (fun j hj => lookup_body_other b d hd (stepOk_normal hb') j (hdis j hj)) ha
  refine ⟨hb', ha', ?_⟩
  have c1 := step_conservation a d (stepOk_normal ha)
  have c2 := step_conservation b (body a d).1 (stepOk_normal hb)
  have c3 := step_conservation b d (stepOk_normal hb')
  have c4 := step_conservation a (body b d).1 (stepOk_normal ha')
  rw [List.perm_iff_count]; intro x
  have e1 := c1.count_eq x; have e2 := c2.count_eq x; have e3 := c3.count_eq x; have e4 := c4.count_eq x
  simp only [List.count_append] at e1 e2 e3 e4
  omega

/-! ## non-vacuity: concrete states and schedules that meet the hypotheses -/

instance decOwnExtra (n : Nat) (o : Own) (t : Nat) (op : TOp) : Decidable (ownExtra n o t op) := by
  rcases op with (_ | _ | _) | _ | _ <;> unfold ownExtra <;> infer_instance

instance decOwned (n : Nat) : (sched : List Event) → (o : Own) → Decidable (Owned n sched o)
  | [], _ => isTrue trivial
  | (t, op) :: es, o =>
    have := decOwned n es (ownStep o t op)
    inferInstanceAs (Decidable (t < n ∧ opOwned (o.held t) op = true ∧ ownExtra n o t op ∧
      Owned n es (ownStep o t op)))

/-- two thread scripts with a hand-over (thread 0 allocates block 1 and gives it to thread 1, which
    releases it), a realloc that moves a block, and blocks left over on both threads -/
def exampleScripts : List (List TOp) :=
  [[.det (.alloc 1 .new), .give 1 .new 1, .det (.alloc 2 .malloc), .det (.realloc 2 3 false),
    .det (.alloc 4 .newArray)],
   [.det (.alloc 10 .newArray), .take 1 .new, .det (.free 1 .new false), .det (.alloc 11 .malloc),
    .det (.free 10 .newArray false)]]

/-- one of its interleavings -/
def exampleSchedule : List Event :=
  [(1, .det (.alloc 10 .newArray)), (0, .det (.alloc 1 .new)), (0, .give 1 .new 1),
   (0, .det (.alloc 2 .malloc)), (1, .take 1 .new), (0, .det (.realloc 2 3 false)),
   (1, .det (.free 1 .new false)), (1, .det (.alloc 11 .malloc)), (0, .det (.alloc 4 .newArray)),
   (1, .det (.free 10 .newArray false))]

example : IsInterleaving exampleSchedule exampleScripts := by
  refine ⟨by decide, fun t ht => ?_⟩
  have : t = 0 ∨ t = 1 := by simp [exampleScripts] at ht; omega
  rcases this with rfl | rfl <;> rfl

example : Owned 2 exampleSchedule Own.empty := by decide
example : (ownRun exampleSchedule Own.empty).moving = [] := by decide
example : Owned 2 (sequential exampleScripts 0) Own.empty := by decide
example : (ownRun (sequential exampleScripts 0) Own.empty).moving = [] := by decide
/-- the outstanding set of the example: blocks 3, 4 (thread 0) and 11 (thread 1) -/
example : runDet (detOps exampleSchedule) [] = [(4, .newArray), (11, .malloc), (3, .malloc)] := by decide
example : ids (runDet (detOps (sequential exampleScripts 0)) []) = [11, 4, 3] := by decide

/-- the lock clause is not vacuous: an operation that is no misuse ... -/
example : isMisuse (.free 5 .new false) [(5, .new)] = false := by decide
/-- ... and the three classes of misuse that do fire inside the locked scope -/
example : isMisuse (.free 5 .new false) [] = true := by decide                    -- not allocated
example : isMisuse (.free 5 .malloc false) [(5, .new)] = true := by decide         -- allocator mismatch
example : isMisuse (.realloc 5 6 true) [(5, .malloc)] = true := by decide          -- guard bytes overrun
/-- the schedule in which the misuse happens first is NOT admissible (so it is outside
    `interleaving_equiv_sequential`; the lock clause `C10_full_holds` covers it all the same) -/
example : ¬ Owned 1 [(0, .det (.free 7 .malloc false))] Own.empty := by decide

end ThreadSafe
