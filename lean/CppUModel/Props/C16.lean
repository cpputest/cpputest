import CppUModel.Proofs.JUnitLoop
import CppUModel.Proofs.JUnitRead
/-!
# C16 — the JUnit report is well-formed XML and faithful to the run

The property theorems, with the few definitions they are stated with (`reports`, `allTemplates`, the example
scripts) and small lemmas used only here.  Model: `Model/JUnit.lean` (from `src/CppUTest/JUnitTestOutput.cpp`) over
the runner events of `Model/OutputEvents.lean` (from `TestRegistry::runAllTests`); vocabulary:
`Spec/JUnit.lean` (XML references, attribute/text readers, the structured report and its rendering,
written independently of the code).  `encodeXmlText` and `encodeFileName` follow tables regenerated
from the source on every run (`Gen/EscapeTables.lean`).
-/
namespace JUnit
open Text (Bytes)
open OutEv

/-! ## encoding -/

/-- Side condition on the regenerated replace list: every pattern is one byte and no replacement
    text contains a later pattern (so `&` must come first). -/
theorem xml_table_side_condition : tableOk Gen.EscapeTables.xmlReplaces = true := xml_table_ok

/-- The six sequential `replace` calls equal one pass of the per-byte map, for all byte strings. -/
theorem encode_sequential_eq_map (s : Bytes) : encodeXmlText s = s.flatMap encByte :=
  encodeXmlText_eq_map s

/-- The per-byte map of the regenerated table is the XML reference encoding of `& " < > CR LF`. -/
theorem encode_table_is_xml_rule : ∀ c : UInt8, encByte c = encByteRef c := encByte_eq_ref

/-- Unescaping yields the original text, for all byte strings. -/
theorem decode_encode (s : Bytes) : decodeXml (encodeXmlText s) = s := by
  have := decodeAux_encodeRef s []
  simpa [decodeXml, encodeXmlText_eq_ref, decodeAux] using this

/-- The encoded text is safe both as attribute value and as element text: no raw `< > "`, no raw
    line break, and every `&` starts one of the emitted references. -/
theorem encoded_is_attr_and_text_safe (s : Bytes) : attrAndTextSafe (encodeXmlText s) = true := by
  have := safeAux_encodeRef s []
  simpa [attrAndTextSafe, encodeXmlText_eq_ref, safeAux] using this

/-- An XML reader of a `"`-delimited attribute value gets exactly the original and stops exactly at
    the closing quote, whatever the value and whatever follows (unambiguous tokenisation). -/
theorem attr_value_roundtrip (v rest : Bytes) :
    scanAttr none (encodeXmlText v ++ 34 :: rest) [] = some (v, rest) := by
  rw [encodeXmlText_eq_ref, scanAttr_encodeRef]; simp

/-- The same for element text up to the next tag (the captured output in `<system-out>`). -/
theorem text_roundtrip (v rest : Bytes) :
    scanText none (encodeXmlText v ++ 60 :: rest) [] = some (v, 60 :: rest) := by
  rw [encodeXmlText_eq_ref, scanText_encodeRef v (.inr ⟨rest, rfl⟩)]; simp

/-! ## the document -/

/-- the structured reports of an event list: (file name, suite) per `groupEnded` -/
def reports (package timeString : Bytes) (evs : List Ev) : List (Bytes × Suite) :=
  reportsFrom { package := package, timeString := timeString } evs

/-- Every file, for ANY event list, is the fixed template rendered from the structured report:
    every variable field (suite name, class name, test name, file, failure message
    `file:line: message`, captured output) passes through the reference encoding; numbers are
    printed as digits; the only field written as given is the platform's time string. -/
theorem document_shape (package timeString : Bytes) (evs : List Ev) :
    files package timeString evs =
      (reports package timeString evs).map fun r => { name := r.1, bytes := r.2.render } :=
  congrArg Prod.snd (fold_files evs _)

/-- Reading a rendered attribute back gives the structured report's field (any field `v`, any
    continuation), so the fields of `document_shape` are recoverable from the bytes. -/
theorem fields_roundtrip (v rest : Bytes) :
    scanAttr none (encodeRef v ++ 34 :: rest) [] = some (v, rest) ∧
    scanText none (encodeRef v ++ 60 :: rest) [] = some (v, 60 :: rest) := by
  rw [scanAttr_encodeRef, scanText_encodeRef v (.inr ⟨rest, rfl⟩)]; simp

/-- The suite element states the true number of test cases and of failed test cases it contains —
    for ANY event list (the numbers are printed through `(int)` casts). -/
theorem suite_counts_true (package timeString : Bytes) (evs : List Ev) :
    ∀ r ∈ reports package timeString evs,
      r.2.tests = castInt r.2.cases.length ∧
      r.2.failures = castInt (r.2.cases.filter fun c => c.failure.isSome).length := by
  intro r hr
  obtain ⟨s', ms, hs', rfl⟩ := reportsFrom_inv CountsOk countsOk_step evs _ ⟨rfl, rfl⟩ r hr
  exact reportOf_counts _ hs'

/-- a run of the registry starts with `testsStarted`, which the collector ignores -/
theorem reports_runAll (package timeString : Bytes) (flt : Option Filter) (tests : List Script) :
    reports package timeString (runAll flt tests) =
      reportsFrom { package := package, timeString := timeString } (loop flt true 0 {} tests) := by
  simp [reports, runAll, reportsFrom_cons, reportsOf, step]

theorem reports_blocks (package timeString : Bytes) (flt : Option Filter) (tests : List Script) :
    (reports package timeString (runAll flt tests)).map (fun r => (r.2.cases.length, suiteTime r.2)) =
      (groupRuns tests).map (fun run => (ranIn flt run, timeOfMs (ticksIn flt run))) := by
  have h := congrArg (List.map fun b => (b.1.length, b.2))
    (loop_blocks_fresh caseKey nodeKey scriptKey caseKey_caseOf nodeKey_scriptNode flt tests 0 {}
      { package := package, timeString := timeString } rfl rfl)
  simp only [List.map_map, Function.comp_def, List.length_map, blockOf] at h
  rw [reports_runAll]
  exact h

/-- One test case element per test that runs, in run order, over all files of the run, each with
    the test's name, file, line, ignored flag and the message of its FIRST failure — for every
    registry, filter and package. -/
theorem one_testcase_per_test_in_order (package timeString : Bytes) (flt : Option Filter) (tests : List Script) :
    (reports package timeString (runAll flt tests)).flatMap reportKeys =
      (tests.filter fun t => shouldRun flt t.info).map scriptKey := by
  rw [reports_runAll]
  exact loop_cases caseKey nodeKey scriptKey caseKey_caseOf nodeKey_scriptNode flt tests 0 {} _ rfl rfl

/-- A test case is marked skipped exactly when the test is an ignored one … -/
theorem skipped_iff_ignored (package timeString : Bytes) (flt : Option Filter) (tests : List Script) :
    ((reports package timeString (runAll flt tests)).flatMap reportKeys).map (fun k => k.2.2.2.1) =
      (tests.filter fun t => shouldRun flt t.info).map fun t => !t.info.willRun := by
  rw [one_testcase_per_test_in_order, List.map_map]; rfl

/-- … and has a failure element exactly when the test ran and failed, carrying the first failure. -/
theorem failure_iff_failed (package timeString : Bytes) (flt : Option Filter) (tests : List Script) :
    ((reports package timeString (runAll flt tests)).flatMap reportKeys).map (fun k => k.2.2.2.2) =
      (tests.filter fun t => shouldRun flt t.info).map fun t =>
        if t.info.willRun then (firstFail t.info t.acts).map failureMessage else none := by
  rw [one_testcase_per_test_in_order, List.map_map]; rfl

/-- Obligation over the regenerated member-initialiser lists of src/CppUTest/TestFailure.cpp: the
    `file:line` of a failure element are those of the failure — the given location for the
    constructors that take one (and for `FailFailure`), the test's own file and line for
    `TestFailure(test, message)` (leak plugin, mock failures, plugins), "no message" where none is given. -/
theorem failure_location_is_the_failures (t : TestInfo) (f : Bytes) (l : Nat) (m : Bytes) :
    failureMessage (locMsgFailure t f l m) = f ++ lit ":" ++ fmtInt (castInt l) ++ lit ": " ++ m ∧
    failureMessage (exitFailure t f l m) = f ++ lit ":" ++ fmtInt (castInt l) ++ lit ": " ++ m ∧
    failureMessage (locFailure t f l) = f ++ lit ":" ++ fmtInt (castInt l) ++ lit ": " ++ lit "no message" ∧
    failureMessage (msgFailure t m) = t.file ++ lit ":" ++ fmtInt (castInt t.line) ++ lit ": " ++ m := by
  simp [failureMessage, locMsgFailure_file, locMsgFailure_line, locMsgFailure_message, exitFailure_file, exitFailure_line,
    exitFailure_message, locFailure_file, locFailure_line, locFailure_message, msgFailure_file, msgFailure_line,
    msgFailure_message]

/-- What "first failure" means for a scripted test: the first failure its body reports (whichever
    constructor builds it), else the first one added by the plugin's post-test action. -/
theorem first_failure_cases (t : TestInfo) (f : Bytes) (l : Nat) (m : Bytes) (as : List Act) :
    firstFail t (.fail f l m :: as) = some (locMsgFailure t f l m) ∧
    firstFail t (.failExit f l m :: as) = some (exitFailure t f l m) ∧
    firstFail t (.failMsg m :: as) = some (msgFailure t m) ∧
    firstFail t (.failLoc f l :: as) = some (locFailure t f l) ∧
    firstFail t [.postFail m] = some (msgFailure t m) ∧
    firstFail t [] = none := by
  simp [firstFail_eq, actEvs, postEvs, evsFirst]

/-- An ignored test never has a failure, so its element shows the skipped marker. -/
theorem ignored_shows_marker (sc : Script) (c : Case) (h : caseKey c = scriptKey sc) (hi : sc.info.willRun = false) :
    c.failure = none ∧ c.skipped = true := by
  simp [caseKey, scriptKey, hi] at h
  obtain ⟨-, -, -, hskip, hfail⟩ := h
  exact ⟨hfail, hskip⟩

/-- One file per group: the reports of a run correspond one to one, in order, to the maximal runs of
    consecutive tests with the same group name (the groups of the default order), and each contains as
    many test cases as tests of that group ran. -/
theorem suites_follow_groups (package timeString : Bytes) (flt : Option Filter) (tests : List Script) :
    (reports package timeString (runAll flt tests)).map (fun r => r.2.cases.length) =
      (groupRuns tests).map (ranIn flt) := by
  simpa [List.map_map, Function.comp_def] using congrArg (List.map (·.1)) (reports_blocks package timeString flt tests)

/-- The collector never dereferences a missing node on a run of the registry. -/
theorem run_never_crashes (package timeString : Bytes) (flt : Option Filter) (tests : List Script) :
    (stFrom { package := package, timeString := timeString } (runAll flt tests)).crashed = false := by
  have h : (stFrom { package := package, timeString := timeString } (loop flt true 0 {} tests)).crashed = false := by
    rw [stFrom, loop_fold flt tests true 0 {} _ rfl]
    exact (loopFold_names flt tests true 0 {} _ rfl (fun _ => ⟨rfl, rfl⟩)).2.1
  simpa [runAll, stFrom_cons, step] using h

/-! ## the `time` attributes (`%d.%03d` of `ms / 1000`, `ms % 1000`) -/

/-- The `time` attribute of every test case element is the time the test took (the clock's advance while it
    ran; 0 for an ignored test), as whole seconds printed through `(int)` and a three-digit millisecond part —
    over all files of the run, in run order, for every registry, filter and package. -/
theorem case_times_are_test_times (package timeString : Bytes) (flt : Option Filter) (tests : List Script) :
    (reports package timeString (runAll flt tests)).flatMap (fun r => r.2.cases.map caseTime) =
      (tests.filter fun t => shouldRun flt t.info).map scriptTime := by
  rw [reports_runAll]
  exact loop_cases caseTime nodeTime scriptTime caseTime_caseOf nodeTime_scriptNode flt tests 0 {} _ rfl rfl

/-- The `time` attribute of every suite element is the time of its group: the sum of the times of the tests of
    that group that were executed (filtered-out and ignored tests take none). -/
theorem suite_times_are_group_times (package timeString : Bytes) (flt : Option Filter) (tests : List Script) :
    (reports package timeString (runAll flt tests)).map (fun r => suiteTime r.2) =
      (groupRuns tests).map (fun run => timeOfMs (ticksIn flt run)) := by
  simpa [List.map_map, Function.comp_def] using congrArg (List.map (·.2)) (reports_blocks package timeString flt tests)

/-- below 2^31 seconds the printed seconds are the true seconds (above, the `(int)` cast wraps: `castInt`) -/
theorem time_is_exact_below_wrap (ms : Nat) (h : ms / 1000 < 2147483648) :
    timeOfMs ms = (((ms / 1000 : Nat) : Int), ms % 1000) ∧ ms % 1000 < 1000 := by
  refine ⟨?_, Nat.mod_lt _ (by decide)⟩
  simp only [timeOfMs, castInt_small _ h]

/-! ## the writer and collector functions as regenerated from the source (`Gen/JUnitTemplates.lean`) -/

/-- OBLIGATION over the regenerated statement lists of the six writer functions and the regenerated order of their calls in
    `writeTestGroupToFile`: for EVERY collector state, what is written between `openFileForWrite` and `closeFile` is the
    rendering of the structured report — every literal of every format string, every conversion paired with its argument,
    every text field through `encodeXmlText`.  `document_shape` and everything after it rest on this. -/
theorem writer_templates_render_the_report (s : St) : fileBytes s = (suiteOf s).render := fileBytes_renders s

/-- … and one iteration of the loop of `writeTestCases` writes the rendering of one test case, whatever the
    running check-count offset. -/
theorem testcase_template_renders_the_case (s : St) (total : Nat) (n : Node) :
    testCase s total n = (caseOf s.package s.group total n).render := testCase_renders s total n

def allTemplates : List (List Tpl.Item) :=
  [Gen.JUnitTemplates.xmlHeader, Gen.JUnitTemplates.suiteSummary, Gen.JUnitTemplates.properties, Gen.JUnitTemplates.caseOpen,
   Gen.JUnitTemplates.caseSkipped, Gen.JUnitTemplates.caseClose, Gen.JUnitTemplates.failureElem, Gen.JUnitTemplates.fileEnding]

/-- OBLIGATION (syntactic, on the regenerated lists): no writer prints a text field as it is — every `%s` of a
    name, path, message or captured text is an `encodeXmlText(..)`; the only raw `%s` is the platform's time string. -/
theorem every_text_field_is_encoded : allTemplates.all (fun t => t.all Tpl.Item.encodesText) = true := by decide

/-- OBLIGATION: the writer calls of `writeTestGroupToFile` come in document order. -/
theorem writer_calls_in_document_order :
    Gen.JUnitTemplates.groupFile = [.xmlHeader, .suiteSummary, .properties, .testCases, .fileEnding] := by decide

/-- OBLIGATION over the regenerated `resetTestGroupResult`: the counts, the group name and the node list are cleared
    and nothing else is (the captured output and the check-count offset survive: `captured_output_accumulates`). -/
theorem reset_clears_exactly (s : St) :
    reset s = { s with testCount := 0, failureCount := 0, group := [], nodesRev := [] } := reset_eq s

/-- OBLIGATION over the regenerated `printCurrentGroupEnded`: the group time is taken first, the file is written from
    the un-reset collector, the reset comes last. -/
theorem group_end_takes_time_writes_then_resets (s : St) (ms : Nat) :
    groupEnded s ms = (onGroupEnded s ms, [writeGroup { s with groupExecTime := ms }]) := groupEnded_eq s ms

example : (allTemplates.map List.length).sum > 40 := by decide

/-! ## file names -/

/-- Obligation over the regenerated tables: forbidden set, replacement and literal pieces are those
    of the specification (`/ \ ? % * : | " < >` → `_`, `cpputest_`, `_`, `.xml`). -/
theorem file_name_table_is_spec :
    (∀ c : UInt8, Gen.EscapeTables.fileNameForbidden.contains c = forbiddenInFileNames.contains c) ∧
    Gen.EscapeTables.fileNameReplacement = 95 ∧ Gen.EscapeTables.fileNamePrefix = lit "cpputest_" ∧
    Gen.EscapeTables.fileNamePackageSep = lit "_" ∧ Gen.EscapeTables.fileNameSuffix = lit ".xml" := file_name_tables

/-- The file name is `cpputest_[package_]group.xml` with every character illegal in file names
    replaced by `_`; no illegal character is left and legal characters are unchanged. -/
theorem file_name_sanitised (package group : Bytes) :
    createFileName package group = expectedFileName package group ∧
    (∀ c ∈ sanitize (lit "cpputest_" ++ (if package.isEmpty then [] else package ++ lit "_") ++ group),
        forbiddenInFileNames.contains c = false) :=
  ⟨createFileName_eq_expected package group, sanitize_clean _⟩

/-- every report of ANY event list carries the sanitised name of the group it was collected for -/
theorem report_file_names (package timeString : Bytes) (evs : List Ev) :
    ∀ r ∈ reports package timeString evs, ∃ pk, r.1 = expectedFileName pk r.2.name := by
  intro r hr
  obtain ⟨s', ms, -, rfl⟩ := reportsFrom_inv (fun _ => True) (fun _ _ _ => trivial) evs _ trivial r hr
  exact ⟨s'.package, createFileName_eq_expected _ _⟩

/-! ## three behaviours of the code that are not violations, stated exactly -/

/-- (1) Two groups get the same file name exactly when their names agree after the illegal characters
    are replaced (e.g. `a/b` and `a:b`); the writer then opens that name twice, in group order — what
    the file system makes of it (the later report replaces the earlier) is outside the code. -/
theorem same_file_name_iff (package g1 g2 : Bytes) :
    createFileName package g1 = createFileName package g2 ↔ sanitize g1 = sanitize g2 := by
  rw [createFileName_eq_expected, createFileName_eq_expected]
  exact expectedFileName_eq_iff package g1 g2

def collidingGroups : List Script :=
  [ { info := { group := lit "a/b", name := lit "t1", file := lit "f", line := 1, willRun := true }, acts := [] },
    { info := { group := lit "a:b", name := lit "t2", file := lit "f", line := 2, willRun := true }, acts := [] } ]

theorem colliding_groups_write_the_same_name_twice :
    (files [] (lit "T") (runAll none collidingGroups)).map (·.name) = [lit "cpputest_a_b.xml", lit "cpputest_a_b.xml"] := by
  decide +kernel

/-- (2) The captured output is never reset between groups (`stdOutput_` is only appended to): the
    `<system-out>` of the report written at a group end is EVERYTHING printed since the start of
    the run, for any event list on which the collector does not crash (every run of the registry:
    `run_never_crashes`).  This is why the oracle accepts the accumulated text. -/
theorem captured_output_accumulates (package timeString : Bytes) (pre : List Ev) (ms : Nat)
    (h : (stFrom { package := package, timeString := timeString } pre).crashed = false) :
    ∃ r, reports package timeString (pre ++ [.groupEnded ms]) = reports package timeString pre ++ [r] ∧
      r.2.stdout = evsPrinted pre := by
  refine ⟨reportOf { stFrom { package := package, timeString := timeString } pre with groupExecTime := ms }, ?_, ?_⟩
  · simp [reports, reportsFrom_append, reportsFrom_cons, reportsFrom_nil, reportsOf, h]
  · have := stdOutput_after pre { package := package, timeString := timeString } h
    simpa [reportOf, suiteOf] using this

/-- … in particular on every prefix of a run of the registry -/
theorem run_prefix_never_crashes (package timeString : Bytes) (flt : Option Filter) (tests : List Script)
    (pre post : List Ev) (h : runAll flt tests = pre ++ post) :
    (stFrom { package := package, timeString := timeString } pre).crashed = false :=
  not_crashed_prefix pre post _ (by rw [← h]; exact run_never_crashes package timeString flt tests)

/-- (3) A group none of whose tests runs (all filtered out) still gets a report: since no test
    started, the collector never learnt the group's name — the suite is called "", counts 0 tests
    and the file is `cpputest_[package_].xml`. -/
theorem group_without_running_tests (package timeString : Bytes) (flt : Option Filter) (t : Script)
    (h : shouldRun flt t.info = false) :
    reports package timeString (runAll flt [t]) =
      [(expectedFileName package [],
        { failures := 0, name := [], tests := 0, secs := 0, millis := 0, timestamp := timeString, cases := [], stdout := [] })] := by
  have h0 : castInt 0 = 0 := by decide
  simp [reports, runAll, loop, startEvs, bodyEvs, endEvs, endOfGroup, h, reportsFrom_cons, reportsFrom_nil, reportsOf, step,
    reportOf, suiteOf, casesOf, createFileName_eq_expected, h0, bodyR, countFiltered, countTest]

/-! ## repeated runs (`-r<n>`) on one `JUnitTestOutput` -/

/-- Every repetition writes the same report files again, in the same order — the names depend only on
    package, groups and filter, not on what the previous repetition left in the collector.  (The code opens
    them with mode "w", so on a file system each repetition replaces the reports of the one before;
    the harness checks the mode.) -/
theorem repeated_runs_rewrite_each_report (package timeString : Bytes) (n : Nat) (flt : Option Filter) (tests : List Script) :
    (files package timeString (runRepeated n flt tests)).map (·.name) =
      (List.range n).flatMap (fun _ => loopNames flt package [] tests) := by
  have h := (repetitions_state flt tests n n { package := package, timeString := timeString } ⟨rfl, rfl, rfl⟩).1
  rw [document_shape, List.map_map]
  exact h

/-- … and in every repetition there is one test case element per test that runs, in run order, with
    the same name, file, line, skipped marker and first failure. -/
theorem one_testcase_per_test_in_order_repeated (package timeString : Bytes) (n : Nat) (flt : Option Filter)
    (tests : List Script) :
    (reports package timeString (runRepeated n flt tests)).flatMap reportKeys =
      (List.range n).flatMap (fun _ => (tests.filter fun t => shouldRun flt t.info).map scriptKey) :=
  (repetitions_state flt tests n n { package := package, timeString := timeString } ⟨rfl, rfl, rfl⟩).2.1

/-- The runner's own "Test run i of n" line reaches the captured output without its numbers, because
    `print(size_t)` does nothing on this output.  (What is carried from one repetition into the next is this
    captured output, `captured_output_accumulates`, and the check-count offset `totalCheckCount_`, which
    `reset_clears_exactly` leaves alone; no theorem here speaks of the `assertions` attribute of a later repetition.) -/
theorem test_run_line_without_numbers (n : Nat) (hn : n > 1) : testRunText n = lit "Test run  of \n" := by
  simp [testRunText, hn]; decide

/-! ## reading a whole report back -/

/-- The specification's own report reader (tokenizer + layout reader of `Spec/JUnit.lean`) accepts the rendering of ANY
    well-formed structured report — attribute values and text arbitrary byte strings — and returns exactly the `Suite`/`Case`s
    it was rendered from.  Well-formed: millisecond parts below 1000, no case that is both failed and marked skipped (only one
    of the two is rendered), a time string that needs no encoding. -/
theorem report_reader_roundtrip (su : Suite) (hwf : suiteWf su) (hts : plain su.timestamp) :
    parseReport su.render = .ok su := by
  rw [parseReport, tokenize_doc su (encodeRef_plain _ hts)]
  exact readSuite_doc su hwf

/-- Whenever the test case elements of the reports of an event list are those of scripted tests (same keys),
    the reader accepts every report and returns it. -/
theorem roundtrip_of_keys (package timeString : Bytes) (evs : List Ev) (scs : List Script) (hts : plain timeString)
    (hkeys : (reports package timeString evs).flatMap reportKeys = scs.map scriptKey) :
    ∀ r ∈ reports package timeString evs, parseReport r.2.render = .ok r.2 := by
  intro r hr
  obtain ⟨s', ms, hts', rfl⟩ := reportsFrom_inv (fun s => s.timeString = timeString)
    (fun s e h => (step_inputs s e).1.trans h) evs _ rfl r hr
  refine report_reader_roundtrip _ ⟨Nat.mod_lt _ (by decide), fun c hc => ⟨casesOf_millis _ _ _ _ c hc, fun hf => ?_⟩⟩
    (hts' ▸ hts)
  have hk : caseKey c ∈ (reports package timeString evs).flatMap reportKeys :=
    List.mem_flatMap.mpr ⟨_, hr, List.mem_map.mpr ⟨c, hc, rfl⟩⟩
  rw [hkeys] at hk
  obtain ⟨sc, _, hsc⟩ := List.mem_map.mp hk
  simp only [scriptKey, caseKey, Prod.mk.injEq] at hsc
  obtain ⟨-, -, -, hskip, hfail⟩ := hsc
  -- a case with a failure comes from a test that ran, and such a test is not marked skipped
  cases hw : sc.info.willRun
  · rw [hw] at hfail; rw [← hfail] at hf; simp at hf
  · rw [hw] at hskip; rw [← hskip]; rfl

/-- On every run of the registry the reader accepts every report and returns it.  The statement is given as a `def`, as
    BUILDING.md prescribes for full-strength statements; the theorem below proves it. -/
def report_reader_roundtrip_full : Prop :=
  ∀ (package timeString : Bytes) (flt : Option Filter) (tests : List Script),
    plain timeString →
    ∀ r ∈ reports package timeString (runAll flt tests), parseReport r.2.render = .ok r.2

theorem report_reader_roundtrip_on_runs : report_reader_roundtrip_full := by
  intro package timeString flt tests hts
  exact roundtrip_of_keys package timeString _ _ hts (one_testcase_per_test_in_order package timeString flt tests)

/-- … and on every REPEATED run (`-r<n>` on one output object: the state the collector carries from one repetition
    into the next — captured output, check-count offset — never makes a report unreadable). -/
theorem report_reader_roundtrip_on_repeated_runs (package timeString : Bytes) (n : Nat) (flt : Option Filter)
    (tests : List Script) (hts : plain timeString) :
    ∀ r ∈ reports package timeString (runRepeated n flt tests), parseReport r.2.render = .ok r.2 := by
  apply roundtrip_of_keys package timeString _
    ((List.range n).flatMap fun _ => tests.filter fun t => shouldRun flt t.info) hts
  rw [one_testcase_per_test_in_order_repeated, List.map_flatMap]

/-- Whole repeated run, on the bytes: every file of every repetition is accepted by the reader, which returns the
    structured report it was written from. -/
theorem files_are_read_back_repeated (package timeString : Bytes) (n : Nat) (flt : Option Filter) (tests : List Script)
    (hts : plain timeString) :
    (files package timeString (runRepeated n flt tests)).map (fun f => parseReport f.bytes) =
      (reports package timeString (runRepeated n flt tests)).map (fun r => (Except.ok r.2 : Except String Suite)) := by
  rw [document_shape]
  exact map_parse_of_roundtrip _ (report_reader_roundtrip_on_repeated_runs package timeString n flt tests hts)

/-- Corollary on the bytes: every file of a run is accepted by the reader, which returns the
    structured report the file was written from (`document_shape` + the reader = the original fields). -/
theorem files_are_read_back (package timeString : Bytes) (flt : Option Filter) (tests : List Script)
    (hts : plain timeString) :
    (files package timeString (runAll flt tests)).map (fun f => parseReport f.bytes) =
      (reports package timeString (runAll flt tests)).map (fun r => (Except.ok r.2 : Except String Suite)) := by
  rw [document_shape]
  exact map_parse_of_roundtrip _ (report_reader_roundtrip_on_runs package timeString flt tests hts)

/-- the template and per-field part of the round trip, for ANY event list -/
theorem report_reader_roundtrip_partial (package timeString : Bytes) (evs : List Ev) :
    (files package timeString evs = (reports package timeString evs).map fun r => { name := r.1, bytes := r.2.render }) ∧
    (∀ v rest : Bytes, attrAndTextSafe (encodeRef v) = true ∧
      scanAttr none (encodeRef v ++ 34 :: rest) [] = some (v, rest) ∧
      scanText none (encodeRef v ++ 60 :: rest) [] = some (v, 60 :: rest)) := by
  refine ⟨document_shape package timeString evs, fun v rest => ⟨?_, (fields_roundtrip v rest).1, (fields_roundtrip v rest).2⟩⟩
  have := encoded_is_attr_and_text_safe v
  rwa [encodeXmlText_eq_ref] at this

/-! ## non-vacuity -/

/-- two groups; a test failing twice (the first failure is kept), an ignored test, a test
    that prints and gets a failure without location from a plugin; names with every character that has XML meaning -/
def demo : List Script :=
  [ { info := { group := lit "gr\"p<1>", name := lit "na&me", file := lit "dir/a\"b.cpp", line := 10, willRun := true },
      acts := [.checks 2, .tick 1234, .fail (lit "o<t>.cpp") 3 (lit "x\ny & \"z\""), .failExit (lit "dir/a\"b.cpp") 12 (lit "second")] },
    { info := { group := lit "gr\"p<1>", name := lit "ign", file := lit "dir/a\"b.cpp", line := 20, willRun := false }, acts := [] },
    { info := { group := lit "G2", name := lit "ok", file := lit "f.cpp", line := 1, willRun := true },
      acts := [.print (lit "f.cpp") 2 (lit "<hello> & \r\n"), .postFail (lit "leak <1>")] } ]

example : (files (lit "p/k") (lit "T") (runAll none demo)).map (·.name) =
    [lit "cpputest_p_k_gr_p_1_.xml", lit "cpputest_p_k_G2.xml"] := by decide +kernel

example : ((reports (lit "p/k") (lit "T") (runAll none demo)).map fun r => (r.2.tests, r.2.failures, r.2.cases.length)) =
    [(2, 1, 2), (1, 1, 1)] := by decide +kernel

example : scanAttr none (encodeXmlText (lit "a\"b<c>&d\n") ++ 34 :: lit " next") [] = some (lit "a\"b<c>&d\n", lit " next") := by
  decide +kernel

example : (groupRuns demo).map List.length = [2, 1] := by decide +kernel

example : (demo.map scriptTime) = [(1, 234), (0, 0), (0, 0)] := by decide +kernel
example : (groupRuns demo).map (fun run => timeOfMs (ticksIn none run)) = [(1, 234), (0, 0)] := by decide +kernel
example : timeOfMs 2147483648000 = (-2147483648, 0) := by decide +kernel
example : (files (lit "p") (lit "T") (runRepeated 2 none demo)).map (·.name) =
    [lit "cpputest_p_gr_p_1_.xml", lit "cpputest_p_G2.xml", lit "cpputest_p_gr_p_1_.xml", lit "cpputest_p_G2.xml"] := by decide +kernel

example : decodeXml (encodeXmlText (lit "a<b>&\"c\"\r\n&amp;")) = lit "a<b>&\"c\"\r\n&amp;" := by decide +kernel
example : encodeXmlText (lit "<&>") = lit "&lt;&amp;&gt;" := by decide +kernel

end JUnit
