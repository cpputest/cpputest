import CppUModel.Proofs.SimpleStringOps
import CppUModel.Proofs.StringPrims
/-!
# C13 — string operations equal their textbook meaning and are memory-safe

Models: `Base/CString.lean` (C-like primitives over bounded buffers),
`Model/SimpleString.lean` (objects, allocator event log; from `src/CppUTest/SimpleString.cpp`).
Vocabulary: `Spec/Text.lean`, `Spec/TextExt.lean` (plain list definitions, no buffers).

Reading guide.  `CAt b p a`: the NUL-free byte string `a`, terminated, sits at offset `p` of
buffer `b` (anything may precede and follow).  `Holds o a`: the object's buffer holds `a`.
A conclusion `f … = .ok v` says three things at once: the bounded-buffer model never reads or
writes outside a buffer (no `.error .oob`), it terminates (no `.error .fuel`), and the value is
the textbook one.  Worlds record the allocator events: `w.alloc n` is `w` after a buffer of `n`
bytes was requested (its id is `w.next`), `w.free i n` after buffer `i` was released as `n` bytes.
`Owns w L`: replaying the log of `w` never releases a buffer that is not outstanding with exactly
that size, and the outstanding buffers are `L`.
-/
namespace C13
open CStr SStr Text TextExt

/-! ## the C-library-like primitives -/

theorem strlen_eq {b : Buf} {p : Nat} {a : Bytes} (h : CAt b p a) : StrLen b p = .ok a.length := StrLen_ok h

theorem strcmp_eq {b1 b2 : Buf} {p1 p2 : Nat} {a1 a2 : Bytes} (h1 : CAt b1 p1 a1) (h2 : CAt b2 p2 a2) :
    StrCmp b1 p1 b2 p2 = .ok (Text.cmp a1 a2) := StrCmp_ok h1 h2

theorem strcmp_zero_iff_eq {b1 b2 : Buf} {p1 p2 : Nat} {a1 a2 : Bytes} (h1 : CAt b1 p1 a1) (h2 : CAt b2 p2 a2) :
    StrCmp b1 p1 b2 p2 = .ok 0 ↔ a1 = a2 := by
  rw [StrCmp_ok h1 h2]; exact ok_cmp_zero_iff h1.1 h2.1

theorem strncmp_eq {b1 b2 : Buf} {p1 p2 : Nat} {a1 a2 : Bytes} (n : Nat) (h1 : CAt b1 p1 a1) (h2 : CAt b2 p2 a2) :
    StrNCmp b1 p1 b2 p2 n = .ok (Text.ncmp n a1 a2) := StrNCmp_ok n a1 a2 b1 b2 p1 p2 h1 h2

/-- `Text.ncmp n` (what `StrNCmp` returns, `strncmp_eq`) is 0 exactly when the first `n` bytes agree -/
theorem strncmp_zero_iff {a b : Bytes} (n : Nat) (ha : NulFree a) (hb : NulFree b) :
    Text.ncmp n a b = 0 ↔ a.take n = b.take n := ncmp_eq_zero_iff n ha hb

/-- `StrNCpy`: `(src ++ [0]).take n` over the destination from `dp`, nothing else touched, no padding -/
theorem strncpy_eq {dst src : Buf} {dp sp n : Nat} {a : Bytes} (h : CAt src sp a)
    (hfit : dp + min n (a.length + 1) ≤ dst.length) :
    StrNCpy dst dp src sp n = .ok (dst.take dp ++ (cz a).take n ++ dst.drop (dp + min n (a.length + 1))) :=
  StrNCpy_ok h hfit

theorem strstr_eq {b1 b2 : Buf} {p1 p2 : Nat} {a1 a2 : Bytes} (h1 : CAt b1 p1 a1) (h2 : CAt b2 p2 a2) :
    StrStr b1 p1 b2 p2 = .ok ((TextExt.strStr a1 a2).map (· + p1)) := StrStr_ok h1 h2

/-- what `StrStr` returns is the first position at which the pattern occurs -/
theorem strstr_first_occurrence (a b : Bytes) (i : Nat) :
    TextExt.strStr a b = some i ↔
      (i ≤ a.length ∧ b.isPrefixOf (a.drop i) = true ∧ ∀ j < i, b.isPrefixOf (a.drop j) = false) :=
  strStr_some_iff a b i

theorem strstr_found_iff_isInfix (a b : Bytes) : (TextExt.strStr a b).isSome = Text.isInfix a b :=
  strStr_isSome_eq_isInfix a b

theorem memcmp_eq (n : Nat) (b1 b2 : Buf) (p1 p2 : Nat) (h1 : n ≤ (b1.drop p1).length) (h2 : n ≤ (b2.drop p2).length) :
    MemCmp b1 p1 b2 p2 n = .ok (TextExt.memCmp n (b1.drop p1) (b2.drop p2)) := MemCmp_ok n b1 b2 p1 p2 h1 h2

/-- `AtoU` = blanks skipped, leading digits, value mod 2^32 (a sign gives 0) -/
theorem atou_eq {b : Buf} {p : Nat} {a : Bytes} (h : CAt b p a) : AtoU b p = .ok (TextExt.atou a) := by
  have h' := h.drop (a.takeWhile TextExt.isBlank).length (length_takeWhile_le _ _)
  simp only [AtoU, skipSpaces_ok a b p _ h h.lt_fuel, atoULoop_ok _ b _ _ 0 h' h'.lt_fuel (by decide),
    TextExt.atou, TextExt.leadingNumber, dropWhile_eq_drop_takeWhile]

/-- `AtoI` = blanks skipped, one optional sign, leading digits — whenever the magnitude fits `int`
    (beyond that the C code overflows a signed `int`; the model reports `Err.overflow`) -/
theorem atoi_eq {b : Buf} {p : Nat} {a : Bytes} (h : CAt b p a) (hfit : TextExt.atoiMagnitude a ≤ 2147483647) :
    AtoI b p = .ok (TextExt.atoi a) := by
  have hs := skipSpaces_ok a b p (b.length + 1) h h.lt_fuel
  have h' := h.drop (a.takeWhile TextExt.isBlank).length (length_takeWhile_le _ _)
  have hlen := h'.lt_fuel
  rw [← dropWhile_eq_drop_takeWhile] at h' hlen
  -- the digits `r` start behind the sign or at the first non-blank byte
  have run : ∀ {q : Nat} {r : Bytes}, CAt b q r → r.length < b.length + 1 → leadingNumber r ≤ 2147483647 →
      atoILoop b (b.length + 1) q 0 = .ok (leadingNumber r) := fun hq hl hf => atoILoop_ok _ b _ _ 0 hq hl hf
  simp only [AtoI, hs, h'.rd_head]
  rcases atoi_forms a with ⟨r, hd, hv, hm⟩ | ⟨r, hd, hv, hm⟩ | ⟨h45, h43, hv, hm⟩
  · rw [hd] at h' hlen
    simp only [hd, List.headD_cons, true_or, if_true, run h'.tail (Nat.lt_of_succ_lt hlen) (hm ▸ hfit), hv]
  · rw [hd] at h' hlen
    have : ¬ ((43 : UInt8) = 45) := by decide
    simp only [hd, List.headD_cons, or_true, if_true, run h'.tail (Nat.lt_of_succ_lt hlen) (hm ▸ hfit), hv, this, if_false]
  · have hne : ∀ {s : Bytes} {k : UInt8}, k ≠ 0 → s.head? ≠ some k → s.headD 0 ≠ k := fun {s} _ hk hh => by
      cases s with
      | nil => exact fun e => hk e.symm
      | cons x r => exact fun e => hh (congrArg some e)
    simp only [hne (by decide) h45, hne (by decide) h43, or_self, if_false, run h' hlen (hm ▸ hfit), hv]

/-- for every C string `blanks ++ sign ++ digits ++ rest` (blanks 0x20, 9…13; at most one sign; a rest that does
    not start with a digit) whose digit value fits `int`, `AtoI` returns that value with the sign; `digitsVal` is the
    positional value (`digitsVal_horner`) -/
theorem atoi_parts_eq {b : Buf} {p : Nat} (blanks sign digits rest : Bytes)
    (h : CAt b p (blanks ++ sign ++ digits ++ rest))
    (hb : ∀ c ∈ blanks, TextExt.isBlank c = true) (hs : sign = [] ∨ sign = [43] ∨ sign = [45])
    (hd : ∀ c ∈ digits, TextExt.isDigit c = true)
    (hr : ∀ c, rest.head? = some c → TextExt.isDigit c = false)
    (hfirst : sign = [] → ∀ c, (digits ++ rest).head? = some c → TextExt.isBlank c = false ∧ c ≠ 43 ∧ c ≠ 45)
    (hfit : TextExt.digitsVal 0 digits ≤ 2147483647) :
    AtoI b p = .ok (if sign = [45] then - (TextExt.digitsVal 0 digits : Int) else (TextExt.digitsVal 0 digits : Int)) := by
  obtain ⟨h1, h2⟩ := atoi_parts blanks sign digits rest hb hs hd hr hfirst
  rw [atoi_eq h (by rw [h2]; exact hfit), h1]

theorem digitsVal_horner (acc : Nat) (ds : Bytes) (d : UInt8) :
    TextExt.digitsVal acc (ds ++ [d]) = TextExt.digitsVal acc ds * 10 + (d.toNat - 48) := by
  simp [TextExt.digitsVal, List.foldl_append]

/-- a successful `StrLen` means there IS a terminated string there (inversion) -/
theorem strlen_ok_only_on_strings {b : Buf} {p n : Nat} (h : StrLen b p = .ok n) : ∃ a, CAt b p a ∧ a.length = n :=
  StrLen_inv h

theorem tolower_eq (c : UInt8) : ToLower c = Text.lowerByte c := ToLower_eq_lowerByte c

/-! ## constructors, assignment, concatenation -/

theorem ctor_eq {src : Buf} {sp : Nat} {a : Bytes} (h : CAt src sp a) (w : World) :
    ctorCStr src sp w = .ok (mkObj w.next a, w.alloc (a.length + 1)) := ctorCStr_ok h w

theorem ctor_null_eq (w : World) : ctorNull w = .ok (mkObj w.next [], w.alloc 1) := ctorNull_ok w

theorem ctor_repeat_eq {src : Buf} {sp : Nat} {a : Bytes} (h : CAt src sp a) (k : Nat) (w : World) :
    ctorRepeat src sp k w = .ok (⟨w.next, repeatStr a k ++ [0], a.length * k + 1⟩, w.alloc (a.length * k + 1)) :=
  ctorRepeat_ok h k w

theorem copy_eq {o : Obj} {a : Bytes} (h : Holds o a) (w : World) :
    ctorCopy o w = .ok (mkObj w.next a, w.alloc (a.length + 1)) := ctorCopy_ok h w

theorem assign_eq {other : Obj} {a : Bytes} (self : Obj) (h : Holds other a) (w : World) :
    assign self other w = .ok (mkObj w.next a, (w.free self.id self.size).alloc (a.length + 1)) := assign_ok self h w

theorem append_eq {self : Obj} {a : Bytes} {rhs : Buf} {rp : Nat} {r : Bytes} (h : Holds self a) (hr : CAt rhs rp r)
    (w : World) :
    appendC self rhs rp w =
      .ok (⟨w.next, a ++ r ++ [0], a.length + (r.length + 1)⟩, (w.alloc (a.length + (r.length + 1))).free self.id self.size) :=
  appendC_ok h hr w

theorem plus_eq {self rhs : Obj} {a b : Bytes} (h : Holds self a) (hb : Holds rhs b) (w : World) :
    plus self rhs w =
      .ok (⟨w.next + 1, a ++ b ++ [0], a.length + (b.length + 1)⟩,
           ((w.alloc (a.length + 1)).alloc (a.length + (b.length + 1))).free w.next (a.length + 1)) := plus_ok h hb w

/-! ## comparisons and searches -/

theorem size_eq {o : Obj} {a : Bytes} (h : Holds o a) : size o = .ok a.length := size_ok h

theorem eq_eq {l r : Obj} {a b : Bytes} (hl : Holds l a) (hr : Holds r b) : equals l r = .ok (decide (a = b)) :=
  equals_ok hl hr

theorem contains_iff_isInfix {self other : Obj} {a b : Bytes} (h : Holds self a) (hb : Holds other b) :
    contains self other = .ok (Text.isInfix a b) := contains_ok h hb

theorem startsWith_eq {self other : Obj} {a b : Bytes} (h : Holds self a) (hb : Holds other b) :
    startsWith self other = .ok (Text.startsWith a b) := by
  simp only [SStr.startsWith, size_ok h, size_ok hb, StrStr_ok h hb]
  cases b with
  | nil => simp [Text.startsWith]
  | cons y b =>
    cases a with
    | nil => simp [Text.startsWith]
    | cons x a =>
      simp only [List.length_cons, Nat.succ_ne_zero, if_false, Text.startsWith]
      congr 1
      rw [Bool.eq_iff_iff, beq_iff_eq, ← strStr_zero_iff]
      cases TextExt.strStr (x :: a) (y :: b) <;> simp

theorem endsWith_eq {self other : Obj} {a b : Bytes} (h : Holds self a) (hb : Holds other b) :
    endsWith self other = .ok (Text.endsWith a b) := endsWith_ok h hb

theorem count_eq {self substr : Obj} {a b : Bytes} (h : Holds self a) (hb : Holds substr b) :
    count self substr = .ok (Text.count a b) := by
  cases a with
  | nil => simp [SStr.count, h.nil_rd, Text.count]
  | cons x t =>
    have hx := h.cons_ne
    simp only [SStr.count, h.cons_rd, hx, if_false, StrStr_ok h hb]
    have := countLoop_ok (self.buf.length + 1) (x :: t) self.buf substr.buf b 0 0 h hb h.lt_fuel
    simpa using this

theorem findFrom_eq {self : Obj} {a : Bytes} (h : Holds self a) (start : Nat) (ch : UInt8) :
    findFrom self start ch = .ok ((Text.findFrom a start ch).getD npos) := findFrom_ok h start ch

theorem find_eq {self : Obj} {a : Bytes} (h : Holds self a) (ch : UInt8) :
    find self ch = .ok ((Text.find a ch).getD npos) := find_ok h ch

theorem at_eq {self : Obj} {a : Bytes} (h : Holds self a) (pos : Nat) (hp : pos ≤ a.length) :
    at_ self pos = .ok ((cz a).getD pos 0) := by
  obtain ⟨_, post, hd⟩ := h
  simp only [List.drop_zero] at hd
  have hl : pos < (cz a).length := by simp [cz]; omega
  simp only [at_, rd, hd]
  have : (a ++ 0 :: post)[pos]? = (cz a)[pos]? := by
    have e : a ++ 0 :: post = cz a ++ post := by simp [cz]
    rw [e, List.getElem?_append_left hl]
  rw [this, List.getElem?_eq_getElem hl]
  simp [List.getD, List.getElem?_eq_getElem hl]

theorem equalsNoCase_eq {self str : Obj} {a b : Bytes} (h : Holds self a) (hb : Holds str b) (w : World) :
    equalsNoCase self str w =
      .ok (Text.equalsNoCase a b,
           (((w.alloc (b.length + 1)).alloc (a.length + 1)).free (w.next + 1) (a.length + 1)).free w.next (b.length + 1)) :=
  equalsNoCase_ok h hb w

theorem containsNoCase_eq {self other : Obj} {a b : Bytes} (h : Holds self a) (hb : Holds other b) (w : World) :
    containsNoCase self other w =
      .ok (Text.containsNoCase a b,
           (((w.alloc (a.length + 1)).alloc (b.length + 1)).free (w.next + 1) (b.length + 1)).free w.next (a.length + 1)) :=
  containsNoCase_ok h hb w

/-! ## derived strings and in-place changes -/

theorem subString_eq {self : Obj} {a : Bytes} (h : Holds self a) (beginPos amount : Nat) (w : World) :
    Creates (subString self beginPos amount) w (fun r => Holds r (Text.subString a beginPos amount)) :=
  subString_creates h beginPos amount w

theorem subStringFrom_eq {self : Obj} {a : Bytes} (h : Holds self a) (hfit : a.length < npos) (beginPos : Nat) (w : World) :
    Creates (subString1 self beginPos) w (fun r => Holds r (Text.subStringFrom a beginPos)) :=
  subString1_creates h hfit beginPos w

theorem subStringFromTill_eq {self : Obj} {a : Bytes} (h : Holds self a) (hfit : a.length < npos) (s e : UInt8) (w : World) :
    Creates (subStringFromTill self s e) w (fun r => Holds r (Text.subStringFromTill a s e)) :=
  subStringFromTill_creates h hfit s e w

theorem lowerCase_eq {self : Obj} {a : Bytes} (h : Holds self a) (w : World) :
    lowerCase self w = .ok (mkObj w.next (Text.lower a), w.alloc (a.length + 1)) := lowerCase_ok h w

/-- `replace(char, char)`: in place, same buffer, same recorded size -/
theorem replaceChar_eq {self : Obj} {a : Bytes} (h : Holds self a) (to w : UInt8) (hw : w ≠ 0) :
    ∃ r, replaceChar self to w = .ok r ∧ Holds r (Text.replaceByte a to w) ∧ r.id = self.id ∧ r.size = self.size ∧
      r.buf.length = self.buf.length := by
  obtain ⟨b, h1, h2, post, h3⟩ := replaceChar_ok h to w
  refine ⟨_, h1, ⟨?_, post, by simpa using h3⟩, rfl, rfl, h2⟩
  exact nulFree_map (fun c hc => by by_cases hct : c = to <;> simp [hct, hw, hc]) h.nulFree

/-- `replace(char, char)` for ANY replacement byte: a NUL replacement cuts the string there -/
theorem replaceChar_any_eq {self : Obj} {a : Bytes} (h : Holds self a) (to w : UInt8) :
    ∃ r, replaceChar self to w = .ok r ∧ Holds r (cut (Text.replaceByte a to w)) ∧ r.id = self.id ∧
      r.size = self.size ∧ r.buf.length = self.buf.length := replaceChar_any h to w

/-- `replace(to, with)` = leftmost, non-overlapping replace-all (an empty pattern changes nothing);
    the old buffer is released under its recorded size iff a new one was requested -/
theorem replaceAll_eq {self : Obj} {a pat rep : Bytes} {to wb : Buf} {tp wp : Nat}
    (h : Holds self a) (hs : Sized self) (hto : CAt to tp pat) (hw : CAt wb wp rep) (w : World) :
    Replaces (replaceStr self to tp wb wp) w self (fun r => Holds r (Text.replaceAll a pat rep)) :=
  replaceStr_replaces h hs hto hw w

theorem pad_eq {str1 str2 : Obj} {a b : Bytes} (h1 : Holds str1 a) (h2 : Holds str2 b)
    (hs1 : Sized str1) (hs2 : Sized str2) (c : UInt8) (w : World) :
    ∃ r1 r2 w', padStringsToSameLength str1 str2 c w = .ok ((r1, r2), w') ∧
      Holds r1 (TextExt.padToSameLength a b c).1 ∧ Holds r2 (TextExt.padToSameLength a b c).2 ∧ Sized r1 ∧ Sized r2 ∧
      ∀ L, Owns w ((str1.id, str1.size) :: (str2.id, str2.size) :: L) →
        Owns w' ((r1.id, r1.size) :: (r2.id, r2.size) :: L) := by
  simp only [TextExt.padToSameLength]
  rcases padStringsToSameLength_cases h1 h2 c w with ⟨hgt, r, w', hr, hh, hs, ho⟩ | ⟨hle, r, w', hr, hh, hs, ho⟩
  · rw [if_pos hgt]
    exact ⟨str1, r, w', hr, h1, hh, hs1, hs, fun L hL => (ho _ (hL.perm (.swap ..))).perm (.swap ..)⟩
  · rw [if_neg hle]
    exact ⟨r, str2, w', hr, hh, h2, hs, hs2, fun L hL => ho _ hL⟩

theorem copyToBuffer_eq {self : Obj} {a : Bytes} (h : Holds self a) (dst : Buf) :
    copyToBuffer self (some dst) dst.length = .ok (some (TextExt.copyOut a dst)) := by
  cases hd : dst with
  | nil => simp [copyToBuffer, TextExt.copyOut]
  | cons d0 dt =>
    rw [← hd]
    -- `StrNCpy` copies `min (|dst| - 1) |a|` bytes (`hcp`, `htk`), then the terminator goes behind them (`hw`)
    have hne : dst.length ≠ 0 := by rw [hd]; simp
    have hne' : dst.isEmpty = false := by rw [hd]; rfl
    simp only [copyToBuffer, hne, if_false, size_ok h, TextExt.copyOut, hne', Bool.false_eq_true]
    have hk : (if dst.length - 1 < a.length then dst.length - 1 else a.length) = min (dst.length - 1) a.length := by
      split <;> omega
    rw [hk]
    have hcp := StrNCpy_front (dst := dst) (n := min (dst.length - 1) a.length) h (by omega)
    have hmin : min (min (dst.length - 1) a.length) (a.length + 1) = min (dst.length - 1) a.length := by omega
    simp only [TextExt.strNCpy, hmin] at hcp
    have htk : (cz a).take (min (dst.length - 1) a.length) = a.take (dst.length - 1) := by
      simp only [cz]
      rw [List.take_append_of_le_length (by omega)]
      rcases Nat.le_total (dst.length - 1) a.length with hle | hle
      · rw [Nat.min_eq_left hle]
      · rw [Nat.min_eq_right hle, List.take_of_length_le (by omega), List.take_of_length_le hle]
    rw [hcp, htk]
    have hlen : (a.take (dst.length - 1)).length = min (dst.length - 1) a.length := List.length_take
    have hdrop : dst.drop (min (dst.length - 1) a.length) ≠ [] := by
      intro hnil
      have := congrArg List.length hnil
      rw [List.length_drop, List.length_nil] at this; omega
    match hdd : dst.drop (min (dst.length - 1) a.length), hdrop with
    | y :: rest, _ =>
      have hw := wr_append (pre := a.take (dst.length - 1)) (x := y) (post := rest) 0
      rw [hlen] at hw
      simp only [hw]
      have : dst.drop (min (dst.length - 1) a.length + 1) = rest := drop_succ_of_drop hdd
      simp [this]

theorem copyToBuffer_null (self : Obj) (n : Nat) : copyToBuffer self none n = .ok none :=
  SStr.copyToBuffer_null self n

/-! ## split, printable -/

/-- `split`: the collection's elements hold exactly the textbook tokens; the buffers of all
    temporaries are released (`HoldAll` pairs elements with tokens, each element `Sized`) -/
theorem split_eq {self delim : Obj} {a d : Bytes} (h : Holds self a) (hd : Holds delim d) (e : Obj) (w : World) :
    ∃ items w', split self delim ⟨[], e⟩ w = .ok (⟨items, e⟩, w') ∧ HoldAll items (TextExt.split a d) ∧
      ∀ L, Owns w L → Owns w' (ownedObjs items ++ L) :=
  have ⟨items, w', hrun, hv⟩ := split_val h hd e w
  ⟨items, w', hrun, hv, (split_eff self delim ⟨[], e⟩ w _ w' hrun).2⟩

/-- the first-occurrence form used above is the shared definition `Text.split` whenever string and
    delimiter are non-empty (the corners: `"".split(d) = [""]`, `"".split("") = []`, one token per
    byte for the empty delimiter, are `TextExt.split`'s) -/
theorem split_spec_eq_text_split {a d : Bytes} (ha : a ≠ []) (hd : d ≠ []) : TextExt.split a d = Text.split a d := by
  simp only [Text.split, splitAux_eq d hd (a.length + 1) a [] (by omega), List.reverse_nil, splitOut_nil, TextExt.split]
  have hle := splitScan_le d (a.length + 1) a (Nat.lt_succ_self _)
  have hae : a.isEmpty = false := List.isEmpty_eq_false_iff.mpr ha
  by_cases hlt : (TextExt.splitScan d (a.length + 1) a).2 < a.length
  · have hne : (a.drop (TextExt.splitScan d (a.length + 1) a).2).isEmpty = false := by
      apply Bool.eq_false_iff.mpr
      intro he
      have := congrArg List.length (List.isEmpty_iff.mp he)
      simp at this; omega
    simp [hlt, hne]
  · have hnil : a.drop (TextExt.splitScan d (a.length + 1) a).2 = [] := List.drop_eq_nil_of_le (by omega)
    simp [hlt, hnil, hae]

/-- `printable()` — given that libc printed the hex escapes (`HexEnv`) -/
theorem printable_eq {self : Obj} {a : Bytes} (h : Holds self a) (w : World) (vs rest : List VsnRes)
    (henv : HexEnv a vs) (hv : w.vsn = vs ++ rest) :
    ∃ r w', printable self w = .ok (r, w') ∧ Holds r (TextExt.printable a) ∧ Sized r ∧ w'.vsn = rest ∧
      ∀ L, Owns w L → Owns w' ((r.id, r.size) :: L) := by
  have ⟨r, w', hrun, hh, hv'⟩ := printable_ok h w vs rest henv hv
  exact ⟨r, w', hrun, hh, (printable_eff self w r w' hrun).1.2, hv', (printable_eff self w r w' hrun).2⟩

/-- the size pre-computation is exact: it is the length of the escaped text -/
theorem printable_size_eq {self : Obj} {a : Bytes} (h : Holds self a) :
    getPrintableSize self = .ok (TextExt.printable a).length := getPrintableSize_ok h

/-! ## SimpleStringCollection -/

/-- `allocate(n)`: the old elements are destroyed (their buffers released), `size()` is `n`, every
    element is the empty string, `empty_` is untouched -/
theorem collection_allocate (col : Coll) (n : Nat) (w : World) :
    ∃ items w', collAllocate col n w = .ok (⟨items, col.empty⟩, w') ∧ items.length = n ∧
      (∀ o ∈ items, Holds o [] ∧ Sized o) ∧
      ∀ L, Owns w (ownedObjs col.items ++ L) → Owns w' (ownedObjs items ++ L) := by
  obtain ⟨w1, h1⟩ := dtorAllRev_total col.items w
  obtain ⟨items, w2, h2, hl, hh⟩ := ctorEmptyN_ok n w1
  have hrun : collAllocate col n w = .ok (⟨items, col.empty⟩, w2) := by
    simp only [collAllocate, bind_run, h1, h2, pure_run]
  exact ⟨items, w2, hrun, hl, hh, (collAllocate_items_eff col n w _ w2 hrun).2⟩

/-- `col[i]` inside the range is the element, nothing else happens -/
theorem collection_get_in_range {col : Coll} {i : Nat} {o : Obj} (h : col.items[i]? = some o) (w : World) :
    collGet col i w = .ok ((col, o), w) := by
  simp only [collGet, h, pure_run]

/-- an index past the end reads as the empty string (whatever was stored through such an index) -/
theorem collection_get_out_of_range {col : Coll} {i : Nat} (h : col.items[i]? = none) (w : World) :
    collGet col i w =
      .ok ((⟨col.items, mkObj (w.next + 1) []⟩, mkObj (w.next + 1) []),
           (((w.alloc 1).free col.empty.id col.empty.size).alloc 1).free w.next 1) := by
  simp only [collGet, h, bind_run, ctorEmpty_ok, assign_ok _ (holds_mkObj nulFree_nil), dtor_run, pure_run]
  simp

/-- `col[i] = v` inside the range replaces that element's buffer -/
theorem collection_assign_in_range {col : Coll} {i : Nat} {o value : Obj} {v : Bytes} (h : col.items[i]? = some o)
    (hv : Holds value v) (w : World) :
    collAssign col i value w =
      .ok (⟨col.items.set i (mkObj w.next v), col.empty⟩, (w.free o.id o.size).alloc (v.length + 1)) := by
  simp only [collAssign, h, bind_run, assign_ok o hv, pure_run]

/-- a store through an index past the end leaves every element as it is -/
theorem collection_assign_out_of_range {col : Coll} {i : Nat} {value : Obj} {v : Bytes} (h : col.items[i]? = none)
    (hv : Holds value v) (w : World) :
    collAssign col i value w =
      .ok (⟨col.items, mkObj (w.next + 2) v⟩,
           (((((w.alloc 1).free col.empty.id col.empty.size).alloc 1).free w.next 1).free (w.next + 1) 1).alloc
             (v.length + 1)) := by
  simp only [collAssign, h, bind_run, ctorEmpty_ok, assign_ok _ (holds_mkObj nulFree_nil), dtor_run,
    assign_ok _ hv, pure_run]
  simp

/-- any sequence of collection actions keeps the collection well-formed and its buffers paired -/
theorem collection_actions_pair {st : Store} {w0 : World} (hg : Good st w0) (acts : List CollAct) (col : Coll)
    (w : World) (col' : Coll) (w' : World) (hc : CollGood col) (h : runColl st acts col w = .ok (col', w')) :
    CollGood col' ∧ ∀ L, Owns w (collOwned col ++ L) → Owns w' (collOwned col' ++ L) :=
  runColl_eff hg acts col hc w col' w' h

/-! ## formatted construction: the glue around `vsnprintf` (whose results are inputs) -/

/-- a formatted length below 100: the stack buffer is used, no buffer is requested for the text -/
theorem format_fast_path {w : World} {r : VsnRes} {rest : List VsnRes} (hv : w.vsn = r :: rest)
    (hret : r.ret < sizeOfdefaultBuffer) (hlen : r.text.length < sizeOfdefaultBuffer) (hnf : NulFree r.text) :
    vStringFromFormat w =
      .ok (mkObj (w.next + 2) r.text,
           (((((w.alloc 1).vsnCall sizeOfdefaultBuffer r).alloc (r.text.length + 1)).free w.next 1).alloc
              (r.text.length + 1)).free (w.next + 1) (r.text.length + 1)) :=
  vStringFromFormat_fast hv hret hlen hnf

/-- a formatted length of 100 or more: exactly `length + 1` bytes are requested, filled by a second
    `vsnprintf` call, and released as `length + 1` bytes -/
theorem format_slow_path {w : World} {r r2 : VsnRes} {rest : List VsnRes} (hv : w.vsn = r :: r2 :: rest)
    (hret : ¬ r.ret < sizeOfdefaultBuffer) (hlen : r.text.length < sizeOfdefaultBuffer)
    (hlen2 : r2.text.length < r.ret + 1) (hnf : NulFree r2.text) :
    vStringFromFormat w =
      .ok (mkObj (w.next + 3) r2.text,
           (((((((((w.alloc 1).vsnCall sizeOfdefaultBuffer r).alloc (r.ret + 1)).vsnCall (r.ret + 1) r2).alloc
              (r2.text.length + 1)).free w.next 1).alloc (r2.text.length + 1)).free (w.next + 2)
              (r2.text.length + 1)).free (w.next + 1) (r.ret + 1))) := by
  have := vStringFromFormat_slow_cut hv hret hlen hlen2
  rwa [cut_of_nulFree hnf] at this

/-- the threshold is the regenerated size of the stack buffer -/
theorem format_threshold : sizeOfdefaultBuffer = Gen.Str.sizeOfdefaultBuffer := rfl

theorem stringFromFormat_fast_path {w : World} {r : VsnRes} {rest : List VsnRes} (hv : w.vsn = r :: rest)
    (hret : r.ret < sizeOfdefaultBuffer) (hlen : r.text.length < sizeOfdefaultBuffer) (hnf : NulFree r.text) :
    ∃ w', stringFromFormat w = .ok (mkObj (w.next + 4) r.text, w') ∧ w'.vsn = rest ∧ w'.junk = w.junk ∧
      w'.next = w.next + 5 ∧ ∀ L, Owns w L → Owns w' ((w.next + 4, r.text.length + 1) :: L) :=
  have ⟨w', hrun, h1, h2, h3⟩ := stringFromFormat_fast hv hret hlen hnf
  ⟨w', hrun, h1, h2, h3, (stringFromFormat_eff w _ w' hrun).2⟩

/-- `StringFromBinary` = two upper-case hex digits per byte joined by single blanks — given that
    libc printed each `"%02X "` (`BinEnv`); all temporaries released -/
theorem binary_eq (x : Bytes) (w : World) (vs rest : List VsnRes) (henv : BinEnv x vs) (hv : w.vsn = vs ++ rest) :
    ∃ r w', stringFromBinary x.length w = .ok (r, w') ∧ Holds r (TextExt.binary x) ∧ Sized r ∧ w'.vsn = rest ∧
      ∀ L, Owns w L → Owns w' ((r.id, r.size) :: L) :=
  have ⟨r, w', hrun, hh, hv'⟩ := stringFromBinary_ok x w vs rest henv hv
  ⟨r, w', hrun, hh, (stringFromBinary_eff _ w r w' hrun).1.2, hv', (stringFromBinary_eff _ w r w' hrun).2⟩

/-- `StringFromMaskedBits` (64-bit `unsigned long`) = the textbook rendering -/
theorem maskedBits_eq (v m k : Nat) (w : World) :
    Creates (stringFromMaskedBits v m k) w (fun r => Holds r (TextExt.maskedBits v m k)) :=
  Creates.of_eff (stringFromMaskedBits_eff v m k) (stringFromMaskedBits_ok v m k w)

/-- formatted construction pairs its buffers whatever `vsnprintf` answers (fast path, slow path,
    texts with embedded NULs, wrong lengths — a contract violation makes the model fail instead) -/
theorem format_pairs_always : PC vStringFromFormat ∧ PC stringFromFormat :=
  ⟨vStringFromFormat_eff.pc, stringFromFormat_eff.pc⟩

/-- `HexStringFrom(signed char)`: non-negative → what `printf("%x")` printed; negative → its last
    two characters (the two-digit cut) -/
theorem hexStringFromSignedChar_eq {w : World} {r : VsnRes} {rest : List VsnRes} (neg : Bool)
    (hv : w.vsn = r :: rest) (hret : r.ret < sizeOfdefaultBuffer) (hlen : r.text.length < sizeOfdefaultBuffer)
    (hnf : NulFree r.text) (h2 : 2 ≤ r.text.length) :
    Creates (hexStringFromSignedChar neg) w
      (fun o => Holds o (if neg then r.text.drop (r.text.length - 2) else r.text)) := by
  obtain ⟨w1, hf1, _⟩ := stringFromFormat_fast hv hret hlen hnf
  refine Creates.of_eff (hexStringFromSignedChar_eff neg) ?_
  simp only [hexStringFromSignedChar, bind_run, hf1]
  cases neg with
  | false =>
    simp only [Bool.false_eq_true, if_false, pure_run]
    exact ⟨_, _, rfl, holds_mkObj hnf⟩
  | true =>
    have hlt : r.text.length < npos := by
      simp only [sizeOfdefaultBuffer, Gen.Str.sizeOfdefaultBuffer] at hlen; simp only [npos]; omega
    simp only [if_true, bind_run, size_ok (holds_mkObj hnf), liftE_ok, h2, ge_iff_le]
    obtain ⟨t, w2, ht, hth, _⟩ := subString1_creates (holds_mkObj (i := w.next + 4) hnf) hlt (r.text.length - 2) w1
    simp only [Text.subStringFrom] at hth
    simp only [ht, assign_ok _ hth, dtor_run, pure_run]
    exact ⟨_, _, rfl, holds_mkObj hth.nulFree⟩

/-- `BracketsFormattedHexString(h)` = `"(0x" ++ h ++ ")"` (no environment involved) -/
theorem brackets_eq {hexString : Obj} {a : Bytes} (h : Holds hexString a) (w : World) :
    Creates (bracketsFormattedHexString hexString) w (fun r => Holds r ([40, 48, 120] ++ a ++ [41])) := by
  have hc : CAt [41, 0] 0 [41] := ⟨by decide, [], rfl⟩
  have ha : CAt [40, 48, 120, 0] 0 [40, 48, 120] := ⟨by decide, [], rfl⟩
  refine Creates.of_eff (brackets_eff hexString) ?_
  simp only [bracketsFormattedHexString, bind_run, ctorCStr_ok hc, ctorCStr_ok ha,
    plus_ok (holds_mkObj ha.nulFree) h,
    plus_ok (holds_append ha.nulFree h.nulFree) (holds_mkObj hc.nulFree), dtor_run, pure_run]
  exact ⟨_, _, rfl, holds_append (nulFree_append.mpr ⟨ha.nulFree, h.nulFree⟩) hc.nulFree⟩

/-- `BracketsFormattedHexStringFrom(v)` = `"(0x" ++ <what printf printed> ++ ")"` -/
theorem bracketsFromFormat_eq {w : World} {r : VsnRes} {rest : List VsnRes}
    (hv : w.vsn = r :: rest) (hret : r.ret < sizeOfdefaultBuffer) (hlen : r.text.length < sizeOfdefaultBuffer)
    (hnf : NulFree r.text) :
    Creates (do let h ← stringFromFormat; let o ← bracketsFormattedHexString h; dtor h; pure o) w
      (fun o => Holds o ([40, 48, 120] ++ r.text ++ [41])) := by
  obtain ⟨w1, hf1, _⟩ := stringFromFormat_fast hv hret hlen hnf
  obtain ⟨o, w2, hb1, hb2, _⟩ := brackets_eq (holds_mkObj (i := w.next + 4) hnf) w1
  refine Creates.of_eff (eff_with_temp stringFromFormat_eff fun o _ => brackets_eff o) ?_
  simp only [bind_run, hf1, hb1, dtor_run, pure_run]
  exact ⟨_, _, rfl, hb2⟩

/-- `StringFrom(const void*)` / `StringFrom(void (*)())` = `"0x" ++ <what printf printed>` -/
theorem stringFromPointer_eq {w : World} {r : VsnRes} {rest : List VsnRes}
    (hv : w.vsn = r :: rest) (hret : r.ret < sizeOfdefaultBuffer) (hlen : r.text.length < sizeOfdefaultBuffer)
    (hnf : NulFree r.text) :
    Creates stringFromPointer w (fun o => Holds o ([48, 120] ++ r.text)) := by
  obtain ⟨w1, hf1, _⟩ := stringFromFormat_fast hv hret hlen hnf
  have hx : CAt [48, 120, 0] 0 [48, 120] := ⟨by decide, [], rfl⟩
  refine Creates.of_eff stringFromPointer_eff ?_
  simp only [stringFromPointer, bind_run, hf1, ctorCStr_ok hx,
    plus_ok (holds_mkObj hx.nulFree) (holds_mkObj (i := w.next + 4) hnf), dtor_run, pure_run]
  exact ⟨_, _, rfl, holds_append hx.nulFree hnf⟩

/-- `StringFrom(bool)` is exactly what `printf("%s", "true"/"false")` printed -/
theorem stringFromBool_eq {w : World} {r : VsnRes} {rest : List VsnRes} (b : Bool)
    (hv : w.vsn = r :: rest) (hret : r.ret < sizeOfdefaultBuffer)
    (htext : r.text = if b then [116, 114, 117, 101] else [102, 97, 108, 115, 101]) :
    Creates stringFromFormat w (fun o => Holds o (if b then [116, 114, 117, 101] else [102, 97, 108, 115, 101])) := by
  have hnf : NulFree r.text := by rw [htext]; cases b <;> decide
  have hlen : r.text.length < sizeOfdefaultBuffer := by
    rw [htext]; cases b <;> simp [sizeOfdefaultBuffer, Gen.Str.sizeOfdefaultBuffer]
  obtain ⟨w1, hf1, _⟩ := stringFromFormat_fast hv hret hlen hnf
  exact Creates.of_eff stringFromFormat_eff ⟨_, _, hf1, by rw [← htext]; exact holds_mkObj hnf⟩

/-- `StringFromBinaryWithSize`: the header libc printed, the first `min n 128` bytes as hex pairs,
    `" ..."` exactly when `n > 128` -/
theorem binaryWithSize_eq (x : Bytes) (w : World) (hdr : VsnRes) (vs rest : List VsnRes)
    (hv : w.vsn = hdr :: (vs ++ rest)) (hret : hdr.ret < sizeOfdefaultBuffer)
    (hlen : hdr.text.length < sizeOfdefaultBuffer) (hnf : NulFree hdr.text) (henv : BinEnv (x.take 128) vs) :
    Creates (stringFromBinaryWithSize false x.length) w
      (fun o => Holds o (hdr.text ++ TextExt.binary (x.take 128) ++ (if x.length > 128 then [32, 46, 46, 46] else []))) := by
  obtain ⟨w1, hf1, hf2, _⟩ := stringFromFormat_fast hv hret hlen hnf
  have hk : (if x.length > Gen.Str.binaryDisplayLimit then Gen.Str.binaryDisplayLimit else x.length) = (x.take 128).length := by
    simp only [Gen.Str.binaryDisplayLimit, List.length_take]; split <;> omega
  obtain ⟨b, w2, hb1, hb2, _⟩ := stringFromBinary_ok (x.take 128) w1 vs rest henv hf2
  obtain ⟨r3, w3, ha1, ha2, _⟩ := appendC_replaces (holds_mkObj (i := w.next + 4) hnf) hb2 w2
  refine Creates.of_eff (stringFromBinaryWithSize_eff false _) ?_
  simp only [stringFromBinaryWithSize, bind_run, hf1, hk, stringFromBinaryOrNull, Bool.false_eq_true, if_false, hb1]
  have ha1' : appendC (mkObj (w.next + 4) hdr.text) b.buf 0 w2 = .ok (r3, w3) := ha1
  simp only [ha1', dtor_run]
  by_cases hc : x.length > (x.take 128).length
  · have hgt : x.length > 128 := by simp only [List.length_take] at hc; omega
    simp only [hc, if_true, hgt]
    obtain ⟨r4, w4, he1, he2, _⟩ := appendC_replaces ha2 ellipsis_at (w3.free b.id b.size)
    exact ⟨r4, w4, he1, he2⟩
  · have hle : ¬ x.length > 128 := by simp only [List.length_take] at hc; omega
    simp only [hc, if_false, hle, pure_run, List.append_nil]
    exact ⟨r3, _, rfl, ha2⟩

/-- … which is `TextExt.binaryWithSize x` when the header is `"Size = <n> | HexContents = "` -/
theorem binaryWithSize_textbook (x : Bytes) {hdr : VsnRes} (h : hdr.text = TextExt.sizeHeader x.length) :
    hdr.text ++ TextExt.binary (x.take 128) ++ (if x.length > 128 then [32, 46, 46, 46] else []) =
      TextExt.binaryWithSize x := by
  rw [h]; rfl

/-- the suffix `StringFromOrdinalNumber` hands to `printf` (over the regenerated rule constants) -/
theorem ordinal_suffix_eq (n : Nat) : SStr.ordinalSuffix n = TextExt.ordinalSuffix n := by
  simp only [SStr.ordinalSuffix, TextExt.ordinalSuffix, Gen.Str.ordinalMod, Gen.Str.ordinalLo, Gen.Str.ordinalHi,
    Gen.Str.ordinalDigitMod, Gen.Str.ordinalTable, Gen.Str.ordinalDefault]
  by_cases hteen : 11 ≤ n % 100 ∧ n % 100 ≤ 13
  · have : ¬ (n % 100 < 11 ∨ n % 100 > 13) := by omega
    simp only [this, if_false, hteen, and_self, if_true]
  · have : n % 100 < 11 ∨ n % 100 > 13 := by omega
    simp only [this, if_true, hteen, if_false]
    -- both sides depend on the last digit only
    generalize n % 10 = d
    rcases d with _ | _ | _ | _ | d
    · rfl
    · rfl
    · rfl
    · rfl
    · have e : ∀ k : Nat, k < 4 → (k == d + 4) = false := fun k hk => by simpa using (by omega : k ≠ d + 4)
      simp [List.find?, e]

/-! ## allocator pairing over operation sequences -/

/-- replaying a log distributes over `++`: the second part is replayed from where the first ended -/
theorem replay_append (l1 l2 : List Ev) (L : List (Nat × Nat)) :
    liveAfter (l1 ++ l2) L = (liveAfter l1 L).bind (liveAfter l2) := liveAfter_append l1 l2 L

/-- One operation of the scripts, whichever it is (object-level operations, `replace(c, '\0')`, the
    formatted-construction family `Op.fmt`, `printable`, `split`), keeps the invariant `Good`, whatever `vsnprintf` answered
    (an answer that breaks the libc contract makes the model fail, never mis-pair): each live object owns exactly one
    outstanding buffer under its recorded size, and every temporary buffer of the operation was released exactly once with
    its size.  No hypothesis on operands or environment besides success and `size_t` range. -/
theorem step_keeps_pairing_full {st st' : Store} {w w' : World} {op : Op} (hg : Good st w)
    (hs : step st op w = .ok (st', w')) (hfit : Fits st') : Good st' w' :=
  step_keeps st w op hg st' w' hs hfit

/-- every successful script, of any length and of any operations, from the empty state -/
theorem script_keeps_pairing {ops : List Op} {st' : Store} {w' : World} (hr : Run [] {} ops st' w') :
    Good st' w' := run_good hr Good.init

/-- … hence its log replays without a mismatch and the outstanding buffers are the live objects' -/
theorem each_buffer_released_once_same_size {ops : List Op} {st' : Store} {w' : World} (hr : Run [] {} ops st' w') :
    ∃ L, liveAfter w'.log [] = some L ∧ L.Perm (owned st') := by
  obtain ⟨L0, h1, h2, _⟩ := (run_good hr Good.init).owns
  exact ⟨L0, h1, h2⟩

/-- … and a script that ends by destroying all objects has released every buffer it ever
    requested, exactly once, with the requested size -/
theorem script_then_delall_releases_everything {ops : List Op} {st' : Store} {w' : World}
    (hr : Run [] {} (ops ++ [.delall]) st' w') : liveAfter w'.log [] = some [] ∧ st' = [] := by
  have key : ∀ {st w ops st1 w1}, Run st w ops st1 w1 → ops ≠ [] → ops.getLast? = some Op.delall → st1 = [] := by
    intro st w ops st1 w1 h
    induction h with
    | nil => intro h; exact absurd rfl h
    | @cons st w op ops st1 w1 st2 w2 vs hs hfit hrest ih =>
      intro _ hl
      cases ops with
      | nil =>
        cases hrest
        simp at hl; subst hl
        simp only [step, bind_run] at hs
        cases hd : delAll (List.mergeSort st fun a b => decide (a.1 ≤ b.1)) { w with vsn := vs } with
        | error e => simp [hd] at hs
        | ok p => simp [hd] at hs; exact hs.1
      | cons o os => exact ih (by simp) (by simpa using hl)
  have hst : st' = [] := key hr (by simp) (by simp)
  obtain ⟨L0, h1, h2⟩ := each_buffer_released_once_same_size hr
  rw [hst] at h2
  simp only [owned, List.map_nil, List.perm_nil] at h2
  exact ⟨by rw [h1, h2], hst⟩

/-! ## non-vacuity -/

/-- "ab" inside a larger buffer with junk before and after -/
example : CAt [7, 7, 97, 98, 0, 9, 9] 2 [97, 98] := ⟨by decide, [9, 9], rfl⟩
example : StrLen [7, 7, 97, 98, 0, 9, 9] 2 = .ok 2 := rfl
/-- an unterminated buffer is an out-of-bounds read in the model -/
example : StrLen [97, 98] 0 = .error .oob := rfl
example : Holds (mkObj 5 [97, 97, 97]) [97, 97, 97] := holds_mkObj (by decide)
/-- corner cases: overlapping occurrences in `replaceAll`, `subString` past the end, `split` -/
example : Text.replaceAll [97, 97, 97] [97, 97] [98] = [98, 97] := by decide
example : Text.subString [] 5 2 = [] := by decide
example : TextExt.split [97, 45, 45, 98] [45, 45] = [[97, 45, 45], [98]] := by decide
example : TextExt.split [] [45] = [[]] ∧ TextExt.split [] [] = [] ∧ TextExt.split [97, 98] [] = [[97], [98]] := by decide
example : TextExt.printable [128, 10, 65] = [92, 120, 56, 48, 92, 110, 65] := by decide
example : HexEnv [128, 10, 65] [⟨5, [92, 120, 56, 48, 32]⟩] := ⟨by decide, by decide⟩
/-- " -12x": two blanks, a sign, two digits, a rest -/
example : TextExt.atoi ([32, 9] ++ [45] ++ [49, 50] ++ [120]) = -12 := by decide
example : TextExt.digitsVal 0 [49, 50] = 12 := by decide
/-- the collection read past its end, on the model: `empty_` comes back as "" -/
example : ∃ e w', collGet ⟨[], mkObj 7 [97]⟩ 3 {} = .ok ((⟨[], e⟩, e), w') ∧ Holds e [] :=
  ⟨_, _, collection_get_out_of_range (by rfl) {}, holds_mkObj (by decide)⟩
example : CollGood ⟨[mkObj 1 [97]], mkObj 2 []⟩ :=
  ⟨by intro o ho; simp at ho; subst ho; exact ⟨hasStr_mk _ (by decide), sized_mkObj _ _⟩,
   hasStr_mk _ (by decide), sized_mkObj _ _⟩
example : TextExt.binaryWithSize [0, 255] = TextExt.sizeHeader 2 ++ [48, 48, 32, 70, 70] := by decide

/-- a concrete script: `a = "ab"; b = a + a; b.replace("ba", "x"); delete a; delete b` -/
def exOps : List Op :=
  [.new "a" [97, 98, 0], .plus "b" "a" "a", .repl "b" [98, 97, 0] [120, 0], .del "a", .del "b"]

def exState : Nat → Store × World
  | 0 => ([], {})
  | n + 1 =>
    match exOps[n]? with
    | some op =>
      match step (exState n).1 op (exState n).2 with
      | .ok p => p
      | .error _ => ([], {})
    | none => ([], {})

theorem exRun : Run [] {} exOps (exState 5).1 (exState 5).2 := run_of_runAll _ _ _ rfl

example : (exState 3).1.map (fun p => (p.1, cview p.2.buf)) = [("a", [97, 98]), ("b", [97, 120, 98])] := by decide
/-- the pairing theorem applies to it: nothing is outstanding at the end -/
example : liveAfter (exState 5).2.log [] = some [] := by
  obtain ⟨L, h1, h2⟩ := each_buffer_released_once_same_size exRun
  have : (exState 5).1 = [] := by decide
  rw [this] at h2
  simp only [owned, List.map_nil, List.perm_nil] at h2
  rw [h1, h2]

/-! ## the primitives as REGENERATED from `SimpleString.cpp` (`Gen/StringPrims.lean`)

`translate/extract_string_prims.py` turns clang's typed AST of the fourteen primitives into the Lean
functions `Gen.StrPrims.*` (loops = recursion on a fuel argument, `*p` = bounded read `rd`, `char` signed,
`size_t` modulo 2^64, `int` range-checked).  The theorems below are about THOSE definitions, so they are
re-checked against what the source says at check time.  Two forms for each primitive:
`…_is_model`: the regenerated function equals the hand-written model of `Base/CString.lean` on EVERY
input (error outcomes included) — hence every theorem of this file and of C02x/C03x/C12x that goes
through the hand model speaks about the code; `gen_…_eq`: for C strings and enough fuel (stated bound:
more than the string/count, at most 2^64) it returns the textbook value, i.e. no out-of-bounds access
(`Err.oob`), no exhausted fuel (termination), no signed overflow. -/

theorem gen_charclass_is_model (c : UInt8) :
    Gen.StrPrims.isDigit c = CStr.isDigit c ∧ Gen.StrPrims.isSpace c = CStr.isSpace c ∧
    Gen.StrPrims.isUpper c = CStr.isUpper c ∧ Gen.StrPrims.isControl c = CStr.isControl c ∧
    Gen.StrPrims.isControlWithShortEscapeSequence c = CStr.isControlWithShortEscapeSequence c :=
  ⟨GenPrims.isDigit_eq c, GenPrims.isSpace_eq c, GenPrims.isUpper_eq c, GenPrims.isControl_eq c,
   GenPrims.isControlWithShortEscapeSequence_eq c⟩

/-- the regenerated character classes have their textbook meaning (`char` is signed: bytes ≥ 0x80 are control) -/
theorem gen_charclass_textbook (c : UInt8) :
    (Gen.StrPrims.isDigit c = true ↔ 48 ≤ c.toNat ∧ c.toNat ≤ 57) ∧
    (Gen.StrPrims.isSpace c = TextExt.isBlank c) ∧
    (Gen.StrPrims.isUpper c = true ↔ 65 ≤ c.toNat ∧ c.toNat ≤ 90) ∧
    (Gen.StrPrims.isControl c = true ↔ c.toNat < 32 ∨ c.toNat = 127 ∨ 128 ≤ c.toNat) ∧
    (Gen.StrPrims.isControlWithShortEscapeSequence c = true ↔ 7 ≤ c.toNat ∧ c.toNat ≤ 13) := by
  rw [GenPrims.isDigit_eq, GenPrims.isSpace_eq, GenPrims.isUpper_eq, GenPrims.isControl_eq,
    GenPrims.isControlWithShortEscapeSequence_eq]
  simp only [CStr.isDigit, CStr.isUpper, CStr.isControl, CStr.isControlWithShortEscapeSequence, Bool.and_eq_true,
    Bool.or_eq_true, decide_eq_true_eq, UInt8.le_iff_toNat_le, UInt8.lt_iff_toNat_lt, beq_iff_eq, ← UInt8.toNat_inj,
    or_assoc]
  exact ⟨Iff.rfl, isSpace_eq_isBlank c, Iff.rfl, Iff.rfl, Iff.rfl⟩

theorem gen_tolower_is_model (c : UInt8) : Gen.StrPrims.ToLower c = CStr.ToLower c := (GenPrims.charclass_eq c).2.2.2.2.2
theorem gen_tolower_eq (c : UInt8) : Gen.StrPrims.ToLower c = Text.lowerByte c := by
  rw [gen_tolower_is_model]; exact ToLower_eq_lowerByte c

theorem gen_strlen_is_model (b : Buf) (p : Nat) (hb : b.length + 1 < 18446744073709551616) :
    Gen.StrPrims.StrLen (b.length + 1) b p = CStr.StrLen b p := GenPrims.StrLen_eq b p hb
theorem gen_strlen_eq {b : Buf} {p : Nat} {a : Bytes} (h : CAt b p a) (fuel : Nat) (hf : a.length < fuel)
    (hm : fuel < 18446744073709551616) : Gen.StrPrims.StrLen fuel b p = .ok a.length := GenPrims.StrLen_ok h fuel hf hm

theorem gen_strcmp_is_model (b1 b2 : Buf) (p1 p2 : Nat) :
    Gen.StrPrims.StrCmp (b1.length + 1) b1 p1 b2 p2 = CStr.StrCmp b1 p1 b2 p2 := by
  unfold Gen.StrPrims.StrCmp CStr.StrCmp; exact GenPrims.StrCmp_loop_eq _ _ _ _ _ _
theorem gen_strcmp_eq {b1 b2 : Buf} {p1 p2 : Nat} {a1 a2 : Bytes} (h1 : CAt b1 p1 a1) (h2 : CAt b2 p2 a2)
    (fuel : Nat) (hf : a1.length < fuel) : Gen.StrPrims.StrCmp fuel b1 p1 b2 p2 = .ok (Text.cmp a1 a2) :=
  GenPrims.StrCmp_ok h1 h2 fuel hf
theorem gen_strcmp_zero_iff_eq {b1 b2 : Buf} {p1 p2 : Nat} {a1 a2 : Bytes} (h1 : CAt b1 p1 a1) (h2 : CAt b2 p2 a2)
    (fuel : Nat) (hf : a1.length < fuel) : Gen.StrPrims.StrCmp fuel b1 p1 b2 p2 = .ok 0 ↔ a1 = a2 := by
  rw [GenPrims.StrCmp_ok h1 h2 fuel hf]; exact ok_cmp_zero_iff h1.1 h2.1

theorem gen_strncmp_is_model (fuel : Nat) (b1 b2 : Buf) (p1 p2 n : Nat) (hf : n < fuel) (hn : n < 18446744073709551616) :
    Gen.StrPrims.StrNCmp fuel b1 p1 b2 p2 n = CStr.StrNCmp b1 p1 b2 p2 n := GenPrims.StrNCmp_eq fuel b1 b2 p1 p2 n hf hn
theorem gen_strncmp_eq {b1 b2 : Buf} {p1 p2 : Nat} {a1 a2 : Bytes} (h1 : CAt b1 p1 a1) (h2 : CAt b2 p2 a2)
    (fuel n : Nat) (hf : n < fuel) (hn : n < 18446744073709551616) :
    Gen.StrPrims.StrNCmp fuel b1 p1 b2 p2 n = .ok (Text.ncmp n a1 a2) := GenPrims.StrNCmp_ok h1 h2 fuel n hf hn

theorem gen_memcmp_is_model (fuel : Nat) (b1 b2 : Buf) (p1 p2 n : Nat) (hf : n < fuel) (hn : n < 18446744073709551616) :
    Gen.StrPrims.MemCmp fuel b1 p1 b2 p2 n = CStr.MemCmp b1 p1 b2 p2 n := GenPrims.MemCmp_eq fuel b1 b2 p1 p2 n hf hn
theorem gen_memcmp_eq (fuel n : Nat) (b1 b2 : Buf) (p1 p2 : Nat) (h1 : n ≤ (b1.drop p1).length)
    (h2 : n ≤ (b2.drop p2).length) (hf : n < fuel) (hn : n < 18446744073709551616) :
    Gen.StrPrims.MemCmp fuel b1 p1 b2 p2 n = .ok (TextExt.memCmp n (b1.drop p1) (b2.drop p2)) := by
  rw [GenPrims.MemCmp_eq fuel b1 b2 p1 p2 n hf hn, MemCmp_ok n b1 b2 p1 p2 h1 h2]

/-- non-NULL destination: the buffer the hand model computes, and the destination pointer is returned -/
theorem gen_strncpy_is_model (fuel : Nat) (dst src : Buf) (dp sp n : Nat) (hf : n ≤ fuel) (hn : n < 18446744073709551616) :
    Gen.StrPrims.StrNCpy fuel false dst dp src sp n = GenPrims.withPtr dp (CStr.StrNCpy dst dp src sp n) :=
  GenPrims.StrNCpy_eq fuel dst src dp sp n hf hn
theorem gen_strncpy_eq {dst src : Buf} {dp sp n : Nat} {a : Bytes} (h : CAt src sp a)
    (hfit : dp + min n (a.length + 1) ≤ dst.length) (fuel : Nat) (hf : n ≤ fuel) (hn : n < 18446744073709551616) :
    Gen.StrPrims.StrNCpy fuel false dst dp src sp n =
      .ok (some dp, dst.take dp ++ (cz a).take n ++ dst.drop (dp + min n (a.length + 1))) :=
  GenPrims.StrNCpy_ok h hfit fuel hf hn
/-- `StrNCpy(NULL, …)` and `StrNCpy(…, 0)` touch nothing (the guard of the code, regenerated) -/
theorem gen_strncpy_null_or_zero (fuel : Nat) (nl : Bool) (dst src : Buf) (dp sp n : Nat) (h : nl = true ∨ n = 0) :
    Gen.StrPrims.StrNCpy fuel nl dst dp src sp n = .ok ((if nl then none else some dp), dst) := by
  rcases h with h | h
  · subst h; exact GenPrims.StrNCpy_null fuel dst src dp sp n
  · subst h; exact GenPrims.StrNCpy_zero fuel nl dst src dp sp

theorem gen_strstr_is_model (b1 b2 : Buf) (p1 p2 : Nat) {a2 : Bytes} (h2 : CAt b2 p2 a2) (hf : a2.length < b1.length + 1)
    (hm : b1.length + 1 < 18446744073709551616) :
    Gen.StrPrims.StrStr (b1.length + 1) b1 p1 b2 p2 = CStr.StrStr b1 p1 b2 p2 := GenPrims.StrStr_eq b1 b2 p1 p2 h2 hf hm
theorem gen_strstr_eq {b1 b2 : Buf} {p1 p2 : Nat} {a1 a2 : Bytes} (h1 : CAt b1 p1 a1) (h2 : CAt b2 p2 a2) (fuel : Nat)
    (hf1 : a1.length < fuel) (hf2 : a2.length < fuel) (hm : fuel < 18446744073709551616) :
    Gen.StrPrims.StrStr fuel b1 p1 b2 p2 = .ok ((TextExt.strStr a1 a2).map (· + p1)) :=
  GenPrims.StrStr_ok h1 h2 fuel hf1 hf2 hm

theorem gen_atou_is_model (b : Buf) (p : Nat) : Gen.StrPrims.AtoU (b.length + 1) b p = CStr.AtoU b p := by
  unfold Gen.StrPrims.AtoU CStr.AtoU
  rw [GenPrims.AtoU_loop1_eq]
  cases skipSpaces b (b.length + 1) p <;> rfl
theorem gen_atou_eq {b : Buf} {p : Nat} {a : Bytes} (h : CAt b p a) :
    Gen.StrPrims.AtoU (b.length + 1) b p = .ok (TextExt.atou a) := by
  rw [gen_atou_is_model, atou_eq h]

/-- `AtoI` as regenerated, on every input: also the overflow outcome (`Err.overflow` = undefined behaviour of
    `result *= 10` / `result += …` on `int`) is the hand model's -/
theorem gen_atoi_is_model (b : Buf) (p : Nat) : Gen.StrPrims.AtoI (b.length + 1) b p = CStr.AtoI b p := by
  unfold Gen.StrPrims.AtoI CStr.AtoI
  rw [GenPrims.AtoI_loop1_eq]
  cases hs : skipSpaces b (b.length + 1) p with
  | error e => rfl
  | ok q =>
    cases hr : rd b q with
    | error e => simp [hr]
    | ok first =>
      simp only [hr]
      cases hl : atoILoop b (b.length + 1) (if first = 45 ∨ first = 43 then q + 1 else q) 0 <;> simp [GenPrims.signed]
theorem gen_atoi_eq {b : Buf} {p : Nat} {a : Bytes} (h : CAt b p a) (hfit : TextExt.atoiMagnitude a ≤ 2147483647) :
    Gen.StrPrims.AtoI (b.length + 1) b p = .ok (TextExt.atoi a) := by
  rw [gen_atoi_is_model, atoi_eq h hfit]

/-! non-vacuity: the regenerated functions run on concrete buffers -/
example : Gen.StrPrims.StrLen 8 [7, 7, 97, 98, 0, 9, 9] 2 = .ok 2 := rfl
/-- an unterminated buffer: the regenerated code reads out of bounds exactly like the model -/
example : Gen.StrPrims.StrLen 3 [97, 98] 0 = .error .oob := rfl
/-- too little fuel is reported, never a wrong value -/
example : Gen.StrPrims.StrLen 2 [97, 98, 0] 0 = .error .fuel := rfl
example : Gen.StrPrims.StrCmp 4 [97, 98, 0] 0 [97, 200, 0] 0 = .ok (-102) := rfl
example : Gen.StrPrims.StrNCmp 4 [97, 98, 0] 0 [97, 99, 0] 0 1 = .ok 0 := rfl
example : Gen.StrPrims.MemCmp 4 [0, 1, 2] 0 [0, 1, 3] 0 3 = .ok (-1) := rfl
example : Gen.StrPrims.StrNCpy 9 false [238, 238, 238, 238] 1 [97, 0] 0 5 = .ok (some 1, [238, 97, 0, 238]) := rfl
example : Gen.StrPrims.StrStr 5 [97, 97, 98, 0] 0 [97, 98, 0] 0 = .ok (some 1) := rfl
example : Gen.StrPrims.AtoU 6 [32, 52, 50, 120, 0] 0 = .ok 42 := rfl
example : Gen.StrPrims.AtoI 6 [9, 45, 49, 50, 0] 0 = .ok (-12) := rfl
/-- 2147483648 does not fit `int`: the regenerated code reports the signed overflow -/
example : Gen.StrPrims.AtoI 12 [50, 49, 52, 55, 52, 56, 51, 54, 52, 56, 0] 0 = .error .overflow := rfl
example : Gen.StrPrims.ToLower 65 = 97 ∧ Gen.StrPrims.ToLower 193 = 193 ∧ Gen.StrPrims.isControl 200 = true := by decide +kernel

/-! ## the allocation-free methods as REGENERATED (`Gen.StrPrims.m_*`: compositions of the regenerated primitives)

`size`, `isEmpty`, `at`, `contains`, `startsWith`, `endsWith`, `findFrom`, `find` are translated from the clang AST
too (`getBuffer()` = offset 0 of the object's buffer; pointer comparisons and `getBuffer() + length - other_length`
as offsets).  For objects holding C strings and any fuel above both lengths (below 2^64) they return the textbook
value — so the links used by C02 (`contains` = `Text.isInfix`), C03 and C12 speak about the source as it is. -/

theorem gen_size_eq {o : Obj} {a : Bytes} (h : Holds o a) (fuel : Nat) (hf : a.length < fuel) (hm : fuel < 18446744073709551616) :
    Gen.StrPrims.m_size fuel o.buf = .ok a.length := GenPrims.m_size_ok h fuel hf hm
theorem gen_isEmpty_eq {o : Obj} {a : Bytes} (h : Holds o a) (fuel : Nat) (hf : a.length < fuel) (hm : fuel < 18446744073709551616) :
    Gen.StrPrims.m_isEmpty fuel o.buf = .ok a.isEmpty := GenPrims.m_isEmpty_ok h fuel hf hm
theorem gen_at_eq {self : Obj} {a : Bytes} (h : Holds self a) (fuel pos : Nat) (hp : pos ≤ a.length) :
    Gen.StrPrims.m_at fuel self.buf pos = .ok ((cz a).getD pos 0) := by
  rw [GenPrims.m_at_eq]; exact at_eq h pos hp
theorem gen_contains_iff_isInfix {self other : Obj} {a b : Bytes} (h : Holds self a) (hb : Holds other b) (fuel : Nat)
    (hf1 : a.length < fuel) (hf2 : b.length < fuel) (hm : fuel < 18446744073709551616) :
    Gen.StrPrims.m_contains fuel self.buf other.buf = .ok (Text.isInfix a b) := GenPrims.m_contains_ok h hb fuel hf1 hf2 hm
theorem gen_startsWith_eq {self other : Obj} {a b : Bytes} (h : Holds self a) (hb : Holds other b) (fuel : Nat)
    (hf1 : a.length < fuel) (hf2 : b.length < fuel) (hm : fuel < 18446744073709551616) :
    Gen.StrPrims.m_startsWith fuel self.buf other.buf = .ok (Text.startsWith a b) := by
  rw [GenPrims.m_startsWith_eq h hb fuel hf1 hf2 hm]; exact startsWith_eq h hb
theorem gen_endsWith_eq {self other : Obj} {a b : Bytes} (h : Holds self a) (hb : Holds other b) (fuel : Nat)
    (hf1 : a.length < fuel) (hf2 : b.length < fuel) (hm : fuel < 18446744073709551616) :
    Gen.StrPrims.m_endsWith fuel self.buf other.buf = .ok (Text.endsWith a b) := by
  rw [GenPrims.m_endsWith_eq h hb fuel hf1 hf2 hm]; exact endsWith_ok h hb
theorem gen_findFrom_eq {self : Obj} {a : Bytes} (h : Holds self a) (fuel : Nat) (hf : a.length < fuel)
    (hm : fuel < 18446744073709551616) (start : Nat) (ch : UInt8) :
    Gen.StrPrims.m_findFrom fuel self.buf start ch = .ok ((Text.findFrom a start ch).getD npos) := by
  rw [GenPrims.m_findFrom_eq h fuel hf hm]; exact findFrom_ok h start ch
theorem gen_find_eq {self : Obj} {a : Bytes} (h : Holds self a) (fuel : Nat) (hf : a.length < fuel)
    (hm : fuel < 18446744073709551616) (ch : UInt8) :
    Gen.StrPrims.m_find fuel self.buf ch = .ok ((Text.find a ch).getD npos) := by
  rw [GenPrims.m_find_eq h fuel hf hm]; exact find_ok h ch

example : Gen.StrPrims.m_endsWith 5 [97, 98, 99, 0] [98, 99, 0] = .ok true := rfl
example : Gen.StrPrims.m_startsWith 5 [97, 98, 99, 0] [98, 0] = .ok false := rfl
example : Gen.StrPrims.m_contains 5 [0] [0] = .ok true := rfl
example : Gen.StrPrims.m_findFrom 5 [97, 98, 97, 0] 1 97 = .ok 2 := rfl
example : Gen.StrPrims.m_findFrom 5 [97, 98, 97, 0] 7 97 = .ok 18446744073709551615 := rfl

end C13
