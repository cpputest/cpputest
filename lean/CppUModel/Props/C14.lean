import CppUModel.Proofs.DiagnosticsCode
import CppUModel.Model.DiagnosticsCode
import CppUModel.Proofs.TextLemmas
import CppUModel.Proofs.ListLemmas
/-!
# C14 — diagnostics are safe to build, bounded, and say what happened

Model: `CppUModel/Model/Diagnostics.lean` (from `src/CppUTest/TestFailure.cpp`
and the `SimpleStringBuffer` / `MemoryLeakOutputStringBuffer` part of `src/CppUTest/MemoryLeakDetector.cpp`);
vocabulary: `CppUModel/Spec/Diagnostics.lean`; formats, macro texts and sizes:
`CppUModel/Gen/DiagnosticsConstants.lean` (regenerated from the sources on every run).
-/
namespace Diag
open Fmt Gen.Diag DiagSpec

/-- the write limit while leaks are listed -/
def listLimit : Nat := bufferLen - footerSizeWithMallocWarning

/-- The reserve computed in `startMemoryLeakReporting` does not wrap around and leaves a proper limit. -/
theorem reserve_no_wrap : footerSizeWithMallocWarning ≤ bufferLen ∧ listLimitArg = listLimit ∧ listLimit ≤ cap := by
  decide +kernel

theorem tooMuchText_eq : tooMuchText = tooMuch := List.append_nil _

theorem mallocWarningText_eq : mallocWarningText = mallocWarning := List.append_nil _

/-- `(int) line`: a line number below 2^31 is printed as it is … -/
theorem castInt32_small (n : Nat) (h : n < 2147483648) : castInt32 n = (n : Int) := by
  have h1 : n % 4294967296 = n := Nat.mod_eq_of_lt (by omega)
  simp [castInt32, h1, h]

/-- … one in [2^31, 2^32) comes out negative (`n - 2^32`) … -/
theorem castInt32_wrap (n : Nat) (h1 : 2147483648 ≤ n) (h2 : n < 4294967296) : castInt32 n = (n : Int) - 4294967296 := by
  have hm : n % 4294967296 = n := Nat.mod_eq_of_lt h2
  have : ¬ (n < 2147483648) := by omega
  simp [castInt32, hm, this]

/-- … and only the low 32 bits count -/
theorem castInt32_periodic (n : Nat) : castInt32 (n + 4294967296) = castInt32 n := by
  simp [castInt32, Nat.add_mod_right]

theorem footerLine_eq (n : Nat) (h : n < 2147483648) : footerLine n = footerText ++ [32] ++ decNat n ++ [10] := by
  have hd : decInt (n : Int) = decNat n := by
    have : ¬ ((n : Int) < 0) := by omega
    simp [decInt, this]
  simp [footerLine, footerFmt, render, renderOne, castInt32_small n h, hd]

theorem footerLine_length_le (n : Nat) (h : n < 2147483648) : (footerLine n).length ≤ footerText.length + 12 := by
  rw [footerLine_eq n h]
  have := decNat_length_le n 10 (by omega) (by omega)
  simp; omega

/-- the reserve is tight: an 11-character total would not fit any more -/
theorem footer_reserve_tight :
    listLimit + tooMuchText.length + (footerText.length + 12) + mallocWarningText.length = cap := by decide +kernel

/-- the space reserved while leaks are listed is enough for the too-many notice, the
    total line (any total below 2^31) and the malloc note together, computed from the regenerated
    macro texts.  (It is exactly enough: one more character would not fit.) -/
theorem footer_fits (n : Nat) (hn : n < 2147483648) :
    listLimit + tooMuchText.length + (footerLine n).length + mallocWarningText.length ≤ cap := by
  have h := footerLine_length_le n hn
  have hc := footer_reserve_tight
  omega

/-- `add` only appends, and only the part of the formatted text that
    stays below the write limit; a buffer that is already at or above its limit is left alone. -/
theorem add_never_writes_past_limit (b : Buf) (s : Bytes) (h : b.WF) :
    (b.add s).text = b.text ++ s.take (b.limit - b.filled)
    ∧ (b.add s).text.length ≤ max b.filled b.limit
    ∧ (b.filled ≥ b.limit → b.add s = b) := by
  refine ⟨Buf.add_text b s, ?_, Buf.add_of_full b s⟩
  rw [Buf.add_text, List.length_append, List.length_take, h.length]; omega

/-- converse of the truncation in `add_never_writes_past_limit`: a formatted piece that fits below the write limit is
    appended COMPLETELY and the fill position advances by its whole length (nothing is cut unless it has to be) -/
theorem add_complete_when_it_fits (b : Buf) (s : Bytes) (h : b.filled + s.length ≤ b.limit) :
    (b.add s).text = b.text ++ s ∧ (b.add s).filled = b.filled + s.length := by
  rw [Buf.add_text, Buf.add_filled, List.take_of_length_le (by omega)]; exact ⟨rfl, rfl⟩

theorem stopText_fits (reached : Bool) (total : Nat) (warn : Bool) (hn : total < 2147483648) :
    listLimit + (stopText reached total warn).length ≤ cap := by
  have := footer_fits total hn
  unfold stopText
  cases reached <;> cases warn <;> simp <;> omega

theorem step_buf_eq (o : OutBuf) (op : Op) : (o.step op).buf = (Op.bops o op).foldl Buf.step o.buf := by
  cases op with
  | clear => rfl
  | start => rfl
  | misuse m => simp only [OutBuf.step, OutBuf.reportFailure, Op.bops, List.foldl_cons, List.foldl_nil, Buf.step]
  | leak l =>
    simp only [OutBuf.step, OutBuf.reportLeak, Op.bops, List.foldl_append, List.foldl_map, Buf.addMemoryDump,
      ListLemmas.foldl_ite_singleton, List.foldl_cons, List.foldl_nil, Buf.step]
  | stop =>
    simp only [OutBuf.step, OutBuf.stop, Op.bops]
    split
    · rfl
    · simp only [stopTail, stopFooter, List.foldl_append, ListLemmas.foldl_ite_singleton, List.foldl_cons, List.foldl_nil, Buf.step]

theorem wf_step (o : OutBuf) (op : Op) (h : o.buf.WF) : (o.step op).buf.WF :=
  step_buf_eq o op ▸ List.foldlRecOn _ Buf.step h fun b hb op _ => Buf.wf_step b op hb

theorem wf_run (ops : List Op) (o : OutBuf) (h : o.buf.WF) : (o.run ops).buf.WF :=
  List.foldlRecOn ops OutBuf.step h fun o ho op _ => wf_step o op ho

/-- for EVERY history of clears, report starts, leak entries (any number, size,
    content, file-name length), report stops and misuse messages — in any order, also orders the
    detector never produces — the fill position and the write limit stay at most 4095 and the text has
    exactly `filled` bytes, so it never exceeds the 4096-byte array (terminator included). -/
theorem buffer_invariant (ops : List Op) :
    (OutBuf.init.run ops).buf.filled ≤ bufferLen - 1
    ∧ (OutBuf.init.run ops).buf.limit ≤ bufferLen - 1
    ∧ (OutBuf.init.run ops).buf.text.length = (OutBuf.init.run ops).buf.filled :=
  wf_run ops OutBuf.init Buf.wf_init

/-- the detector's `report()` is the run `start, leak…, stop` -/
theorem report_is_run (o : OutBuf) (leaks : List Leak) :
    o.report leaks = o.run ([Op.start] ++ leaks.map Op.leak ++ [Op.stop]) := by
  simp [OutBuf.report, OutBuf.run, OutBuf.step, List.foldl_map]

/-- "`filled ≤ limit` after every history": FALSE (`filled_le_limit_full_fails_known`), because `add` returns early
    when the limit was lowered below the fill position and does not move the fill position back. -/
def filled_le_limit_full : Prop := ∀ ops : List Op, (OutBuf.init.run ops).buf.filled ≤ (OutBuf.init.run ops).buf.limit

/-- a misuse message longer than the listing limit (3800 × `a`) -/
def longName : Bytes := List.replicate 3800 97

theorem setWriteLimit_listLimit (b : Buf) : (b.setWriteLimit listLimitArg).limit = listLimit := by
  obtain ⟨_, hla, hlc⟩ := reserve_no_wrap
  simp only [Buf.setWriteLimit]
  rw [hla, if_neg (by omega)]

/-- a misuse message longer than the listing limit fills a fresh buffer beyond the limit that a report start then
    sets: `add` never moves the fill position back -/
theorem long_misuse_then_start (m : Misuse) (h : listLimit < m.message.length) :
    ¬ (OutBuf.init.run [Op.misuse m, Op.start]).buf.filled ≤ (OutBuf.init.run [Op.misuse m, Op.start]).buf.limit := by
  have hl : ∀ o : OutBuf, o.start.buf.limit = listLimit := fun o => setWriteLimit_listLimit o.buf
  have hf : ∀ o : OutBuf, o.start.buf.filled = o.buf.filled := fun o => Buf.setWriteLimit_filled o.buf _
  have h0 : OutBuf.init.buf.filled = 0 := rfl
  have hL : OutBuf.init.buf.limit = cap := rfl
  have hc := footer_reserve_tight
  show ¬ (OutBuf.start (OutBuf.reportFailure _ m)).buf.filled ≤ (OutBuf.start (OutBuf.reportFailure _ m)).buf.limit
  rw [hl, hf, reportFailure_buf, Buf.add_filled, List.length_take, h0, hL, misuseText, List.append_assoc, List.length_append]
  omega

theorem filled_le_limit_full_fails_known : ¬ filled_le_limit_full := by
  intro h
  have := h [Op.misuse { message := longName, allocFile := [], allocLine := 0, allocSize := 0, allocName := [],
                         freeFile := [], freeLine := 0, freeName := [] }, Op.start]
  exact long_misuse_then_start _ (by show listLimit < longName.length; rw [longName, List.length_replicate]; decide +kernel) this

/-- what holds instead: outside a listing phase (limit = 4095) the fill position is below the limit,
    and a lowered limit never lets the text grow beyond `max filled limit` (`add_never_writes_past_limit`) -/
theorem filled_le_limit_partial (ops : List Op) (h : (OutBuf.init.run ops).buf.limit = cap) :
    (OutBuf.init.run ops).buf.filled ≤ (OutBuf.init.run ops).buf.limit := by
  rw [h]; exact (buffer_invariant ops).1

/-- after a report WITH leaks the write limit is back at 4095 … -/
theorem stop_resets_limit (o : OutBuf) (h : o.total ≠ 0) : o.stop.buf.limit = cap := by
  rw [stop_buf, if_neg h]; exact Buf.add_limit _ _

/-- … but a report WITHOUT leaks returns before `resetWriteLimit`: the lowered limit stays in force for
    later misuse messages until the next report with leaks (harmless for the bounds, recorded here
    because the model mirrors it and the correspondence check observes it through hook H2: the 16 canary bytes behind
    `buffer_` and the read-only accessors that `CPPUTEST_VERIF_HOOKS` adds, DESIGN.md section 7) -/
theorem stop_without_leaks_keeps_limit (o : OutBuf) (h : o.total = 0) : o.stop.buf.limit = o.buf.limit := by
  rw [stop_buf, if_pos h]; exact Buf.add_limit _ _

/-- the text of a report begun on a cleared buffer -/
def reportText (leaks : List Leak) : Bytes :=
  if leaks = [] then noLeaksText
  else (fullListing leaks).take listLimit
       ++ (if listLimit ≤ (fullListing leaks).length then tooMuchText else [])
       ++ footerLine leaks.length
       ++ (if anyMalloc leaks then mallocWarningText else [])

theorem noLeaks_fits : noLeaksText.length ≤ listLimit := by decide +kernel

theorem add_on_cleared_start (b : Buf) (s : Bytes) (hf : b.filled = 0) (ht : b.text = []) :
    ((b.setWriteLimit listLimitArg).add s).text = s.take listLimit
    ∧ ((b.setWriteLimit listLimitArg).add s).filled = min listLimit s.length
    ∧ ((b.setWriteLimit listLimitArg).add s).limit = listLimit := by
  rw [Buf.add_text, Buf.add_filled, Buf.add_limit, List.length_take, setWriteLimit_listLimit, Buf.setWriteLimit_filled,
    Buf.setWriteLimit_text, hf, ht, Nat.sub_zero, Nat.zero_add]
  exact ⟨List.nil_append _, rfl, rfl⟩

/-- a report begun on a cleared buffer (as after `startChecking`),
    for ANY list of leaks (fewer than 2^31), is: the listing cut at the lowered limit, the too-many
    notice exactly when the listing reached the limit, then the COMPLETE line with the true total, then
    the complete malloc note when a `malloc` leak was seen — nothing of the footer is ever cut. -/
theorem report_total_true_when_cleared (o : OutBuf) (leaks : List Leak)
    (hf : o.buf.filled = 0) (ht : o.buf.text = []) (hn : leaks.length < 2147483648) :
    (o.report leaks).buf.text = reportText leaks := by
  rw [report_buf, reportText]
  split
  · rw [(add_on_cleared_start o.buf noLeaksText hf ht).1]; exact List.take_of_length_le noLeaks_fits
  · obtain ⟨hb_t, hb_f, hb_l⟩ := add_on_cleared_start o.buf (fullListing leaks) hf ht
    generalize fullListing leaks = full at *
    generalize (o.buf.setWriteLimit listLimitArg).add full = b at *
    -- the limit was reached iff the listing is that long
    have hreach : b.reached = decide (listLimit ≤ full.length) := by
      rw [Buf.reached, hb_f, hb_l]; exact decide_eq_decide.mpr (by omega)
    -- the footer fits between the lowered limit and the end of the buffer
    have hfit := stopText_fits b.reached leaks.length (anyMalloc leaks) hn
    rw [(add_complete_when_it_fits b.resetWriteLimit _ (by show b.filled + _ ≤ cap; omega)).1, hreach]
    show b.text ++ _ = _
    rw [hb_t]
    simp only [stopText, decide_eq_true_eq, List.append_assoc]

/-- in a report begun on a cleared buffer the too-many notice follows
    the listing exactly when the listing reached the limit; whenever anything of the listing was
    dropped the notice is there; a notice without a dropped byte happens only when the complete
    listing has exactly `listLimit` bytes. -/
theorem notice_iff_entries_dropped (o : OutBuf) (leaks : List Leak) (hne : leaks ≠ [])
    (hf : o.buf.filled = 0) (ht : o.buf.text = []) (hn : leaks.length < 2147483648) :
    (o.report leaks).buf.text =
        (fullListing leaks).take listLimit
        ++ (if listLimit ≤ (fullListing leaks).length then tooMuchText else [])
        ++ footerLine leaks.length ++ (if anyMalloc leaks then mallocWarningText else [])
    ∧ ((fullListing leaks).take listLimit ≠ fullListing leaks → listLimit ≤ (fullListing leaks).length)
    ∧ (listLimit ≤ (fullListing leaks).length →
        (fullListing leaks).take listLimit ≠ fullListing leaks ∨ (fullListing leaks).length = listLimit) := by
  refine ⟨?_, ?_, ?_⟩
  · rw [report_total_true_when_cleared o leaks hf ht hn]; simp [reportText, hne]
  · exact fun hd => Nat.le_of_not_lt fun h => hd (List.take_of_length_le (Nat.le_of_lt h))
  · intro hle
    rcases Nat.lt_or_eq_of_le hle with h | h
    · left; intro heq
      have := congrArg List.length heq
      rw [List.length_take] at this; omega
    · exact Or.inr h.symm

/-- converse of `notice_iff_entries_dropped`: when the complete listing is shorter than the lowered limit, the report
    begun on a cleared buffer lists EVERY leak completely, carries no too-many notice, and ends with the true total
    (and the malloc note when due) -/
theorem report_complete_when_listing_fits (o : OutBuf) (leaks : List Leak) (hne : leaks ≠ [])
    (hf : o.buf.filled = 0) (ht : o.buf.text = []) (hn : leaks.length < 2147483648)
    (hfit : (fullListing leaks).length < listLimit) :
    (o.report leaks).buf.text =
      fullListing leaks ++ footerLine leaks.length ++ (if anyMalloc leaks then mallocWarningText else []) := by
  rw [report_total_true_when_cleared o leaks hf ht hn]
  have h1 : ¬ (listLimit ≤ (fullListing leaks).length) := by omega
  have h2 : (fullListing leaks).take listLimit = fullListing leaks := List.take_of_length_le (by omega)
  simp [reportText, hne, h1, h2]

/-- for every sequence of `add` (any formatted text of any length),
    `setWriteLimit` (any value), `resetWriteLimit` and `clear` on a freshly constructed buffer (whatever
    bytes the array held before), in the model of the real 4096-byte array followed by the canary of
    hook H2: the byte at the fill position is NUL (the text stays terminated inside the array), the
    canary is untouched, no store went outside the array, and the visible text is the abstract text. -/
theorem text_terminated (garbage : Bytes) (ops : List BOp) :
    (ops.foldl MemBuf.step (MemBuf.init garbage)).mem[(ops.foldl MemBuf.step (MemBuf.init garbage)).filled]? = some 0
    ∧ (ops.foldl MemBuf.step (MemBuf.init garbage)).filled < bufferLen
    ∧ (ops.foldl MemBuf.step (MemBuf.init garbage)).mem.drop bufferLen = canary
    ∧ (ops.foldl MemBuf.step (MemBuf.init garbage)).overrun = false
    ∧ (ops.foldl MemBuf.step (MemBuf.init garbage)).abs = ops.foldl Buf.step Buf.init := by
  obtain ⟨hw, ha⟩ := MemBuf.init_wf garbage
  obtain ⟨hr, h7⟩ := mem_run_refines ops (MemBuf.init garbage) hw
  have ⟨hterm, hlt, hcan, hover⟩ := hr.safe
  exact ⟨hterm, hlt, hcan, hover, by rw [h7, ha]⟩

/-- The same for the report builder: after EVERY history of clears, report starts, leak entries,
    report stops and misuse messages the real array is terminated at the fill position, the canary
    behind it is untouched and no store went outside the array. -/
theorem history_memory_safe (garbage : Bytes) (ops : List Op) :
    ∃ mb : MemBuf, mb.abs = (OutBuf.init.run ops).buf ∧ mb.mem[mb.filled]? = some 0 ∧ mb.filled < bufferLen
      ∧ mb.mem.drop bufferLen = canary ∧ mb.overrun = false := by
  obtain ⟨mb, hw, h7⟩ : ∃ mb : MemBuf, mb.WF ∧ mb.abs = (OutBuf.init.run ops).buf :=
    List.foldlRecOn (motive := fun o => ∃ mb : MemBuf, mb.WF ∧ mb.abs = o.buf) ops OutBuf.step
      ⟨_, MemBuf.init_wf garbage⟩ fun o ⟨mb, hw, ha⟩ op _ =>
      have ⟨h1, h2⟩ := mem_run_refines (Op.bops o op) mb hw
      ⟨_, h1, by rw [h2, ha, step_buf_eq]⟩
  exact ⟨mb, h7, hw.safe⟩

/-- The vocabulary of the claim that the printed position is the first difference: `firstDiff a e` really is the first index at which
    the two strings differ — all earlier positions agree, it is inside both strings (or at the end
    of the shorter one), and if the strings differ at all they differ there. -/
theorem firstDiff_is_first_difference (a e : Bytes) :
    (∀ j, j < firstDiff a e → a[j]? = e[j]?)
    ∧ firstDiff a e ≤ a.length ∧ firstDiff a e ≤ e.length
    ∧ (a ≠ e → a[firstDiff a e]? ≠ e[firstDiff a e]?) := by
  rw [firstDiff_eq_by]
  simpa using firstDiffBy_spec id a e

/-- the same for the comparison that ignores ASCII case -/
theorem firstDiffNoCase_is_first_difference (a e : Bytes) :
    (∀ j, j < firstDiffBy Text.lowerByte a e → (a[j]?).map Text.lowerByte = (e[j]?).map Text.lowerByte)
    ∧ firstDiffBy Text.lowerByte a e ≤ a.length ∧ firstDiffBy Text.lowerByte a e ≤ e.length
    ∧ (Text.lower a ≠ Text.lower e →
        (a[firstDiffBy Text.lowerByte a e]?).map Text.lowerByte ≠ (e[firstDiffBy Text.lowerByte a e]?).map Text.lowerByte) :=
  firstDiffBy_spec _ a e

/-- the same for two byte arrays of `n` bytes -/
theorem firstDiffBin_is_first_difference (n : Nat) (a e : Bytes) (ha : n ≤ a.length) (he : n ≤ e.length) :
    (∀ j, j < firstDiffBin n a e → a[j]? = e[j]?) ∧ firstDiffBin n a e ≤ n
    ∧ (a.take n ≠ e.take n → firstDiffBin n a e < n ∧ a[firstDiffBin n a e]? ≠ e[firstDiffBin n a e]?) := by
  obtain ⟨h1, h2, _, h4⟩ := firstDiffBy_spec id (a.take n) (e.take n)
  rw [← firstDiffBin_eq_by] at h1 h2 h4
  have hle : firstDiffBin n a e ≤ n := Nat.le_trans h2 (by rw [List.length_take]; omega)
  refine ⟨fun j hj => ?_, hle, fun h => ?_⟩
  · simpa [List.getElem?_take_of_lt (Nat.lt_of_lt_of_le hj hle)] using h1 j hj
  · have hd := h4 (by simpa using h)
    -- the difference cannot sit at index `n`: both prefixes have ended there
    have hlt : firstDiffBin n a e < n := by
      rcases Nat.lt_or_eq_of_le hle with h | h
      · exact h
      · rw [h, List.getElem?_eq_none (by simp; omega), List.getElem?_eq_none (by simp; omega)] at hd; exact absurd rfl hd
    exact ⟨hlt, by simpa [List.getElem?_take_of_lt hlt] using hd⟩

/-- In bounds, and the first difference, for the string classes: for ALL operand pairs
    (equal ones and ones whose printable forms coincide included; `actual` a C string, i.e. NUL-free)
    both scans of `CheckEqualFailure` / `StringEqualFailure` stay inside the operands' buffers (no
    `.error .oob`) and return the first differing index of the raw operands and of the printable forms. -/
theorem scan_in_bounds_strings (e a : Bytes) (ha : NulFree a) :
    stringScans id e a = .ok (firstDiff a e, firstDiff (DiagSpec.printable a) (DiagSpec.printable e)) := by
  rw [stringScans_spec id (fun _ h => h) e a ha, firstDiff_eq_by, firstDiff_eq_by, printable_eq, printable_eq]

/-- the same for `StringEqualNoCaseFailure` -/
theorem scan_in_bounds_strings_nocase (e a : Bytes) (ha : NulFree a) :
    stringScans toLower e a =
      .ok (firstDiffBy Text.lowerByte a e, firstDiffBy Text.lowerByte (DiagSpec.printable a) (DiagSpec.printable e)) := by
  rw [stringScans_spec toLower toLower_nz e a ha, printable_eq, printable_eq, toLower_eq_lowerByte]

/-- In bounds, and the first difference, for `BinaryEqualFailure`: operands of at least `size` bytes, ALL
    contents (equal arrays included): the scan stops at `size` at the latest. -/
theorem scan_in_bounds_binary (size : Nat) (e a : Bytes) (ha : size ≤ a.length) (he : size ≤ e.length) :
    scanBin (size + 1) size a e 0 = .ok (firstDiffBin size a e) := by
  have := scanBin_spec size a e [] [] (size + 1) rfl ha he (by omega)
  simpa using this

/-- the complete message of the string classes for two non-NULL operands: for ALL operand pairs the
    builder succeeds, and the position it prints is the first differing index of the RAW operands
    (also when the printable forms differ in length or coincide) -/
theorem position_is_first_difference_strequal (e a text : Bytes) (ha : NulFree a) :
    stringEqualFailure (some e) (some a) text =
      .ok (userText text ++ butWas (DiagSpec.printable e) (DiagSpec.printable a)
           ++ diffAtPos (DiagSpec.printable a) (firstDiff (DiagSpec.printable a) (DiagSpec.printable e)) (firstDiff a e)) :=
  stringEqualFailureBy_of_scans id e a text _ _ (scan_in_bounds_strings e a ha)

theorem position_is_first_difference_strnocase (e a text : Bytes) (ha : NulFree a) :
    stringEqualNoCaseFailure (some e) (some a) text =
      .ok (userText text ++ butWas (DiagSpec.printable e) (DiagSpec.printable a)
           ++ diffAtPos (DiagSpec.printable a) (firstDiffBy Text.lowerByte (DiagSpec.printable a) (DiagSpec.printable e))
                (firstDiffBy Text.lowerByte a e)) :=
  stringEqualFailureBy_of_scans toLower e a text _ _ (scan_in_bounds_strings_nocase e a ha)

theorem position_is_first_difference_checkequal (e a text : Bytes) (ha : NulFree a) :
    checkEqualFailure e a text =
      .ok (userText text ++ butWas (DiagSpec.printable e) (DiagSpec.printable a)
           ++ diffAtPos (DiagSpec.printable a) (firstDiff (DiagSpec.printable a) (DiagSpec.printable e)) (firstDiff a e)) :=
  checkEqualFailure_eq e a text ▸ position_is_first_difference_strequal e a text ha

/-- all string-class operand pairs at once: NULL, empty, equal, equal printable
    forms, any length, any bytes — building the message never reads outside the operands. -/
theorem scan_in_bounds (f : UInt8 → UInt8) (hf : f = id ∨ f = toLower) (e a : Option Bytes) (text : Bytes)
    (ha : ∀ x, a = some x → NulFree x) : ∃ msg, stringEqualFailureBy f e a text = .ok msg := by
  cases e with
  | none => cases a <;> exact ⟨_, rfl⟩
  | some e =>
    cases a with
    | none => exact ⟨_, rfl⟩
    | some a =>
      have hf' : ∀ x, x ≠ 0 → f x ≠ f 0 := hf.elim (fun h => h ▸ fun _ hx => hx) (fun h => h ▸ toLower_nz)
      exact ⟨_, stringEqualFailureBy_of_scans f e a text _ _ (stringScans_spec f hf' e a (ha a rfl))⟩

/-- the printed position: the text `difference starts at position <k> at: <` is in the marker part -/
theorem position_printed (actual : Bytes) (offset k : Nat) :
    ([112, 111, 115, 105, 116, 105, 111, 110, 32] ++ decNat k ++ [32, 97, 116, 58, 32, 60]) <:+: diffAtPos actual offset k := by
  rw [diffAtPos_eq, differentString_eq]
  -- in front of the text stand `\n\t` and `difference starts at `; what follows it is left open and read off by the
  -- final `rfl`, once both sides are in cons form
  refine ⟨[10, 9] ++ [100, 105, 102, 102, 101, 114, 101, 110, 99, 101, 32, 115, 116, 97, 114, 116, 115, 32, 97, 116, 32], ?_, ?_⟩
  rotate_left
  · simp only [List.append_assoc, List.cons_append, List.nil_append]
    rfl

/-- The marker window lies inside the padded copy (string classes): the offset handed to `subString` is at most the length of
    the printable form, so the 20-byte window lies entirely inside the copy padded by 10 blanks on each
    side, and the window has exactly 20 bytes. -/
theorem window_in_bounds_strings (f : UInt8 → UInt8) (pa pe : Bytes) :
    firstDiffBy f pa pe + window ≤ (paddedActual pa).length
    ∧ (Text.subString (paddedActual pa) (firstDiffBy f pa pe) window).length = window := by
  have h1 := firstDiffBy_le_left f pa pe
  have h2 := paddedActual_length pa
  have hw : window = 20 := by decide
  refine ⟨by omega, ?_⟩
  unfold Text.subString
  have : ¬ (firstDiffBy f pa pe ≥ (paddedActual pa).length) := by omega
  simp only [this, if_false, List.length_take, List.length_drop]
  omega

/-- The marker window lies inside the padded copy (binary): the offset `failStart * 3 + 1` is inside the padded copy of the hex
    rendering for every `failStart ≤ size`, equal arrays (`failStart = size`) and `size = 0` included -/
theorem window_in_bounds_binary (bs : Bytes) (k : Nat) (hk : k ≤ bs.length) :
    k * 3 + 1 < (paddedActual (stringFromBinary bs)).length := by
  rw [paddedActual_length, stringFromBinary_length]
  have hw : window = 20 := by decide
  omega

/-- the complete message of `BinaryEqualFailure` for two non-NULL arrays of at least `size` bytes:
    never out of bounds, position = first differing index (or `size` when the arrays are equal) -/
theorem position_is_first_difference_binary (e a : Bytes) (size : Nat) (text : Bytes)
    (ha : size ≤ a.length) (he : size ≤ e.length) :
    binaryEqualFailure (some e) (some a) size text =
      .ok (userText text ++ butWas (stringFromBinary (e.take size)) (stringFromBinary (a.take size))
           ++ diffAtPos (stringFromBinary (a.take size)) (firstDiffBin size a e * 3 + 1) (firstDiffBin size a e)) := by
  simp only [binaryEqualFailure, binaryOrNull, readN, ha, he, if_true]
  rw [scan_in_bounds_binary size e a ha he]

/-- a NULL array: no scan, `(null)` is shown -/
theorem binary_null (e a : Option Bytes) (size : Nat) (text : Bytes) (h : e = none ∨ a = none)
    (ha : ∀ x, a = some x → size ≤ x.length) (he : ∀ x, e = some x → size ≤ x.length) :
    ∃ msg, binaryEqualFailure e a size text = .ok msg := by
  rcases h with h | h
  · subst h
    cases a with
    | none => exact ⟨_, rfl⟩
    | some a => have := ha a rfl; simp [binaryEqualFailure, binaryOrNull, readN, this]
  · subst h
    cases e with
    | none => exact ⟨_, rfl⟩
    | some e => have := he e rfl; simp [binaryEqualFailure, binaryOrNull, readN, this]

/-- `EqualsFailure(const char*, const char*)`: both texts as given, `(null)` for NULL -/
theorem equals_shows_both (e a : Option Bytes) (text : Bytes) :
    angle (strOrNull e) <:+: equalsFailure e a text ∧ angle (strOrNull a) <:+: equalsFailure e a text :=
  shows_in' _ _ _

theorem equalsSS_shows_both (e a text : Bytes) :
    angle e <:+: equalsFailureSS e a text ∧ angle a <:+: equalsFailureSS e a text :=
  shows_in' _ _ _

/-- `DoublesEqualFailure`: the renderings of expected, actual and threshold -/
theorem doubles_shows_all (es as ts : Bytes) (nan : Bool) (text : Bytes) :
    angle es <:+: doublesEqualFailure es as ts nan text ∧ angle as <:+: doublesEqualFailure es as ts nan text
    ∧ angle ts <:+: doublesEqualFailure es as ts nan text := by
  unfold doublesEqualFailure
  refine ⟨?_, ?_, ?_⟩
  · exact List.infix_append_of_infix_left (List.infix_append_of_infix_left (List.infix_append_of_infix_left (List.infix_append_of_infix_left (shows_in' _ es as).1)))
  · exact List.infix_append_of_infix_left (List.infix_append_of_infix_left (List.infix_append_of_infix_left (List.infix_append_of_infix_left (shows_in' _ es as).2)))
  · refine List.infix_append_of_infix_left ⟨userText text ++ butWas es as ++ [32, 116, 104, 114, 101, 115, 104, 111, 108, 100, 32, 117, 115, 101, 100, 32, 119, 97, 115, 32], [], ?_⟩
    simp [angle]

/-- the string-equality and CHECK_EQUAL classes show the PRINTABLE forms (`\n`, `\x01`, … escaped),
    `(null)` for a NULL operand — for every operand pair -/
theorem strings_show_both_printable (f : UInt8 → UInt8) (hf : f = id ∨ f = toLower) (e a : Option Bytes) (text msg : Bytes)
    (ha : ∀ x, a = some x → NulFree x) (h : stringEqualFailureBy f e a text = .ok msg) :
    angle (match e with | some x => DiagSpec.printable x | none => nullText) <:+: msg
    ∧ angle (match a with | some x => DiagSpec.printable x | none => nullText) <:+: msg := by
  obtain ⟨rest, rfl⟩ := stringEqualFailureBy_ok f e a text msg h
  cases e <;> cases a <;> simp only [← printable_eq] <;> exact shows_in _ _ _ _

theorem checkEqual_shows_both_printable (e a text : Bytes) (ha : NulFree a) :
    ∃ msg, checkEqualFailure e a text = .ok msg ∧ angle (DiagSpec.printable e) <:+: msg ∧ angle (DiagSpec.printable a) <:+: msg :=
  ⟨_, position_is_first_difference_checkequal e a text ha, shows_in _ _ _ _⟩

/-- `ComparisonFailure` / `CheckFailure`: the check name and the condition text -/
theorem check_shows_both (c d text : Bytes) : c <:+: checkFailure c d text ∧ d <:+: checkFailure c d text :=
  ⟨List.infix_append_of_infix_left (List.infix_append_of_infix_left (List.infix_append_of_infix_left (List.suffix_append _ _).isInfix)),
   List.infix_append_of_infix_left (List.suffix_append _ _).isInfix⟩

/-- `ContainsFailure` shows both operands in their PRINTABLE forms, for every operand pair (test vector
    `STRCMP_CONTAINS("\x01", "abc")`: corpus/C14/contains_raw_operand.ops) -/
theorem contains_shows_both_printable (e a text : Bytes) :
    angle (DiagSpec.printable e) <:+: containsFailure e a text ∧ angle (DiagSpec.printable a) <:+: containsFailure e a text := by
  rw [contains_eq, printable_eq, printable_eq]
  exact ⟨(List.suffix_append _ _).isInfix, List.infix_append_of_infix_left (List.infix_append _ _ _)⟩

/-- the oracle's decidable "occurs in" is the infix relation the theorems use -/
theorem isInfix_iff (m r : Bytes) : Text.isInfix m r = true ↔ r <:+: m :=
  Text.isInfix_iff m r

instance (r m : Bytes) : Decidable (r <:+: m) := decidable_of_iff _ (isInfix_iff m r)

/-- `LongsEqualFailure` / `LongLongsEqualFailure`: signed decimal and 64-bit two's-complement hex -/
theorem longs_show_both (e a : Int) (text : Bytes) :
    (decInt e ++ [32] ++ bracketsHex (hexLower (toUnsigned 64 e)) ++ [62]) <:+: longsEqualFailure e a text
    ∧ (decInt a ++ [32] ++ bracketsHex (hexLower (toUnsigned 64 a)) ++ [62]) <:+: longsEqualFailure e a text :=
  integers_show_both _ _ _ _ _

theorem unsignedLongs_show_both (e a : Nat) (text : Bytes) :
    (decNat e ++ [32] ++ bracketsHex (hexLower e) ++ [62]) <:+: unsignedLongsEqualFailure e a text
    ∧ (decNat a ++ [32] ++ bracketsHex (hexLower a) ++ [62]) <:+: unsignedLongsEqualFailure e a text :=
  integers_show_both _ _ _ _ _

theorem signedBytes_show_both (e a : Int) (text : Bytes) :
    (decInt e ++ [32] ++ bracketsHex (hexSignedChar e) ++ [62]) <:+: signedBytesEqualFailure e a text
    ∧ (decInt a ++ [32] ++ bracketsHex (hexSignedChar a) ++ [62]) <:+: signedBytesEqualFailure e a text :=
  integers_show_both _ _ _ _ _

/-- `BinaryEqualFailure`: the hex dumps of both arrays -/
theorem binary_shows_both (e a : Bytes) (size : Nat) (text : Bytes) (ha : size ≤ a.length) (he : size ≤ e.length) :
    ∃ msg, binaryEqualFailure (some e) (some a) size text = .ok msg
      ∧ angle (stringFromBinary (e.take size)) <:+: msg ∧ angle (stringFromBinary (a.take size)) <:+: msg :=
  ⟨_, position_is_first_difference_binary e a size text ha he, shows_in _ _ _ _⟩

/-- `BitsEqualFailure`: the masked-bit renderings of both values -/
theorem bits_show_both (e a mask byteCount : Nat) (text : Bytes) :
    angle (maskedBits e mask byteCount) <:+: bitsEqualFailure e a mask byteCount text
    ∧ angle (maskedBits a mask byteCount) <:+: bitsEqualFailure e a mask byteCount text :=
  shows_in' _ _ _

theorem feature_shows_name (name text : Bytes) : name <:+: featureUnsupportedFailure name text := by
  unfold featureUnsupportedFailure
  refine List.infix_append_of_infix_right ?_
  simp only [featureFmt, render, renderOne, List.append_nil]
  exact ⟨_, _, by rw [List.append_assoc]⟩

theorem fail_shows_message (m : Bytes) : failFailure m = m := rfl

/-- the model's `StringFromBinary` is the textbook hex dump (`AB CD EF`) -/
theorem stringFromBinary_eq_hexDump (bs : Bytes) : stringFromBinary bs = DiagSpec.hexDump bs := by
  cases bs with
  | nil => rfl
  | cons b bs =>
    unfold stringFromBinary Text.subString
    rw [binFlat_eq]
    have hne : ¬ (0 ≥ (DiagSpec.hexDump (b :: bs) ++ [32]).length) := by simp
    simp only [List.drop_zero, List.length_append, List.length_cons, List.length_nil]
    rw [List.take_append_of_le_length (by omega)]
    exact List.take_of_length_le (by omega)

theorem userText_empty : userText [] = [] := rfl

/-- `createUserText`: nothing for an empty text; otherwise `Message: ` (not when the text starts with
    `LONGS_EQUAL`), the text as given (any bytes, several lines), then `\n\t` -/
theorem userText_spec (text : Bytes) (h : text ≠ []) :
    userText text = (if userTextException.isPrefixOf text then [] else userTextPrefix) ++ text ++ userTextSeparator := by
  cases text with
  | nil => exact absurd rfl h
  | cons x xs => simp [userText]

theorem userText_literals :
    userTextPrefix = [77, 101, 115, 115, 97, 103, 101, 58, 32] ∧ userTextSeparator = [10, 9]
    ∧ userTextException = [76, 79, 78, 71, 83, 95, 69, 81, 85, 65, 76] := by decide

theorem userText_shows_text (text : Bytes) : text <:+: userText text := by
  cases text with
  | nil => exact ⟨[], [], rfl⟩
  | cons x xs => rw [userText_spec _ (by simp)]; exact ⟨_, _, rfl⟩

/-- every class that takes a user text starts its message with `createUserText(text)` -/
theorem classes_start_with_user_text (text : Bytes) :
    (∀ e a, userText text <+: equalsFailure e a text)
    ∧ (∀ e a, userText text <+: equalsFailureSS e a text)
    ∧ (∀ es as ts nan, userText text <+: doublesEqualFailure es as ts nan text)
    ∧ (∀ c d, userText text <+: checkFailure c d text)
    ∧ (∀ e a, userText text <+: containsFailure e a text)
    ∧ (∀ n, userText text <+: featureUnsupportedFailure n text)
    ∧ (∀ e a, userText text <+: longsEqualFailure e a text)
    ∧ (∀ e a, userText text <+: unsignedLongsEqualFailure e a text)
    ∧ (∀ e a, userText text <+: signedBytesEqualFailure e a text)
    ∧ (∀ e a m bc, userText text <+: bitsEqualFailure e a m bc text) := by
  refine ⟨?_, ?_, ?_, ?_, ?_, ?_, ?_, ?_, ?_, ?_⟩ <;> intros
  · exact ⟨_, rfl⟩
  · exact ⟨_, rfl⟩
  · unfold doublesEqualFailure; simp only [List.append_assoc]; exact List.prefix_append _ _
  · unfold checkFailure; simp only [List.append_assoc]; exact List.prefix_append _ _
  · exact ⟨_, rfl⟩
  · exact ⟨_, rfl⟩
  · exact ⟨_, rfl⟩
  · exact ⟨_, rfl⟩
  · exact ⟨_, rfl⟩
  · exact ⟨_, rfl⟩

/-- the same for the classes whose builder scans the operands -/
theorem scanning_classes_start_with_user_text (text msg : Bytes) :
    (∀ f e a, stringEqualFailureBy f e a text = .ok msg → userText text <+: msg)
    ∧ (∀ e a, checkEqualFailure e a text = .ok msg → userText text <+: msg)
    ∧ (∀ e a size, binaryEqualFailure e a size text = .ok msg → userText text <+: msg) := by
  have hs : ∀ f e a, stringEqualFailureBy f e a text = .ok msg → userText text <+: msg :=
    fun f e a h => let ⟨_, hr⟩ := stringEqualFailureBy_ok f e a text msg h; prefix_of_shape hr
  refine ⟨hs, fun e a h => hs id (some e) (some a) (checkEqualFailure_eq e a text ▸ h), ?_⟩
  · intro e a size h
    unfold binaryEqualFailure at h
    split at h
    · split at h
      · split at h
        · injection h with h; subst h; simp only [List.append_assoc]; exact List.prefix_append _ _
        · exact absurd h (by simp)
      · injection h with h; subst h; exact ⟨_, rfl⟩
    · exact absurd h (by simp)
    · exact absurd h (by simp)

/-- `ComparisonFailure` / `CheckFailure` with a user text: exact message -/
theorem check_message_eq (c d text : Bytes) :
    checkFailure c d text = userText text ++ c ++ [40] ++ d ++ [41, 32, 102, 97, 105, 108, 101, 100] := rfl

/-- `FeatureUnsupportedFailure`: exact message -/
theorem feature_message_eq (name text : Bytes) :
    featureUnsupportedFailure name text = userText text
      ++ [84, 104, 101, 32, 102, 101, 97, 116, 117, 114, 101, 32, 34] ++ name
      ++ (render featureFmt [.str []]).drop 13 := by
  simp [featureUnsupportedFailure, featureFmt, render, renderOne]

/-- `UnexpectedExceptionFailure(test, e)`: `Unexpected exception of type '<type>' was thrown: <what()>`
    — shows the type name and the exception's text, both as given (inputs of the model) -/
theorem unexpectedException_shows_both (typeName what : Bytes) :
    unexpectedException typeName what =
      [85, 110, 101, 120, 112, 101, 99, 116, 101, 100, 32, 101, 120, 99, 101, 112, 116, 105, 111, 110, 32, 111, 102, 32, 116, 121, 112, 101, 32, 39]
      ++ typeName ++ [39, 32, 119, 97, 115, 32, 116, 104, 114, 111, 119, 110, 58, 32] ++ what
    ∧ typeName <:+: unexpectedException typeName what ∧ what <:+: unexpectedException typeName what := by
  have shows {m a x b y : Bytes} (h : m = a ++ x ++ b ++ y) : m = a ++ x ++ b ++ y ∧ x <:+: m ∧ y <:+: m :=
    ⟨h, h ▸ List.infix_append_of_infix_left (List.infix_append _ _ _), h ▸ (List.suffix_append _ _).isInfix⟩
  exact shows (by simp only [unexpectedException, excFmt, render, renderOne, List.append_assoc, List.append_nil])

/-- `UnexpectedExceptionFailure(test)` and the message-less `TestFailure`: fixed texts -/
theorem fixed_messages :
    unexpectedExceptionUnknown = [85, 110, 101, 120, 112, 101, 99, 116, 101, 100, 32, 101, 120, 99, 101, 112, 116, 105, 111, 110, 32, 111, 102, 32, 117, 110, 107, 110, 111, 119, 110, 32, 116, 121, 112, 101, 32, 119, 97, 115, 32, 116, 104, 114, 111, 119, 110, 46] ∧
    baseFailureNoMessage = [110, 111, 32, 109, 101, 115, 115, 97, 103, 101] := by
  decide +kernel

theorem baseFailure_shows_message (m : Bytes) : baseFailure m = m := rfl

/-- `reportAllocationDeallocationMismatchFailure` -/
def mismatchMisuse (allocFile : Bytes) (allocLine allocSize : Nat) (allocName freeFile : Bytes) (freeLine : Nat) (freeName : Bytes) : Misuse :=
  { message := msgMismatch, allocFile := allocFile, allocLine := allocLine, allocSize := allocSize, allocName := allocName,
    freeFile := freeFile, freeLine := freeLine, freeName := freeName }

/-- `reportMemoryCorruptionFailure` -/
def corruptionMisuse (allocFile : Bytes) (allocLine allocSize : Nat) (allocName freeFile : Bytes) (freeLine : Nat) (freeName : Bytes) : Misuse :=
  { mismatchMisuse allocFile allocLine allocSize allocName freeFile freeLine freeName with message := msgCorruption }

/-- exact rendering of a misuse message as a function of (message, allocation file/line/size/allocator
    name, release file/line/allocator name): line numbers go through `(int)` (see `castInt32_*`),
    the size through `%lu`, names and files through `%s` as they are -/
theorem misuseText_eq (m : Misuse) :
    misuseText m = m.message
      ++ [32, 32, 32, 97, 108, 108, 111, 99, 97, 116, 101, 100, 32, 97, 116, 32, 102, 105, 108, 101, 58, 32] ++ m.allocFile
      ++ [32, 108, 105, 110, 101, 58, 32] ++ decInt (castInt32 m.allocLine)
      ++ [32, 115, 105, 122, 101, 58, 32] ++ decNat m.allocSize
      ++ [32, 116, 121, 112, 101, 58, 32] ++ m.allocName ++ [10]
      ++ [32, 32, 32, 100, 101, 97, 108, 108, 111, 99, 97, 116, 101, 100, 32, 97, 116, 32, 102, 105, 108, 101, 58, 32] ++ m.freeFile
      ++ [32, 108, 105, 110, 101, 58, 32] ++ decInt (castInt32 m.freeLine)
      ++ [32, 116, 121, 112, 101, 58, 32] ++ m.freeName ++ [10] := by
  simp only [misuseText, allocLocationText, deallocLocationText, allocLocationFmt, deallocLocationFmt, render, renderOne,
    List.append_assoc, List.append_nil]

/-- the three kinds: their message lines, and what "non-allocated" reports as the allocation
    (`<unknown>`, line 0, size 0, the null allocator's name) -/
theorem misuse_kinds :
    msgNonAllocated = [68, 101, 97, 108, 108, 111, 99, 97, 116, 105, 110, 103, 32, 110, 111, 110, 45, 97, 108, 108, 111, 99, 97, 116, 101, 100, 32, 109, 101, 109, 111, 114, 121, 10]
    ∧ msgMismatch = [65, 108, 108, 111, 99, 97, 116, 105, 111, 110, 47, 100, 101, 97, 108, 108, 111, 99, 97, 116, 105, 111, 110, 32, 116, 121, 112, 101, 32, 109, 105, 115, 109, 97, 116, 99, 104, 10]
    ∧ msgCorruption = [77, 101, 109, 111, 114, 121, 32, 99, 111, 114, 114, 117, 112, 116, 105, 111, 110, 32, 40, 119, 114, 105, 116, 116, 101, 110, 32, 111, 117, 116, 32, 111, 102, 32, 98, 111, 117, 110, 100, 115, 63, 41, 10]
    ∧ nonAllocatedFile = [60, 117, 110, 107, 110, 111, 119, 110, 62] ∧ nonAllocatedLine = 0 ∧ nonAllocatedSize = 0
    ∧ noLocation = ([60, 117, 110, 107, 110, 111, 119, 110, 62], 0) := by
  decide +kernel

/-- one misuse report appends the part of its text that fits below the write limit — whatever the
    length of the file names — and leaves the buffer invariant intact -/
theorem misuse_bounded (o : OutBuf) (m : Misuse) (h : o.buf.WF) :
    (o.reportFailure m).buf.text = o.buf.text ++ (misuseText m).take (o.buf.limit - o.buf.filled)
    ∧ (o.reportFailure m).buf.WF
    ∧ (o.reportFailure m).buf.text.length ≤ bufferLen - 1 := by
  rw [reportFailure_buf]
  have hw := Buf.wf_add o.buf (misuseText m) h
  exact ⟨Buf.add_text _ _, hw, hw.length ▸ hw.filled_le⟩

/-- a misuse report on a fresh or cleared buffer whose text fits: the reporter gets the complete text -/
theorem misuse_complete_when_it_fits (o : OutBuf) (m : Misuse) (hf : o.buf.filled = 0) (ht : o.buf.text = [])
    (hfit : (misuseText m).length ≤ o.buf.limit) : (o.reportFailure m).buf.text = misuseText m := by
  rw [reportFailure_buf, (add_complete_when_it_fits o.buf (misuseText m) (by omega)).1, ht]; rfl

/-- `addMemoryDump` for ANY size and content: the dump is cut at the write limit (and the buffer
    invariant holds; termination in the real array is `history_memory_safe` / `dump_memory_safe`) -/
theorem dump_cut_at_limit (b : Buf) (content : Bytes) (h : b.WF) :
    (b.addMemoryDump content).text = b.text ++ (dumpText content).take (b.limit - b.filled)
    ∧ (b.addMemoryDump content).WF := by
  rw [Buf.addMemoryDump_eq]; exact ⟨Buf.add_text _ _, Buf.wf_add _ _ h⟩

/-- the same on the real array: after the `add` calls of a dump of any size the text is terminated
    at the fill position, the canary is untouched, nothing was stored outside the array -/
theorem dump_memory_safe (mb : MemBuf) (content : Bytes) (h : mb.WF) :
    (((dumpPieces content.length 0 content).map BOp.add).foldl MemBuf.step mb).WF
    ∧ (((dumpPieces content.length 0 content).map BOp.add).foldl MemBuf.step mb).abs = mb.abs.addMemoryDump content := by
  obtain ⟨h1, h2⟩ := mem_run_refines ((dumpPieces content.length 0 content).map BOp.add) mb h
  refine ⟨h1, ?_⟩
  rw [h2, List.foldl_map]; rfl

/-- `addMemoryDump(memory, size)` reads `memory[i]` only for `i < size`: on a block of EXACTLY `size`
    bytes no read is out of bounds, and the pieces are those of the `size` bytes -/
theorem dump_reads_in_bounds (mem : Bytes) :
    dumpPiecesRd mem.length mem.length mem 0 = .ok (dumpPieces mem.length 0 mem) := by
  have := dumpPiecesRd_spec mem.length mem (Nat.le_refl _) mem.length 0
  simpa using this

/-- `report()` is memory-safe under the caller-side contract that every block in the table is
    still allocated (at least `size_` readable bytes): no read outside a block, and the result is the
    abstract report over the blocks' first `size_` bytes -/
theorem report_memory_safe (o : OutBuf) (leaks : List LeakRef) (h : ∀ l ∈ leaks, l.Live) :
    o.reportRd leaks = .ok (o.report (leaks.map LeakRef.toLeak)) := by
  unfold OutBuf.reportRd OutBuf.report
  rw [reportLeaksRd_spec leaks o.start h]

/-- the contract is needed: a block freed behind the detector's back is read by the dump -/
example : (OutBuf.init.reportRd [{ number := 1, size := 1, file := [], line := 0, allocName := [], ptr := [], block := none }]) = .error .oob := by
  rfl

/-! ### after a report without leaks (the lowered limit stays in force) -/

/-- a misuse message after a zero-leak report on a cleared buffer: it is appended behind the
    no-leaks message, completely if it fits below the (still lowered) listing limit, cut there otherwise -/
theorem misuse_after_empty_report (o : OutBuf) (m : Misuse) (hf : o.buf.filled = 0) (ht : o.buf.text = []) :
    ((o.report []).reportFailure m).buf.text = noLeaksText ++ (misuseText m).take (listLimit - noLeaksText.length)
    ∧ (noLeaksText.length + (misuseText m).length ≤ listLimit →
        ((o.report []).reportFailure m).buf.text = noLeaksText ++ misuseText m) := by
  have key : ((o.report []).reportFailure m).buf.text = noLeaksText ++ (misuseText m).take (listLimit - noLeaksText.length) := by
    obtain ⟨a1, a2, a3⟩ := add_on_cleared_start o.buf noLeaksText hf ht
    rw [reportFailure_buf, report_buf, if_pos rfl, Buf.add_text, a1, a2, a3, List.take_of_length_le noLeaks_fits,
      Nat.min_eq_right noLeaks_fits]
  refine ⟨key, fun hle => ?_⟩
  rw [key, List.take_of_length_le (Nat.le_sub_of_add_le' hle)]

/-- a report begun on a cleared buffer is the same whatever happened before — in particular after
    a zero-leak report that left the limit lowered, and after misuse messages written under that limit -/
theorem report_after_empty_report (o : OutBuf) (ms : List Misuse) (leaks : List Leak) (hn : leaks.length < 2147483648) :
    ((ms.foldl OutBuf.reportFailure (o.report [])).clear.report leaks).buf.text = reportText leaks :=
  report_total_true_when_cleared _ leaks rfl rfl hn

/-! ## non-vacuity: concrete states that meet the hypotheses -/

/-- `STRCMP_EQUAL("\\n", "\n")` (equal printable forms): both scans end in bounds -/
example : stringScans id [92, 110] [10] = .ok (0, 2) := by rfl

/-- equal operands: the scans stop at the terminator -/
example : stringScans id [97, 98, 99] [97, 98, 99] = .ok (3, 3) := by rfl

example : NulFree [10] ∧ NulFree [97, 98, 99] := by decide

example : scanBin 4 3 [1, 2, 3] [1, 2, 3] 0 = .ok 3 := by rfl

def sampleLeak : Leak :=
  { number := 7, size := 3, file := [97, 46, 99], line := 12, allocName := [109, 97, 108, 108, 111, 99],
    ptr := [48, 120, 49], content := [1, 2, 3] }

/-- a report begun on a cleared buffer with one `malloc` leak: hypotheses of
    `report_total_true_when_cleared` hold and the text is the complete one -/
example : (OutBuf.init.report [sampleLeak]).buf.text = reportText [sampleLeak] :=
  report_total_true_when_cleared OutBuf.init [sampleLeak] rfl rfl (by decide)

set_option maxRecDepth 100000 in
example : anyMalloc [sampleLeak] = true ∧ (fullListing [sampleLeak]).length < listLimit := by decide +kernel

def bigLeak : Leak := { sampleLeak with file := List.replicate 3700 97 }

set_option maxRecDepth 1000000 in
/-- a listing that does not fit: entries are dropped, the notice is due -/
example : listLimit ≤ (fullListing [bigLeak]).length := by
  have h := fullListing_length_ge bigLeak []
  have hf : bigLeak.file.length = 3700 := List.length_replicate
  have hl : listLimit = 3720 := by decide
  have hh : headerText.length = 22 := by decide
  omega

/-- a history in which the limit is below the fill position (`add` has to cope with it; it returns at once: `add_never_writes_past_limit`) -/
example : (OutBuf.init.run [Op.misuse { message := longName, allocFile := [], allocLine := 0, allocSize := 0, allocName := [],
                                        freeFile := [], freeLine := 0, freeName := [] }, Op.start]).buf.WF :=
  wf_run _ _ Buf.wf_init

/-! ## the regenerated code

`Gen/DiagnosticsBuffer.lean` is produced on every run by `translate/extract_diagbuf.py` from the clang AST of
`src/CppUTest/MemoryLeakDetector.cpp`.  The theorems of this section state that the regenerated definitions ARE
the hand-written model the theorems above speak about, and re-prove the buffer bounds directly on the regenerated
`size_t` / `int` arithmetic (for every value `vsnprintf` can return and every 64-bit limit). -/

section Regenerated

open Gen.DiagBuf Diag.Code

/-- the two counters of a model buffer as the `size_t` members -/
def Buf.toSt (b : Buf) : St := { filled := BitVec.ofNat 64 b.filled, limit := BitVec.ofNat 64 b.limit }

/-- the regenerated constructor: counters `(0, 4095)`, `buffer_[0] = 0`, canary initialised -/
theorem gen_ctor_eq_model :
    ctor = (Buf.init.toSt, [Eff.storeBuf (0#32) (0#8), Eff.call "verifInitCanary"]) := by decide

theorem gen_clear_eq_model (b : Buf) : Gen.DiagBuf.clear b.toSt = (b.clear.toSt, [Eff.storeBuf (0#32) (0#8)]) := by
  have : ((0#32).signExtend 64) = BitVec.ofNat 64 0 := by decide
  simp [Gen.DiagBuf.clear, Buf.toSt, Buf.clear, this]

theorem gen_resetWriteLimit_eq_model (b : Buf) : resetWriteLimit b.toSt = (b.resetWriteLimit.toSt, []) := by
  simp [resetWriteLimit, Buf.toSt, Buf.resetWriteLimit, capBV]

/-- the regenerated `setWriteLimit` is `Buf.setWriteLimit`, for every `size_t` argument -/
theorem gen_setWriteLimit_eq_model (b : Buf) (n : Nat) (hn : n < 2 ^ 64) :
    setWriteLimit b.toSt (BitVec.ofNat 64 n) = ((b.setWriteLimit n).toSt, []) := by
  simp only [setWriteLimit, Buf.toSt, Buf.setWriteLimit, capBV]
  have hc := cap_eq
  rw [BitVecLemmas.bv_ult cap n (by omega) hn]
  by_cases h : n > cap <;> simp [h]

theorem gen_reached_eq_model (b : Buf) (hf : b.filled < 2 ^ 64) (hl : b.limit < 2 ^ 64) :
    reachedItsCapacity b.toSt = b.reached := by
  simp [reachedItsCapacity, Buf.toSt, Buf.reached, BitVecLemmas.bv_ule _ _ hl hf]

/-- The regenerated `add` is `Buf.add` on the counters when `vsnprintf` returns the length of the formatted text,
    and it calls `vsnprintf(buffer_ + filled, limit - filled + 1, …)` — the call `MemBuf.add` models — exactly when
    the fill position is below the limit. -/
theorem gen_add_eq_model (b : Buf) (s : Bytes) (hf : b.filled < 2 ^ 63) (hl : b.limit < 2 ^ 63) (hs : s.length < 2 ^ 31) :
    Gen.DiagBuf.add b.toSt (BitVec.ofNat 32 s.length) =
      ((b.add s).toSt, if b.filled ≥ b.limit then []
                       else [Eff.vsnprintf (BitVec.ofNat 64 b.filled) (BitVec.ofNat 64 (b.limit - b.filled + 1))]) := by
  have hF : b.toSt.filled.toNat = b.filled := Nat.mod_eq_of_lt (by omega)
  have hL : b.toSt.limit.toNat = b.limit := Nat.mod_eq_of_lt (by omega)
  have hn : (BitVec.ofNat 32 s.length).toNat = s.length := Nat.mod_eq_of_lt (by omega)
  have hi : (BitVec.ofNat 32 s.length).toInt = s.length := by
    rw [BitVec.toInt_eq_toNat_of_lt (by omega), hn]
  refine Prod.ext ?_ ?_
  · -- the counters: the limit stays, the fill position is that of `gen_add_filled` read in `Buf.add_filled`'s form
    have h1 := gen_add_filled b.toSt (BitVec.ofNat 32 s.length) (by omega)
    have h2 := gen_add_limit b.toSt (BitVec.ofNat 32 s.length)
    have hpos : (if 0 < (s.length : Int) then s.length else 0) = s.length := by split <;> omega
    rw [hF, hL, hi, hn, hpos] at h1
    generalize Gen.DiagBuf.add b.toSt (BitVec.ofNat 32 s.length) = r at h1 h2 ⊢
    obtain ⟨⟨f, l⟩, es⟩ := r
    simp only [Buf.toSt, St.mk.injEq, Buf.add_limit]
    refine ⟨BitVec.eq_of_toNat_eq ?_, h2⟩
    simp only at h1
    have hA : (b.add s).filled = b.filled + min (b.limit - b.filled) s.length := by
      rw [Buf.add_filled, List.length_take]
    rw [h1, BitVec.toNat_ofNat, Nat.mod_eq_of_lt (by omega), hA]
    clear hf hl hs hF hL hn hi
    split <;> omega
  · -- the effects: `gen_add_effects`, with the window size computed without wrap-around
    rw [gen_add_effects]
    show (if BitVec.ule (BitVec.ofNat 64 b.limit) (BitVec.ofNat 64 b.filled) = true then _ else _) = _
    rw [BitVecLemmas.bv_ule _ _ (by omega) (by omega)]
    simp only [decide_eq_true_eq, ge_iff_le]
    split
    · rfl
    · congr 2
      apply BitVec.eq_of_toNat_eq
      simp only [BitVec.toNat_add, BitVec.toNat_sub, BitVec.toNat_ofNat]
      omega

/-- the bounds of `add`, proved on the regenerated arithmetic itself, for EVERY `int` that
    `vsnprintf` may return (negative = error, or up to 2^31-1) and every state with both counters at most 4095:
    the limit is unchanged, the fill position never decreases, never passes `max filled limit`, stays at most 4095,
    is unchanged when the result is not positive; and the one `vsnprintf` call gets `buffer_ + filled` and a size
    with `filled + size ≤ 4096`, so whatever it writes (at most `size` bytes) stays inside `buffer_`. -/
theorem gen_add_safe (st : St) (count : BitVec 32) (hf : st.filled.toNat ≤ cap) (hl : st.limit.toNat ≤ cap) :
    (Gen.DiagBuf.add st count).1.limit = st.limit
    ∧ (Gen.DiagBuf.add st count).1.filled.toNat ≤ cap
    ∧ st.filled.toNat ≤ (Gen.DiagBuf.add st count).1.filled.toNat
    ∧ (Gen.DiagBuf.add st count).1.filled.toNat ≤ max st.filled.toNat st.limit.toNat
    ∧ (BitVec.sle count 0#32 → (Gen.DiagBuf.add st count).1.filled = st.filled)
    ∧ ∀ off size, Eff.vsnprintf off size ∈ (Gen.DiagBuf.add st count).2 →
        off = st.filled ∧ st.filled.toNat < st.limit.toNat ∧ size.toNat = st.limit.toNat - st.filled.toNat + 1
        ∧ off.toNat + size.toNat ≤ bufferLen := by
  have hc := cap_eq
  have hb : bufferLen = 4096 := by decide
  have hF := gen_add_filled st count (by omega)
  refine ⟨gen_add_limit st count, ?_, ?_, ?_, ?_, ?_⟩
  iterate 3 (rw [hF]; split <;> omega)
  · intro hsle
    have hnp : ¬ 0 < count.toInt := by simpa [BitVec.sle_eq_decide] using hsle
    apply BitVec.eq_of_toNat_eq
    rw [hF, if_neg hnp]; split <;> omega
  · intro off size hmem
    rw [gen_add_effects] at hmem
    split at hmem
    · exact absurd hmem List.not_mem_nil
    · rename_i h1
      rw [List.mem_singleton, Eff.vsnprintf.injEq] at hmem
      obtain ⟨rfl, rfl⟩ := hmem
      have h1' : st.filled.toNat < st.limit.toNat := by simpa [BitVec.ule] using h1
      have hsz : (st.limit - st.filled + 1#64).toNat = st.limit.toNat - st.filled.toNat + 1 := by
        rw [BitVec.toNat_add, BitVec.toNat_sub]; simp; omega
      exact ⟨rfl, h1', hsz, by omega⟩

/-- an operation on a standalone buffer with the raw machine values: the `int` that `vsnprintf` returned, the
    `size_t` limit -/
inductive GOp where
  | add (count : BitVec 32)
  | setLimit (n : BitVec 64)
  | resetLimit
  | clear
deriving Repr, DecidableEq

/-- one operation executed by the regenerated functions; the effects are accumulated -/
def gstep (r : St × List Eff) : GOp → St × List Eff
  | .add c => ((Gen.DiagBuf.add r.1 c).1, r.2 ++ (Gen.DiagBuf.add r.1 c).2)
  | .setLimit n => ((setWriteLimit r.1 n).1, r.2 ++ (setWriteLimit r.1 n).2)
  | .resetLimit => ((resetWriteLimit r.1).1, r.2 ++ (resetWriteLimit r.1).2)
  | .clear => ((Gen.DiagBuf.clear r.1).1, r.2 ++ (Gen.DiagBuf.clear r.1).2)

/-- every store and every `vsnprintf` window recorded so far lies inside `buffer_` -/
def EffsInside (es : List Eff) : Prop :=
  ∀ e ∈ es, match e with
    | .vsnprintf off size => off.toNat + size.toNat ≤ bufferLen
    | .storeBuf idx _ => idx.toNat < bufferLen
    | .call _ => True

theorem EffsInside.append {a b : List Eff} (ha : EffsInside a) (hb : EffsInside b) : EffsInside (a ++ b) :=
  fun e he => (List.mem_append.mp he).elim (ha e) (hb e)

theorem gstep_safe (r : St × List Eff) (op : GOp)
    (h : r.1.filled.toNat ≤ cap ∧ r.1.limit.toNat ≤ cap ∧ EffsInside r.2) :
    (gstep r op).1.filled.toNat ≤ cap ∧ (gstep r op).1.limit.toNat ≤ cap ∧ EffsInside (gstep r op).2 := by
  obtain ⟨hf, hl, he⟩ := h
  have hc := cap_eq
  have nil : EffsInside [] := fun _ h => absurd h List.not_mem_nil
  cases op with
  | add c =>
    obtain ⟨g1, g2, _, _, _, g6⟩ := gen_add_safe r.1 c hf hl
    refine ⟨g2, g1 ▸ hl, he.append fun e hmem => ?_⟩
    cases e with
    | vsnprintf off size => obtain ⟨_, _, _, inside⟩ := g6 off size hmem; exact inside
    | storeBuf idx v => rw [gen_add_effects] at hmem; split at hmem <;> simp at hmem
    | call _ => trivial
  | setLimit n =>
    refine ⟨hf, ?_, he.append nil⟩
    simp only [gstep, setWriteLimit, capBV]
    split
    · simp [BitVec.toNat_ofNat, hc]
    · rename_i hlt
      have : ¬ (BitVec.ofNat 64 cap).toNat < n.toNat := by simpa [BitVec.ult] using hlt
      simp [BitVec.toNat_ofNat, hc] at this; omega
  | resetLimit => exact ⟨hf, by simp [gstep, resetWriteLimit, capBV, BitVec.toNat_ofNat, hc], he.append nil⟩
  | clear =>
    refine ⟨by simp [gstep, Gen.DiagBuf.clear], hl, he.append fun e hmem => ?_⟩
    rw [List.mem_singleton.mp hmem]; decide

/-- for EVERY history of `add` (any `int` result of `vsnprintf`),
    `setWriteLimit` (any 64-bit value), `resetWriteLimit` and `clear` on a freshly constructed buffer, executed by
    the functions regenerated from the source: both counters stay at most 4095, and every store to `buffer_` and
    every window handed to `vsnprintf` lies inside the 4096-byte array. -/
theorem regenerated_history_memory_safe (ops : List GOp) :
    (ops.foldl gstep ctor).1.filled.toNat ≤ cap ∧ (ops.foldl gstep ctor).1.limit.toNat ≤ cap
    ∧ EffsInside (ops.foldl gstep ctor).2 := by
  refine List.foldlRecOn ops gstep ?_ fun r hr op _ => gstep_safe r op hr
  rw [gen_ctor_eq_model]
  refine ⟨by decide, by decide, ?_⟩
  intro e hmem
  simp only [List.mem_cons, List.mem_nil_iff, or_false] at hmem
  rcases hmem with rfl | rfl
  · decide
  · trivial

/-- the machine-level operation a model operation stands for -/
def BOp.toG : BOp → GOp
  | .add s => .add (BitVec.ofNat 32 s.length)
  | .setLimit n => .setLimit (BitVec.ofNat 64 n)
  | .resetLimit => .resetLimit
  | .clear => .clear

/-- formatted pieces shorter than 2^31 bytes, limits that are `size_t` values -/
def BOp.Small : BOp → Prop
  | .add s => s.length < 2 ^ 31
  | .setLimit n => n < 2 ^ 64
  | _ => True

theorem gstep_tracks_model (b : Buf) (es : List Eff) (op : BOp) (h : b.WF) (hs : op.Small) :
    (gstep (b.toSt, es) op.toG).1 = (b.step op).toSt := by
  have hc := cap_eq
  have h1 := h.filled_le
  have h2 := h.limit_le
  cases op <;> simp only [gstep, BOp.toG, Buf.step]
  case add s => rw [gen_add_eq_model b s (by omega) (by omega) hs]
  case setLimit n => rw [gen_setWriteLimit_eq_model b n hs]
  case resetLimit => rw [gen_resetWriteLimit_eq_model]
  case clear => rw [gen_clear_eq_model]

/-- along every history the counters computed by the regenerated functions are
    the counters of the hand-written buffer model (`Buf.step`), i.e. the model the theorems about the report buffer (part (B) of `Model/Diagnostics.lean`) are about
    is what the source says at check time. -/
theorem regenerated_counters_track_model (ops : List BOp) (hs : ∀ op ∈ ops, op.Small) :
    ((ops.map BOp.toG).foldl gstep ctor).1 = (ops.foldl Buf.step Buf.init).toSt := by
  rw [gen_ctor_eq_model, List.foldl_map]
  exact (List.foldl_rel (f := fun r op => gstep r op.toG) (g := Buf.step) (r := fun r b => b.WF ∧ r.1 = b.toSt)
    ⟨Buf.wf_init, rfl⟩
    (fun op hop ⟨_, es⟩ b ⟨hw, hr⟩ => by
      subst hr; exact ⟨Buf.wf_step b op hw, gstep_tracks_model b es op hw (hs op hop)⟩)).2

/-- the limit argument computed by the regenerated `size_t` arithmetic of `startMemoryLeakReporting` (with the
    `sizeof`s clang computed) is the one the model derives from the regenerated macro texts, does not wrap, and leaves
    exactly the footer reserve -/
theorem startLimitArg_eq : startLimitArg.toNat = listLimitArg ∧ startLimitArg.toNat = bufferLen - footerSizeWithMallocWarning := by
  decide +kernel

/-- the three misuse entry points forward their message and exactly these arguments to `reportFailure` -/
theorem misuse_forwarding :
    nonAllocatedArgs = (msgNonAllocated, ["lit:<unknown>", "(unsigned long)int:0", "(unsigned long)int:0", "defaultAllocator()",
                                          "freeFile", "freeLine", "freeAllocator", "reporter"])
    ∧ mismatchArgs = (msgMismatch, ["node.file_", "node.line_", "node.size_", "node.allocator_",
                                    "freeFile", "freeLineNumber", "freeAllocator", "reporter"])
    ∧ corruptionArgs = (msgCorruption, ["node.file_", "node.line_", "node.size_", "node.allocator_",
                                        "freeFile", "freeLineNumber", "freeAllocator", "reporter"]) := by
  refine ⟨rfl, rfl, rfl⟩

set_option maxRecDepth 100000

/-- running the regenerated body of `stopMemoryLeakReporting` IS `OutBuf.stop` (proved by executing the regenerated
    list, whatever the order of its independent statements) -/
theorem gen_stop_eq_model (env : Env) (o : OutBuf) : (run env o stopMemoryLeakReporting).o = o.stop := by
  unfold OutBuf.stop stopTail stopFooter
  by_cases h0 : o.total = 0
  · simp [stopMemoryLeakReporting, run, runStmt, stepSimple, runSimple, evalCond, call, h0, noLeaksFmt]
  · by_cases hr : o.buf.reached <;> by_cases hm : o.mallocWarn <;>
      simp [stopMemoryLeakReporting, run, runStmt, stepSimple, runSimple, evalCond, call, word, h0, hr, hm, footerLine, tooMuchText,
            mallocWarningText, Buf.resetWriteLimit, tooMuchFmt, footerFmt, footerText, mallocWarningFmt]

/-- running the regenerated body of `reportMemoryLeak` IS `OutBuf.reportLeak` -/
theorem gen_reportLeak_eq_model (env : Env) (o : OutBuf) : (run env o reportMemoryLeak).o = o.reportLeak env.leak := by
  unfold OutBuf.reportLeak
  -- the first `simp` runs the list; it leaves the regenerated test of `alloc_name()` against the literal `malloc`, which `hn`
  -- decides once `mallocName` is unfolded
  by_cases h0 : o.total = 0 <;> by_cases hn : env.leak.allocName == mallocName <;>
    simp [reportMemoryLeak, run, runStmt, stepSimple, runSimple, evalCond, call, word, h0, hn, leakText, headerText, headerFmt, leakFmt] <;>
    simp_all [mallocName]

/-- running the regenerated body of `reportFailure` IS `OutBuf.reportFailure`, and the text handed to the reporter
    is the buffer's text afterwards -/
theorem gen_reportFailure_eq_model (env : Env) (o : OutBuf) :
    (run env o reportFailure).o = o.reportFailure env.misuse
    ∧ (run env o reportFailure).failed = some (o.reportFailure env.misuse).buf.text := by
  simp [reportFailure, run, runStmt, stepSimple, runSimple, call, word, OutBuf.reportFailure, allocLocationText, deallocLocationText,
        render, renderOne, allocLocationFmt, deallocLocationFmt]

theorem gen_start_eq_model (env : Env) (o : OutBuf) : (run env o startMemoryLeakReporting).o = o.start := by
  simp [startMemoryLeakReporting, run, runStmt, stepSimple, runSimple, call, OutBuf.start, startLimitArg_eq.1]

theorem gen_obClear_eq_model (env : Env) (o : OutBuf) : (run env o obClear).o = o.clear := by
  simp [obClear, run, runStmt, stepSimple, runSimple, call, OutBuf.clear]

/-- one operation of a history executed by the regenerated bodies -/
def codeStep (o : OutBuf) : Op → OutBuf
  | .clear => (run default o obClear).o
  | .start => (run default o startMemoryLeakReporting).o
  | .leak l => (run { leak := l, misuse := default } o reportMemoryLeak).o
  | .stop => (run default o stopMemoryLeakReporting).o
  | .misuse m => (run { leak := default, misuse := m } o reportFailure).o

theorem codeStep_eq_model (o : OutBuf) (op : Op) : codeStep o op = o.step op := by
  cases op with
  | clear => exact gen_obClear_eq_model _ o
  | start => exact gen_start_eq_model _ o
  | leak l => exact gen_reportLeak_eq_model _ o
  | stop => exact gen_stop_eq_model _ o
  | misuse m => exact (gen_reportFailure_eq_model _ o).1

/-- a whole history executed by the regenerated bodies is the model's run -/
theorem regenerated_run_eq_model (ops : List Op) (o : OutBuf) : ops.foldl codeStep o = o.run ops := by
  have : codeStep = OutBuf.step := by funext o op; exact codeStep_eq_model o op
  rw [this]; rfl

/-- `buffer_invariant`, `history_memory_safe` stated for the regenerated code: for every history executed by the
    statement lists regenerated from the source, the fill position and limit stay at most 4095, the text has
    exactly `filled` bytes, and the real array stays terminated with the canary untouched. -/
theorem buffer_invariant_regenerated (garbage : Bytes) (ops : List Op) :
    (ops.foldl codeStep OutBuf.init).buf.filled ≤ bufferLen - 1
    ∧ (ops.foldl codeStep OutBuf.init).buf.limit ≤ bufferLen - 1
    ∧ (ops.foldl codeStep OutBuf.init).buf.text.length = (ops.foldl codeStep OutBuf.init).buf.filled
    ∧ ∃ mb : MemBuf, mb.abs = (ops.foldl codeStep OutBuf.init).buf ∧ mb.mem[mb.filled]? = some 0 ∧ mb.filled < bufferLen
        ∧ mb.mem.drop bufferLen = canary ∧ mb.overrun = false := by
  rw [regenerated_run_eq_model]
  obtain ⟨h1, h2, h3⟩ := buffer_invariant ops
  exact ⟨h1, h2, h3, history_memory_safe garbage ops⟩

/-- `report_total_true_when_cleared` / `notice_iff_entries_dropped` for the regenerated code: the report the
    regenerated bodies assemble on a cleared buffer is the listing cut at the limit, the notice exactly when the
    listing reached the limit, the complete true total, the malloc note when due. -/
theorem report_total_true_regenerated (o : OutBuf) (leaks : List Leak)
    (hf : o.buf.filled = 0) (ht : o.buf.text = []) (hn : leaks.length < 2147483648) :
    (([Op.start] ++ leaks.map Op.leak ++ [Op.stop]).foldl codeStep o).buf.text = reportText leaks := by
  rw [regenerated_run_eq_model, ← report_is_run]
  exact report_total_true_when_cleared o leaks hf ht hn

/-- non-vacuity: a history with a negative `vsnprintf` result, a huge limit and a result far larger than the buffer -/
example : (([GOp.add (BitVec.ofNat 32 100), .add (-1#32), .setLimit (BitVec.ofNat 64 (2 ^ 64 - 1)), .add (BitVec.ofNat 32 2147483647),
            .setLimit 5#64, .add 7#32, .clear].foldl gstep ctor).1) = { filled := 0#64, limit := 5#64 } := by decide

example : (([GOp.add (BitVec.ofNat 32 100), .add (-1#32), .add (BitVec.ofNat 32 2147483647)].foldl gstep ctor).1).filled = 4095#64 := by decide

example : BOp.Small (.add [1, 2, 3]) ∧ BOp.Small (.setLimit 4096) := by constructor <;> simp [BOp.Small]

example : (run default OutBuf.init stopMemoryLeakReporting).done = true := by decide

end Regenerated

/-! ### the first-difference scans (regenerated from the clang AST of TestFailure.cpp) -/

section RegeneratedScans

open Gen.DiagFail Diag.Code

/-- the loop conditions of the six string scans, as clang typed them (chars promoted
    to `int`), are exactly "the bytes agree (after `ToLower` in the no-case class) and the byte of the ACTUAL string
    is not the terminator" — the condition `Diag.scan` is written with. -/
theorem regenerated_scan_conditions (x y : UInt8) :
    condOf stringEqualRawCond x y = decide (id x = id y ∧ x ≠ 0)
    ∧ condOf stringEqualPrintableCond x y = decide (id x = id y ∧ x ≠ 0)
    ∧ condOf checkEqualRawCond x y = decide (id x = id y ∧ x ≠ 0)
    ∧ condOf checkEqualPrintableCond x y = decide (id x = id y ∧ x ≠ 0)
    ∧ condOf stringEqualNoCaseRawCond x y = decide (toLower x = toLower y ∧ x ≠ 0)
    ∧ condOf stringEqualNoCasePrintableCond x y = decide (toLower x = toLower y ∧ x ≠ 0) :=
  ⟨promoted_cond id x y, promoted_cond id x y, promoted_cond id x y, promoted_cond id x y,
   promoted_cond toLower x y, promoted_cond toLower x y⟩

/-- the regenerated condition of the binary scan: index below `size` first, then the two bytes equal -/
theorem regenerated_binary_condition (x y : UInt8) (i size : Nat) (hi : i < 2 ^ 64) (hs : size < 2 ^ 64) :
    binaryEqualCond x.toBitVec y.toBitVec (BitVec.ofNat 64 i) (BitVec.ofNat 64 size) = (decide (i < size) && decide (x = y)) := by
  rw [binaryEqualCond, BitVecLemmas.bv_ult i size hi hs]
  simp only [Bool.beq_eq_decide_eq, BitVecLemmas.setWidth_eq_iff (show 8 ≤ 32 by omega), UInt8.toBitVec_inj]

/-- the window offset of the binary class, `failStart * 3 + 1` in `size_t` arithmetic, does not wrap for any array
    that fits in memory, and the reported position is the scan result itself -/
theorem regenerated_binary_offset (k : Nat) (hk : k * 3 + 1 < 2 ^ 64) :
    (binaryEqualOffset (BitVec.ofNat 64 k)).toNat = k * 3 + 1 ∧ (binaryEqualReported (BitVec.ofNat 64 k)).toNat = k := by
  have e3 : ((3#32).signExtend 64) = 3#64 := by decide
  have e1 := one_ext
  simp only [binaryEqualOffset, binaryEqualReported, e3, e1, BitVec.toNat_add, BitVec.toNat_mul, BitVec.toNat_ofNat]
  constructor
  · rw [Nat.mod_eq_of_lt (show k < 2 ^ 64 by omega)]; simp; omega
  · omega

/-- which strings each scan reads (`x` = the one whose terminator ends the scan), which string the marker window is
    cut from, and which index is the window offset / the reported position: as the model has them; and there are
    exactly seven loops in the failure constructors -/
theorem regenerated_scan_wiring :
    stringEqualRawScan = ⟨.actual, .expected⟩ ∧ stringEqualPrintableScan = ⟨.printableActual, .printableExpected⟩
    ∧ stringEqualNoCaseRawScan = ⟨.actual, .expected⟩ ∧ stringEqualNoCasePrintableScan = ⟨.printableActual, .printableExpected⟩
    ∧ checkEqualRawScan = ⟨.actual, .expected⟩ ∧ checkEqualPrintableScan = ⟨.printableActual, .printableExpected⟩
    ∧ binaryEqualScan = ⟨.actual, .expected⟩ ∧ binaryEqualWindowOf = .actualHex
    ∧ stringEqualDiffCall = (.printableActual, .printable, .raw) ∧ stringEqualNoCaseDiffCall = (.printableActual, .printable, .raw)
    ∧ checkEqualDiffCall = (.printableActual, .printable, .raw) ∧ loopCount = 7 := by decide

theorem scanBy_eq_scan (f : UInt8 → UInt8) (c : UInt8 → UInt8 → Bool) (h : ∀ x y, c x y = decide (f x = f y ∧ x ≠ 0)) :
    ∀ fuel A E i, scanBy c fuel A E i = scan f fuel A E i := by
  intro fuel
  induction fuel with
  | zero => intro A E i; rfl
  | succ n ih =>
    intro A E i
    -- with the condition rewritten by `h` both sides are the same `match` on the two reads, up to the `Decidable` instance
    simp only [scanBy, scan, h, ih, decide_eq_true_eq]
    rfl

theorem scanBinBy_eq_scanBin (inRange : Nat → Nat → Bool) (same : UInt8 → UInt8 → Bool) (size : Nat)
    (h1 : ∀ i, i ≤ size → inRange i size = decide (i < size)) (h2 : ∀ x y, same x y = decide (x = y)) :
    ∀ fuel A E i, i ≤ size → scanBinBy inRange same fuel size A E i = scanBin fuel size A E i := by
  intro fuel
  induction fuel with
  | zero => intro A E i _; rfl
  | succ n ih =>
    intro A E i hi
    simp only [scanBinBy, scanBin, h1 i hi]
    by_cases hlt : i < size
    · simp only [hlt, decide_true, if_true, h2, ih A E (i + 1) (by omega), decide_eq_true_eq]
      rfl
    · simp only [hlt, decide_false, Bool.false_eq_true, if_false]

theorem stringScansBy_eq (f : UInt8 → UInt8) (c1 c2 : UInt8 → UInt8 → Bool)
    (h1 : ∀ x y, c1 x y = decide (f x = f y ∧ x ≠ 0)) (h2 : ∀ x y, c2 x y = decide (f x = f y ∧ x ≠ 0)) (e a : Bytes) :
    stringScansBy c1 c2 e a = stringScans f e a := by
  unfold stringScansBy stringScans
  rw [scanBy_eq_scan f c1 h1, scanBy_eq_scan f c2 h2]
  rfl

/-- In bounds, and the first difference, for the scans AS REGENERATED from the source: for ALL operand
    pairs (actual NUL-free) the two loops of `StringEqualFailure`, `CheckEqualFailure` and `StringEqualNoCaseFailure`,
    run with the loop conditions clang sees, stay inside the operands and return the first differing indices. -/
theorem regenerated_scans_in_bounds (e a : Bytes) (ha : NulFree a) :
    stringScansBy (condOf stringEqualRawCond) (condOf stringEqualPrintableCond) e a
      = .ok (firstDiff a e, firstDiff (DiagSpec.printable a) (DiagSpec.printable e))
    ∧ stringScansBy (condOf checkEqualRawCond) (condOf checkEqualPrintableCond) e a
      = .ok (firstDiff a e, firstDiff (DiagSpec.printable a) (DiagSpec.printable e))
    ∧ stringScansBy (condOf stringEqualNoCaseRawCond) (condOf stringEqualNoCasePrintableCond) e a
      = .ok (firstDiffBy Text.lowerByte a e, firstDiffBy Text.lowerByte (DiagSpec.printable a) (DiagSpec.printable e)) :=
  ⟨(stringScansBy_eq id _ _ (promoted_cond id) (promoted_cond id) e a).trans (scan_in_bounds_strings e a ha),
   (stringScansBy_eq id _ _ (promoted_cond id) (promoted_cond id) e a).trans (scan_in_bounds_strings e a ha),
   (stringScansBy_eq toLower _ _ (promoted_cond toLower) (promoted_cond toLower) e a).trans
     (scan_in_bounds_strings_nocase e a ha)⟩

/-- the binary scan as regenerated (`binInRange`, `binSame` = the two conjuncts of the regenerated condition): for
    arrays of at least `size` bytes it stops at the first differing index below `size`, or at `size`, without reading
    outside -/
theorem regenerated_binary_scan_in_bounds (size : Nat) (e a : Bytes) (ha : size ≤ a.length) (he : size ≤ e.length)
    (hs : size < 2 ^ 64) :
    scanBinBy binInRange binSame (size + 1) size a e 0 = .ok (firstDiffBin size a e) := by
  rw [scanBinBy_eq_scanBin binInRange binSame size _ _ (size + 1) a e 0 (by omega)]
  · exact scan_in_bounds_binary size e a ha he
  · intro i hi
    have := regenerated_binary_condition 0 0 i size (by omega) hs
    simpa [binInRange] using this
  · intro x y
    have := regenerated_binary_condition x y 0 1 (by omega) (by omega)
    simpa [binSame] using this

example : stringScansBy (condOf stringEqualRawCond) (condOf stringEqualPrintableCond) [92, 110] [10]
    = .ok (firstDiff [10] [92, 110], firstDiff (DiagSpec.printable [10]) (DiagSpec.printable [92, 110])) :=
  (regenerated_scans_in_bounds _ _ (by decide)).1

example : condOf stringEqualNoCaseRawCond 65 97 = true ∧ condOf stringEqualRawCond 65 97 = false := by decide

end RegeneratedScans

end Diag
