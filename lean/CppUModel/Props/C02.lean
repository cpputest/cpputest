import CppUModel.Proofs.Registry
import CppUModel.Proofs.RegistryGen
import CppUModel.Proofs.OrderedTest
/-!
# C02 — every selected test runs exactly once per repetition; selection follows filters

Model: `CppUModel/Model/Registry.lean` (from `TestRegistry.cpp`,
`Utest.cpp`, `TestFilter.cpp`, `TestResult.cpp`; the loop-free decision functions are the
regenerated `Gen/RegistryShape.lean`); vocabulary: `CppUModel/Spec/Registry.lean`.

All statements quantify over every test list (any length, any group/name bytes, normal and
ignored shells mixed), every filter list, run-ignored on/off, every random stream.
A repetition is one `runAllTests` on the registry as it is (`Reg.run` is a function of the
registry, so every repetition of an unchanged registry gives the same result).
-/
namespace Registry
open Text (Bytes)

/-- run + ignored + filtered-out = number of registered tests, and every test is counted. -/
theorem counts_partition (cfg : Cfg) (ts : List Test) :
    (runAllTests cfg ts).1.runCount + (runAllTests cfg ts).1.ignoredCount +
      (runAllTests cfg ts).1.filteredOutCount = ts.length ∧
    (runAllTests cfg ts).1.testCount = ts.length := by
  rw [runAllTests_counters]
  exact ⟨by rw [countersOfKeys_partition, List.length_map], List.length_map _⟩

/-- each counter says exactly what it is documented to say -/
theorem counts_exact (cfg : Cfg) (ts : List Test) :
    (runAllTests cfg ts).1.runCount =
      (ts.filter (fun t => shouldRun cfg t && willRun cfg t)).length ∧
    (runAllTests cfg ts).1.ignoredCount =
      (ts.filter (fun t => shouldRun cfg t && !willRun cfg t)).length ∧
    (runAllTests cfg ts).1.filteredOutCount = (ts.filter (fun t => !shouldRun cfg t)).length := by
  simp only [runAllTests_counters, countersOfKeys, List.filter_map, List.length_map]
  exact ⟨rfl, rfl, rfl⟩

/-- The implementation's decision (`UtestShell::shouldRun`) is the documented one: the group is
    accepted by at least one group filter (when any are given) AND the name by at least one name
    filter (when any are given); a filter accepts by substring (`<:+:`), by exact match, or by
    the negation of either. -/
theorem selected_iff (cfg : Cfg) (t : Test) : shouldRun cfg t = true ↔ Selected cfg t := by
  unfold shouldRun Selected
  rw [gen_shouldRun]
  simp [matchFilters_iff]

theorem empty_filter_list_accepts (s : Bytes) : kindAccepts [] s := Or.inl rfl

theorem accepts_kinds (text s : Bytes) :
    (Filter.accepts ⟨text, false, false⟩ s ↔ text <:+: s) ∧
    (Filter.accepts ⟨text, true, false⟩ s ↔ s = text) ∧
    (Filter.accepts ⟨text, false, true⟩ s ↔ ¬ text <:+: s) ∧
    (Filter.accepts ⟨text, true, true⟩ s ↔ s ≠ text) := by
  simp [Filter.accepts, Filter.hit]

/-- a single filter of the implementation (`TestFilter::match`) has that meaning -/
theorem filter_match_iff (f : Filter) (s : Bytes) : f.matches s = true ↔ f.accepts s :=
  matches_iff f s

/-- the order in which filters of a kind were given does not matter -/
theorem filter_order_irrelevant (s : Bytes) (fs fs' : List Filter) (h : fs.Perm fs') :
    matchFilters s fs = matchFilters s fs' := by
  have key : kindAccepts fs s ↔ kindAccepts fs' s := by
    constructor
    · rintro (rfl | ⟨f, hf, ha⟩)
      · exact Or.inl h.symm.eq_nil
      · exact Or.inr ⟨f, h.subset hf, ha⟩
    · rintro (rfl | ⟨f, hf, ha⟩)
      · exact Or.inl h.eq_nil
      · exact Or.inr ⟨f, h.symm.subset hf, ha⟩
  rw [← matchFilters_iff, ← matchFilters_iff] at key
  exact Bool.eq_iff_iff.mpr key

instance (cfg : Cfg) (t : Test) : Decidable (Selected cfg t) :=
  decidable_of_iff _ (selected_iff cfg t)

/-! ## every selected test exactly once, in order -/

/-- The tests announced as started are exactly the selected tests, as lists: nothing lost,
    nothing duplicated, list order kept; the same for ended; and the bodies executed are exactly
    those of the selected tests that are not ignored (or all selected, with run-ignored). -/
theorem each_selected_once (cfg : Cfg) (ts : List Test) :
    started (runAllTests cfg ts).2 = (ts.filter (shouldRun cfg)).map (·.id) ∧
    ended (runAllTests cfg ts).2 = (ts.filter (shouldRun cfg)).map (·.id) ∧
    executed (runAllTests cfg ts).2 =
      (ts.filter (fun t => shouldRun cfg t && willRun cfg t)).map (·.id) :=
  ⟨runAllTests_started cfg ts, runAllTests_ended cfg ts, runAllTests_executed cfg ts⟩

/-- the same, stated with the documented meaning of "selected" -/
theorem each_selected_once_documented (cfg : Cfg) (ts : List Test) :
    started (runAllTests cfg ts).2 = (ts.filter (fun t => decide (Selected cfg t))).map (·.id) := by
  rw [(each_selected_once cfg ts).1]
  congr 1
  apply List.filter_congr
  intro t _
  cases h : shouldRun cfg t
  · have : ¬ Selected cfg t := fun hs => by rw [(selected_iff cfg t).mpr hs] at h; cases h
    simp [this]
  · have : Selected cfg t := (selected_iff cfg t).mp h
    simp [this]

/-- with distinct shells no body is executed twice -/
theorem executed_nodup (cfg : Cfg) (ts : List Test) (h : (ts.map (·.id)).Nodup) :
    (executed (runAllTests cfg ts).2).Nodup := by
  rw [(each_selected_once cfg ts).2.2]
  exact List.Nodup.sublist (List.Sublist.map _ (List.filter_sublist)) h

/-- a test's body is executed iff it is selected (documented meaning) and will run -/
theorem executed_iff (cfg : Cfg) (ts : List Test) (t : Test) (ht : t ∈ ts)
    (hinj : ∀ a ∈ ts, ∀ b ∈ ts, a.id = b.id → a = b) :
    t.id ∈ executed (runAllTests cfg ts).2 ↔ (Selected cfg t ∧ willRun cfg t = true) := by
  rw [(each_selected_once cfg ts).2.2, ← selected_iff]
  simp only [List.mem_map, List.mem_filter, Bool.and_eq_true]
  constructor
  · rintro ⟨a, ⟨ha, h1, h2⟩, hid⟩
    have := hinj a ha t ht hid
    subst this
    exact ⟨h1, h2⟩
  · rintro ⟨h1, h2⟩
    exact ⟨t, ⟨ht, h1, h2⟩, rfl⟩

/-- The flag `IgnoredUtestShell::runOneTest` reads is the registry's run-ignored flag: the
    shell's flag can only have been set (in an earlier iteration or repetition) while the
    registry's flag was on, and the registry's flag is never switched off. -/
theorem ignored_flag_is_registry_flag (registryFlag shellFlagBefore : Bool)
    (h : shellFlagBefore = true → registryFlag = true) :
    shellFlagAtUse registryFlag shellFlagBefore = registryFlag := by
  cases registryFlag <;> cases shellFlagBefore <;> simp_all [shellFlagAtUse]

/-- and the invariant `shell flag → registry flag` is kept by an iteration -/
theorem ignored_flag_invariant (registryFlag shellFlagBefore : Bool)
    (h : shellFlagBefore = true → registryFlag = true) :
    shellFlagAtUse registryFlag shellFlagBefore = true → registryFlag = true := by
  cases registryFlag <;> cases shellFlagBefore <;> simp_all [shellFlagAtUse]

/-- For every order of the tests (registration order, reversed, or any shuffled order, including
    orders that split a group) the callback stream reads
    `testsStarted (groupStart (testStart exec? testEnd)* groupEnd)* testsEnded`. -/
theorem groups_balanced (cfg : Cfg) (ts : List Test) : Balanced (runAllTests cfg ts).2 :=
  balanced_runAllTests cfg ts

/-- Group start is announced for the first test and group end for the last test of every block;
    the blocks partition the list in order, none is empty, and all tests of a block carry the
    same group name. -/
theorem group_notifications_at_block_boundaries (cfg : Cfg) (ts : List Test) :
    groupStarts (runAllTests cfg ts).2 = blockHeads (groupBlocks ts) ∧
    groupEnds (runAllTests cfg ts).2 = blockLasts (groupBlocks ts) ∧
    (groupBlocks ts).flatten = ts ∧
    (∀ b ∈ groupBlocks ts, b ≠ []) ∧
    (∀ b ∈ groupBlocks ts, ∀ t ∈ b, ∀ t' ∈ b, t.group = t'.group) := by
  refine ⟨?_, ?_, groupBlocks_flatten ts, groupBlocks_block_ne_nil ts, groupBlocks_same_group ts⟩
  · rw [runAllTests_events, groupStarts_append, groupStarts_append, (groupStarts_blocks cfg _).1]
    exact List.append_nil _
  · rw [runAllTests_events, groupEnds_append, groupEnds_append, (groupStarts_blocks cfg _).2]
    exact List.append_nil _

/-! ## the pointer array: shuffle, reverse, relink -/

/-- Fisher–Yates exactly as in `UtestShellPointerArray::shuffle` is a permutation for every
    random stream (any values, any length, also too short). -/
theorem shuffle_perm (rs : List Nat) (a : Array Nat) : (shuffleArr rs a).toList.Perm a.toList :=
  shuffleArr_perm rs a

/-- the shuffle only swaps inside the array: `1 ≤ i ≤ count-1`, `j ≤ i` (the C++ `swap` has no
    bounds check); with `count-1` random numbers it makes `count-1` swaps -/
theorem shuffle_in_bounds (rs : List Nat) (a : Array Nat) :
    (∀ p ∈ shuffleSwaps (a.size - 1) rs, 1 ≤ p.1 ∧ p.1 < a.size ∧ p.2 ≤ p.1) ∧
    (a.size ≠ 0 → shuffleArr rs a =
      (shuffleSwaps (a.size - 1) rs).foldl (fun b p => swap b p.1 p.2) a) ∧
    (randsNeeded a.size ≤ rs.length → (shuffleSwaps (a.size - 1) rs).length = a.size - 1) := by
  refine ⟨?_, ?_, ?_⟩
  · intro p hp
    have := shuffleSwaps_bounds _ _ p hp
    omega
  · intro h
    simp [shuffleArr, h, shuffleLoop_eq_foldl]
  · intro h
    exact shuffleSwaps_length _ _ h

theorem reverse_eq_reverse (a : Array Nat) : (reverseArr a).toList = a.toList.reverse :=
  reverseArr_toList a

/-- array → `relinkTestsInOrder` → following `next_` from `getFirstTest()`: exactly the array's
    elements in the array's order, ending in NULL — provided the array holds distinct shells
    (which `shuffle_perm`/`reverse_eq_reverse` preserve). -/
theorem relink_roundtrip (a : Array Nat) (nx : Next) (h : a.toList.Nodup) :
    Linked (relink a nx) (firstOf a) a.toList ∧
    ∀ fuel, a.size ≤ fuel → walk (relink a nx) fuel (firstOf a) = a.toList := by
  have hl := relink_linked a nx h
  exact ⟨hl, fun f hf => walk_of_linked hl f (by simpa using hf)⟩

/-- the constructor copies exactly the linked list into the array -/
theorem array_of_list (nx : Next) (h : Option Nat) (l : List Nat) (hl : Linked nx h l)
    (fuel : Nat) (hf : l.length ≤ fuel + 1) : (mkArray nx fuel h).toList = l :=
  mkArray_of_linked hl fuel hf


/-! ## the REGENERATED pointer-array methods (translated from the clang AST on every run)

`Gen/PointerArray.lean` holds `UtestShellPointerArray::{swap, shuffle, reverse, relinkTestsInOrder}`
as the current source has them.  They are proved EQUAL to the hand-written array model, so
`shuffle_perm`, `shuffle_in_bounds`, `reverse_eq_reverse`, `relink_roundtrip`, `wf_history`,
`shuffle_run`, `reverse_run`, `runner_every_repetition` speak about the loops of the source at
check time. -/

open PA in
/-- `swap(i, j)` of the source, inside the array, exchanges exactly the two elements -/
theorem gen_swap_eq (s : St) (i j : Nat) (hi : i < s.arr.size) (hj : j < s.arr.size) :
    Gen.PointerArray.swap s i j = .go { s with arr := swap s.arr i j } := gen_swap s i j hi hj

open PA in
/-- `relinkTestsInOrder()` of the source is the model's relink loop (and touches nothing else) -/
theorem gen_relink_eq (s : St) (hc : s.count = s.arr.size) :
    ∃ s', Gen.PointerArray.relinkTestsInOrder s = .go s' ∧ s'.next = relink s.arr s.next ∧
      s'.arr = s.arr ∧ s'.count = s.count ∧ s'.rands = s.rands ∧ s'.srands = s.srands :=
  gen_relink s hc

open PA in
/-- `reverse()` of the source: never runs out of fuel, leaves the exact reverse in the array and
    the relinked `next_` fields; `PlatformSpecificRand/Srand` are not touched -/
theorem gen_reverse_eq (s : St) (hc : s.count = s.arr.size) :
    ∃ s', (Gen.PointerArray.reverse s).state? = some s' ∧ s'.arr.toList = s.arr.toList.reverse ∧
      s'.next = (if s.arr.size = 0 then s.next else relink (reverseArr s.arr) s.next) ∧
      s'.rands = s.rands ∧ s'.srands = s.srands := by
  obtain ⟨s', h1, h2, h3, h4, h5⟩ := gen_reverse s hc
  exact ⟨s', h1, by rw [h2, reverseArr_toList], h3, h4, h5⟩

open PA in
/-- `shuffle(seed)` of the source, for EVERY random stream long enough (`count_ - 1` numbers):
    never runs out of fuel, seeds exactly once with `(unsigned int) seed` (not at all for an empty
    array), consumes exactly `count_ - 1` numbers, leaves a PERMUTATION of the array (the one
    `shuffleArr` computes) and its relinked `next_` fields. -/
theorem gen_shuffle_eq (s : St) (seed : Nat) (hc : s.count = s.arr.size)
    (hr : randsNeeded s.arr.size ≤ s.rands.length) :
    ∃ s', (Gen.PointerArray.shuffle s seed).state? = some s' ∧ s'.arr = shuffleArr s.rands s.arr ∧
      s'.arr.toList.Perm s.arr.toList ∧
      s'.next = (if s.arr.size = 0 then s.next else relink s'.arr s.next) ∧
      s'.rands = (if s.arr.size = 0 then s.rands else s.rands.drop (randsNeeded s.arr.size)) ∧
      s'.srands = (if s.arr.size = 0 then s.srands else s.srands ++ [seed % 4294967296]) := by
  obtain ⟨s', h1, h2, h3, h4, h5⟩ := gen_shuffle s seed hc hr
  exact ⟨s', h1, h2, by rw [h2]; exact shuffle_perm _ _, by rw [h2]; exact h3, h4, h5⟩

/-- `TestRegistry::reverseTests` executed through the regenerated `reverse` IS the model's
    `Reg.reverseTests` (no hypothesis: the constructor makes `count_` the array's size). -/
theorem gen_reverseTests_eq (r : Reg) :
    ∃ g, r.reverseTestsGen = some g ∧ g.reg = r.reverseTests ∧ g.srands = [] ∧ g.rest = [] := by
  obtain ⟨s', h1, h2, h3, h4, h5⟩ := gen_reverse (r.pointerArray []) rfl
  refine ⟨{ reg := r.afterArray s', srands := s'.srands, rest := s'.rands }, ?_, ?_, h5, h4⟩
  · simp only [Reg.reverseTestsGen, h1]
  · simp only [Reg.afterArray, Reg.reverseTests, h2, h3, Reg.pointerArray]
    rfl

/-- `TestRegistry::shuffleTests(seed)` executed through the regenerated `shuffle` IS the model's
    `Reg.shuffleTests` on the numbers drawn; it draws `n - 1` numbers for `n` registered tests. -/
theorem gen_shuffleTests_eq (r : Reg) (seed : Nat) (rs : List Nat)
    (hr : randsNeeded (mkArray r.next r.objs.size r.head).size ≤ rs.length) :
    ∃ g, r.shuffleTestsGen seed rs = some g ∧ g.reg = r.shuffleTests rs ∧
      g.srands = (if (mkArray r.next r.objs.size r.head).size = 0 then [] else [seed % 4294967296]) ∧
      g.rest = (if (mkArray r.next r.objs.size r.head).size = 0 then rs
                else rs.drop (randsNeeded (mkArray r.next r.objs.size r.head).size)) := by
  obtain ⟨s', h1, h2, h3, h4, h5⟩ := gen_shuffle (r.pointerArray rs) seed rfl hr
  refine ⟨{ reg := r.afterArray s', srands := s'.srands, rest := s'.rands }, ?_, ?_, ?_, h4⟩
  · simp only [Reg.shuffleTestsGen, h1]
  · simp only [Reg.afterArray, Reg.shuffleTests, h2, h3, Reg.pointerArray]
    rfl
  · rw [h5]; simp [Reg.pointerArray]

/-- End to end on the regenerated code: after `shuffleTests(seed)` as the source has it, for any
    seed and any random stream, the registry is well formed and its list is a permutation of the
    list before — no test lost, none duplicated. -/
theorem gen_shuffleTests_perm {r : Reg} (h : r.WF) (seed : Nat) (rs : List Nat)
    (hr : randsNeeded r.order.length ≤ rs.length) :
    ∃ g, r.shuffleTestsGen seed rs = some g ∧ g.reg.WF ∧ g.reg.order.Perm r.order ∧
      g.rest.length + randsNeeded r.order.length = rs.length := by
  have hsz : (mkArray r.next r.objs.size r.head).size = r.order.length := by
    rw [← Array.length_toList, h.mkArray_toList]
  obtain ⟨g, h1, h2, _, h4⟩ := gen_shuffleTests_eq r seed rs (by rw [hsz]; exact hr)
  refine ⟨g, h1, by rw [h2]; exact (wf_shuffleTests h rs).1, by rw [h2]; exact (wf_shuffleTests h rs).2, ?_⟩
  rw [h4, hsz]
  split
  · rename_i h0; simp [h0, randsNeeded]
  · simp only [List.length_drop]; omega

/-- ... and after `reverseTests()` as the source has it the list is the exact reverse. -/
theorem gen_reverseTests_order {r : Reg} (h : r.WF) :
    ∃ g, r.reverseTestsGen = some g ∧ g.reg.WF ∧ g.reg.order = r.order.reverse := by
  obtain ⟨g, h1, h2, _, _⟩ := gen_reverseTests_eq r
  exact ⟨g, h1, by rw [h2]; exact (wf_reverseTests h).1, by rw [h2]; exact (wf_reverseTests h).2⟩


/-! ## the registry: no test is ever lost or duplicated -/

inductive RegOp
  | addTest (group name : Bytes) (ignored : Bool)
  | groupFilter (f : Filter)
  | nameFilter (f : Filter)
  | runIgnored
  | reverse
  | shuffle (rs : List Nat)
  | undoLastAdd
  | shellRunIgnored (i : Nat)      -- `shell->setRunIgnored()` called directly on shell `i`
  | ran                            -- a `runAllTests` happened (its effect on the shells' flags)

def Reg.apply (r : Reg) : RegOp → Reg
  | .addTest g n ig => r.addTest g n ig
  | .groupFilter f => { r with groupFilters := f :: r.groupFilters }
  | .nameFilter f => { r with nameFilters := f :: r.nameFilters }
  | .runIgnored => { r with runIgnored := true }
  | .reverse => r.reverseTests
  | .shuffle rs => r.shuffleTests rs
  | .undoLastAdd => r.unDoLastAddTest
  | .shellRunIgnored i => r.shellSetRunIgnored i
  | .ran => r.afterRun

theorem wf_apply {r : Reg} (h : r.WF) (op : RegOp) : (r.apply op).WF := by
  cases op with
  | addTest g n ig => exact (wf_addTest h g n ig).1
  | groupFilter f => exact h.of_same_shells rfl rfl rfl
  | nameFilter f => exact h.of_same_shells rfl rfl rfl
  | runIgnored => exact h.of_same_shells rfl rfl rfl
  | reverse => exact (wf_reverseTests h).1
  | shuffle rs => exact (wf_shuffleTests h rs).1
  | undoLastAdd => exact (wf_unDoLastAddTest h).1
  | shellRunIgnored i => exact (wf_shellSetRunIgnored h i).1
  | ran => exact (wf_afterRun h).1

theorem history_induction (P : Reg → Prop) (ok : RegOp → Prop)
    (step : ∀ r op, P r → ok op → P (r.apply op)) :
    ∀ (ops : List RegOp) (r : Reg), P r → (∀ op ∈ ops, ok op) → P (ops.foldl Reg.apply r) :=
  fun ops _ h hok => List.foldlRecOn ops Reg.apply h fun r h op hop => step r op h (hok op hop)

/-- After any history of registrations, filter settings, reversals, shuffles (any random
    streams), un-registrations, direct `setRunIgnored` calls and runs, the list is a proper
    NULL-terminated list of distinct shells. -/
theorem wf_history (ops : List RegOp) : (ops.foldl Reg.apply Reg.empty).WF :=
  history_induction Reg.WF (fun _ => True) (fun _ op h _ => wf_apply h op) ops _ wf_empty.1
    (fun _ _ => trivial)

theorem complete_apply {r : Reg} (h : r.WF) (hc : r.Complete) (op : RegOp)
    (hop : op ≠ RegOp.undoLastAdd) : (r.apply op).Complete := by
  -- the list is permuted and no shell is created
  have keep : ∀ r' : Reg, r'.order.Perm r.order → r'.objs.size = r.objs.size → r'.Complete :=
    fun r' ho hs => by unfold Reg.Complete; rw [hs]; exact ho.trans hc
  cases op with
  | addTest g n ig => exact complete_addTest h hc g n ig
  | groupFilter f => exact hc
  | nameFilter f => exact hc
  | runIgnored => exact hc
  | reverse => exact keep _ ((wf_reverseTests h).2 ▸ List.reverse_perm _) rfl
  | shuffle rs => exact keep _ (wf_shuffleTests h rs).2 rfl
  | undoLastAdd => exact absurd rfl hop
  | shellRunIgnored i =>
    exact keep _ ((wf_shellSetRunIgnored h i).2 ▸ List.Perm.refl _) (Array.size_modify ..)
  | ran =>
    exact keep _ ((wf_afterRun h).2 ▸ List.Perm.refl _) (by rw [Reg.apply, afterRun_eq]; exact Array.size_map ..)

/-- Without `unDoLastAddTest` the list moreover holds EVERY shell ever registered. -/
theorem complete_history (ops : List RegOp) (hno : ∀ op ∈ ops, op ≠ RegOp.undoLastAdd) :
    (ops.foldl Reg.apply Reg.empty).Complete :=
  (history_induction (fun r => r.WF ∧ r.Complete) (· ≠ RegOp.undoLastAdd)
    (fun _ op h hop => ⟨wf_apply h.1 op, complete_apply h.1 h.2 op hop⟩) ops _
    ⟨wf_empty.1, complete_empty⟩ hno).2

theorem addTest_order {r : Reg} (h : r.WF) (g n : Bytes) (ig : Bool) :
    (r.addTest g n ig).order = r.objs.size :: r.order := (wf_addTest h g n ig).2

theorem reverseTests_order {r : Reg} (h : r.WF) : r.reverseTests.order = r.order.reverse :=
  (wf_reverseTests h).2

theorem shuffleTests_perm {r : Reg} (h : r.WF) (rs : List Nat) :
    (r.shuffleTests rs).order.Perm r.order := (wf_shuffleTests h rs).2

/-- `unDoLastAddTest` removes exactly the first shell of the list (the shell registered last,
    unless the list was reordered since) -/
theorem unDoLastAddTest_order {r : Reg} (h : r.WF) : r.unDoLastAddTest.order = r.order.drop 1 :=
  (wf_unDoLastAddTest h).2

theorem unDo_addTest {r : Reg} (h : r.WF) (g n : Bytes) (ig : Bool) :
    (r.addTest g n ig).unDoLastAddTest.order = r.order := by
  rw [unDoLastAddTest_order (wf_addTest h g n ig).1, addTest_order h]
  rfl

/-- In a repetition every registered test is run, or counted as ignored, or counted as filtered
    out: the three counters sum to the number of registered shells, whatever reversals and
    shuffles happened before. -/
theorem run_counts_registered {r : Reg} (h : r.WF) :
    r.run.1.runCount + r.run.1.ignoredCount + r.run.1.filteredOutCount = r.order.length ∧
    r.run.1.testCount = r.order.length := by
  have := counts_partition r.cfg r.tests
  rw [tests_length h] at this
  exact this

/-- ... which, as long as nothing was un-registered, is the number of shells ever registered -/
theorem run_counts_all_registered {r : Reg} (h : r.WF) (hc : r.Complete) :
    r.run.1.runCount + r.run.1.ignoredCount + r.run.1.filteredOutCount = r.objs.size := by
  rw [(run_counts_registered h).1, hc.length_eq, List.length_range]

/-- Reversing only reverses the order in which the same tests start. -/
theorem reverse_run {r : Reg} (h : r.WF) :
    started r.reverseTests.run.2 = (started r.run.2).reverse ∧
    executed r.reverseTests.run.2 = (executed r.run.2).reverse ∧
    r.reverseTests.run.1 = r.run.1 := by
  have ht : r.reverseTests.tests = r.tests.reverse := by
    unfold Reg.tests
    rw [reverseTests_order h, List.filterMap_reverse]
    rfl
  have hc : r.reverseTests.cfg = r.cfg := rfl
  unfold Reg.run
  rw [hc, ht]
  refine ⟨?_, ?_, ?_⟩
  · rw [runAllTests_started, runAllTests_started, List.filter_reverse, List.map_reverse]
  · rw [runAllTests_executed, runAllTests_executed, List.filter_reverse, List.map_reverse]
  · rw [runAllTests_counters, runAllTests_counters]
    exact countersOfKeys_perm ((List.reverse_perm _).map _)

/-- Shuffling with any random stream only permutes: the same tests start, the same bodies are
    executed (as multisets), and every counter is unchanged. -/
theorem shuffle_run {r : Reg} (h : r.WF) (rs : List Nat) :
    (started (r.shuffleTests rs).run.2).Perm (started r.run.2) ∧
    (executed (r.shuffleTests rs).run.2).Perm (executed r.run.2) ∧
    (r.shuffleTests rs).run.1 = r.run.1 := by
  obtain ⟨c1, x1, s1, _⟩ := runOf_perm (keys_shuffleTests h rs) _ (runOf_run (r.shuffleTests rs))
  obtain ⟨c2, x2, s2, _⟩ := runOf_run r
  exact ⟨s1.trans s2.symm, x1.trans x2.symm, c1.trans c2.symm⟩

/-! ## TEST_ORDERED (src/CppUTestExt/OrderedTest.cpp): ordered tests are registered like any other -/

/-- one static registration -/
inductive InstOp
  | test (group name : Bytes) (ignored : Bool)          -- TEST / IGNORE_TEST
  | ordered (lvl : Int) (group name : Bytes)            -- TEST_ORDERED(group, name, lvl)

def OReg.applyInst (o : OReg) : InstOp → OReg
  | .test g n ig => o.addTest g n ig
  | .ordered lvl g n => o.install lvl g n [] 0

/-- ids (registration indices, from `k`) of the plain / ignored registrations -/
def plainOf : List InstOp → Nat → List Nat
  | [], _ => []
  | .test _ _ _ :: ops, k => k :: plainOf ops (k + 1)
  | .ordered _ _ _ :: ops, k => plainOf ops (k + 1)

/-- ids and levels of the ordered registrations -/
def orderedOf : List InstOp → Nat → List (Nat × Int)
  | [], _ => []
  | .test _ _ _ :: ops, k => orderedOf ops (k + 1)
  | .ordered lvl _ _ :: ops, k => (k, lvl) :: orderedOf ops (k + 1)

/-- sorted by level, equal levels by registration index -/
def LevelSorted (level : Nat → Int) (chain : List Nat) : Prop :=
  chain.Pairwise (fun a b => level a < level b ∨ (level a = level b ∧ a < b))

theorem insLvl_levelSorted (level : Nat → Int) (lvl : Int) (i : Nat) : ∀ chain : List Nat,
    LevelSorted level chain → (∀ c ∈ chain, c < i) →
    LevelSorted (fun k => if k = i then lvl else level k) (insLvl level lvl i chain)
  | chain, hs, hlt => by
    have hne : ∀ c ∈ chain, c ≠ i := fun c hc => Nat.ne_of_lt (hlt c hc)
    apply insLvl_pairwise (levelSorted_trans fun k => if k = i then lvl else level k) level lvl i chain
    · exact hs.imp_of_mem (fun ha hb hab => by rw [if_neg (hne _ ha), if_neg (hne _ hb)]; exact hab)
    · intro c hc hle
      rw [if_neg (hne c hc), if_pos rfl]
      have := hlt c hc
      omega
    · intro c hc hgt
      rw [if_pos rfl, if_neg (hne c hc)]
      exact Or.inl hgt

/-- the state reached by registrations: invariant of OrderedTest.cpp plus what is where -/
structure InstState (o : OReg) (pre chain : List Nat) : Prop where
  inv     : OInv o pre chain
  lex     : LevelSorted o.level chain
  bound   : ∀ c ∈ pre ++ chain, c < o.reg.objs.size
  all     : (pre ++ chain).Perm (List.range o.reg.objs.size)

theorem instState_step {o : OReg} {pre chain : List Nat} (h : InstState o pre chain) (op : InstOp) :
    ∃ pre' chain', InstState (o.applyInst op) pre' chain' ∧
      (o.applyInst op).reg.objs.size = o.reg.objs.size + 1 ∧
      (match op with
       | .test _ _ _ => pre' = o.reg.objs.size :: pre ∧ chain' = chain ∧ (o.applyInst op).level = o.level
       | .ordered lvl _ _ => pre' = pre ∧ chain' = insLvl o.level lvl o.reg.objs.size chain ∧
           (o.applyInst op).level o.reg.objs.size = lvl ∧
           ∀ c, c ≠ o.reg.objs.size → (o.applyInst op).level c = o.level c) := by
  -- one more shell: what holds all old shells and the new one holds all shells
  have grow : ∀ {o' : OReg} {l : List Nat}, o'.reg.objs.size = o.reg.objs.size + 1 →
      l.Perm (o.reg.objs.size :: (pre ++ chain)) → l.Perm (List.range o'.reg.objs.size) := by
    intro o' l hsz hl
    rw [hsz, List.range_succ]
    exact (hl.trans (List.Perm.cons _ h.all)).trans (List.perm_append_singleton _ _).symm
  cases op with
  | test g n ig =>
    have hsz : (o.addTest g n ig).reg.objs.size = o.reg.objs.size + 1 := by simp [OReg.addTest, Reg.addTest]
    have hall := grow hsz (List.Perm.refl _)
    exact ⟨o.reg.objs.size :: pre, chain,
      { inv := oinv_addTest h.inv g n ig [] 0, lex := h.lex,
        bound := fun c hc => List.mem_range.mp (hall.subset hc), all := hall }, hsz, rfl, rfl, rfl⟩
  | ordered lvl g n =>
    obtain ⟨hinv, hsz, hlev⟩ := oinv_install h.inv lvl g n [] 0
    have hall := grow hsz
      ((List.Perm.append_left pre (insLvl_perm o.level lvl o.reg.objs.size chain)).trans List.perm_middle)
    refine ⟨pre, insLvl o.level lvl o.reg.objs.size chain,
      { inv := hinv, lex := ?_, bound := fun c hc => List.mem_range.mp (hall.subset hc), all := hall },
      hsz, rfl, rfl, by simp [OReg.applyInst, hlev], fun c hc => by simp [OReg.applyInst, hlev, hc]⟩
    show LevelSorted (o.install lvl g n [] 0).level _
    rw [hlev]
    exact insLvl_levelSorted o.level lvl o.reg.objs.size chain h.lex
      (fun c hc => h.bound c (List.mem_append_right _ hc))

theorem instState_history (ops : List InstOp) : ∀ (o : OReg) (pre chain : List Nat), InstState o pre chain →
    ∃ pre' chain', InstState (ops.foldl OReg.applyInst o) pre' chain' ∧
      (ops.foldl OReg.applyInst o).reg.objs.size = o.reg.objs.size + ops.length ∧
      pre' = (plainOf ops o.reg.objs.size).reverse ++ pre ∧
      chain'.Perm ((orderedOf ops o.reg.objs.size).map (·.1) ++ chain) ∧
      (∀ p ∈ orderedOf ops o.reg.objs.size, (ops.foldl OReg.applyInst o).level p.1 = p.2) ∧
      (∀ c, c < o.reg.objs.size → (ops.foldl OReg.applyInst o).level c = o.level c) := by
  induction ops with
  | nil => intro o pre chain h; exact ⟨pre, chain, h, rfl, by simp [plainOf], by simp [orderedOf], by simp [orderedOf], fun _ _ => rfl⟩
  | cons op ops ih =>
    -- `instState_step` says what one registration does; the rest only adds the effects up. Shell ids are
    -- registration indices, which is why `plainOf`/`orderedOf` of the tail count from the size reached.
    intro o pre chain h
    obtain ⟨pre1, chain1, h1, hsz1, hop⟩ := instState_step h op
    obtain ⟨pre', chain', h2, hsz2, hp, hc, hl, hk⟩ := ih _ pre1 chain1 h1
    rw [hsz1] at hp hc hl hk
    have hlen : ((op :: ops).foldl OReg.applyInst o).reg.objs.size = o.reg.objs.size + (op :: ops).length := by
      rw [List.foldl_cons, hsz2, hsz1, List.length_cons]; omega
    cases op with
    | test g n ig =>
      obtain ⟨rfl, rfl, e3⟩ := hop
      exact ⟨pre', chain', h2, hlen, by rw [hp]; simp [plainOf], by simpa [orderedOf] using hc, hl,
        fun c hcl => by rw [List.foldl_cons, hk c (by omega), e3]⟩
    | ordered lvl g n =>
      obtain ⟨rfl, rfl, e3, e4⟩ := hop
      refine ⟨pre', chain', h2, hlen, by rw [hp]; simp [plainOf], ?_, ?_,
        fun c hcl => by rw [List.foldl_cons, hk c (by omega)]; exact e4 c (by omega)⟩
      · exact hc.trans ((List.Perm.append_left _ (insLvl_perm o.level lvl o.reg.objs.size chain)).trans
          List.perm_middle)
      · intro p hpm
        rcases List.mem_cons.mp hpm with rfl | hpm
        · rw [List.foldl_cons, hk _ (by omega)]; exact e3
        · exact hl p hpm

theorem instState_empty : InstState {} [] [] :=
  { inv := oinv_empty, lex := List.Pairwise.nil, bound := by simp,
    all := by simp [Reg.empty] }

/-- **Registrations with TEST_ORDERED.**  After ANY sequence of static registrations — plain,
    ignored and ordered tests in any order, any levels (ties, negative, INT_MIN/INT_MAX) — the
    registry's list is a proper NULL-terminated list that holds every registered shell exactly
    once (`WF`, `Complete`); it reads: the plain/ignored tests, newest first, followed by the
    ordered tests; the ordered tests are exactly the `_nextOrderedTest` chain and stand in the
    order of their levels, equal levels in registration order. -/
theorem ordered_history (ops : List InstOp) :
    (ops.foldl OReg.applyInst {}).reg.WF ∧ (ops.foldl OReg.applyInst {}).reg.Complete ∧
    (ops.foldl OReg.applyInst {}).reg.objs.size = ops.length ∧
    ∃ chain, (ops.foldl OReg.applyInst {}).reg.order = (plainOf ops 0).reverse ++ chain ∧
      (ops.foldl OReg.applyInst {}).chain = chain ∧
      chain.Perm ((orderedOf ops 0).map (·.1)) ∧
      (∀ p ∈ orderedOf ops 0, (ops.foldl OReg.applyInst {}).level p.1 = p.2) ∧
      LevelSorted (ops.foldl OReg.applyInst {}).level chain := by
  obtain ⟨pre', chain', h, hsz, hp, hc, hl, _⟩ := instState_history ops {} [] [] instState_empty
  have hsz0 : ({} : OReg).reg.objs.size = 0 := rfl
  rw [hsz0] at hsz hp hc hl
  have hord := h.inv.order
  refine ⟨h.inv.wf, ?_, by simpa using hsz, chain', ?_, ?_, by simpa using hc, hl, h.lex⟩
  · unfold Reg.Complete; rw [hord]; exact h.all
  · rw [hord, hp]; simp
  · unfold OReg.chain
    apply walk_of_linked h.inv.olink
    have hsub : chain'.length ≤ (pre' ++ chain').length := by simp
    have := h.inv.wf.order_length_le
    rw [hord] at this
    omega

/-- ... hence in a repetition every registration — ordered or not — is run, or counted as
    ignored, or counted as filtered out: the three counters sum to the number of registrations,
    whatever filters are set afterwards. -/
theorem ordered_every_registration_counted (ops : List InstOp) (gf nf : List Filter) (ri : Bool) :
    ({ (ops.foldl OReg.applyInst {}).reg with groupFilters := gf, nameFilters := nf, runIgnored := ri } : Reg).run.1.runCount +
    ({ (ops.foldl OReg.applyInst {}).reg with groupFilters := gf, nameFilters := nf, runIgnored := ri } : Reg).run.1.ignoredCount +
    ({ (ops.foldl OReg.applyInst {}).reg with groupFilters := gf, nameFilters := nf, runIgnored := ri } : Reg).run.1.filteredOutCount
      = ops.length := by
  obtain ⟨hw, hc, hsz, _⟩ := ordered_history ops
  have hw' : ({ (ops.foldl OReg.applyInst {}).reg with groupFilters := gf, nameFilters := nf, runIgnored := ri } : Reg).WF :=
    hw.of_same_shells rfl rfl rfl
  have := run_counts_all_registered hw' hc
  rw [this]
  exact hsz

/-- `reg->getTestWithNext(head)` in `addOrderedTestToHead`: the id-level loop of the installer's
    model is the registry query `getTestWithNext` proved in `getTestWithNext_spec` -/
theorem ordered_uses_getTestWithNext {r : Reg} (h : r.WF) (target : Option Nat) :
    prevId target r.order = getTestWithNext target r.tests := by
  rw [← tests_ids h, prevId_eq_getTestWithNext]

/-- the single installer step, on any state the registrations can reach: only an insertion -/
theorem ordered_install_inserts {o : OReg} {pre chain : List Nat} (h : OInv o pre chain) (lvl : Int)
    (g n f : Bytes) (line : Nat) :
    (o.install lvl g n f line).reg.WF ∧
    (o.install lvl g n f line).reg.order = pre ++ insLvl o.level lvl o.reg.objs.size chain ∧
    ((o.install lvl g n f line).reg.order.filter (· ≠ o.reg.objs.size)) = o.reg.order := by
  obtain ⟨hinv, _, _⟩ := oinv_install h lvl g n f line
  refine ⟨hinv.wf, hinv.order, ?_⟩
  rw [hinv.order, h.order]
  have hnot : ∀ c ∈ pre ++ chain, c ≠ o.reg.objs.size := by
    intro c hc e
    have := h.wf.bound c (h.order ▸ hc)
    omega
  have hf : ∀ l : List Nat, (∀ c ∈ l, c ≠ o.reg.objs.size) → l.filter (· ≠ o.reg.objs.size) = l := by
    intro l hl
    apply List.filter_eq_self.mpr
    intro c hc; simpa using hl c hc
  have hch : ∀ c ∈ chain, c ≠ o.reg.objs.size := fun c hc => hnot c (by simp [hc])
  have hins : (insLvl o.level lvl o.reg.objs.size chain).filter (· ≠ o.reg.objs.size) = chain := by
    unfold insLvl
    rw [List.filter_append, List.filter_cons_of_neg (by simp), ← List.filter_append,
      List.takeWhile_append_dropWhile]
    exact hf chain hch
  rw [List.filter_append, hf pre (fun c hc => hnot c (by simp [hc])), hins]

/-! ## run-ignored per shell: `shouldRun` × `willRun` -/

/-- Whether a selected test's body runs: it is a plain test, or the registry runs ignored
    tests, or this very shell was told to (`shell->setRunIgnored()`); this is what
    `IgnoredUtestShell::runOneTest` decides on (see `executed_iff`). -/
theorem willRun_eq (cfg : Cfg) (t : Test) :
    willRun cfg t = (!t.ignored || cfg.runIgnored || t.flag) := rfl

/-- after a run the shell's own `willRun()` answers what the run did with it -/
theorem shell_willRun_after_run (cfg : Cfg) (t : Test) :
    (if cfg.runIgnored then t.setRunIgnored else t).willRun = willRun cfg t := by
  obtain ⟨id, g, n, ig, fl, f, l⟩ := t
  cases hri : cfg.runIgnored <;> cases ig <;> cases fl <;>
    simp [Test.willRun, Test.setRunIgnored, willRun, hri]

/-- a direct `setRunIgnored()` makes exactly an ignored shell willing; a plain shell always is -/
theorem shell_willRun_after_set (t : Test) : t.setRunIgnored.willRun = true := by
  obtain ⟨id, g, n, ig, fl, f, l⟩ := t
  cases ig <;> simp [Test.willRun, Test.setRunIgnored]

theorem shell_willRun_fresh (t : Test) (h : t.flag = false) : t.willRun = !t.ignored := by
  obtain ⟨id, g, n, ig, fl, f, l⟩ := t
  subst h
  cases ig <;> simp [Test.willRun]

/-- As long as nobody calls `setRunIgnored()` on a shell directly, a shell's flag implies the
    registry's flag, so the decision is the registry's: `willRun = ¬ignored ∨ registry flag`. -/
theorem flags_follow_registry (ops : List RegOp)
    (hno : ∀ op ∈ ops, ∀ i, op ≠ RegOp.shellRunIgnored i) :
    ∀ t ∈ (ops.foldl Reg.apply Reg.empty).objs.toList,
      t.flag = true → (ops.foldl Reg.apply Reg.empty).runIgnored = true := by
  refine history_induction (fun r => ∀ t ∈ r.objs.toList, t.flag = true → r.runIgnored = true)
    (fun op => ∀ i, op ≠ RegOp.shellRunIgnored i) ?_ ops _ (by simp [Reg.empty]) hno
  intro r op h hop
  cases op with
  | addTest g n ig =>
    intro t ht hf
    simp only [Reg.apply, Reg.addTest, Array.toList_push, List.mem_append, List.mem_singleton] at ht
    rcases ht with ht | rfl
    · exact h t ht hf
    · simp at hf
  | groupFilter f => exact h
  | nameFilter f => exact h
  | runIgnored => intro t _ _; rfl
  | reverse => exact h
  | shuffle rs => exact h
  | undoLastAdd => exact h
  | shellRunIgnored i => exact absurd rfl (hop i)
  | ran =>
    intro t ht hf
    simp only [Reg.apply, afterRun_eq, Array.toList_map, List.mem_map] at ht
    obtain ⟨u, hu, rfl⟩ := ht
    show r.runIgnored = true
    cases hri : r.runIgnored
    · simp only [hri, Bool.false_and, Bool.false_eq_true, if_false] at hf
      have := h u hu hf
      rw [hri] at this; exact this
    · rfl

/-- `findTestWithName` / `findTestWithGroup`: the first shell in list order with that name / group -/
theorem findTestWithName_first (name : Bytes) (ts : List Test) :
    findTestWithName name ts = (ts.find? (fun t => t.name == name)).map (·.id) :=
  findTestWithName_eq name ts

theorem findTestWithGroup_first (group : Bytes) (ts : List Test) :
    findTestWithGroup group ts = (ts.find? (fun t => t.group == group)).map (·.id) :=
  findTestWithGroup_eq group ts

/-- `countTests()` is the length of the list: for a well-formed registry the number of
    registered shells -/
theorem countTests_registered {r : Reg} (h : r.WF) : countTestsList r.tests = r.order.length := by
  rw [countTestsList_eq, tests_length h]

/-- `getTestWithNext(x)` is the predecessor of `x`; for the head, or for a shell that is not in
    the list, NULL; for NULL, the last shell. -/
theorem getTestWithNext_spec (ts : List Test) (hn : (ts.map (·.id)).Nodup) :
    (∀ pre p x post, ts = pre ++ p :: x :: post → getTestWithNext (some x.id) ts = some p.id) ∧
    (∀ x rest, ts = x :: rest → getTestWithNext (some x.id) ts = none) ∧
    (∀ i, i ∉ ts.map (·.id) → getTestWithNext (some i) ts = none) ∧
    getTestWithNext none ts = ts.getLast?.map (·.id) := by
  simp only [← prevId_eq_getTestWithNext]
  refine ⟨?_, ?_, ?_, by rw [prevId_none, List.getLast?_map]⟩
  · intro pre p x post e
    subst e
    simpa using prevId_some_mid p.id x.id (post.map (·.id)) (pre.map (·.id)) (by simpa using hn)
  · intro x rest e
    subst e
    exact prevId_not_in_tail _ _ (List.nodup_cons.mp hn).1
  · intro i hi
    exact prevId_not_in_tail _ _ (fun hm => hi (List.mem_of_mem_drop hm))

/-! ## list modes: nothing runs, what is listed follows the filters -/

/-- `-ln` looks at the filters exactly like a run does: the listed entries are those of the
    selected tests (documented meaning, `selected_iff`), and the others are counted as filtered
    out; no other counter moves and no test is started. -/
theorem list_names_follows_filters (cfg : Cfg) (ts : List Test) :
    (listTestGroupAndCaseNames cfg ts).1 =
      listFinish (accLoop ((ts.filter (shouldRun cfg)).map groupDotName) []) ∧
    (listTestGroupAndCaseNames cfg ts).2 =
      { testCount := 0, runCount := 0, ignoredCount := 0,
        filteredOutCount := (ts.filter (fun t => !shouldRun cfg t)).length } := by
  have h := lnLoop_eq cfg ts [] {}
  refine ⟨by simp only [listTestGroupAndCaseNames, h.1], ?_⟩
  simp only [listTestGroupAndCaseNames, h.2]
  simp

/-- `-lg` does not look at the filters: all groups of the list -/
theorem list_groups_all (ts : List Test) :
    listTestGroupNames ts = listFinish (accLoop (ts.map groupEntry) []) := by
  simp [listTestGroupNames, lgLoop_eq_accLoop]

/-- What the accumulation of `-lg` / `-ln` holds before the `#` are removed: the entries of a
    duplicate-free sublist (list order kept) of the given entries, and every given entry occurs
    in it — nothing invented, nothing reordered, nothing listed twice, nothing missing. -/
theorem list_accumulation (es : List Bytes) :
    (∃ ds : List Bytes, ds.Sublist es ∧ accLoop es [] = encEntries ds ∧ ds.Nodup) ∧
    ∀ e ∈ es, Text.isInfix (accLoop es []) e = true := by
  obtain ⟨ds, h1, h2, h3, _, h5⟩ := accLoop_structure es []
  exact ⟨⟨ds, h1, by simpa using h2, h3⟩, h5⟩

/-- NOT PROVED (checked on the implementation's output by the specification oracle of every
    run instead): when no entry contains `#` and none is the single space, the accumulated
    entries are exactly the first occurrences, i.e. the printed text is the distinct names joined
    by single spaces.  The missing step is the delimiter argument "an occurrence of `#g#` in
    `#d1# #d2# …` lies between two consecutive `#`". -/
def list_accumulation_full : Prop :=
  ∀ es : List Bytes, (∀ e ∈ es, ∃ g, e = [hash] ++ g ++ [hash] ∧ hash ∉ g ∧ g ≠ [space]) →
    accLoop es [] = encEntries es.eraseDups

/-- `-ll` lists every shell of the list, in list order, one line each (no filter is consulted) -/
theorem list_locations_all (ts : List Test) :
    listTestLocations ts =
      (ts.map (fun t => t.group ++ [dot] ++ t.name ++ [dot] ++ t.file ++ [dot] ++ decimal t.line ++ [10])).flatten := by
  induction ts with
  | nil => rfl
  | cons t rest ih => simp only [listTestLocations, List.map_cons, List.flatten_cons, ih]

/-- in a list mode the runner starts no test: its output holds no run at all -/
theorem list_modes_run_nothing (a : RunnerArgs) (r : Reg) (rs : List Nat) (h : a.listMode ≠ .none) :
    runsOf (runnerRunAllTests a r rs).2.1 = [] ∧ (runnerRunAllTests a r rs).2.2 = 0 := by
  unfold runnerRunAllTests
  cases hm : a.listMode with
  | none => exact absurd hm h
  | groups => simp [runsOf]
  | names => simp [runsOf]
  | locations => simp [runsOf]

/-! ## the repeat loop of `CommandLineTestRunner` -/

/-- The registry the repetitions start from: filters and run-ignored of the command line,
    reversed once with -b. -/
def runnerStart (a : RunnerArgs) (r : Reg) : Reg :=
  if a.reversing then (initializeTestRun a r).reverseTests else initializeTestRun a r

theorem wf_runnerStart {a : RunnerArgs} {r : Reg} (h : r.WF) :
    (runnerStart a r).WF ∧ (runnerStart a r).order.Perm r.order := by
  unfold runnerStart
  split
  · have := wf_reverseTests (wf_initializeTestRun (a := a) h)
    exact ⟨this.1, this.2 ▸ List.reverse_perm _⟩
  · exact ⟨wf_initializeTestRun h, List.Perm.refl _⟩

def runnerBanner (a : RunnerArgs) : List ROut :=
  match a.shuffleSeed with
  | some seed => [ROut.text (ofAscii "Test order shuffling enabled with seed: " ++ decimal seed ++ [10])]
  | none => []

theorem runner_none_eq (a : RunnerArgs) (r : Reg) (rs : List Nat) (hm : a.listMode = .none) :
    runnerRunAllTests a r rs =
      ((repeatLoop a.shuffleSeed.isSome a.repeatCount a.repeatCount 1 (runnerStart a r) rs).reg,
       runnerBanner a ++ (repeatLoop a.shuffleSeed.isSome a.repeatCount a.repeatCount 1 (runnerStart a r) rs).out,
       (repeatLoop a.shuffleSeed.isSome a.repeatCount a.repeatCount 1 (runnerStart a r) rs).failed) := by
  unfold runnerRunAllTests
  rw [hm]
  rfl

theorem runsOf_banner (a : RunnerArgs) : runsOf (runnerBanner a) = [] := by
  unfold runnerBanner; cases a.shuffleSeed <;> simp [runsOf]

/-- **Every repetition runs every selected test exactly once.**  With `-r N` there are exactly
    `N` runs; in each of them (whatever the shuffle seed and the random numbers, which are drawn
    afresh — `srand(seed)` again — in every repetition and applied to the order the previous
    repetition left) the started tests are the selected tests and the executed bodies are the
    selected, willing ones, each exactly once; the counters are the same in every repetition;
    notifications are balanced; afterwards the list still holds the same shells. -/
theorem runner_every_repetition (a : RunnerArgs) (r : Reg) (rs : List Nat) (h : r.WF)
    (hm : a.listMode = .none) :
    (runsOf (runnerRunAllTests a r rs).2.1).length = a.repeatCount ∧
    (∀ ce ∈ runsOf (runnerRunAllTests a r rs).2.1,
        RunOf (runnerStart a r).keys ce ∧ (executed ce.2).Nodup ∧ (started ce.2).Nodup) ∧
    (runnerRunAllTests a r rs).1.WF ∧
    (runnerRunAllTests a r rs).1.order.Perm (runnerStart a r).order := by
  have hw := (wf_runnerStart (a := a) h).1
  have key := repeatLoop_spec a.shuffleSeed.isSome a.repeatCount a.repeatCount 1 (runnerStart a r) rs hw
  rw [runner_none_eq a r rs hm]
  simp only [runsOf_append, runsOf_banner, List.nil_append]
  refine ⟨key.count, ?_, key.wf, key.perm⟩
  intro ce hce
  have hr := key.runs ce hce
  have hidn : ((runnerStart a r).tests.map (·.id)).Nodup := by rw [tests_ids hw]; exact hw.nodup
  have hsub : ∀ p : Key → Bool, (((runnerStart a r).keys.filter p).map (·.1)).Nodup := by
    intro p
    have : ((runnerStart a r).keys.map (·.1)) = (runnerStart a r).tests.map (·.id) := by
      simp [Reg.keys, Test.key, Function.comp_def]
    exact List.Nodup.sublist ((List.filter_sublist).map _) (this ▸ hidn)
  exact ⟨hr, hr.2.1.nodup_iff.mpr (hsub _), hr.2.2.1.nodup_iff.mpr (hsub _)⟩

/-- what `RunOf` says, spelled out for the executed bodies: a shell's body ran in the
    repetition iff it is in the list, selected (documented meaning) and willing to run -/
theorem runOf_executed_iff (r : Reg) (ce : Counters × List Ev) (hr : RunOf r.keys ce) (i : Nat) :
    i ∈ executed ce.2 ↔ ∃ t ∈ r.tests, t.id = i ∧ Selected r.cfg t ∧ willRun r.cfg t = true := by
  rw [hr.2.1.mem_iff]
  simp only [execOfKeys, Reg.keys, List.mem_map, List.mem_filter, Test.key, Bool.and_eq_true,
    Prod.exists, ← selected_iff]
  constructor
  · rintro ⟨a, b, c, ⟨⟨t, ht, e⟩, hb, hc⟩, rfl⟩
    cases e
    exact ⟨t, ht, rfl, hb, hc⟩
  · rintro ⟨t, ht, rfl, hb, hc⟩
    exact ⟨_, _, _, ⟨⟨t, ht, rfl⟩, hb, hc⟩, rfl⟩

/-- the runner's return value when no check fails: the number of repetitions that ran nothing
    (every repetition, or none) -/
theorem runner_return (a : RunnerArgs) (r : Reg) (rs : List Nat) (h : r.WF) (hm : a.listMode = .none) :
    (runnerRunAllTests a r rs).2.2 =
      if ranNothing (countersOfKeys (runnerStart a r).keys) then a.repeatCount else 0 := by
  have hw := (wf_runnerStart (a := a) h).1
  rw [runner_none_eq a r rs hm]
  exact (repeatLoop_spec a.shuffleSeed.isSome a.repeatCount a.repeatCount 1 (runnerStart a r) rs hw).failed

/-- **Ordered tests and the command-line runner.**  Registrations (plain / ignored / ordered, any
    order) followed by `CommandLineTestRunner::runAllTests` with any filters, -ri, -b, -s SEED
    (any random stream), -r N: exactly N repetitions, and in each of them every selected
    registration — ordered or not — starts exactly once and every selected, willing body runs
    exactly once, with the same counters; afterwards the list still holds every shell once. -/
theorem ordered_runner_every_repetition (ops : List InstOp) (a : RunnerArgs) (rs : List Nat)
    (hm : a.listMode = .none) :
    (runsOf (runnerRunAllTests a (ops.foldl OReg.applyInst {}).reg rs).2.1).length = a.repeatCount ∧
    (∀ ce ∈ runsOf (runnerRunAllTests a (ops.foldl OReg.applyInst {}).reg rs).2.1,
        RunOf (runnerStart a (ops.foldl OReg.applyInst {}).reg).keys ce ∧ (executed ce.2).Nodup ∧ (started ce.2).Nodup ∧
        ce.1.runCount + ce.1.ignoredCount + ce.1.filteredOutCount = ops.length) ∧
    (runnerRunAllTests a (ops.foldl OReg.applyInst {}).reg rs).1.WF ∧
    (runnerRunAllTests a (ops.foldl OReg.applyInst {}).reg rs).1.order.Perm (List.range ops.length) := by
  obtain ⟨hw, hc, hsz, _⟩ := ordered_history ops
  obtain ⟨k1, k2, k3, k4⟩ := runner_every_repetition a _ rs hw hm
  have hstart : (runnerStart a (ops.foldl OReg.applyInst {}).reg).order.Perm (List.range ops.length) :=
    (wf_runnerStart hw).2.trans (hsz ▸ hc)
  refine ⟨k1, ?_, k3, k4.trans hstart⟩
  intro ce hce
  obtain ⟨r1, r2, r3⟩ := k2 ce hce
  refine ⟨r1, r2, r3, ?_⟩
  have hcnt := r1.1
  rw [hcnt]
  have hlen : (runnerStart a (ops.foldl OReg.applyInst {}).reg).keys.length = ops.length := by
    simp only [Reg.keys, List.length_map]
    rw [tests_length (wf_runnerStart hw).1, hstart.length_eq]
    simp
  rw [countersOfKeys_partition, hlen]

/-! ## non-vacuity: concrete, non-trivial instances -/

-- byte strings over the letters a (97), b (98), A (65)
private def b (s : List Nat) : Bytes := s.map UInt8.ofNat

/-- five shells: group `ab` split by a shell of group `b`, one ignored, equal names, an empty name -/
def sampleReg : Reg :=
  [RegOp.addTest (b [97, 98]) (b [97]) false, .addTest (b [97, 98]) (b [98, 97]) true, .addTest (b [98]) (b []) false,
   .addTest (b [97, 98]) (b [97]) false, .addTest (b [65]) (b [97, 98, 97]) false,
   .groupFilter ⟨b [98], false, false⟩, .nameFilter ⟨b [97], true, true⟩, .nameFilter ⟨b [], true, false⟩].foldl
    Reg.apply Reg.empty

example : sampleReg.WF := wf_history _
example : sampleReg.order = [4, 3, 2, 1, 0] := by decide +kernel
-- group filter "b" (substring) rejects group "A"; name filters: (≠ "a") OR (= ""): rejects 3 and 0
example : started sampleReg.run.2 = [2, 1] := by decide +kernel
example : executed sampleReg.run.2 = [2] := by decide +kernel            -- shell 1 is an ignored test
example : sampleReg.run.1 = { testCount := 5, runCount := 1, ignoredCount := 1, filteredOutCount := 3 } := by
  decide +kernel
example : (sampleReg.apply .runIgnored).run.1.runCount = 2 := by decide +kernel
example : sampleReg.reverseTests.order = [0, 1, 2, 3, 4] := by decide +kernel
-- a shuffle that splits group "ab" three ways; notifications stay balanced and at block boundaries
example : (sampleReg.shuffleTests [6, 4, 3, 2]).order = [0, 2, 1, 4, 3] := by decide +kernel
example : groupStarts (sampleReg.shuffleTests [6, 4, 3, 2]).run.2 = [0, 2, 1, 4, 3] := by decide +kernel
example : Balanced (sampleReg.shuffleTests [6, 4, 3, 2]).run.2 := groups_balanced _ _
example : groupStarts sampleReg.run.2 = [4, 3, 2, 1] := by decide +kernel
example : Selected sampleReg.cfg { id := 2, group := b [98], name := b [], ignored := false } :=
  (selected_iff _ _).mp (by decide +kernel)
example : ¬ Selected sampleReg.cfg { id := 0, group := b [97, 98], name := b [97], ignored := false } :=
  fun h => absurd ((selected_iff _ _).mpr h) (by decide +kernel)
example : findTestWithName (b [97]) sampleReg.tests = some 3 := by decide +kernel       -- first in LIST order
example : findTestWithGroup (b [65, 65]) sampleReg.tests = none := by decide +kernel
example : countTestsList sampleReg.tests = 5 := by decide +kernel
example : getTestWithNext (some 2) sampleReg.tests = some 3 ∧ getTestWithNext (some 4) sampleReg.tests = none ∧
    getTestWithNext none sampleReg.tests = some 0 := by decide +kernel
example : sampleReg.unDoLastAddTest.order = [3, 2, 1, 0] := by decide +kernel
example : (sampleReg.apply .undoLastAdd).run.1.testCount = 4 := by decide +kernel
example : sampleReg.objs.toList.map Test.willRun = [true, false, true, true, true] := by decide +kernel
example : executed (sampleReg.shellSetRunIgnored 1).run.2 = [2, 1] := by decide +kernel  -- shell 1 told to run
example : (sampleReg.apply .runIgnored).afterRun.objs.toList.map Test.willRun = [true, true, true, true, true] := by
  decide +kernel
-- list modes: -lg lists every group once, -ln only the selected tests, -ll every shell
example : listTestGroupNames sampleReg.tests = b [65, 32, 97, 98, 32, 98] := by decide +kernel           -- "A ab b"
example : (listTestGroupAndCaseNames sampleReg.cfg sampleReg.tests).1 = b [98, 46, 32, 97, 98, 46, 98, 97] := by
  decide +kernel                                                                                         -- "b. ab.ba"
example : (listTestGroupAndCaseNames sampleReg.cfg sampleReg.tests).2.filteredOutCount = 3 := by decide +kernel
-- the runner: -r3 -s5 -b runs the two selected tests in each of three repetitions
def sampleArgs : RunnerArgs :=
  { groupFilters := sampleReg.groupFilters, nameFilters := sampleReg.nameFilters, runIgnored := false,
    reversing := true, shuffleSeed := some 5, repeatCount := 3, listMode := .none }
example : (runsOf (runnerRunAllTests sampleArgs sampleReg [1, 2, 0, 1, 3, 0, 2, 1, 0, 0, 1, 1]).2.1).map
    (fun ce => (executed ce.2, ce.1.runCount, ce.1.ignoredCount, ce.1.filteredOutCount)) =
    [([2], 1, 1, 3), ([2], 1, 1, 3), ([2], 1, 1, 3)] := by decide +kernel
example : (runnerRunAllTests sampleArgs sampleReg [1, 2, 0, 1, 3, 0, 2, 1, 0, 0, 1, 1]).1.order = [3, 0, 4, 2, 1] := by
  decide +kernel
example : (runnerRunAllTests { sampleArgs with listMode := .names } sampleReg []).2.1.length = 1 := by decide +kernel
-- TEST_ORDERED: plain tests 0 and 3, ordered tests 1 (level 5), 2 (level 1), 4 (level 5), 5 (level -2)
def sampleInst : List InstOp :=
  [.test (b [97]) (b [97]) false, .ordered 5 (b [98]) (b [97]), .ordered 1 (b [98]) (b [98]), .test (b [97]) (b [98]) true,
   .ordered 5 (b [65]) (b [97]), .ordered (-2) (b [65]) (b [98])]
example : (sampleInst.foldl OReg.applyInst {}).reg.order = [3, 0, 5, 2, 1, 4] := by decide +kernel
example : (sampleInst.foldl OReg.applyInst {}).chain = [5, 2, 1, 4] := by decide +kernel     -- levels -2, 1, 5, 5 (tie: 1 before 4)
example : plainOf sampleInst 0 = [0, 3] ∧ orderedOf sampleInst 0 = [(1, 5), (2, 1), (4, 5), (5, -2)] := by decide +kernel
example : (sampleInst.foldl OReg.applyInst {}).reg.run.1 =
    { testCount := 6, runCount := 5, ignoredCount := 1, filteredOutCount := 0 } := by decide +kernel
example : executed (sampleInst.foldl OReg.applyInst {}).reg.run.2 = [0, 5, 2, 1, 4] := by decide +kernel
-- an ordered test registered first of all goes to the END of the list once plain tests follow
example : ([InstOp.ordered 0 [] [], .test [] [] false].foldl OReg.applyInst {}).reg.order = [1, 0] := by decide +kernel
-- the runner on a registry with ordered tests: -r2 -b, every repetition runs all six registrations
example : (runsOf (runnerRunAllTests { sampleArgs with groupFilters := [], nameFilters := [], shuffleSeed := none, repeatCount := 2 }
    (sampleInst.foldl OReg.applyInst {}).reg []).2.1).map (fun ce => (executed ce.2, ce.1.runCount, ce.1.ignoredCount)) =
    [([4, 1, 2, 5, 0], 5, 1), ([4, 1, 2, 5, 0], 5, 1)] := by decide +kernel
-- OUTSIDE the quantifier (model evaluation): an installer that runs AFTER a reordering follows the stale
-- `_nextOrderedTest` links and drops plain test 0 from the list — installers run during static initialisation
example : ((({} : OReg).addTest [] [] false).install 1 [] [] [] 0).reg.order = [0, 1] ∧
    (let o := (({} : OReg).addTest [] [] false).install 1 [] [] [] 0
     ({ o with reg := o.reg.reverseTests }.install 2 [] [] [] 0).reg.order) = [1, 2] := by decide +kernel
example : ((Gen.PointerArray.shuffle { arr := #[10, 11, 12, 13], count := 4, next := fun _ => none, rands := [6, 4, 3] } 7).state?.map
    (fun s => (s.arr, s.rands, s.srands, walk s.next 9 (some 10)))) = some (#[10, 13, 11, 12], [], [7], [10, 13, 11, 12]) := by decide +kernel
example : ((Gen.PointerArray.reverse { arr := #[10, 11, 12], count := 3, next := fun _ => none }).state?.map
    (fun s => (s.arr, walk s.next 9 (some 12)))) = some (#[12, 11, 10], [12, 11, 10]) := by decide +kernel
example : (sampleReg.shuffleTestsGen 5 [6, 4, 3, 2]).map (fun g => (g.reg.order, g.srands, g.rest)) =
    some ([0, 2, 1, 4, 3], [5], []) := by decide +kernel
example : sampleReg.reverseTestsGen.map (fun g => g.reg.order) = some [0, 1, 2, 3, 4] := by decide +kernel
-- the relink hypothesis is needed: with a duplicated shell the links form a cycle (the C++ loop
-- over the list would never reach NULL)
example : walk (relink #[0, 1, 0] (fun _ => none)) 7 (firstOf #[0, 1, 0]) = [0, 1, 0, 1, 0, 1, 0] := by
  decide +kernel

end Registry
