import CppUModel.Props.C19
import CppUModel.Model.Mock
import CppUModel.Proofs.MockLazy
import CppUModel.Proofs.ListLemmas
/-!
# C19x — the abstract C++ mock of C19 instantiated with the C08 model

`Props/C19.lean` proves `C run ≡ C++ run` over ANY C++ mock that is `Lawful` (and, for the decidable class
`Aligned`, obeys `ScopeLaws`).  Here the parameter is instantiated with the C08 model of the mocking core
(`Model/Mock.lean`: `Mock.Scope` = one `MockSupport` with its expectation list, call order and the call in flight
`last`; its operations are used as they are) and the hypotheses are DISCHARGED for it: for every scenario in the decidable
class `Aligned`, the C interface over the C08 model and the C++ program over the C08 model end in the same world (scopes,
expectation lists, calls in flight, first failure) and return the same values.  What the instance computes for `actualCall`,
for a `with...` member of the call and for `hasReturnValue` IS what C08's theorems talk about (`Scope.actualCall`,
`Scope.seg`, `returnValueOf` after `checkLast`), so C08's verdict theorems apply to the C run.

The world of the instance is an association list scope name ↦ `Mock.Scope` ("" = the global mock) plus the first
failure delivered to the reporter.  A handle of an actual call is the scope it is the call in flight of (`none` = the
ignored-call object); a handle of an expected call is (scope, position in the expectation list).
Members the C08 model has no counterpart for (data store, custom types, crashOnFailure, value types outside
`Mock.Val`) are no-ops of the instance.
-/
namespace MockC.X08

/-! ## the world -/

structure W where
  scopes : List (String × Mock.Scope) := []
  fail   : Option String := none
deriving Repr, Inhabited

def glob (w : W) : Mock.Scope := (w.scopes.lookup "").getD (Mock.Scope.fresh "")

/-- `getMockSupportScope` / `clone`: a scope that does not exist yet takes strict / ignoreOtherCalls / enabled from
    the global mock -/
def get (w : W) (s : String) : Mock.Scope :=
  match w.scopes.lookup s with
  | some sc => sc
  | none => if s = "" then Mock.Scope.fresh "" else
      { Mock.Scope.fresh s with strict := (glob w).strict, ioc := (glob w).ioc, enabled := (glob w).enabled }

def set (w : W) (s : String) (sc : Mock.Scope) : W :=
  { w with scopes := (s, sc) :: w.scopes.filter (fun p => p.1 != s) }

def addFail (w : W) (f : Option String) : W :=
  { w with fail := match w.fail with | some m => some m | none => f }

/-- all scopes a call on `s` covers, by name: the global mock covers every scope -/
def coveredNames (w : W) (s : String) : List String :=
  if s = "" then "" :: (w.scopes.map (·.1)).filter (· != "") else [s]

def setMany (w : W) : List (String × Mock.Scope) → W
  | [] => w
  | (n, sc) :: rest => setMany (set w n sc) rest

/-! ## values -/

def natOf (v : Val) : Nat :=
  match v with
  | .int i => i.toNat
  | .tok t => t.toNat?.getD 0
  | .bool b => if b then 1 else 0

def strOf : Val → String
  | .tok t => t
  | .int i => toString i
  | .bool b => toString b

def bytesOf (v : Val) : List UInt8 := (strOf v).toUTF8.toList

/-- the C++ value an argument of type `ty` stands for in the C08 model -/
def valOf (ty : String) (v : Val) : Option Mock.Val :=
  if ty = "int" then (match v with | .int i => some (.int i) | _ => none)
  else if ty = "uint" then some (.uint (natOf v))
  else if ty = "bool" then (match v with | .bool b => some (.bool b) | _ => none)
  else if ty = "string" then some (.str (bytesOf v))
  else if ty = "ptr" then some (.ptr (natOf v))
  else if ty = "cptr" then some (.cptr (natOf v))
  else none

def tys : List String := ["int", "uint", "bool", "string", "ptr", "cptr"]

/-- modifier of an expected call -/
def esegOf (meth : String) (args : List Val) : Option Mock.ESeg :=
  match args with
  | [n, v] =>
    match tys.find? (fun t => meth = "withParameter(string," ++ t ++ ")") with
    | some t => (valOf t v).map (fun x => .inp (strOf n) x)
    | none => none
  | [n, b, sz] =>
    if meth = "withParameter(string,membuf,size)" then some (.inp (strOf n) (.mem ((bytesOf b).take (natOf sz))))
    else if meth = "withOutputParameterReturning(string,cptr,size)" then some (.out (strOf n) ((bytesOf b).take (natOf sz)))
    else none
  | [v] =>
    match tys.find? (fun t => meth = "andReturnValue(" ++ t ++ ")") with
    | some t => (valOf t v).map (fun x => .ret x)
    | none => none
  | [] => if meth = "ignoreOtherParameters()" then some .iop else none
  | _ => none

/-- step of an actual call -/
def segOf (meth : String) (args : List Val) : Option Mock.Seg :=
  match args with
  | [n, v] =>
    if meth = "withOutputParameter(string,ptr)" then some (.out (strOf n))
    else match tys.find? (fun t => meth = "withParameter(string," ++ t ++ ")") with
      | some t => (valOf t v).map (fun x => .inp (strOf n) x)
      | none => none
  | [n, b, sz] =>
    if meth = "withParameter(string,membuf,size)" then some (.inp (strOf n) (.mem ((bytesOf b).take (natOf sz)))) else none
  | _ => none

def payloadOf : Mock.Val → Val
  | .int v => .int v
  | .uint v => .int v
  | .bool b => .bool b
  | .str b => .tok (toString b)
  | .ptr a => .tok (toString a)
  | .cptr a => .tok (toString a)
  | .mem b => .tok (toString b)

def typeOf : Mock.Val → String
  | .int _ => "int" | .uint _ => "unsigned int" | .bool _ => "bool" | .str _ => "const char*"
  | .ptr _ => "void*" | .cptr _ => "const void*" | .mem _ => "const unsigned char*"

/-! ## the operations -/

abbrev EC := Option (String × Nat)
abbrev AC := Option String

/-- `mock(scope)`: creates the scope on first use -/
def opMock (w : W) (s : String) : W :=
  match w.scopes.lookup s with
  | some _ => w
  | none => set w s (get w s)

/-- the return-value getters of an actual call (`MockCheckedActualCall::returnValue()` finishes the call first) -/
def acGetter (w : W) (a : AC) (meth : String) : W × Res EC AC :=
  match a with
  | none => (w, if meth = signature "hasReturnValue" [] then .val (.bool false) else .val (.int 0))
  | some s =>
    match ((get w s).checkLast) with
    | (sc1, f) =>
      let w1 := addFail (set w s sc1) f
      match f with
      | some _ => (w1, .unit)
      | none =>
        let rv := Mock.returnValueOf sc1.es
        if meth = signature "hasReturnValue" [] then (w1, .val (.bool rv.isSome))
        else if meth = signature "returnValue" [] then
          (w1, .named (match rv with | some v => ⟨typeOf v, payloadOf v⟩ | none => ⟨"int", .int 0⟩))
        else (w1, .val (match rv with | some v => payloadOf v | none => .int 0))

def actSigs : List String := Req.bridgePairs.map (fun p => signature p.2 [])
def supSigs : List String := Req.bridgePairs.map (fun p => signature p.1 [])

/-- the actual-call getter a support-level getter delegates to (`MockSupport::xReturnValue()` is
    `returnValue().getX()` of `lastActualFunctionCall_`) -/
def actSigOf (sig : String) : String :=
  match Req.bridgePairs.find? (fun p => signature p.1 [] = sig) with
  | some p => signature p.2 []
  | none => sig

def last (w : W) (s : String) : Option AC :=
  match (get w s).last with
  | some _ => some (some s)
  | none => none

def checkCovered (w : W) (s : String) : W × List Mock.Scope × Option String :=
  let names := coveredNames w s
  match Mock.checkLasts (names.map (get w)) with
  | (scs, f) => (addFail (setMany w (names.zip scs)) f, scs, f)

inductive SupOp
  | getter | expectOne | expectN | expectNo | actual | strict | ignore | disable | enable | check | left | clear | other
deriving DecidableEq, Repr

def classify (meth : String) : SupOp :=
  if meth ∈ supSigs then .getter
  else if meth = "expectOneCall(string)" then .expectOne
  else if meth = "expectNCalls(uint,string)" then .expectN
  else if meth = "expectNoCall(string)" then .expectNo
  else if meth = sigActualCall then .actual
  else if meth = "strictOrder()" then .strict
  else if meth = sigIgnoreOtherCalls then .ignore
  else if meth = sigDisable then .disable
  else if meth = "enable()" then .enable
  else if meth = "checkExpectations()" then .check
  else if meth = "expectedCallsLeft()" then .left
  else if meth = sigClear then .clear
  else .other

def noLast (meth : String) : Res EC AC :=
  if meth = signature "hasReturnValue" [] then .val (.bool false)
  else if meth = signature "returnValue" [] then .named ⟨"int", .int 0⟩ else .val (.int 0)

def opActual (w : W) (s fn : String) : W × Res EC AC :=
  (addFail (set w s ((get w s).actualCall fn).sc) ((get w s).actualCall fn).fail,
   .ac (if ((get w s).actualCall fn).ignored then none else some s))

def opCheck (w : W) (s : String) : W × Res EC AC :=
  match (checkCovered w s).2.2 with
  | some _ => ((checkCovered w s).1, .unit)
  | none =>
    if (checkCovered w s).2.1.any Mock.Scope.hasUnfulfilled then (addFail (checkCovered w s).1 (some Mock.msgUnfulfilled), .unit)
    else if (checkCovered w s).2.1.any Mock.Scope.hasOutOfOrder then (addFail (checkCovered w s).1 (some Mock.msgOutOfOrder), .unit)
    else ((checkCovered w s).1, .unit)

def opLeft (w : W) (s : String) : W × Res EC AC :=
  match (checkCovered w s).2.2 with
  | some _ => ((checkCovered w s).1, .unit)
  | none => ((checkCovered w s).1, .val (.bool ((checkCovered w s).2.1.any Mock.Scope.hasUnfulfilled)))

def opClear (w : W) (s : String) : W :=
  if s = "" then { w with scopes := [("", (get w "").clear)] } else set w s (get w s).clear

def opSupC (w : W) (s : String) (meth : String) (args : List Val) : SupOp → W × Res EC AC
  | .getter =>
    match last w s with
    | some a => acGetter w a (actSigOf meth)
    | none => (w, noLast meth)
  | .expectOne =>
    (set w s ((get w s).expectN 1 (strOf (args.getD 0 (.tok ""))) []),
     .ec (if (get w s).enabled then some (s, (get w s).es.length) else none))
  | .expectN =>
    (set w s ((get w s).expectN (natOf (args.getD 0 (.int 0))) (strOf (args.getD 1 (.tok ""))) []),
     .ec (if (get w s).enabled then some (s, (get w s).es.length) else none))
  | .expectNo => (set w s ((get w s).expectN 0 (strOf (args.getD 0 (.tok ""))) []), .unit)
  | .actual => opActual w s (strOf (args.getD 0 (.tok "")))
  | .strict => (set w s { get w s with strict := true }, .unit)
  | .ignore => (setMany w ((coveredNames w s).map (fun n => (n, (fun sc : Mock.Scope => { sc with ioc := true }) (get w n)))), .unit)
  | .disable => (setMany w ((coveredNames w s).map (fun n => (n, (fun sc : Mock.Scope => { sc with enabled := false }) (get w n)))), .unit)
  | .enable => (setMany w ((coveredNames w s).map (fun n => (n, (fun sc : Mock.Scope => { sc with enabled := true }) (get w n)))), .unit)
  | .check => opCheck w s
  | .left => opLeft w s
  | .clear => (opClear w s, .unit)
  | .other => (w, .unit)

def opSup (w : W) (s : String) (meth : String) (args : List Val) : W × Res EC AC :=
  opSupC w s meth args (classify meth)

def opEc (w : W) (e : EC) (meth : String) (args : List Val) : W × Res EC AC :=
  match e with
  | none => (w, .ec none)
  | some (s, idx) =>
    match esegOf meth args with
    | some g => (set w s { get w s with es := (get w s).es.modify idx (fun x => x.addSeg g) }, .ec e)
    | none => (w, .ec e)

def opAc (w : W) (a : AC) (meth : String) (args : List Val) : W × Res EC AC :=
  if meth ∈ actSigs then acGetter w a meth
  else
    match a with
    | none => (w, .ac none)
    | some s =>
      match segOf meth args with
      | some g =>
        match (get w s).seg [] g with
        | (sc1, f) => (addFail (set w s sc1) f, .ac a)
      | none => (w, .ac a)

/-- the C08 model as the C++ mock of C19 -/
@[reducible] def M08 : CppMock where
  M := W
  EC := EC
  AC := AC
  mock := opMock
  sup := opSup
  ec := opEc
  ac := opAc
  stopped := fun w => w.fail.isSome
  last := last

theorem lookup_set_same (w : W) (s : String) (sc : Mock.Scope) : (set w s sc).scopes.lookup s = some sc := by
  simp [set]

theorem lookup_set_other (w : W) (s s' : String) (sc : Mock.Scope) (h : s' ≠ s) :
    (set w s sc).scopes.lookup s' = w.scopes.lookup s' := by
  have hne : (s' == s) = false := by simp [h]
  simp only [set, List.lookup_cons, hne]
  exact ListLemmas.lookup_filter_ne w.scopes h

theorem get_set_same (w : W) (s : String) (sc : Mock.Scope) : get (set w s sc) s = sc := by
  simp [get, lookup_set_same]

/-- a feature of a scope that a `set` changes nowhere when the scope put in has it as the scope replaced had -/
def Stable (π : Mock.Scope → Bool) : Prop :=
  ∀ (w : W) (s : String) (sc : Mock.Scope) (s' : String), π sc = π (get w s) → π (get (set w s sc) s') = π (get w s')

theorem glob_eq_get (w : W) : glob w = get w "" := by
  simp only [glob, get]
  cases w.scopes.lookup "" <;> simp

/-- such is every feature that a scope cloned from the global mock takes from the global mock's -/
theorem stable_of (π : Mock.Scope → Bool)
    (hc : ∀ g g' : Mock.Scope, π g = π g' → ∀ n,
      π { Mock.Scope.fresh n with strict := g.strict, ioc := g.ioc, enabled := g.enabled } =
      π { Mock.Scope.fresh n with strict := g'.strict, ioc := g'.ioc, enabled := g'.enabled }) : Stable π := by
  intro w s sc s' h
  by_cases hs : s' = s
  · rw [hs, get_set_same, h]
  · have hg : π (glob (set w s sc)) = π (glob w) := by
      rw [glob_eq_get, glob_eq_get]
      by_cases h0 : "" = s
      · rw [← h0, get_set_same, h0, h]
      · simp only [get, lookup_set_other w s "" sc h0, ↓reduceIte]
    simp only [get, lookup_set_other w s s' sc hs]
    cases w.scopes.lookup s' with
    | some x => rfl
    | none => by_cases he : s' = "" <;> simp only [he, if_true, if_false]; exact hc _ _ hg s'

/-- a freshly cloned scope has no call in flight, whatever the global mock is -/
theorem stable_last : Stable (·.last.isSome) := stable_of _ fun _ _ _ _ => rfl
theorem stable_enabled : Stable (·.enabled) := stable_of _ fun _ _ h _ => h
theorem stable_ioc : Stable (·.ioc) := stable_of _ fun _ _ h _ => h

theorem Stable.setMany {π : Mock.Scope → Bool} (hπ : Stable π) : ∀ (l : List (String × Mock.Scope)) (w : W),
    (∀ p ∈ l, π p.2 = π (get w p.1)) → ∀ s0, π (get (setMany w l) s0) = π (get w s0)
  | [], _, _, _ => rfl
  | (n, sc) :: rest, w, h, s0 => by
    have h0 := h (n, sc) (by simp)
    simp only [MockC.X08.setMany]
    rw [hπ.setMany rest (set w n sc) (fun p hp => by rw [hπ w n sc p.1 h0]; exact h p (by simp [hp])) s0]
    exact hπ w n sc s0 h0

/-- no scope gains or loses its call in flight -/
def KeepsLast (w w' : W) : Prop := ∀ s0, (get w' s0).last.isSome = (get w s0).last.isSome

theorem KeepsLast.refl (w : W) : KeepsLast w w := fun _ => rfl
theorem KeepsLast.trans {a b c : W} (h1 : KeepsLast a b) (h2 : KeepsLast b c) : KeepsLast a c :=
  fun s0 => (h2 s0).trans (h1 s0)

theorem KeepsLast.last_eq {w w' : W} (h : KeepsLast w w') (s0 : String) : last w' s0 = last w s0 := by
  have := h s0
  unfold last
  cases h1 : (get w' s0).last <;> cases h2 : (get w s0).last <;> simp_all

theorem last_set (w : W) (s s0 : String) (sc : Mock.Scope) (h : sc.last.isSome = (get w s).last.isSome) :
    last (set w s sc) s0 = last w s0 :=
  KeepsLast.last_eq (fun s' => stable_last w s sc s' h) s0

theorem get_addFail (w : W) (f : Option String) (s : String) : get (addFail w f) s = get w s := rfl
theorem last_addFail (w : W) (f : Option String) (s : String) : last (addFail w f) s = last w s := rfl

/-- checking is on in every scope, existing or yet to be created -/
def plain (w : W) : Prop := ∀ s, (get w s).enabled = true ∧ (get w s).ioc = false

theorem plain_set (w : W) (s : String) (sc : Mock.Scope) (hp : plain w) (h1 : sc.enabled = true) (h2 : sc.ioc = false) :
    plain (set w s sc) := fun s' =>
  ⟨(stable_enabled w s sc s' (h1.trans (hp s).1.symm)).trans (hp s').1,
   (stable_ioc w s sc s' (h2.trans (hp s).2.symm)).trans (hp s').2⟩

theorem plain_addFail (w : W) (f : Option String) (hp : plain w) : plain (addFail w f) := hp

/-! ## what the C08 scope functions leave alone -/

def Same (a b : Mock.Scope) : Prop := b.enabled = a.enabled ∧ b.ioc = a.ioc ∧ b.last.isSome = a.last.isSome

theorem Same.rfl' (a : Mock.Scope) : Same a a := ⟨rfl, rfl, rfl⟩

theorem checkLast_same (sc : Mock.Scope) : Same sc sc.checkLast.1 := by
  unfold Mock.Scope.checkLast
  cases h : sc.last <;> simp [Same, h]

theorem expectN_same (sc : Mock.Scope) (n : Nat) (fn : String) (segs : List Mock.ESeg) : Same sc (sc.expectN n fn segs) := by
  unfold Mock.Scope.expectN
  split <;> simp [Same]

theorem seg_same (sc : Mock.Scope) (buf : List UInt8) (g : Mock.Seg) : Same sc (sc.seg buf g).1 := by
  unfold Mock.Scope.seg
  cases h : sc.last <;> simp [Same, h]

theorem startCall_flags (sc : Mock.Scope) (full : String) :
    (sc.startCall full).sc.enabled = sc.enabled ∧ (sc.startCall full).sc.ioc = sc.ioc := by
  unfold Mock.Scope.startCall
  split
  · simp
  · split <;> simp

theorem actualCall_flags (sc : Mock.Scope) (fn : String) :
    (sc.actualCall fn).sc.enabled = sc.enabled ∧ (sc.actualCall fn).sc.ioc = sc.ioc := by
  have hc := checkLast_same sc
  rw [Mock.Scope.actualCall_eq]
  split
  · exact ⟨hc.1, hc.2.1⟩
  · have h2 := startCall_flags { sc.checkLast.1 with last := none } (sc.fullName fn)
    exact ⟨h2.1.trans hc.1, h2.2.trans hc.2.1⟩

/-- with checking on, an `actualCall` that does not fail creates the call in flight and is not ignored -/
theorem actualCall_creates (sc : Mock.Scope) (fn : String) (he : sc.enabled = true) (hi : sc.ioc = false)
    (hf : (sc.actualCall fn).fail = none) :
    (sc.actualCall fn).ignored = false ∧ (sc.actualCall fn).sc.last.isSome = true := by
  have hc := checkLast_same sc
  rw [Mock.Scope.actualCall_eq] at hf ⊢
  split at hf
  · simp at hf
  · simp [Mock.Scope.startCall, hc.1.trans he, hc.2.1.trans hi]

inductive All2 {α β : Type} (R : α → β → Prop) : List α → List β → Prop
  | nil : All2 R [] []
  | cons {a b l r} : R a b → All2 R l r → All2 R (a :: l) (b :: r)

theorem All2.refl {α : Type} {R : α → α → Prop} (h : ∀ a, R a a) : ∀ l : List α, All2 R l l
  | [] => .nil
  | a :: l => .cons (h a) (All2.refl h l)

theorem checkLasts_same : ∀ (l : List Mock.Scope), All2 Same l (Mock.checkLasts l).1
  | [] => by simp only [Mock.checkLasts]; exact All2.nil
  | sc :: rest => by
    rw [Mock.checkLasts_cons]
    split
    · exact All2.cons (checkLast_same sc) (All2.refl Same.rfl' rest)
    · exact All2.cons (checkLast_same sc) (checkLasts_same rest)

theorem All2.zip {α β γ : Type} (R : β → γ → Prop) (f : α → β) :
    ∀ (l : List α) (r : List γ), All2 R (l.map f) r → ∀ p ∈ l.zip r, R (f p.1) p.2
  | [], _, _, p, hp => by simp at hp
  | a :: l, [], h, p, hp => by simp at hp
  | a :: l, c :: r, h, p, hp => by
    cases h with
    | cons h1 h2 =>
      simp only [List.zip_cons_cons, List.mem_cons] at hp
      rcases hp with rfl | hp
      · exact h1
      · exact All2.zip R f l r h2 p hp

theorem setMany_plain (l : List (String × Mock.Scope)) (w : W)
    (h : ∀ p ∈ l, p.2.enabled = true ∧ p.2.ioc = false) (hp : plain w) : plain (setMany w l) := fun s0 =>
  ⟨(stable_enabled.setMany l w (fun p hl => (h p hl).1.trans (hp p.1).1.symm) s0).trans (hp s0).1,
   (stable_ioc.setMany l w (fun p hl => (h p hl).2.trans (hp p.1).2.symm) s0).trans (hp s0).2⟩

/-! ## every operation of the instance: which call is a scope's last one, and whether checking stays on -/

def Keeps (w w' : W) : Prop := KeepsLast w w' ∧ (plain w → plain w')

theorem Keeps.refl (w : W) : Keeps w w := ⟨KeepsLast.refl w, id⟩

theorem keeps_set (w : W) (s : String) (sc : Mock.Scope) (h : Same (get w s) sc) : Keeps w (set w s sc) :=
  ⟨fun s0 => stable_last w s sc s0 h.2.2, fun hp => plain_set w s sc hp (h.1.trans (hp s).1) (h.2.1.trans (hp s).2)⟩

theorem keepsLast_addFail (w : W) (f : Option String) : KeepsLast w (addFail w f) := fun _ => rfl

theorem acGetter_keeps (w : W) (a : AC) (meth : String) : Keeps w (acGetter w a meth).1 := by
  unfold acGetter
  cases a with
  | none => exact Keeps.refl w
  | some s =>
    have hk := keeps_set w s _ (checkLast_same (get w s))
    simp only []
    cases hf : (get w s).checkLast.2 with
    | some f => exact hk
    | none =>
      simp only []
      split
      · exact hk
      · split <;> exact hk

theorem checkCovered_keeps (w : W) (s : String) : Keeps w (checkCovered w s).1 := by
  unfold checkCovered
  have hz := All2.zip Same (get w) (coveredNames w s) _ (checkLasts_same ((coveredNames w s).map (get w)))
  exact ⟨stable_last.setMany _ w (fun p hp => (hz p hp).2.2), fun hpl =>
    setMany_plain _ w (fun p hp => ⟨(hz p hp).1.trans (hpl p.1).1, (hz p hp).2.1.trans (hpl p.1).2⟩) hpl⟩

theorem opEc_keeps (w : W) (e : EC) (meth : String) (args : List Val) : Keeps w (opEc w e meth args).1 := by
  unfold opEc
  cases e with
  | none => exact Keeps.refl w
  | some p =>
    obtain ⟨s, idx⟩ := p
    cases esegOf meth args with
    | none => exact Keeps.refl w
    | some g => exact keeps_set w s _ ⟨rfl, rfl, rfl⟩

theorem opAc_keeps (w : W) (a : AC) (meth : String) (args : List Val) : Keeps w (opAc w a meth args).1 := by
  unfold opAc
  split
  · exact acGetter_keeps w a meth
  · cases a with
    | none => exact Keeps.refl w
    | some s =>
      cases segOf meth args with
      | none => exact Keeps.refl w
      | some g => exact keeps_set w s _ (seg_same (get w s) [] g)

/-- a getter never answers with a call object, and a `with...` member answers with its own handle: every way through `opAc`
    is looked at, the getter's ending in `.val`, `.named` or `.unit`, the others in `.ac a` -/
theorem opAc_self (w : W) (a : AC) (meth : String) (args : List Val) (a' : AC)
    (h : (opAc w a meth args).2 = .ac a') : a' = a := by
  unfold opAc at h
  split at h
  · unfold acGetter at h
    cases a with
    | none => simp only [] at h; split at h <;> cases h
    | some s =>
      cases hf : (get w s).checkLast.2 with
      | some f => simp [hf] at h
      | none =>
        simp only [hf] at h
        split at h
        · cases h
        · split at h <;> cases h
  · cases a with
    | none => simp only [] at h; cases h; rfl
    | some s =>
      cases hg : segOf meth args with
      | none => simp only [hg] at h; cases h; rfl
      | some g => simp only [hg] at h; cases h; rfl

theorem setMany_flags_last (w : W) (names : List String) (f : Mock.Scope → Mock.Scope)
    (hf : ∀ sc, (f sc).last = sc.last) : KeepsLast w (setMany w (names.map (fun n => (n, f (get w n))))) := by
  apply stable_last.setMany
  intro p hp
  obtain ⟨n, _, rfl⟩ := List.mem_map.mp hp
  simp only [hf]

/-- what `classify meth = op` says about `meth` -/
def Classified (meth : String) : SupOp → Prop
  | .getter => meth ∈ supSigs
  | .expectOne => meth = "expectOneCall(string)"
  | .expectN => meth = "expectNCalls(uint,string)"
  | .expectNo => meth = "expectNoCall(string)"
  | .actual => meth = sigActualCall
  | .strict => meth = "strictOrder()"
  | .ignore => meth = sigIgnoreOtherCalls
  | .disable => meth = sigDisable
  | .enable => meth = "enable()"
  | .check => meth = "checkExpectations()"
  | .left => meth = "expectedCallsLeft()"
  | .clear => meth = sigClear
  | .other => True

/-- one step per test of the chain, each test handed on as it stands (splitting the chain is exponential in its depth) -/
theorem classified (meth : String) : Classified meth (classify meth) := by
  unfold classify
  repeat' (refine iteInduction id fun _ => ?_)
  trivial

theorem classified_of_eq {meth : String} {op : SupOp} (h : classify meth = op) : Classified meth op :=
  h ▸ classified meth

theorem classify_sigActual : classify sigActualCall = .actual := by decide

theorem opSupC_keeps (w : W) (s meth : String) (args : List Val) (op : SupOp)
    (h : op ∉ [SupOp.actual, .clear, .ignore, .disable, .enable]) : Keeps w (opSupC w s meth args op).1 := by
  cases op with
  | getter =>
    simp only [opSupC]
    cases last w s with
    | some a => exact acGetter_keeps w a _
    | none => exact Keeps.refl w
  | expectOne | expectN | expectNo => exact keeps_set w s _ (expectN_same _ _ _ _)
  | strict => exact keeps_set w s { get w s with strict := true } ⟨rfl, rfl, rfl⟩
  | check =>
    -- whichever way `checkExpectations` ends, the world is the one `checkCovered` left, up to the failure noted
    have hk := checkCovered_keeps w s
    simp only [opSupC, opCheck]
    split
    · exact hk
    · split
      · exact hk
      · split <;> exact hk
  | left =>
    have hk := checkCovered_keeps w s
    simp only [opSupC, opLeft]
    split <;> exact hk
  | other => exact Keeps.refl w
  | actual | clear | ignore | disable | enable => simp at h

theorem opSup_last (w : W) (s meth : String) (args : List Val) (h1 : meth ≠ sigActualCall) (h2 : meth ≠ sigClear) :
    KeepsLast w (opSup w s meth args).1 := by
  unfold opSup
  cases hc : classify meth with
  | actual => exact absurd (classified_of_eq hc) h1
  | clear => exact absurd (classified_of_eq hc) h2
  | ignore => exact setMany_flags_last w _ (fun sc => { sc with ioc := true }) (fun _ => rfl)
  | disable => exact setMany_flags_last w _ (fun sc => { sc with enabled := false }) (fun _ => rfl)
  | enable => exact setMany_flags_last w _ (fun sc => { sc with enabled := true }) (fun _ => rfl)
  | _ => exact (opSupC_keeps w s meth args _ (by decide)).1

theorem plain_clear (w : W) (s : String) (hp : plain w) : plain (opClear w s) := by
  unfold opClear
  split
  · intro s'
    simp only [get, glob, List.lookup_cons, List.lookup_nil]
    by_cases h : s' = ""
    · subst h; simp [Mock.Scope.clear, Mock.Scope.fresh]
    · have : (s' == "") = false := by simp [h]
      simp [this, h, Mock.Scope.clear, Mock.Scope.fresh]
  · exact plain_set w s _ hp rfl rfl

theorem opSup_plain (w : W) (s meth : String) (args : List Val) (h1 : meth ≠ sigDisable) (h2 : meth ≠ sigIgnoreOtherCalls)
    (hp : plain w) : plain (opSup w s meth args).1 := by
  unfold opSup
  cases hc : classify meth with
  | actual =>
    have hfl := actualCall_flags (get w s) (strOf (args.getD 0 (.tok "")))
    exact plain_set w s _ hp (hfl.1.trans (hp s).1) (hfl.2.trans (hp s).2)
  | ignore => exact absurd (classified_of_eq hc) h2
  | disable => exact absurd (classified_of_eq hc) h1
  | enable =>
    apply setMany_plain _ w _ hp
    intro p hpm
    obtain ⟨n, _, rfl⟩ := List.mem_map.mp hpm
    exact ⟨rfl, (hp n).2⟩
  | clear => exact plain_clear w s hp
  | _ => exact (opSupC_keeps w s meth args _ (by decide)).2 hp

theorem opActual_creates (w : W) (s fn : String) (hp : plain w) (hns : (opActual w s fn).1.fail.isSome = false) :
    ∃ a, (opActual w s fn).2 = .ac a ∧ last (opActual w s fn).1 s = some a := by
  have hcr := actualCall_creates (get w s) fn (hp s).1 (hp s).2
  unfold opActual at hns ⊢
  cases hf : ((get w s).actualCall fn).fail with
  | some f =>
    simp only [hf, addFail] at hns
    cases hw : (set w s ((get w s).actualCall fn).sc).fail <;> simp [hw] at hns
  | none =>
    obtain ⟨hi, hl⟩ := hcr hf
    refine ⟨some s, by simp [hi], ?_⟩
    simp only [last, get_addFail, get_set_same]
    cases hlast : ((get w s).actualCall fn).sc.last with
    | none => rw [hlast] at hl; cases hl
    | some c => rfl

theorem opSup_actual (w : W) (s : String) (args : List Val) (hp : plain w)
    (hns : (opSup w s sigActualCall args).1.fail.isSome = false) :
    ∃ a, (opSup w s sigActualCall args).2 = .ac a ∧ last (opSup w s sigActualCall args).1 s = some a := by
  unfold opSup at hns ⊢
  rw [classify_sigActual] at hns ⊢
  exact opActual_creates w s _ hp hns

/-! ## the hypotheses of C19, discharged for the C08 model -/

theorem actSigOf_pairs : Req.bridgePairs.all (fun p => actSigOf (signature p.1 []) == signature p.2 []) = true := by
  decide +kernel

theorem classify_getter (sig : String) (h : sig ∈ supSigs) : classify sig = .getter := by
  unfold classify; simp [h]

theorem opMock_keeps (w : W) (s : String) : Keeps w (opMock w s) := by
  unfold opMock
  cases w.scopes.lookup s with
  | some x => exact Keeps.refl w
  | none => exact keeps_set w s _ (Same.rfl' _)

/-- **The C08 model is a lawful C++ mock** in the sense of C19: a support-level getter is the getter of the scope's
    call in flight, and asking `hasReturnValue` does not change which call that is. -/
theorem m08_lawful : Lawful M08 where
  bridge := by
    intro m s a p hp hl
    have hmemS : signature p.1 [] ∈ supSigs := List.mem_map.mpr ⟨p, hp, rfl⟩
    have hmemA : signature p.2 [] ∈ actSigs := List.mem_map.mpr ⟨p, hp, rfl⟩
    have hpair : actSigOf (signature p.1 []) = signature p.2 [] := by
      have := List.all_eq_true.mp actSigOf_pairs p hp
      simpa using this
    have hl' : last m s = some a := hl
    simp only [opSup, classify_getter _ hmemS, opSupC, hl', hpair, opAc, hmemA, if_true]
  has_keeps_last := by
    intro m s _
    obtain ⟨ne_actual, ne_clear, _, _⟩ := has_sig_facts
    exact (opSup_last m s _ [] ne_actual ne_clear).last_eq s

/-- **... and it obeys the scope laws** the syntactic class `Aligned` relies on. -/
def m08_scopeLaws : ScopeLaws M08 where
  plain := plain
  plain_mock := fun m s hp => (opMock_keeps m s).2 hp
  plain_sup := fun m s sig args h1 h2 hp => opSup_plain m s sig args h1 h2 hp
  plain_ec := fun m e sig args hp => (opEc_keeps m e sig args).2 hp
  plain_ac := fun m a sig args hp => (opAc_keeps m a sig args).2 hp
  last_mock := fun m s s0 => (opMock_keeps m s).1.last_eq s0
  actual_sets_last := fun m s args hp hns => opSup_actual m s args hp hns
  last_sup := fun m s sig args s0 h1 h2 _ => (opSup_last m s sig args h1 h2).last_eq s0
  last_ec := fun m e sig args s0 _ => (opEc_keeps m e sig args).1.last_eq s0
  last_ac := fun m a sig args s0 _ => (opAc_keeps m a sig args).1.last_eq s0
  ac_self := fun m a sig args a' h => opAc_self m a sig args a' h

theorem plain_init : plain {} := by
  intro s
  simp only [get, glob, List.lookup_nil]
  by_cases h : s = "" <;> simp [h, Mock.Scope.fresh]

/-- **C run ≡ C++ run over the C08 model**, for every scenario of the decidable class `Aligned`, from any world in
    which checking is on (in particular the initial one, `plain_init`): same scopes, expectation lists, calls in flight and first
    failure at the end, same returned values. -/
theorem c08_c_run_eq_cpp_run (ss : List CStmt) (w : W) (hp : plain w) (h : Aligned ss = true) :
    observeC (runC M08 ⟨⟨w, none, none, none⟩, []⟩ ss) = observeX (runX M08 ⟨⟨w, none, none, none⟩, []⟩ (ss.map Req.toCpp)) :=
  c_run_eq_cpp_run_aligned M08 m08_lawful m08_scopeLaws ss w hp h

/-! ## the instance computes what C08's theorems talk about -/

/-- `actualCall(fn)` of the instance is `Scope.actualCall` of the scope, and every `with...` member is one
    `Scope.seg` step: a whole call statement is `Scope.actualCall` followed by `segsLoop` — the run
    `Scope.lazyRun` / `Scope.callNow` of C08's verdict theorems performs. -/
theorem m08_actualCall_is_scope_actualCall (w : W) (s : String) (fn : String) :
    get (M08.sup w s sigActualCall [.tok fn]).1 s = ((get w s).actualCall fn).sc ∧
    ((M08.sup w s sigActualCall [.tok fn]).1.fail = match w.fail with
                                                    | some m => some m
                                                    | none => ((get w s).actualCall fn).fail) := by
  simp only [opSup, classify_sigActual, opSupC, opActual]
  have hfn : strOf ([Val.tok fn].getD 0 (Val.tok "")) = fn := rfl
  rw [hfn]
  exact ⟨by rw [get_addFail, get_set_same], rfl⟩

theorem m08_with_is_scope_seg (w : W) (s meth : String) (args : List Val) (g : Mock.Seg)
    (hm : meth ∉ actSigs) (hg : segOf meth args = some g) :
    get (M08.ac w (some s) meth args).1 s = ((get w s).seg [] g).1 := by
  simp only [opAc, hm, if_false, hg, get_addFail, get_set_same]

/-- `returnValue()` / `hasReturnValue()` of the call in flight is C08's `returnValueOf` after `checkLast`
    (= `World.returnValue`) -/
theorem m08_has_is_returnValueOf (w : W) (s : String) (hf : (get w s).checkLast.2 = none) :
    (M08.ac w (some s) (signature "hasReturnValue" []) []).2 =
      .val (.bool (Mock.returnValueOf (get w s).checkLast.1.es).isSome) := by
  have hm : signature "hasReturnValue" [] ∈ actSigs := by decide
  simp only [opAc, hm, if_true, acGetter, hf]

/-! ## non-vacuity: a scenario through the C interface over the C08 model -/

/-- `mock_c()->expectOneCall("f")->withIntParameters("a", 5)->andReturnIntValue(7);
     mock_c()->actualCall("f")->withIntParameters("a", 5)->returnIntValueOrDefault(3); mock_c()->intReturnValue();
     mock_c()->checkExpectations()` -/
def sample : List CStmt :=
  [.mockC, .call .sup "expectOneCall" [.tok "f"], .call .exp "withIntParameters" [.tok "a", .int 5],
   .call .exp "andReturnIntValue" [.int 7], .call .sup "actualCall" [.tok "f"],
   .call .act "withIntParameters" [.tok "a", .int 5], .call .act "returnIntValueOrDefault" [.int 3],
   .call .sup "intReturnValue" [], .call .sup "checkExpectations" []]

/-- the same with a wrong actual value -/
def sampleBad : List CStmt :=
  [.mockC, .call .sup "expectOneCall" [.tok "f"], .call .exp "withIntParameters" [.tok "a", .int 5],
   .call .sup "actualCall" [.tok "f"], .call .act "withIntParameters" [.tok "a", .int 6],
   .call .sup "checkExpectations" []]

/-- the checks of the two samples, evaluated together (see `toy_checks`) -/
structure SampleChecks : Prop where
  aligned : Aligned sample = true ∧ Aligned sampleBad = true
  good : (runC M08 ⟨⟨{}, none, none, none⟩, []⟩ sample).obs.map canonC =
      [.none, .none, .none, .none, .none, .none, .val (.int 7), .val (.int 7), .none] ∧
    (runC M08 ⟨⟨{}, none, none, none⟩, []⟩ sample).core.m.fail = none
  bad : ((runC M08 ⟨⟨{}, none, none, none⟩, []⟩ sampleBad).core.m.fail).isSome = true ∧
    (runC M08 ⟨⟨{}, none, none, none⟩, []⟩ sampleBad).obs.length = 5

instance : Decidable SampleChecks :=
  decidable_of_iff (_ ∧ _ ∧ _) ⟨fun ⟨h1, h2, h3⟩ => ⟨h1, h2, h3⟩, fun ⟨h1, h2, h3⟩ => ⟨h1, h2, h3⟩⟩

theorem sample_checks : SampleChecks := by decide +kernel

example : Aligned sample = true ∧ Aligned sampleBad = true := sample_checks.aligned

/-- through the C interface the C08 model delivers 7 twice and no failure ... -/
example : (runC M08 ⟨⟨{}, none, none, none⟩, []⟩ sample).obs.map canonC =
    [.none, .none, .none, .none, .none, .none, .val (.int 7), .val (.int 7), .none] ∧
    (runC M08 ⟨⟨{}, none, none, none⟩, []⟩ sample).core.m.fail = none := sample_checks.good

/-- ... and the wrong value fails the test with C08's diagnosis, at the `with...` member (the run stops there) -/
example : ((runC M08 ⟨⟨{}, none, none, none⟩, []⟩ sampleBad).core.m.fail).isSome = true ∧
    (runC M08 ⟨⟨{}, none, none, none⟩, []⟩ sampleBad).obs.length = 5 := sample_checks.bad

end MockC.X08
