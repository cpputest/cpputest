import CppUModel.Proofs.LeakPluginChain
/-!
# C07 — per-test leak verdict: leaking tests fail, clean ones pass, blame is correct

Model: `CppUModel/Model/LeakPlugin.lean`, an interpreter of the
statement lists regenerated from `MemoryLeakWarningPlugin.cpp`, `MemoryLeakDetector.cpp` and
`Utest.cpp` into `CppUModel/Gen/LeakPluginCode.lean`.  Vocabulary: `CppUModel/Spec/LeakPlugin.lean`
— `Hist.blocksOf live t` (blocks allocated between the test's start and end and still
outstanding), `Hist.ownFailures`, `Hist.ignores`, `Hist.expected`, `Hist.shouldFail` are defined
on the history alone (sets of block ids, no detector, no periods).

`Clean w` is the state between two tests; the constructor establishes it (`init_is_clean`) and
every test re-establishes it (`clean_after_every_test`), so the per-test theorems hold for every
test of every sequence (`…_in_sequence`, any number of tests before and after).

Not carried by these theorems (observed by the harness only): the byte-level text of the report.
A report with more entries than fit into the 4096-byte buffer is cut after the last entry that
fits ("etc etc etc …") and still states the true total; in the model a report is the list of
its entries plus the stated total, which is computed by the same counter as in the code
(independent of how many entries fit).
-/
namespace LeakPlugin
open Hist

/-! ## the states the theorems quantify over are the reachable ones -/

theorem init_is_clean (overloads : Bool) : Clean (World.init overloads) := init_clean overloads

theorem clean_after_every_test (w : World) (hc : Clean w) (ts : List Test) : Clean (runTests w ts).1 :=
  (leaves_runTests hc ts).clean

/-- the model's table and the history agree on which blocks are outstanding after any sequence -/
theorem live_blocks_follow_history (w : World) (hc : Clean w) (ts : List Test) :
    (runTests w ts).1.liveIds = liveAfter w.liveIds ts := (leaves_runTests hc ts).live

/-! ## leak_failure_iff -/

/-- A test gets a leak failure exactly when it passed its own checks, did not ask to ignore
    leaks, and the number of blocks allocated between its start and its end and still outstanding
    differs from the number it declared (default zero). -/
theorem leak_failure_iff (w : World) (hc : Clean w) (hov : w.overloads = true) (t : Test) :
    (runTest w t).leakFail.isSome = true ↔
      (ownFailures w.liveIds t = 0 ∧ ignores w.liveIds t = false ∧
        (blocksOf w.liveIds t).length ≠ expected w.liveIds t) :=
  (closes_runTest hc t).isSome_iff hov

/-- The same for the test at any position of any sequence: the blocks outstanding before it are
    those the history of the earlier tests leaves (`liveAfter`). -/
theorem leak_failure_iff_in_sequence (w0 : World) (hc : Clean w0) (hov : w0.overloads = true)
    (pre : List Test) (t : Test) (post : List Test) :
    ∃ v, (runTests w0 (pre ++ t :: post)).2[pre.length]? = some v ∧
      (v.leakFail.isSome = true ↔ shouldFail (liveAfter w0.liveIds pre) t = true) := by
  have l := leaves_runTests hc pre
  refine ⟨_, verdict_at w0 pre t post, ?_⟩
  simp only [verdictOf]
  rw [isSome_leakFail_runTest l.clean, l.ov, hov, l.live, Bool.true_and]

/-- All verdicts of a whole run at once: for every sequence of tests the list of "got a leak
    failure" flags is the list the property statement prescribes on the history. -/
theorem all_verdicts_follow_history (w0 : World) (hc : Clean w0) (hov : w0.overloads = true) (ts : List Test) :
    (runTests w0 ts).2.map (fun v => v.leakFail.isSome) = verdicts w0.liveIds ts := by
  induction ts generalizing w0 with
  | nil => rfl
  | cons t ts ih =>
    have c := closes_runTest hc t
    simp only [runTests, List.map_cons, verdicts, verdictOf]
    rw [ih _ c.clean (c.ov.trans hov), c.live, isSome_leakFail_runTest hc t, hov, Bool.true_and]

/-- With the overloads off the plugin never adds a failure. -/
theorem no_leak_failure_without_overloads (w : World) (hc : Clean w) (hov : w.overloads = false) (t : Test) :
    (runTest w t).leakFail = none := by
  rw [leakFail_runTest hc t, hov]; rfl

/-! ## report_lists_exactly -/

/-- The leak failure's report lists exactly the blocks of this test that are still outstanding
    (same ids, each once) and states their number. -/
theorem report_lists_exactly (w : World) (hc : Clean w) (t : Test) (r : LeakReport)
    (h : (runTest w t).leakFail = some r) :
    r.entries.map (·.id) = blocksOf w.liveIds t ∧ (r.entries.map (·.id)).Nodup ∧
      r.total = (blocksOf w.liveIds t).length ∧ r.entries.length = r.total := by
  have c := closes_runTest hc t
  exact ⟨c.report_ids h, c.report_ids h ▸ (blocksOf_nodup_sub w.liveIds t).1, c.report_total h, c.report_length h⟩

/-- every listed block is outstanding after the test (it really is a leak) -/
theorem reported_blocks_are_outstanding (w : World) (hc : Clean w) (t : Test) (r : LeakReport)
    (h : (runTest w t).leakFail = some r) :
    ∀ e ∈ r.entries, e.id ∈ (runTest w t).liveIds := by
  intro e he
  rw [(closes_runTest hc t).live]
  apply (blocksOf_nodup_sub w.liveIds t).2
  rw [← (report_lists_exactly w hc t r h).1]
  exact List.mem_map_of_mem he

/-! ## no_charge_to_later_test -/

/-- After a test no record carries the checking stamp any more: whatever it leaked has been
    moved out of the accounting of the tests to come. -/
theorem leaks_demoted_after_test (w : World) (hc : Clean w) (t : Test) :
    ∀ r ∈ (runTest w t).det.recs, r.period ≠ .checking := (closes_runTest hc t).clean.noChecking

/-- A block that is outstanding when some test has ended (in particular one that test leaked) is
    never listed in the report of a later test, however many tests run in between.  Blocks are
    identified by their allocation number. -/
theorem no_charge_to_later_test (w1 : World) (hc : Clean w1) (between : List Test) (t2 : Test) (rep : LeakReport)
    (h : (runTest (runTests w1 between).1 t2).leakFail = some rep) :
    ∀ e ∈ rep.entries, ∀ r0 ∈ w1.det.recs, e.num ≠ r0.num := by
  intro e he r0 hr0
  have l := leaves_runTests hc between
  have c := closes_runTest l.clean t2
  have h1 := c.report_fresh h e he
  have h2 := hc.numsBelow r0 hr0
  have h3 := Nat.le_trans l.seq c.seqAtPre
  omega

/-- Blocks allocated between two tests (outside every window) are not charged either. -/
theorem no_charge_for_blocks_allocated_between_tests (w : World) (hc : Clean w) (t : Test) (rep : LeakReport)
    (h : (runTest w t).leakFail = some rep) :
    ∀ e ∈ rep.entries, ∀ r0 ∈ (runOutside (clearObs w) t.before).det.recs, e.num ≠ r0.num :=
  (closes_runTest hc t).report_new h

/-! ## earlier_free_does_not_offset -/

/-- On the history: the frees of a block the test never allocates itself (every block of an
    earlier test is one) change neither the test's blocks nor anything else the verdict
    depends on. -/
theorem frees_of_foreign_block_do_not_matter (live : List Nat) (t : Test) (id : Nat)
    (hs : neverAllocs id t.setup) (hb : neverAllocs id t.body) (ht : neverAllocs id t.teardown) :
    blocksOf live (Test.dropFrees t id) = blocksOf live t ∧
      shouldFail live (Test.dropFrees t id) = shouldFail live t := by
  have r := rel_atEnd live t id hs hb ht
  refine ⟨r.mine, ?_⟩
  simp only [shouldFail, ownFailures, ignores, blocksOf, Hist.expected, r.mine, r.own, r.ign, r.exp]

/-- Freeing an earlier test's block does not offset a new leak: the verdict and the listed
    blocks of a test are those of the same test with all its frees of that block deleted. -/
theorem earlier_free_does_not_offset (w : World) (hc : Clean w) (t : Test) (id : Nat)
    (hs : neverAllocs id t.setup) (hb : neverAllocs id t.body) (ht : neverAllocs id t.teardown) :
    (runTest w t).leakFail.isSome = (runTest w (Test.dropFrees t id)).leakFail.isSome ∧
      ∀ r r', (runTest w t).leakFail = some r → (runTest w (Test.dropFrees t id)).leakFail = some r' →
        r.entries.map (·.id) = r'.entries.map (·.id) ∧ r.total = r'.total := by
  have hh := frees_of_foreign_block_do_not_matter w.liveIds t id hs hb ht
  constructor
  · rw [isSome_leakFail_runTest hc t, isSome_leakFail_runTest hc (Test.dropFrees t id), hh.2]
  · intro r r' h h'
    have e1 := report_lists_exactly w hc t r h
    have e2 := report_lists_exactly w hc (Test.dropFrees t id) r' h'
    exact ⟨by rw [e1.1, e2.1, hh.1], by rw [e1.2.2.1, e2.2.2.1, hh.1]⟩

/-- In particular the number of leaks counted for a test never depends on which blocks were
    outstanding before it: it is the number of its own outstanding blocks. -/
theorem leak_count_is_own_blocks (w : World) (hc : Clean w) (t : Test) :
    leaksAtPost (atTeardownEnd w t) = (blocksOf w.liveIds t).length :=
  (List.length_map (·.id)).symm.trans (congrArg List.length (closes_runTest hc t).ids)

/-! ## realloc: both outcomes

Scripts contain `realloc id newId size` (the platform realloc succeeds) and `reallocFail id size`
(it returns NULL), so every theorem of this file already quantifies over histories with both
outcomes, on blocks of the running test and on blocks of earlier tests.  On the history a
successful realloc releases the old block and is a new allocation of the test that performs it;
a failed realloc changes nothing (`Hist.hexec`).  The theorems below spell out what that means. -/

/-- A failed realloc leaves the detector's table, the allocation counter and everything else as
    it was: the old block is re-registered with its old period, number and size.  (The sources of
    these three fields are read from `reallocMemory`'s failure branch on every run; with
    `current_period_` in place of `oldNode.period_` this theorem is false.) -/
theorem failed_realloc_changes_nothing (w : World) (id size : Nat) :
    execCmd w (.reallocFail id size) = w := execCmd_reallocFail w id size

/-- Deleting every failed realloc from a test changes neither its verdict nor its blocks. -/
theorem failed_reallocs_do_not_matter (w : World) (hc : Clean w) (t : Test) :
    blocksOf w.liveIds (Test.dropReallocFails t) = blocksOf w.liveIds t ∧
      (runTest w (Test.dropReallocFails t)).leakFail.isSome = (runTest w t).leakFail.isSome := by
  have e := atEnd_dropReallocFails w.liveIds t
  refine ⟨congrArg HState.mine e, ?_⟩
  rw [isSome_leakFail_runTest hc t, isSome_leakFail_runTest hc (Test.dropReallocFails t)]
  exact congrArg (fun h => w.overloads && verdictAt h) e

/-- The seeded scenario: a test that only tries to grow a block (of an earlier test, or any
    other) and whose platform realloc fails allocates nothing and gets no leak failure. -/
theorem failed_realloc_of_earlier_block_is_not_charged (w : World) (hc : Clean w) (id size : Nat) :
    (runTest w { body := [.reallocFail id size] }).leakFail = none := by
  rw [leakFail_runTest hc]
  have : shouldFail w.liveIds { body := [.reallocFail id size] } = false := rfl
  rw [this, Bool.and_false]; rfl

/-- A successful realloc of an earlier test's block: the resulting block is a block of the test
    that did the realloc (and the only one, if it does nothing else); the old block is released. -/
theorem realloc_result_belongs_to_reallocating_test (live : List Nat) (id newId size : Nat)
    (hid : id ∈ live) (hnew : newId = id ∨ newId ∉ live) :
    blocksOf live { body := [.realloc id newId size] } = [newId] ∧
      (newId ≠ id → id ∉ liveAfterTest live { body := [.realloc id newId size] }) := by
  have hnot : newId ∉ live.filter (· != id) := by
    intro h; simp only [List.mem_filter, bne_iff_ne, ne_eq] at h
    exact hnew.elim h.2 (fun hn => hn h.1)
  have e : atEnd live { body := [.realloc id newId size] } =
      { start live with live := newId :: live.filter (· != id), mine := [newId] } := by
    show ({ hexec (start live) (.realloc id newId size) with aborted := false } : HState) = _
    rw [hexec_realloc, if_pos ⟨hid, hnew⟩, show hAlloc (hFree (start live) id) newId = _ from if_neg hnot]
    rfl
  refine ⟨congrArg HState.mine e, fun hne h => ?_⟩
  rw [liveAfterTest, e] at h
  rcases List.mem_cons.mp h with h | h
  · exact hne h.symm
  · simpa using (List.mem_filter.mp h).2

/-! ## window_is_pre_to_post

The leak window is exactly "from the plugin's pre action to its post action" and, by the
regenerated call order of `runOneTestInCurrentProcess`, `createTest` and `destroyTest` lie inside
it: what the constructor and the destructor of the test object allocate and release counts like
what setup, body and teardown do; what happens before the pre action does not. -/

/-- a test whose object does nothing in its constructor and destructor is a plain test -/
theorem runTestObj_plain (w : World) (t : Test) : runTestObj w { test := t } = runTest w t := rfl

/-- The verdict of a test with an allocating test object: the blocks that count are those
    allocated by constructor, setup, body, teardown and destructor and still outstanding after the
    destructor (`blocksOfObj`); blocks allocated before the pre action (`before`) never count. -/
theorem window_is_pre_to_post (w : World) (hc : Clean w) (hov : w.overloads = true) (t : TestObj) :
    (runTestObj w t).leakFail.isSome = true ↔
      ((atEndObj w.liveIds t).own = 0 ∧ (atEndObj w.liveIds t).ignore = false ∧
        (blocksOfObj w.liveIds t).length ≠ (atEndObj w.liveIds t).expected) :=
  (closes_runTestObj hc t).isSome_iff hov

/-- its report lists exactly those blocks, and none that was outstanding at the pre action -/
theorem window_report_lists_exactly (w : World) (hc : Clean w) (t : TestObj) (r : LeakReport)
    (h : (runTestObj w t).leakFail = some r) :
    r.entries.map (·.id) = blocksOfObj w.liveIds t ∧ r.total = (blocksOfObj w.liveIds t).length ∧
      ∀ e ∈ r.entries, ∀ r0 ∈ (runOutside (clearObs w) t.test.before).det.recs, e.num ≠ r0.num := by
  have c := closes_runTestObj hc t
  exact ⟨c.report_ids h, c.report_total h, c.report_new h⟩

/-- the state between tests is re-established and the history is followed, as for plain tests -/
theorem clean_after_test_with_object (w : World) (hc : Clean w) (t : TestObj) :
    Clean (runTestObj w t) ∧ (runTestObj w t).liveIds = liveAfterTestObj w.liveIds t :=
  ⟨(closes_runTestObj hc t).clean, (closes_runTestObj hc t).live⟩

/-! ## tests run in a separate process -/

/-- Leaks are detected in the child only: the parent's detector, plugin flags and overload
    switch are what they were at the fork (after the memory operations that precede the test). -/
theorem separate_process_parent_detector_unchanged (w : World) (t : TestObj) :
    (runTestSeparate w t).det = (runOutside (clearObs w) t.test.before).det ∧
    (runTestSeparate w t).plg = (runOutside (clearObs w) t.test.before).plg ∧
    (runTestSeparate w t).overloads = (runOutside (clearObs w) t.test.before).overloads := by
  unfold runTestSeparate joinSeparate
  split <;> exact ⟨rfl, rfl, rfl⟩

/-- in particular: nothing the child allocated, released or leaked exists in the parent -/
theorem separate_process_leaves_parent_table (w : World) (t : TestObj) (h : t.test.before = []) :
    (runTestSeparate w t).det = w.det ∧ (runTestSeparate w t).plg = w.plg := by
  have := separate_process_parent_detector_unchanged w t
  rw [h] at this
  exact ⟨this.1, this.2.1⟩

/-- The parent records exactly one failure when the child recorded any (own failing checks or the
    leak failure), none otherwise. -/
theorem separate_process_failure_iff (w : World) (hc : Clean w) (t : TestObj) :
    (runTestSeparate w t).failures =
      w.failures + (if (atEndObj w.liveIds t).own > 0 ∨ (w.overloads && shouldFailObj w.liveIds t) = true then 1 else 0) := by
  have hf := (closes_runTestObj hc t).fails
  have h0 : (runOutside (clearObs w) t.test.before).failures = w.failures := (followsOut_runOutside t.test.before (clearObs w)).fails
  unfold runTestSeparate joinSeparate shouldFailObj
  rw [hf, h0]
  by_cases hv : (w.overloads && verdictAt (atEndObj w.liveIds t)) = true
  · rw [if_pos hv, if_pos (by omega), if_pos (Or.inr hv)]
  · rw [if_neg hv]
    by_cases ho : (atEndObj w.liveIds t).own > 0
    · rw [if_pos (by omega), if_pos (Or.inl ho)]
    · rw [if_neg (by omega), if_neg (fun h => h.elim ho hv)]; exact h0

theorem clean_after_separate_process (w : World) (hc : Clean w) (t : TestObj) : Clean (runTestSeparate w t) := by
  have hcl : Clean (runOutside (clearObs w) t.test.before) := (followsOut_runOutside t.test.before (clearObs w)).clean { hc with }
  unfold runTestSeparate joinSeparate
  split
  · exact { hcl with }
  · exact hcl

/-! ## EXPECT_N_LEAKS / IGNORE_ALL_LEAKS_IN_TEST: where and how often

`expectLeaksInTest(n)` ASSIGNS `expectedLeaks_` (regenerated shape check: `expectedLeaks_ = n;`):
several declarations do not add up, the last one performed wins, whatever phase it is in.
`ignoreAllLeaksInTest()` sets a flag that nothing but the post action clears. -/

theorem expect_assigns (h : HState) (n : Nat) : (hexec h (.expectLeaks n)).expected = n := rfl

theorem expect_assigns_in_model (w : World) (n : Nat) : (execCmd w (.expectLeaks n)).plg.expected = n := rfl

theorem other_commands_keep_expected (h : HState) (c : Cmd) (hc : ∀ n, c ≠ .expectLeaks n) :
    (hexec h c).expected = h.expected := by
  cases c with
  | expectLeaks n => exact absurd rfl (hc n)
  | alloc id sz => exact (congrArg HState.expected (hAlloc_sets h id)).trans rfl
  | realloc id newId sz => exact (congrArg HState.expected (hexec_realloc_sets h id newId sz)).trans rfl
  | _ => rfl

/-- the last declaration performed in a phase wins -/
theorem expect_last_wins (h : HState) (cs : List Cmd) (n : Nat) (hna : (hrun h cs).aborted = false) :
    (hrun h (cs ++ [.expectLeaks n])).expected = n := by
  simp only [hrun, List.foldl_append, List.foldl_cons, List.foldl_nil]
  have : (List.foldl hstep h cs).aborted = false := hna
  simp only [hstep, this, Bool.false_eq_true, if_false]
  rfl

/-- Once a test has asked to ignore leaks (in its setup, say), it stays that way to the end of the
    test: no later command and no later phase takes it back. -/
theorem ignore_sticks_from_setup (live : List Nat) (t : Test)
    (hi : (hPhase (start (liveAtStart live t)) .setup t.setup).ignore = true) : ignores live t = true :=
  hPhase_inv (P := fun h => h.ignore = true) ignore_kept_hexec (fun _ _ hi => hi) _ _ _
    (hPhase_inv (P := fun h => h.ignore = true) ignore_kept_hexec (fun _ _ hi => hi) _ _ _ hi)

/-- A declaration at the end of a teardown that was not left by a failing check overrides
    whatever setup and body declared. -/
theorem expect_in_teardown_wins (live : List Nat) (t : Test) (td : List Cmd) (n : Nat)
    (ht : t.teardown = td ++ [.expectLeaks n])
    (hna : (hPhase (hPhase (hPhase (start (liveAtStart live t)) .setup t.setup) .body t.body) .teardown td).aborted = false) :
    Hist.expected live t = n := by
  unfold Hist.expected atEnd
  rw [ht]
  exact expect_last_wins _ td n hna

/-! ## declarations_reach_first_plugin -/

/-- However many further plugin objects a process constructs (and destroys or keeps) after the
    installed one, `firstPlugin_` keeps pointing to the installed plugin, so every
    `EXPECT_N_LEAKS` / `IGNORE_ALL_LEAKS_IN_TEST` of a test reaches the plugin that judges the test:
    a declaration acts on the installed plugin's state exactly as `execCmd` says. -/
theorem declarations_reach_first_plugin (overloads : Bool) (ops : List ProcOp) :
    (ops.foldl Proc.step (Proc.init overloads)).first = .installed ∧
      ∀ (p : Proc), p.first = .installed → ∀ c, (p.execCmd c).w = execCmd p.w c := by
  constructor
  · have h0 : (Proc.init overloads).first = .installed := rfl
    generalize Proc.init overloads = p at h0
    induction ops generalizing p with
    | nil => exact h0
    | cons op ops ih =>
      apply ih
      cases op with
      | constructOther => simp [Proc.step, afterConstruct, Gen.LeakCode.firstPluginSetOnlyIfNull, h0]
      | destroyOther => exact h0
  · intro p hp c
    cases c <;> simp [Proc.execCmd, hp]

/-- the plugin objects constructed later never change the installed plugin's state -/
theorem other_plugins_leave_world (p : Proc) (op : ProcOp) : (p.step op).w = p.w := by
  cases op <;> rfl

/-! ## several plugins: the chain the leak plugin is installed in

`TestRegistry::installPlugin`, `TestPlugin::runAllPreTestAction` / `runAllPostTestAction` (statement order and
`enabled_` guards regenerated into `Gen/LeakChainCode.lean`) decide which actions of OTHER plugins fall between
the leak plugin's pre and post action.  A plugin is given by what its pre and post action do for the test at
hand (`Other`): tracked memory operations and failures added with `result.addFailure` (a `MockSupportPlugin`
whose post action checks and clears the expectations of the test, …). -/

/-- pre actions: the head of the chain first, then the rest; a disabled plugin's action is skipped
    (the regenerated `runAllPreTestAction`) -/
theorem chain_pre_order {π σ : Type} (en : π → Bool) (act : π → σ → σ) (p : π) (rest : List π) (s : σ) :
    chainPre en act (p :: rest) s = chainPre en act rest (if en p then act p s else s) := chainPre_cons en act p rest s

/-- post actions: the rest of the chain first, the head last (the regenerated `runAllPostTestAction`): actions nest -/
theorem chain_post_order {π σ : Type} (en : π → Bool) (act : π → σ → σ) (p : π) (rest : List π) (s : σ) :
    chainPost en act (p :: rest) s = (if en p then act p (chainPost en act rest s) else chainPost en act rest s) :=
  chainPost_cons en act p rest s

/-- `installPlugin` makes the new plugin the head of the chain … -/
theorem install_puts_at_head {π : Type} (chain : List π) (p : π) : installPlugin chain p = p :: chain := rfl

/-- … so in the arrangement of `CommandLineTestRunner::RunAllTests` (the leak plugin is installed by the runner,
    after everything `main()` installed) every other plugin is behind the leak plugin: all of them act INSIDE the
    window, none outside. -/
theorem runAllTests_arrangement_all_inner (mainPlugins : List Other) :
    installPlugin ((mainPlugins.map Plug.other).foldl installPlugin []) (.leak true) =
      (ChainSpec.toTest { outer := [], inner := mainPlugins.reverse }).chain := by
  rw [install_puts_at_head, foldl_install]
  simp [ChainSpec.toTest]

/-- a plugin installed after the leak plugin is in front of it: it acts outside the window -/
theorem installed_later_is_outer (inner : List Other) (o : Other) :
    installPlugin (ChainSpec.toTest { inner := inner }).chain (.other o) =
      (ChainSpec.toTest { outer := [o], inner := inner }).chain := rfl

/-- the run under a chain, unfolded with the regenerated orders: outer pre actions, leak pre action, inner pre
    actions, constructor, setup/body/teardown, destructor, inner post actions (last plugin first), leak post
    action, outer post actions -/
theorem chain_run_unfolded (w : World) (t : ChainSpec) :
    runTestChain w t.toTest = runAct (postTestAction (atInnerEnd w t)) (postCmds t.outer) := runTestChain_eq w t

/-- with no other plugin the chain run is the run of the previous sections -/
theorem chain_without_other_plugins (w : World) (obj : TestObj) :
    runTestChain w (ChainSpec.toTest { obj := obj }) = runTestObj w obj := rfl

/-- **The verdict under any chain of plugins.**  The test gets a leak failure exactly when no failure was recorded
    between the leak plugin's pre and post action (own checks, or failures added by the plugins behind it), it
    did not ask to ignore leaks, and the number of blocks allocated in that window — by the inner plugins' pre
    actions, the constructor, setup, body, teardown, the destructor, the inner plugins' post actions — and still
    outstanding at its end differs from the declared number.  What the plugins in front of the leak plugin
    allocate in their pre actions or release in their post actions is outside the window. -/
theorem chain_leak_failure_iff (w : World) (hc : Clean w) (hov : w.overloads = true) (t : ChainSpec) :
    (runTestChain w t.toTest).leakFail.isSome = true ↔
      ((atEndChain w.liveIds t).own = 0 ∧ (atEndChain w.liveIds t).ignore = false ∧
        (blocksOfChain w.liveIds t).length ≠ (atEndChain w.liveIds t).expected) :=
  (closes_runTestChain hc t).isSome_iff hov

/-- its report lists exactly the blocks of the window (each once, the stated total is their number) and no block
    that existed at the leak plugin's pre action — in particular none an outer plugin's pre action allocated -/
theorem chain_report_lists_exactly (w : World) (hc : Clean w) (t : ChainSpec) (r : LeakReport)
    (h : (runTestChain w t.toTest).leakFail = some r) :
    r.entries.map (·.id) = blocksOfChain w.liveIds t ∧ r.total = (blocksOfChain w.liveIds t).length ∧
      r.entries.length = r.total ∧
      ∀ e ∈ r.entries, ∀ r0 ∈ (atLeakPre w t).det.recs, e.num ≠ r0.num := by
  have c := closes_runTestChain hc t
  exact ⟨c.report_ids h, c.report_total h, c.report_length h, c.report_new h⟩

/-- a failure added inside the window by another plugin (unmet mock expectations reported by a plugin installed
    before the leak plugin) counts as the test having failed already: no additional leak failure -/
theorem failure_of_inner_plugin_blocks_leak_failure (w : World) (hc : Clean w) (t : ChainSpec)
    (hf : (atEndChain w.liveIds t).own > 0) : (runTestChain w t.toTest).leakFail = none :=
  (closes_runTestChain hc t).none_of_own hf

/-- what the plugins in front of the leak plugin do after its post action cannot take the verdict back or add one -/
theorem outer_post_actions_leave_verdict (w : World) (t : ChainSpec) :
    (runTestChain w t.toTest).leakFail = (postTestAction (atInnerEnd w t)).leakFail := by
  rw [runTestChain_eq]; exact (followsOut_runAct _ _).frame.leakFail

/-- The failures recorded for a test under a chain: what the plugins in front of the leak plugin add in their pre
    actions, the failures inside the window (own checks and inner plugins), at most ONE leak failure, and what the
    outer plugins add in their post actions. -/
theorem chain_failures_recorded (w : World) (hc : Clean w) (t : ChainSpec) :
    (verdictOf w (runTestChain w t.toTest)).failures =
      failCount (preCmds t.outer) + (atEndChain w.liveIds t).own +
        (if w.overloads && shouldFailChain w.liveIds t then 1 else 0) + failCount (postCmds t.outer) := by
  simp only [verdictOf]
  rw [(closes_runTestChain hc t).fails, shouldFailChain]; omega

/-- the state between tests is re-established and the outstanding blocks follow the history -/
theorem clean_after_chain_test (w : World) (hc : Clean w) (t : ChainSpec) :
    Clean (runTestChain w t.toTest) ∧ (runTestChain w t.toTest).liveIds = liveAfterChain w.liveIds t :=
  ⟨(closes_runTestChain hc t).clean, (closes_runTestChain hc t).live⟩

/-- **Whole run, several plugins.**  For every sequence of tests, each under its own chain (plugins may be
    installed, removed, enabled or disabled between tests; one enabled leak plugin), the list of "got a leak
    failure" flags is the list the property statement prescribes on the history. -/
theorem all_chain_verdicts_follow_history (w0 : World) (hc : Clean w0) (hov : w0.overloads = true) (ts : List ChainSpec) :
    (runChainTests w0 (ts.map ChainSpec.toTest)).2.map (fun v => v.leakFail.isSome) = chainVerdicts w0.liveIds ts := by
  induction ts generalizing w0 with
  | nil => rfl
  | cons t ts ih =>
    have c := closes_runTestChain hc t
    simp only [List.map_cons, runChainTests, chainVerdicts, verdictOf]
    rw [ih _ c.clean (c.ov.trans hov), c.live, c.isSome, hov, Bool.true_and]; rfl

/-- without a leak plugin in the chain nobody adds a leak failure -/
theorem no_leak_plugin_no_leak_failure (w : World) (others : List Other) (obj : TestObj) :
    (runTestChain w { chain := others.map .other, obj := obj }).leakFail = none := by
  simp only [runTestChain, runOneTestChain, Gen.LeakCode.runOneTestOrder, List.foldl_cons, List.foldl_nil, rstepChain,
    chainPre_others, chainPost_others]
  exact ((((follows_runAct (preCmds others)).comp (follows_obj obj)).comp (follows_runAct (postCmds others)))
    _).frame.leakFail.trans (followsOut_runOutside obj.test.before (clearObs w)).frame.leakFail

/-- a disabled plugin takes no part: its scripts may be anything -/
theorem disabled_plugin_does_nothing (o : Other) (l : List Other) (h : o.enabled = false) :
    preCmds (o :: l) = preCmds l ∧ postCmds (o :: l) = postCmds l := by
  simp [preCmds, postCmds, h]


/-! ## FinalReport, the overload switches, destroyGlobalDetector -/

theorem finalReport_is_FinalReport_zero (w : World) : finalReport w = finalReportN w 0 := rfl

/-- `FinalReport(n)` is silent exactly when `n` blocks stamped enabled or checking are outstanding
    (blocks allocated while the detector was disabled do not count) -/
theorem finalReportN_silent_iff (w : World) (n : Nat) :
    finalReportN w n = none ↔ (w.det.recs.filter (fun r => r.period != .disabled)).length = n := by
  unfold finalReportN
  have : w.det.totalMemoryLeaks Gen.LeakCode.finalCountPeriod = (w.det.recs.filter (fun r => r.period != .disabled)).length := by
    simp [Detector.totalMemoryLeaks, Detector.leaksIn, Gen.LeakCode.finalCountPeriod, isInPeriod_enabled]
  rw [this]
  by_cases h : (w.det.recs.filter (fun r => r.period != .disabled)).length = n <;> simp [h]

/-- otherwise it appends one entry per such block to the output buffer and states their number -/
theorem finalReportN_lists (w : World) (n : Nat) (r : LeakReport) (h : finalReportN w n = some r) :
    r.entries = w.det.out ++ w.det.recs.filter (fun r => r.period != .disabled) ∧
      r.total = (w.det.recs.filter (fun r => r.period != .disabled)).length := by
  unfold finalReportN at h
  split at h
  · cases h
    simp [Detector.report, Detector.leaksIn, Gen.LeakCode.finalReportPeriod, isInPeriod_enabled]
  · cases h

/-- after `turnOffNewDeleteOverloads()` no test gets a leak failure, whatever it leaks … -/
theorem no_leak_failure_after_turnOff (w : World) (hc : Clean w) (t : Test) :
    (runTest (turnOffOverloads w) t).leakFail = none :=
  no_leak_failure_without_overloads _ (clean_setOverloads hc _) rfl t

/-- … and after `turnOnDefaultNotThreadSafeNewDeleteOverloads()` the verdict is the property's again -/
theorem verdict_after_turnOn (w : World) (hc : Clean w) (t : Test) :
    (runTest (turnOnOverloads (turnOffOverloads w)) t).leakFail.isSome = shouldFail w.liveIds t := by
  have hc' : Clean (turnOnOverloads (turnOffOverloads w)) := clean_setOverloads (clean_setOverloads hc _) _
  rw [leakFail_runTest hc' t]
  have h1 : (turnOnOverloads (turnOffOverloads w)).overloads = true := rfl
  have h2 : (turnOnOverloads (turnOffOverloads w)).liveIds = w.liveIds := rfl
  rw [h1, h2]
  cases shouldFail w.liveIds t <;> rfl

/-- The "leak detection was disabled" warning is printed exactly for a test that would have got a
    leak failure, with the overloads off, and that declared a positive number of leaks. -/
theorem warning_iff (w : World) (hc : Clean w) (t : Test) :
    (runTest w t).warned = true ↔
      (w.overloads = false ∧ shouldFail w.liveIds t = true ∧ Hist.expected w.liveIds t > 0) :=
  (closes_runTest hc t).warned

/-- `destroyGlobalDetector()`: overloads off, and whoever asks for the global detector next gets a
    newly constructed one (no records, allocation numbers from the start, detector disabled) -/
theorem destroy_gives_fresh_detector (w : World) :
    (destroyGlobalDetector w).det = Detector.init ∧ (destroyGlobalDetector w).overloads = false ∧
      (destroyGlobalDetector w).det.recs = [] := ⟨rfl, rfl, rfl⟩

/-! ## the whole run made by `CommandLineTestRunner::RunAllTests` -/

/-- the chain `RunAllTests` works with: its own leak plugin in front of everything `main()` installed — every
    other plugin acts inside the window -/
theorem runner_chain_all_inner (mainPlugins : List Other) :
    runnerChain mainPlugins = (ChainSpec.toTest { outer := [], inner := mainPlugins.reverse }).chain :=
  runAllTests_arrangement_all_inner mainPlugins

/-- the runner installs its leak plugin before its `SetPointerPlugin` (regenerated installation order) and asks
    for `FinalReport(0)` -/
theorem runner_installs_leak_plugin_first :
    Gen.LeakChain.runnerInstalls.head? = some "MemoryLeakPlugin" ∧ Gen.LeakChain.finalReportArg = 0 := ⟨rfl, rfl⟩

/-- After the run `RunAllTests` asks for the final report exactly when no failure was recorded; the report is
    then silent exactly when no block allocated since the plugin was constructed is outstanding, and otherwise
    lists those blocks (the ones tests declared with `EXPECT_N_LEAKS` or were told to ignore). -/
theorem runner_final_report (w : World) :
    (runnerFinal w = none ↔ w.failures ≠ 0) ∧
    (runnerFinal w = some none ↔ (w.failures = 0 ∧ (w.det.recs.filter (fun r => r.period != .disabled)).length = 0)) ∧
    (∀ r, runnerFinal w = some (some r) →
      r.entries = w.det.out ++ w.det.recs.filter (fun r => r.period != .disabled) ∧
        r.total = (w.det.recs.filter (fun r => r.period != .disabled)).length) := by
  unfold runnerFinal
  simp only [Gen.LeakChain.finalReportOnlyIfPassed, Gen.LeakChain.finalReportArg, Bool.true_and]
  by_cases hf : w.failures = 0
  · simp only [hf, bne_self_eq_false, Bool.false_eq_true, if_false, reduceCtorEq, ne_eq, not_true_eq_false,
      true_and, Option.some.injEq]
    refine ⟨finalReportN_silent_iff w 0, ?_⟩
    intro r h; exact finalReportN_lists w 0 r h
  · have : (w.failures != 0) = true := by simpa using hf
    simp [this, hf]

/-- whole run under the runner's arrangement: verdicts as the property prescribes on the history, for any plugins
    `main()` installed and any scripts of their actions -/
theorem runner_verdicts_follow_history (ts : List (List Other × TestObj)) :
    (runChainTests (World.init true)
        (ts.map fun t => ({ chain := runnerChain t.1, obj := t.2 } : ChainTest))).2.map (fun v => v.leakFail.isSome) =
      chainVerdicts [] (ts.map fun t => ({ outer := [], inner := t.1.reverse, obj := t.2 } : ChainSpec)) := by
  have h := all_chain_verdicts_follow_history (World.init true) (init_clean true) rfl
    (ts.map fun t => ({ outer := [], inner := t.1.reverse, obj := t.2 } : ChainSpec))
  rw [List.map_map] at h
  have e : (ts.map fun t => ({ chain := runnerChain t.1, obj := t.2 } : ChainTest)) =
      ts.map (ChainSpec.toTest ∘ fun t => ({ outer := [], inner := t.1.reverse, obj := t.2 } : ChainSpec)) := by
    apply List.map_congr_left
    intro t _
    rw [runner_chain_all_inner]; rfl
  rw [e]; exact h

/-! ## already_failed_gets_no_leak_failure -/

/-- A test with an own failing check gets no leak failure, whatever it leaked. -/
theorem already_failed_gets_no_leak_failure (w : World) (hc : Clean w) (t : Test)
    (hf : ownFailures w.liveIds t > 0) : (runTest w t).leakFail = none :=
  (closes_runTest hc t).none_of_own hf

/-- The failures recorded for a test are its own failing checks plus at most the one leak failure. -/
theorem failures_recorded (w : World) (hc : Clean w) (t : Test) :
    (verdictOf w (runTest w t)).failures =
      ownFailures w.liveIds t + (if w.overloads && shouldFail w.liveIds t then 1 else 0) := by
  have h : _ = w.failures + ownFailures w.liveIds t + (if w.overloads && shouldFail w.liveIds t then 1 else 0) :=
    (closes_runTest hc t).fails
  simp only [verdictOf]
  omega

/-! ## flags_reset_each_test -/

/-- After the post action the ignore flag and the expected count have their defaults again and
    the detector is back in the enabled period — from ANY state, not only clean ones. -/
theorem flags_reset_each_test (w : World) (t : Test) :
    (runTest w t).plg.ignoreAll = false ∧ (runTest w t).plg.expected = 0 ∧ (runTest w t).det.cur = .enabled := by
  rw [runTest_eq, postTestAction_eq]
  exact ⟨rfl, rfl, rfl⟩

/-- Hence a declaration made by one test never reaches a later one: the verdict of a test in a
    sequence depends on the earlier tests only through the set of outstanding block ids. -/
theorem verdict_depends_on_history_only (w0 w0' : World) (hc : Clean w0) (hc' : Clean w0')
    (hov : w0.overloads = w0'.overloads) (hl : w0.liveIds = w0'.liveIds) (t : Test) :
    (runTest w0 t).leakFail.isSome = (runTest w0' t).leakFail.isSome := by
  rw [isSome_leakFail_runTest hc t, isSome_leakFail_runTest hc' t, hov, hl]

/-! ## non-vacuity: concrete histories -/

/-- test 1 leaks block 1; test 2 frees it and leaks block 2; test 3 declares one leak and
    leaks block 3; test 4 fails its own check in the setup and leaks in the teardown;
    test 5 ignores its leak; test 6 is clean -/
def exampleTests : List Test :=
  [ { body := [.alloc 1 8] },
    { body := [.free 1, .alloc 2 4] },
    { setup := [.expectLeaks 1], body := [.alloc 3 2] },
    { setup := [.alloc 4 1, .fail, .alloc 5 1], body := [.alloc 6 1], teardown := [.alloc 7 1] },
    { body := [.ignoreLeaks, .alloc 8 1] },
    { before := [.alloc 9 1], body := [.alloc 10 1, .free 10] } ]

example : (runTests (World.init true) exampleTests).2.map (fun v => (v.failures, v.leakFail.map (fun r => (r.entries.map (·.id), r.total)))) =
    [(1, some ([1], 1)), (1, some ([2], 1)), (0, none), (1, none), (0, none), (0, none)] := by decide +kernel

example : (runTests (World.init true) exampleTests).1.liveIds = [9, 8, 7, 4, 3, 2] := by decide +kernel

/-- test A keeps block 1 and declares it; test B tries to grow it and the platform realloc
    fails; test C grows it successfully into block 2 (now C's block); test D frees block 2 -/
def reallocTests : List Test :=
  [ { body := [.expectLeaks 1, .alloc 1 10] },
    { body := [.reallocFail 1 1000] },
    { body := [.realloc 1 2 20] },
    { body := [.free 2] } ]

example : (runTests (World.init true) reallocTests).2.map (fun v => (v.failures, v.leakFail.map (fun r => (r.entries.map (·.id), r.total)))) =
    [(0, none), (0, none), (1, some ([2], 1)), (0, none)] := by decide +kernel

-- the block test C is charged with carries C's own (new) allocation number, not test A's
example : (runTests (World.init true) reallocTests).2.map (fun v => v.leakFail.map (fun r => r.entries.map (·.num))) =
    [none, none, some [2], none] := by decide +kernel

-- the same verdicts, read off the history alone
example : verdicts [] exampleTests = [true, true, false, false, false, false] := by decide +kernel

example : Clean (World.init true) ∧ (World.init true).overloads = true := ⟨init_clean true, rfl⟩

/-- a block allocated before the pre action is not charged; one allocated by the constructor and
    never released is; one the destructor releases is not; one the destructor allocates is -/
def objectTests : List TestObj :=
  [ { test := { before := [.alloc 1 8] } },
    { ctor := [.alloc 2 8] },
    { ctor := [.alloc 3 8], dtor := [.free 3] },
    { test := { body := [.alloc 4 8] }, dtor := [.alloc 5 8, .free 4] } ]

example : objectTests.map (fun t => (runTestObj (World.init true) t).leakFail.map (fun r => r.entries.map (·.id))) =
    [none, some [2], none, some [5]] := by decide +kernel

-- a leaking test in a separate process: the parent gets one failure and its table stays empty
example : (runTestSeparate (World.init true) { test := { body := [.alloc 1 8] } }).failures = 1 ∧
    (runTestSeparate (World.init true) { test := { body := [.alloc 1 8] } }).det.recs = [] := by decide +kernel

-- EXPECT_N_LEAKS twice: the last one wins (2 + 1 is not 3)
example : Hist.expected [] { setup := [.expectLeaks 2], body := [.expectLeaks 1] } = 1 := by decide +kernel

-- the hypotheses of `earlier_free_does_not_offset` are met by test 2 and block 1
example : neverAllocs 1 [Cmd.free 1, Cmd.alloc 2 4] := by
  intro c h; simp at h; rcases h with rfl | rfl <;> rfl

-- a test expecting one leak that leaks nothing gets a failure whose report lists nothing
example : ((runTests (World.init true) [{ body := [.expectLeaks 1] }]).2.map
    (fun v => v.leakFail.map (fun r => (r.entries.length, r.total)))) = [some (0, 0)] := by decide +kernel

/-- the mock-plugin situation: the body allocates block 1 (an expectation), the plugin's post action releases it.
    Plugin installed BEFORE the leak plugin (as with `RunAllTests`): inside the window, no leak.  Installed AFTER
    it: the release comes after the verdict, block 1 is reported.  A block the outer plugin allocated in its pre
    action (2) is not charged, one an inner plugin allocated and kept (3) is. -/
def mockLike : Other := { post := [.free 1] }

example : (runTestChain (World.init true) (ChainSpec.toTest { inner := [mockLike], obj := { test := { body := [.alloc 1 8] } } })).leakFail.map
    (fun r => r.entries.map (·.id)) = none := by decide +kernel

example : (runTestChain (World.init true) (ChainSpec.toTest { outer := [mockLike], obj := { test := { body := [.alloc 1 8] } } })).leakFail.map
    (fun r => r.entries.map (·.id)) = some [1] := by decide +kernel

example : (runTestChain (World.init true) (ChainSpec.toTest { outer := [{ pre := [.alloc 2 4] }], inner := [{ pre := [.alloc 3 4] }] })).leakFail.map
    (fun r => r.entries.map (·.id)) = some [3] := by decide +kernel

-- unmet expectations reported by an inner plugin's post action: the leak is not reported on top
example : (runTestChain (World.init true) (ChainSpec.toTest { inner := [{ post := [.fail] }], obj := { test := { body := [.alloc 1 8] } } })).leakFail = none
    ∧ (atEndChain [] { inner := [{ post := [.fail] }], obj := { test := { body := [.alloc 1 8] } } }).own = 1 := by decide +kernel

-- two tests under different chains; the second one frees what the first one's outer plugin left behind
example : chainVerdicts [] [ { outer := [{ pre := [.alloc 5 1] }], obj := { test := { body := [.alloc 1 8] } } },
                              { inner := [{ enabled := false, pre := [.alloc 9 9] }, { post := [.free 5] }] } ] = [true, false] := by decide +kernel

example : installPlugin (installPlugin ([] : List Plug) (.other mockLike)) (.leak true) = [.leak true, .other mockLike] := rfl

-- the runner: a passed run with a declared leak prints it in the final report; a failed run prints none
example : (runnerFinal (runChainTests (World.init true) [{ chain := runnerChain [], obj := { test := { body := [.expectLeaks 1, .alloc 1 8] } } }]).1).map
    (fun o => o.map (fun r => r.entries.map (·.id))) = some (some [1]) := by decide +kernel
example : runnerFinal (runChainTests (World.init true) [{ chain := runnerChain [], obj := { test := { body := [.alloc 1 8] } } }]).1 = none := by decide +kernel

end LeakPlugin
