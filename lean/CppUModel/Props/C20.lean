import CppUModel.Proofs.TeamCityRun
import CppUModel.Proofs.TeamCityParse
import CppUModel.Proofs.TeamCityStream
import CppUModel.Proofs.OutputLoop
import CppUModel.Model.TeamCityMock
/-!
# C20 — TeamCity output is a balanced, correctly escaped service-message stream

The property theorems, with the few definitions and lemmas only they use.  Model: `Model/TeamCity.lean` (from `src/CppUTest/TeamCityTestOutput.cpp`)
over the runner events of `Model/OutputEvents.lean` (from `TestRegistry::runAllTests`);
vocabulary: `Spec/TeamCity.lean` (the TeamCity rules, written independently of the code).
`printEscaped` follows the branch table regenerated from the source on every run (`Gen/EscapeTables.lean`).
-/
namespace TeamCity
open Text (Bytes)
open OutEv

/-- The regenerated branch chain of `printEscaped` is exactly the TeamCity escaping rule
    (`|` before `' | [ ]`, `|r` for CR, `|n` for LF, everything else unchanged), for every byte. -/
theorem escape_table_is_teamcity_rule : ∀ c : UInt8, escByte c = escRef c := escByte_eq_ref

/-- OBLIGATION over `Gen/TeamCityWriters.lean` (regenerated from TeamCityTestOutput.cpp / TestOutput.cpp on every run): for
    every writer state and every callback, executing the SOURCE's statement list — every literal, which field goes through
    `printEscaped`, the order of the pieces, the early-return guards, where `currtest_` and `currGroup_` are assigned —
    produces exactly the bytes and the next state of the hand-written writer.  All theorems of this file are about `step`,
    i.e. about the interpreter of the regenerated lists. -/
theorem writers_are_the_source (s : St) (e : Ev) : step s e = stepHand s e := step_eq_hand s e

/-- … hence for whole runs: the stream of ANY event list, from any state. -/
theorem stream_is_hand_stream : ∀ (evs : List Ev) (s : St), foldEvents step s evs = foldEvents stepHand s evs :=
  foldEvents_sim id id rfl (fun _ _ => rfl) step_eq_hand

/-- Every callback, executed from its regenerated statement list in any state, writes exactly the rendering
    (`Msg.render`: every value escaped by the TeamCity rules, nothing else between the quotes) of the messages it stands
    for — the per-callback form of `all_values_escaped`. -/
theorem callbacks_render_messages (s : St) (e : Ev) : (step s e).2 = renderAll (msgsOf s e) := step_renders s e

open Gen.TeamCityWriters in
/-- no statement of a writer prints a text field with `print` (only with `printEscaped`) -/
def escapedOnly : List Stmt → Bool
  | [] => true
  | .out (.raw _) :: _ => false
  | .cond _ body :: rest => body.all (fun a => match a with | .raw _ => false | _ => true) && escapedOnly rest
  | _ :: rest => escapedOnly rest

/-- Directly on the regenerated lists: in all five overridden callbacks every name, file name and message goes through
    `printEscaped` — no `print(<text>.asCharString())` anywhere. -/
theorem every_text_field_is_escaped :
    escapedOnly Gen.TeamCityWriters.printCurrentTestStarted = true ∧ escapedOnly Gen.TeamCityWriters.printCurrentTestEnded = true ∧
    escapedOnly Gen.TeamCityWriters.printCurrentGroupStarted = true ∧ escapedOnly Gen.TeamCityWriters.printCurrentGroupEnded = true ∧
    escapedOnly Gen.TeamCityWriters.printFailure = true ∧ escapedOnly Gen.TeamCityWriters.printTestRun = true := by decide

/-- What each callback does to the writer's state, for all states: a suite start names the NEW group (assigned before it is
    printed) and remembers it; a test start remembers the test; nothing else changes `currtest_` / `currGroup_`. -/
theorem callback_state_effects (s : St) :
    (∀ t, step s (.groupStarted t) = ({ s with currGroup := t.group }, renderAll [.suiteStarted t.group])) ∧
    (∀ t, (step s (.testStarted t)).1 = { s with currTest := some t.name }) ∧
    (∀ f, (step s (.failure f)).1 = s) ∧ (∀ ms c, (step s (.testEnded ms c)).1 = s) ∧ (∀ ms, (step s (.groupEnded ms)).1 = s) ∧
    (∀ i n, (step s (.testRun i n)).1 = s) := by
  refine ⟨fun t => ?_, fun t => ?_, fun f => ?_, fun ms c => ?_, fun ms => ?_, fun i n => ?_⟩
  · rw [Prod.ext_iff]; exact ⟨by simp [step_eq_hand, stepHand], by rw [step_renders]; rfl⟩
  all_goals simp [step_eq_hand, stepHand]

/-- Used as either output of a `CompositeTestOutput` whose other output writes elsewhere, the TeamCity output produces, for
    ANY event list, exactly the stream it produces when used directly — so every theorem about `streamV` (escaping,
    balance, decoding) holds for that configuration too. -/
theorem composite_stream_is_teamcity_stream (position : Nat) (vv : Bool) (evs : List Ev) :
    streamComposite position vv evs = streamV vv evs := by
  unfold streamComposite streamV
  split
  · exact (congrArg Prod.snd (foldEvents_sim (b := both step sinkStep) Prod.fst id rfl (fun _ _ => rfl)
      (fun _ _ => Prod.ext rfl (List.append_nil _).symm) evs _)).symm
  · exact (congrArg Prod.snd (foldEvents_sim (b := both sinkStep step) Prod.snd id rfl (fun _ _ => rfl)
      (fun _ _ => rfl) evs _)).symm

/-- OBLIGATION over the regenerated method table of `CompositeTestOutput`: every callback through which the runner, a test
    or the base class reaches an output (the six run callbacks, printFailure, the three print overloads, printVeryVerbose,
    verbose, printBuffer, flush) is forwarded to `outputOne_` and to `outputTwo_`. -/
theorem composite_forwards_every_callback : compositeForwardsAll = true := by decide +kernel

/-- Decoding an escaped value by the TeamCity rules returns the original, for all byte strings. -/
theorem decode_escape (s : Bytes) : decodeTC (printEscaped s) = s := by
  have := decodeAux_escapeRef s []
  simpa [decodeTC, printEscaped_eq_ref, decodeAux] using this

/-- Every `'` and every `]` in an escaped value is preceded by an odd run of `|` (scanner form). -/
theorem no_unescaped_quote (s : Bytes) : oddRunOk false (printEscaped s) = true := by
  have := oddRunOk_escapeRef s []
  simpa [printEscaped_eq_ref, oddRunOk] using this

/-- The same, position by position: wherever a `'` or `]` occurs in an escaped value, the run of
    `|` immediately before it has odd length. -/
theorem quote_preceded_by_odd_run (s pre post : Bytes) (c : UInt8) (hc : c = 39 ∨ c = 93)
    (h : printEscaped s = pre ++ c :: post) : trailingBars pre % 2 = 1 := by
  have h1 := no_unescaped_quote s
  rw [h] at h1
  have h2 := oddRunOk_split pre post c hc false h1
  rw [parityAfter_eq_trailing] at h2
  simpa using h2

/-- No value can end a message early: a TeamCity reader that starts after the opening quote and
    stops at the first quote that is not escaped reads exactly the original value, and continues
    exactly after the closing quote — whatever the value and whatever follows. -/
theorem value_ends_at_its_quote (v rest : Bytes) :
    scanValue false (printEscaped v ++ 39 :: rest) [] = some (v, rest) := by
  rw [printEscaped_eq_ref, scanValue_escapeRef]; simp

/-- Every variable field of every message goes through the escape: the byte stream of ANY event
    list is the rendering of its message list (`Msg.render` escapes every name, location and
    message value; durations are digits).  In particular the failure location
    `TEST failed (file:line): file:line` is the escape of the plain location text. -/
theorem all_values_escaped (vv : Bool) (evs : List Ev) : streamV vv evs = renderAll (messagesV vv evs) :=
  congrArg Prod.snd (fold_renders evs _)

/-- The messages of every run pair up: each suite start has its finish, each test start inside
    a suite has its finish, ignored and failed messages name the open test, nothing stays open —
    for every registry (any number of groups and tests, any pass/fail/ignore pattern, any name
    filter) in which no group name is empty. -/
theorem messages_balanced (vv : Bool) (flt : Option Filter) (tests : List Script)
    (hne : ∀ t ∈ tests, t.info.group ≠ []) : balanced (messagesV vv (runAll flt tests)) = true :=
  balanced_of_runB (runAll_balanced flt tests hne _)

/-- Each failure message is emitted while a test is open and carries that test's name — for every
    registry, without any condition on the names, in the default and in the very verbose mode. -/
theorem failure_belongs_to_open_test (vv : Bool) (flt : Option Filter) (tests : List Script) :
    failuresInOpenTest none (messagesV vv (runAll flt tests)) = true :=
  runAll_failures_open flt tests _ none

/-- one repetition, from ANY state of the writer (whatever `currGroup_` / `currtest_` the previous
    repetition left behind — they are never cleared), leaves nothing open -/
theorem repetition_balanced (flt : Option Filter) (tests : List Script) (hne : ∀ t ∈ tests, t.info.group ≠ [])
    (i n : Nat) (s : St) : runB .idle s (.testRun i n :: runAll flt tests) = some .idle := by
  rw [runB_testRun]
  exact runAll_balanced flt tests hne s

/-- The messages of ANY number of consecutive runs on one output object pair up (`-r<n>`, default and
    very verbose mode): every suite start has exactly one matching finish in every repetition, although the
    writer's `currGroup_` still names the last suite of the previous repetition when the next one starts. -/
theorem messages_balanced_repeated (vv : Bool) (n : Nat) (flt : Option Filter) (tests : List Script)
    (hne : ∀ t ∈ tests, t.info.group ≠ []) : balanced (messagesV vv (runRepeated n flt tests)) = true :=
  balanced_of_runB (runRepeated_balanced flt tests hne n _)

/-- … and every failure message of every repetition belongs to the test that is open. -/
theorem failure_belongs_to_open_test_repeated (vv : Bool) (n : Nat) (flt : Option Filter) (tests : List Script) :
    failuresInOpenTest none (messagesV vv (runRepeated n flt tests)) = true :=
  runRepeated_failures_open flt tests n _ none

/-- An ignored test is flagged: its messages are exactly started, ignored, finished. -/
theorem ignored_flagged (t : Script) (r : R) (s : St) (h : t.info.willRun = false) :
    msgsFrom s (testEvs t r) =
      [.testStarted t.info.name, .testIgnored t.info.name, .testFinished t.info.name 0] := by
  simp [testEvs, h, msgsFrom_cons, msgsFrom_nil, msgsOf, step_eq_hand, stepHand]

/-- A test that runs is never flagged as ignored. -/
theorem running_test_not_flagged (t : Script) (r : R) (s : St) (h : t.info.willRun = true) (x : Bytes) :
    Msg.testIgnored x ∉ msgsFrom s (testEvs t r) := by
  -- the block's messages: `testStarted`, text and failures, `testFinished`
  rw [testEvs_run t r h, (block_msgs t.info _ (InnerOK_testInner _ _) _ _ [] s).1]
  simpa [msgsOf, h, msgsFrom_nil] using inner_not_flagged t.info _ _ x (InnerOK_testInner t.info t.acts)

/-- Obligation over the regenerated member-initialiser lists of src/CppUTest/TestFailure.cpp: every `TestFailure`
    constructor — with file, line and message; with a message only (leak plugin, mock failures, separate-process failures,
    plugins); with file and line only; and `FailFailure` — gives the failure the NAME of the test (what `testStarted`
    announced).  A failure with a message only is located at the test's own file and line; one with file, line and message
    at the given place, with the test's file and line as test location. -/
theorem failure_names_its_test (t : TestInfo) (f : Bytes) (l : Nat) (m : Bytes) :
    (locMsgFailure t f l m).testName = t.name ∧ (msgFailure t m).testName = t.name ∧
    (locFailure t f l).testName = t.name ∧ (exitFailure t f l m).testName = t.name ∧
    (msgFailure t m).file = t.file ∧ (msgFailure t m).line = t.line ∧
    (locMsgFailure t f l m).file = f ∧ (locMsgFailure t f l m).line = l ∧
    (locMsgFailure t f l m).testFile = t.file ∧ (locMsgFailure t f l m).testLine = t.line :=
  ⟨locMsgFailure_testName t f l m, msgFailure_testName t m, locFailure_testName t f l, exitFailure_testName t f l m,
   msgFailure_file t m, msgFailure_line t m, locMsgFailure_file t f l m, locMsgFailure_line t f l m,
   locMsgFailure_testFile t f l m, locMsgFailure_testLine t f l m⟩

/-- A failure without a location is located at the test itself, so it never gets the
    `TEST failed (file:line): ` prefix; a located one gets it exactly when it lies in another file
    or above the test's line. -/
theorem location_prefix_cases (t : TestInfo) (f : Bytes) (l : Nat) (m : Bytes) :
    failurePrefix (msgFailure t m) = [] ∧
    (failurePrefix (locMsgFailure t f l m) = [] ↔ (f = t.file ∧ t.line ≤ l)) := by
  constructor
  · simp [failurePrefix, Failure.isOutsideTestFile, Failure.isInHelperFunction, msgFailure_file, msgFailure_line,
      msgFailure_testFile, msgFailure_testLine]
  · simp only [failurePrefix, Failure.isOutsideTestFile, Failure.isInHelperFunction, locMsgFailure_file,
      locMsgFailure_line, locMsgFailure_testFile, locMsgFailure_testLine]
    constructor
    · intro h
      split at h
      · simp [lit] at h
        exact ⟨h.1.symm, Nat.not_lt.mp (of_decide_eq_false h.2)⟩
      · rename_i hc
        simp only [Bool.or_eq_true, bne_iff_ne, ne_eq, not_or, Decidable.not_not] at hc
        exact ⟨hc.1.symm, Nat.not_lt.mp (fun hlt => hc.2 (decide_eq_true hlt))⟩
    · rintro ⟨rfl, h2⟩
      simp [Nat.not_lt.mpr h2]

/-! ## failures found by the mock plugin's post-test action (`Model/TeamCityMock.lean`)

`MockSupportPlugin::postTestAction` runs after `runOneTestInCurrentProcess` has put the saved current test back, so
`UtestShell::getCurrent()` is no longer the test the failure is about; `MockSupportPluginReporter::getTestToFail` returns
the plugin's own `test` argument.  The failure is a post-action failure of the open test. -/

section MockPlugin
open TeamCityMock

/-- The failure the mock plugin's post-test action reports is built for the test the PLUGIN was called for — whatever
    `UtestShell::getCurrent()` is by then (`c.current` is arbitrary) — and the writer renders it as a `testFailed`
    message with that test's name, located at that test, the mock framework's text as details. -/
theorem mock_plugin_failure_names_the_plugins_test (c : PostCall) (name : Bytes) (s : St) (h : c.hasFailed = false) :
    postTestAction c (some name) = [.failure (msgFailure c.test (mockMessage name))] ∧
    msgsFrom s (postTestAction c (some name)) =
      [.testFailed c.test.name (c.test.file ++ lit ":" ++ dec c.test.line) (mockMessage name)] := by
  have h1 : postTestAction c (some name) = [.failure (msgFailure c.test (mockMessage name))] := by
    simp [postTestAction, h, testToFail]
  refine ⟨h1, ?_⟩
  rw [h1]
  simp [msgsFrom_cons, msgsFrom_nil, msgsOf, failureLocation, Failure.isOutsideTestFile, Failure.isInHelperFunction,
    msgFailure_file, msgFailure_line, msgFailure_testFile, msgFailure_testLine, msgFailure_testName, msgFailure_message]

/-- a test that has failed already is not checked (`if (!test.hasFailed())`), and no expectation = no failure -/
theorem mock_plugin_silent (c : PostCall) (name : Bytes) (h : c.hasFailed = true) :
    postTestAction c (some name) = [] ∧ postTestAction c none = [] := by
  simp [postTestAction, h]

/-- The scripted form used by the run model (`withMock`) is exactly that post-test action, appended to the other
    plugins' post-action failures (the mock plugin is installed last); the body's events and the test's identity
    are unchanged. -/
theorem mock_scenario_is_the_plugins_post_action (t : Script) (left : Option Bytes) (cur : TestInfo) :
    postEvs t.info (withMock left t).acts =
      postEvs t.info t.acts ++ postTestAction { test := t.info, current := cur, hasFailed := bodyHasFailed t.acts } left ∧
    actEvs t.info (withMock left t).acts = actEvs t.info t.acts ∧ (withMock left t).info = t.info := by
  cases left with
  | none => simp [withMock, postTestAction]
  | some name =>
    cases hb : bodyHasFailed t.acts <;>
      simp [withMock, postTestAction, hb, postEvs, actEvs, postEvs_append, actEvs_append_postFail, testToFail]

theorem withMock_info (left : Option Bytes) (t : Script) : (withMock left t).info = t.info :=
  (mock_scenario_is_the_plugins_post_action t left t.info).2.2

theorem applyMocks_groups (tests : List Script) (mocks : List (Nat × Bytes)) (hne : ∀ t ∈ tests, t.info.group ≠ []) :
    ∀ t ∈ applyMocks tests mocks, t.info.group ≠ [] := by
  intro t ht
  simp only [applyMocks, List.mem_map] at ht
  obtain ⟨p, hp, rfl⟩ := ht
  rw [withMock_info]
  exact hne p.1 (List.of_mem_zip (a := p.1) (b := p.2) hp).1

/-- A failure added by the mock plugin's post-test action lies inside the started/finished block of its test and names
    it: in every run (any registry, filter, number of repetitions, verbosity) in which any tests leave a mock expectation
    unfulfilled, every `testFailed` names the open test, and all messages pair up. -/
theorem mock_post_action_failure_belongs_to_open_test (vv : Bool) (n : Nat) (flt : Option Filter) (tests : List Script)
    (mocks : List (Nat × Bytes)) :
    failuresInOpenTest none (messagesV vv (runRepeated n flt (applyMocks tests mocks))) = true ∧
    ((∀ t ∈ tests, t.info.group ≠ []) → balanced (messagesV vv (runRepeated n flt (applyMocks tests mocks))) = true) :=
  ⟨failure_belongs_to_open_test_repeated vv n flt _,
   fun hne => messages_balanced_repeated vv n flt _ (applyMocks_groups tests mocks hne)⟩

/-- non-vacuity: a test that only leaves the expectation `f'1` unfulfilled; the current test at post-action time is the
    placeholder, not the test -/
def mockDemo : List Script :=
  [{ info := { group := lit "grp", name := lit "leaves|one", file := lit "t.cpp", line := 7, willRun := true }, acts := [] },
   { info := { group := lit "grp", name := lit "fails_itself", file := lit "t.cpp", line := 9, willRun := true },
     acts := [.failMsg (lit "own")] }]

def placeholder : TestInfo := { group := lit "\n\t NoGroup", name := lit "\n\t NoName", file := lit "unknown file", line := 0, willRun := true }

example : (postTestAction { test := (mockDemo.headD default).info, current := placeholder, hasFailed := false } (some (lit "f'1"))).length = 1 := by decide
example : ∀ t ∈ mockDemo, t.info.group ≠ [] := by decide
set_option maxRecDepth 8192 in
example : messages (runAll none (applyMocks mockDemo [(0, lit "f'1"), (1, lit "g")])) =
    [.suiteStarted (lit "grp"), .testStarted (lit "leaves|one"),
     .testFailed (lit "leaves|one") (lit "t.cpp:7") (mockMessage (lit "f'1")), .testFinished (lit "leaves|one") 0,
     .testStarted (lit "fails_itself"), .testFailed (lit "fails_itself") (lit "t.cpp:9") (lit "own"),
     .testFinished (lit "fails_itself") 0, .suiteFinished (lit "grp"),
     .text (summaryOut (R.summary { tests := 2, runs := 2, checks := 2, failures := 2 }))] := rfl

end MockPlugin

/-- The specification's own stream parser reads the rendering of any list of service messages (values arbitrary
    byte strings) back into exactly that list.  (A proposition with a name of its own; `stream_parse_roundtrip` below is
    its proof, `stream_parse_roundtrip_partial` the attribute-level part of it.) -/
def stream_parse_roundtrip_full : Prop :=
  ∀ ms : List Msg, (∀ m ∈ ms, ∀ raw, m ≠ .text raw) → TeamCity.parse (renderAll ms) = .ok ms

theorem stream_parse_roundtrip : stream_parse_roundtrip_full := by
  intro ms h
  have hno : ∀ m ∈ ms, isTextMsg m = false := by
    intro m hm
    cases m <;> simp [isTextMsg]
    exact absurd rfl (h _ hm _)
  have htxt : textsNoHash ms := by
    intro m hm raw hraw
    exact absurd hraw (h m hm raw)
  rw [parse_renderAll ms htxt, normFrom_no_text ms hno]

/-- With text between the messages (test prints, progress trace, summary): as long as that text
    contains no `#`, the parser returns the same messages with the same values; all it does to the
    text is what any reader does — adjacent pieces are one piece, empty pieces are not there. -/
theorem stream_parse_roundtrip_with_text (ms : List Msg) (h : textsNoHash ms) :
    TeamCity.parse (renderAll ms) = .ok (normFrom [] ms) := parse_renderAll ms h

/-- Decoding the real writer's output: for ANY event list whose raw text (test prints, -vv trace)
    contains no `#`, in the default and the very verbose mode, parsing the byte stream yields the
    message list of the run — every name, location and details value equal to the original, no
    value ending early or late, nothing invented and nothing lost. -/
theorem stream_decodes (vv : Bool) (evs : List Ev) (h : RawTextNoHash evs) :
    TeamCity.parse (streamV vv evs) = .ok (normFrom [] (messagesV vv evs)) := by
  rw [all_values_escaped]
  exact parse_renderAll _ (texts_of_msgsFrom evs _ h)

/-- The same for every run of the registry whose tests print no `#` (the progress trace and the
    summary never contain one). -/
theorem registry_stream_decodes (vv : Bool) (flt : Option Filter) (tests : List Script)
    (h : ∀ sc ∈ tests, PrintsNoHash sc) :
    TeamCity.parse (streamV vv (runAll flt tests)) = .ok (normFrom [] (messagesV vv (runAll flt tests))) :=
  stream_decodes vv _ (raw_runAll flt tests h)

/-- the attribute level of the same fact -/
theorem stream_parse_roundtrip_partial (key : String) (v rest : Bytes) :
    ∃ head, attr key v ++ rest = head ++ 39 :: (escapeRef v ++ 39 :: rest) ∧
      scanValue false (escapeRef v ++ 39 :: rest) [] = some (v, rest) := by
  refine ⟨[32] ++ lit key ++ [61], by simp [attr], ?_⟩
  rw [scanValue_escapeRef]; simp

/-- OBLIGATION over `Gen/RunAllTestsLoop.lean` (regenerated from TestRegistry.cpp on every run): `runAllTests`, executed
    statement by statement from the source's loop body, `groupStart` initialised as in the source, sends the output exactly
    the callbacks of the hand-written loop the balance theorems are proved about, for every registry content and name
    filter; likewise under the repeat loop. -/
theorem registry_loop_is_the_source (n : Nat) (flt : Option Filter) (tests : List Script) :
    RunLoop.runAllGen flt tests = runAll flt tests ∧ RunLoop.runRepeatedGen n flt tests = runRepeated n flt tests :=
  ⟨RunLoop.runAllGen_eq flt tests, RunLoop.runRepeatedGen_eq n flt tests⟩

/-- END TO END over both regenerated parts (the loop of `runAllTests` and the statement lists of the five callbacks): for
    every registry without an empty group name, every name filter, any number of repetitions on one output object, default
    and very verbose mode, the messages pair up and every failure message belongs to the open test. -/
theorem source_run_balanced (vv : Bool) (n : Nat) (flt : Option Filter) (tests : List Script)
    (hne : ∀ t ∈ tests, t.info.group ≠ []) :
    balanced (messagesV vv (RunLoop.runRepeatedGen n flt tests)) = true ∧
    failuresInOpenTest none (messagesV vv (RunLoop.runRepeatedGen n flt tests)) = true := by
  rw [RunLoop.runRepeatedGen_eq]
  exact ⟨messages_balanced_repeated vv n flt tests hne, failure_belongs_to_open_test_repeated vv n flt tests⟩

/-- … and the byte stream of such a run, read by the specification's parser, is that message list with every value equal to
    the original (tests print no `#`). -/
theorem source_run_decodes (vv : Bool) (flt : Option Filter) (tests : List Script) (h : ∀ sc ∈ tests, PrintsNoHash sc) :
    TeamCity.parse (streamV vv (RunLoop.runAllGen flt tests)) = .ok (normFrom [] (messagesV vv (RunLoop.runAllGen flt tests))) := by
  rw [RunLoop.runAllGen_eq]
  exact registry_stream_decodes vv flt tests h

/-! ## tests run in separate processes (`-p`): where the child's output lands

Model: `Model/TeamCitySeparate.lean` (parent and child write to the same stdout; the parent's wait loop is C11's
`SepProc.parentLoop`).  `mid` is ANY interleaving of the child's events and the parent's wait-loop failures; `late` are child
events arriving after the parent has left the loop.  The parent leaves the loop with `LoopEnd.childGone` only when the last
status says exited or signaled — then the child writes nothing any more and `late = []`. -/

/-- The parent waits until the child is gone (`late = []`): whatever the wait results (stops and continues, EINTR, exit,
    signal) and however the two processes' writes interleave, the test's block keeps the suite open, closes the test, and
    every failure message — the child's own and the parent's "Stopped … / Failed in separate process" — lies between the
    `testStarted` and the `testFinished` of that test and names it. -/
theorem separate_process_block_ok (t : Script) (hw : t.info.willRun = true) (outs : List SepProc.WaitOutcome) (mid : List Ev)
    (h : Interleave (testInner t.info t.acts) (parentEvs t.info (SepProc.parentLoop 0 outs)) mid) (ms c : Nat) (s : St)
    (g : Bytes) (cur : Option Bytes) :
    runB (.inSuite g) s (sepTestEvs t.info mid ms c []) = some (.inSuite g) ∧
    failuresInOpenTest cur (msgsFrom s (sepTestEvs t.info mid ms c [])) = true := by
  have hm := InnerOK_interleave h (InnerOK_testInner _ _) (InnerOK_parentEvs _ _)
  exact ⟨(block_keeps_suite t.info mid hm ms c s g).1, block_failures_open t.info mid hm ms c s cur⟩

/-- The stream of such a test is the parent's `testStarted … testFinished` with, spliced in between, an interleaving of the
    child's messages (in the child's order) and the parent's wait-loop failures (in the parent's order) — nothing else,
    nothing lost. -/
theorem separate_process_stream_is_spliced (t : Script) (hw : t.info.willRun = true) (outs : List SepProc.WaitOutcome)
    (mid : List Ev) (h : Interleave (testInner t.info t.acts) (parentEvs t.info (SepProc.parentLoop 0 outs)) mid)
    (ms c : Nat) (s : St) :
    ∃ between, msgsFrom s (sepTestEvs t.info mid ms c []) = [.testStarted t.info.name] ++ (between ++ [.testFinished t.info.name ms]) ∧
      Interleave (msgsFrom { s with currTest := some t.info.name } (testInner t.info t.acts))
        (msgsFrom { s with currTest := some t.info.name } (parentEvs t.info (SepProc.parentLoop 0 outs))) between := by
  have hm := InnerOK_interleave h (InnerOK_testInner _ _) (InnerOK_parentEvs _ _)
  refine ⟨msgsFrom { s with currTest := some t.info.name } mid, ?_, msgs_interleave t.info _ h (InnerOK_testInner _ _) (InnerOK_parentEvs _ _)⟩
  rw [(block_msgs t.info mid hm ms c [] s).1]
  simp [msgsOf, hw, msgsFrom_nil]

/-- WHOLE `-p` RUN: for every registry without an empty group name, every name filter, and every run in which the parent
    always waits until the child is gone (whatever the wait results of each test and however parent and child output
    interleave, test by test), the message stream pairs up: each suite start has its finish, each test start its finish. -/
theorem separate_process_run_balanced (w : WaitingRun) (vv : Bool) (flt : Option Filter) (tests : List Script)
    (hne : ∀ t ∈ tests, t.info.group ≠ []) : balanced (messagesV vv (sepRunAll w.blk flt tests)) = true :=
  balanced_of_runB (sepRunAll_balanced w.blk flt w.keeps tests hne _)

/-- The hypothesis cannot be dropped: if the parent leaves the wait loop while the child is still running (as it
    would if the loop no longer went round after a stop was reported), a failure the child reports afterwards is a
    `testFailed` AFTER its test was finished — outside any open test, whatever else follows. -/
theorem separate_process_late_failure_breaks_property (t : Script) (hw : t.info.willRun = true) (mid : List Ev)
    (hm : InnerOK t.info mid) (ms c : Nat) (s : St) (cur : Option Bytes) (f : Failure) (rest : List Ev) :
    failuresInOpenTest cur (msgsFrom s (sepTestEvs t.info mid ms c (Ev.failure f :: rest))) = false := by
  rw [(block_msgs t.info mid hm ms c _ s).1, failuresInOpenTest_append, failuresInOpenTest_append]
  simp [failuresInOpenTest, msgsFrom_cons, msgsOf]

/-- C11's wait loop on "stopped, then exited with status 1": the parent reports the stop, continues the child once, reports
    the failed exit and leaves the loop because the child is gone. -/
example : (SepProc.parentLoop 0 [.status 0x137f#32, .status 0x100#32]).ended = .childGone ∧
    ((SepProc.parentLoop 0 [.status 0x137f#32, .status 0x100#32]).failures.map (·.text)) =
      ["Stopped in separate process - continuing", "Failed in separate process"] ∧
    (SepProc.parentLoop 0 [.status 0x137f#32, .status 0x100#32]).conts = 1 := by decide +kernel

/-! ## text printed by tests (UT_PRINT) and the verbose modes

`TestOutput::print` hands test-printed text to `printBuffer` as it is.  Every service message is written by ONE callback in
one go, and tests run between callbacks, so printed text, the `-vv` progress trace and the summary always lie BETWEEN
messages, never inside one (`all_values_escaped`: the stream is a concatenation of whole items) — a `'` or `]` in printed
text cannot close or corrupt a message.  What printed text CAN do is contain a complete service message of its own: -/

def injectingRun : List Script :=
  [{ info := { group := lit "g", name := lit "t", file := lit "f", line := 1, willRun := true },
     acts := [.print (lit "f") 2 (lit "\n##teamcity[testFinished name='t' duration='0']\n")] }]

/-- OBSERVATION (outside the quantifier of the property, which ranges over names, paths and failure
    messages — not over text the test itself prints): a test that prints a line looking like a service
    message puts that message into the stream; here the reader sees `testFinished` twice. -/
theorem printed_text_can_inject_a_message :
    (match TeamCity.parse (stream (runAll none injectingRun)) with
     | .ok ms => balanced ms
     | .error _ => true) = false := by
  rw [show stream (runAll none injectingRun) = streamV false (runAll none injectingRun) from rfl, all_values_escaped]
  decide +kernel

def emptyGroupRun : List Script :=
  [{ info := { group := [], name := [116], file := [102], line := 1, willRun := true }, acts := [] }]

/-- A group whose name is the empty string gets a suite start but no finish
    (`printCurrentGroupEnded` returns early on `currGroup_ == ""`): the hypothesis of
    `messages_balanced` cannot be dropped. -/
theorem empty_group_suite_not_finished : balanced (messages (runAll none emptyGroupRun)) = false := by
  decide

example : (step { currGroup := lit "old" } (.groupStarted { group := lit "g'1", name := [], file := [], line := 0, willRun := true })).2 =
    lit "##teamcity[testSuiteStarted name='g|'1']\n" := by decide +kernel
-- the regenerated list of `printFailure` is there, with the ten statements of the source
example : Gen.TeamCityWriters.printFailure.length = 10 := by decide

/-- a registry with two groups, a passing test, a test failing four times (in another file, without location, from a plugin, leaving the test), an
    ignored test, and names containing every special character -/
def demo : List Script :=
  [ { info := { group := lit "g'1", name := lit "a|b", file := lit "it's[here].cpp", line := 10, willRun := true },
      acts := [.tick 5, .fail (lit "other]file.cpp") 3 (lit "x\ny"), .failMsg (lit "no location"), .postFail (lit "from a plugin"),
               .failExit (lit "it's[here].cpp") 12 (lit "boom\r")] },
    { info := { group := lit "g'1", name := lit "ign", file := lit "it's[here].cpp", line := 20, willRun := false }, acts := [] },
    { info := { group := lit "G[2]", name := lit "ok", file := lit "f.cpp", line := 1, willRun := true }, acts := [.checks 2] } ]

example : ∀ t ∈ demo, t.info.group ≠ [] := by decide
example : balanced (messages (runAll none demo)) = true := by decide +kernel
example : (messages (runAll none demo)).length = 16 := by decide +kernel
example : decodeTC (printEscaped (lit "it's[here]|x\r\n")) = lit "it's[here]|x\r\n" := by decide +kernel
example : printEscaped (lit "a'b") = lit "a|'b" := by decide +kernel
example : (match TeamCity.parse (stream (runAll none demo)) with
    | .ok ms => decide (ms = messages (runAll none demo))
    | .error _ => false) = true := by
  rw [show stream (runAll none demo) = streamV false (runAll none demo) from rfl, all_values_escaped]
  decide +kernel

def demoT : Script := demo.headD default
def demoParent : List Ev := parentEvs demoT.info (SepProc.parentLoop 0 [.status 0x137f#32, .status 0x100#32])

/-- non-vacuity of the `-p` theorems: the first demo test, its child stopped once and then exiting with status 1; here the
    parent's two reports arrive first, then everything the child writes -/
example : Interleave (testInner demoT.info demoT.acts) demoParent (demoParent ++ testInner demoT.info demoT.acts) :=
  by simpa using Interleave.prepend_right demoParent (Interleave.all_left (testInner demoT.info demoT.acts))
example : demoT.info.willRun = true ∧ demoParent.length = 2 ∧ (testInner demoT.info demoT.acts).length = 19 := by decide +kernel

/-- a whole `-p` run in which every child is stopped once, continued, and exits with status 1, the parent's reports arriving
    before the child's output: an instance of `WaitingRun` -/
def demoWaiting : WaitingRun where
  blk t r := if t.info.willRun then
      sepTestEvs t.info (parentEvs t.info (SepProc.parentLoop 0 [.status 0x137f#32, .status 0x100#32]) ++ testInner t.info t.acts)
        (actTicks t.acts) r.checks []
    else testEvs t r
  outs _ _ := [.status 0x137f#32, .status 0x100#32]
  mid t _ := parentEvs t.info (SepProc.parentLoop 0 [.status 0x137f#32, .status 0x100#32]) ++ testInner t.info t.acts
  ms t _ := actTicks t.acts
  chk _ r := r.checks
  inter t _ := by
    have h := Interleave.prepend_right (parentEvs t.info (SepProc.parentLoop 0 [.status 0x137f#32, .status 0x100#32]))
      (Interleave.all_left (testInner t.info t.acts))
    rw [List.append_nil] at h
    exact h
  run t r h := by simp only [h, if_true]
  ign t r h := by simp only [h, Bool.false_eq_true, if_false]

example : balanced (messages (sepRunAll demoWaiting.blk none demo)) = true :=
  separate_process_run_balanced demoWaiting false none demo (by decide)
example : (messages (sepRunAll demoWaiting.blk none demo)).length = 20 := by decide +kernel

example : streamComposite 2 true (runRepeated 2 none demo) = streamV true (runRepeated 2 none demo) := composite_stream_is_teamcity_stream _ _ _
example : (streamComposite 1 false (runAll none demo)).length = 913 := by
  rw [composite_stream_is_teamcity_stream, all_values_escaped]
  decide +kernel

end TeamCity
