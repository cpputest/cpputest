import CppUModel.Proofs.ComposeLeak
import CppUModel.Props.C04
import CppUModel.Props.C07
/-!
# C07x — the abstract detector of the C07 model is an abstraction of the C04 table model

Composition theorems between `Model/LeakPlugin.lean` (C07: `LeakPlugin.Detector`, a list of records with current period
and next allocation number) and `Model/LeakDetector.lean` + `Spec/LeakDetector.lean` (C04/C06: the hash table of
`MemoryLeakDetectorNode`s), through the relation `Compose.Leak.R` of `Proofs/ComposeLeak.lean`.

Every operation of the abstract detector is simulated by ONE `LeakDetector.step` (forward simulation),
the totals and report entries agree (entries up to permutation: the table reports in bucket order), and
whole scripted test runs of the C07 model are simulated by table histories.  Block ids of the C07 model are
the addresses of the table model; the table model treats address 0 as `NULL` and refuses sizes whose
bookkeeping overflows `size_t`, so scripted commands are required to use non-zero ids and non-overflowing
sizes (`CmdOk`), which the C07 harness does.
-/
namespace Compose.C07x
open LeakDetector Compose.Leak
open LeakPlugin (Detector Rec World Cmd PStep Test)

/-! ## operations of the abstract detector, as data -/

/-- The operations `Model/LeakPlugin.lean` performs on its detector (the guards of `doAlloc` / `doRealloc`
    are the preconditions `Pre`). -/
inductive DOp
  | startChecking | stopChecking | enable
  | alloc (id size : Nat)
  | free (id : Nat)
  | realloc (id newId size : Nat)      -- platform realloc succeeded with block `newId`
  | reallocFail (id size : Nat)        -- platform realloc returned NULL
  | demote                             -- markCheckingPeriodLeaksAsNonCheckingPeriod
deriving DecidableEq, Repr

/-- the abstract detector's reaction (exactly the functions of `Model/LeakPlugin.lean`) -/
def applyD (d : Detector) : DOp → Detector
  | .startChecking => d.startChecking
  | .stopChecking => d.stopChecking
  | .enable => d.enable
  | .alloc id size => d.alloc id size
  | .free id => d.free id
  | .realloc id newId size => (d.free id).alloc newId size
  | .reallocFail id size => d.reallocFail id size
  | .demote => d.demote

/-- what the table model additionally needs to know about a call: the allocator object, the call site, the
    bookkeeping layout, whether the separate accounting node could be allocated, the client's fill byte -/
structure Env where
  a      : Allocator
  file   : String
  line   : Nat
  sep    : Bool
  nodeOk : Bool
  fill   : UInt8
deriving Repr, Inhabited

def toOp (e : Env) : DOp → Op
  | .startChecking => .startChecking
  | .stopChecking => .stopChecking
  | .enable => .enable
  | .alloc id size => .alloc e.a size e.file e.line e.sep id e.nodeOk e.fill
  | .free id => .dealloc e.a id e.file e.line e.sep
  | .realloc id newId size => .realloc e.a id size e.file e.line e.sep newId e.fill
  | .reallocFail id size => .realloc e.a id size e.file e.line e.sep 0 e.fill
  | .demote => .markChecking

/-- When the abstract operation is the image of a table operation: the allocation succeeded (non-NULL
    result, no size overflow, accounting node available) with an address that is not outstanding — these
    are the guards of `doAlloc` / `doRealloc` in the C07 model plus the table model's failure cases. -/
def Pre (e : Env) (d : Detector) : DOp → Prop
  | .alloc id size => id ≠ 0 ∧ d.isLive id = false ∧ sizeOverflows size = false ∧ (e.sep = true → e.nodeOk = true)
  | .realloc id newId size =>
    newId ≠ 0 ∧ d.isLive id = true ∧ (newId = id ∨ d.isLive newId = false) ∧ sizeOverflows size = false
  | _ => True

/-! ## one step -/

theorem sim_alloc {s : State} {d : Detector} (h : R s d) (e : Env) (id size : Nat)
    (hp : Pre e d (.alloc id size)) :
    FreshAddr s (toOp e (.alloc id size)) ∧ R (step s (toOp e (.alloc id size))).1 (d.alloc id size) ∧
      (step s (toOp e (.alloc id size))).2.getLast? = some (.ret id) := by
  obtain ⟨hz, hl, hsz, hn⟩ := hp
  have hf : FreshAddr s (toOp e (.alloc id size)) := Or.inr (by rw [← h.isLive_eq]; exact hl)
  have r := alloc_stored s e.a size e.file e.line e.sep id e.nodeOk e.fill hsz hz hn
  refine ⟨hf, h.step _ hf ?_ h.cur r.successes (congrArg (· + 1) h.seq), r.ret⟩
  rw [show nodesAfter s (toOp e (.alloc id size)) = _ from r.nodes]
  simp only [List.map_cons, recOf_newNode, h.cur, h.seq]
  exact List.Perm.cons _ h.recs

theorem sim_free {s : State} {d : Detector} (h : R s d) (e : Env) (id : Nat) :
    R (step s (toOp e (.free id))).1 (d.free id) :=
  h.step (toOp e (.free id)) trivial ((map_recOf_filter_ne s.nodes id).symm ▸ h.recs.filter _) h.cur
    (dealloc_table_only s e.a id e.file e.line e.sep).2 h.seq

theorem sim_realloc {s : State} {d : Detector} (h : R s d) (e : Env) (id newId size : Nat)
    (hp : Pre e d (.realloc id newId size)) :
    FreshAddr s (toOp e (.realloc id newId size)) ∧
      R (step s (toOp e (.realloc id newId size))).1 ((d.free id).alloc newId size) ∧
      (step s (toOp e (.realloc id newId size))).2.getLast? = some (.ret newId) := by
  obtain ⟨hz, hl, hnew, hsz⟩ := hp
  have hf : FreshAddr s (toOp e (.realloc id newId size)) :=
    Or.inr (hnew.imp_right fun hq => by rw [← h.isLive_eq]; exact hq)
  obtain ⟨n, hn⟩ := (isLive_iff h.inv id).mp (by rw [← h.isLive_eq]; exact hl)
  have r := realloc_moved s e.a id size e.file e.line e.sep newId e.fill hsz hn (addr_ne_zero_of_retrieve h.inv hn) hz
  refine ⟨hf, h.step _ hf ?_ h.cur r.successes (congrArg (· + 1) h.seq), r.ret⟩
  rw [show nodesAfter s (toOp e (.realloc id newId size)) = _ from r.nodes]
  simp only [List.map_cons, recOf_newNode, map_recOf_filter_ne, h.cur, h.seq]
  exact List.Perm.cons _ (h.recs.filter _)

/-- A failing platform realloc: whatever the arguments (block outstanding or not, NULL, overflowing size),
    the table keeps its records and so does the abstract detector.  (Rests on the regenerated field sources
    of `reallocMemory`'s failure branch being `oldNode.…`.) -/
theorem sim_reallocFail {s : State} {d : Detector} (h : R s d) (e : Env) (id size : Nat) :
    FreshAddr s (toOp e (.reallocFail id size)) ∧
      R (step s (toOp e (.reallocFail id size))).1 (d.reallocFail id size) ∧
      (step s (toOp e (.reallocFail id size))).2.getLast? = some (.ret 0) := by
  rw [LeakPlugin.reallocFail_eq]
  -- nothing is tracked anew, or the old record is tracked again with the layout flag of this call
  obtain r | ⟨_, hz, _⟩ | ⟨_, _, _, _, r⟩ | ⟨_, _, _, hz, _⟩ := realloc_cases s e.a id size e.file e.line e.sep 0 e.fill
  · exact ⟨Or.inl rfl, h.step _ (Or.inl rfl) (r.nodes ▸ h.recs) h.cur r.successes h.seq, r.ret⟩
  · exact absurd rfl hz
  · exact ⟨Or.inl rfl, h.step _ (Or.inl rfl) (r.nodes ▸ (map_recOf_sepNode s.nodes id e.sep).symm ▸ h.recs) h.cur
      r.successes h.seq, r.ret⟩
  · exact absurd rfl hz

theorem sim_demote {s : State} {d : Detector} (h : R s d) : R (markChecking s) d.demote := by
  refine h.step .markChecking trivial ?_ h.cur rfl h.seq
  show ((s.nodes.map demote).map recOf).Perm _
  rw [List.map_map, show recOf ∘ demote = Detector.demoteRec ∘ recOf from funext recOf_demote, ← List.map_map]
  exact h.recs.map _

/-- **Forward simulation, one step.**  Connects `LeakPlugin.Detector` (C07) with `LeakDetector.step` (C04):
    every operation of the abstract detector whose precondition holds is matched by the corresponding table
    operation; the environment hypothesis of the C04 theorems (`FreshAddr`) follows from the precondition. -/
theorem step_simulates (e : Env) {s : State} {d : Detector} (h : R s d) (op : DOp) (hp : Pre e d op) :
    FreshAddr s (toOp e op) ∧ R (step s (toOp e op)).1 (applyD d op) := by
  cases op with
  | startChecking => exact ⟨trivial, h.step .startChecking trivial h.recs rfl rfl h.seq⟩
  | stopChecking => exact ⟨trivial, h.step .stopChecking trivial h.recs rfl rfl h.seq⟩
  | enable => exact ⟨trivial, h.step .enable trivial h.recs rfl rfl h.seq⟩
  | alloc id size => exact ⟨(sim_alloc h e id size hp).1, (sim_alloc h e id size hp).2.1⟩
  | free id => exact ⟨trivial, sim_free h e id⟩
  | realloc id newId size => exact ⟨(sim_realloc h e id newId size hp).1, (sim_realloc h e id newId size hp).2.1⟩
  | reallocFail id size => exact ⟨(sim_reallocFail h e id size).1, (sim_reallocFail h e id size).2.1⟩
  | demote => exact ⟨trivial, sim_demote h⟩

/-! ## histories -/

def applyAll (d : Detector) (ops : List (Env × DOp)) : Detector := ops.foldl (fun d x => applyD d x.2) d

def toOps (ops : List (Env × DOp)) : List Op := ops.map (fun x => toOp x.1 x.2)

def PreAll : Detector → List (Env × DOp) → Prop
  | _, [] => True
  | d, x :: xs => Pre x.1 d x.2 ∧ PreAll (applyD d x.2) xs

/-- **Forward simulation, every history.**  Connects `LeakPlugin.Detector` with `LeakDetector.run`: the
    table run over the corresponding history ends in a related state, and the history satisfies the
    hypothesis `FreshAll` of the C04 theorems. -/
theorem run_simulates : ∀ (ops : List (Env × DOp)) {s : State} {d : Detector}, R s d → PreAll d ops →
    FreshAll s (toOps ops) ∧ R (run s (toOps ops)).1 (applyAll d ops)
  | [], _, _, h, _ => ⟨trivial, h⟩
  | x :: xs, s, d, h, hp => by
    have h1 := step_simulates x.1 h x.2 hp.1
    have h2 := run_simulates xs h1.2 hp.2
    exact ⟨⟨h1.1, h2.1⟩, h2.2⟩

/-- The empty detectors are related: the C07 model's constructor state and the table of any size > 0. -/
theorem init_related (hp : Nat) (h : 0 < hp) : R (State.init hp) Detector.init :=
  { inv := inv_init hp h,
    recs := nodes_init hp ▸ List.Perm.refl _, cur := rfl, seq := rfl }

/-! ## observables -/

/-- `totalMemoryLeaks(period)` of the abstract detector is the table's.  Connects
    `LeakPlugin.Detector.totalMemoryLeaks` with `LeakDetector.totalMemoryLeaks` (hence, by C04's
    `total_eq_card`, with the number of in-period records of the finite map). -/
theorem total_agrees {s : State} {d : Detector} (h : R s d) (p : PPeriod) :
    d.totalMemoryLeaks p = totalMemoryLeaks s (ofPP p) := by
  unfold Detector.totalMemoryLeaks Detector.leaksIn totalMemoryLeaks
  rw [Table.total_eq_countP, ← List.countP_eq_length_filter, ← h.recs.countP_eq, List.countP_map]
  congr 1
  funext n
  exact isInPeriod_recOf n p

/-- The entries a report adds are the records the table's `getFirstLeak/getNextLeak` walk visits, up to
    order.  Connects `LeakPlugin.Detector.report/leaksIn` with `LeakDetector.reportedLeaks`. -/
theorem report_agrees {s : State} {d : Detector} (h : R s d) (p : PPeriod) :
    (d.report p).out = d.out ++ d.leaksIn p ∧
    ((reportedLeaks s (ofPP p)).map recOf).Perm (d.leaksIn p) ∧
    (reportedLeaks s (ofPP p)).length = d.totalMemoryLeaks p ∧
    R s (d.report p) := by
  refine ⟨rfl, ?_, ?_, ⟨h.inv, h.recs, h.cur, h.seq⟩⟩
  · rw [reportedLeaks_eq h.inv]
    have : LeakDetector.isInPeriod (ofPP p) = ((fun r : Rec => Gen.LeakCode.isInPeriod r.period p) ∘ recOf) := by
      funext n; exact (isInPeriod_recOf n p).symm
    rw [this, ← List.filter_map]
    exact h.recs.filter _
  · rw [total_agrees h p]
    exact (report_entries_eq s h.inv (ofPP p)).2.1

/-- "is this block outstanding" agrees.  Connects `LeakPlugin.Detector.isLive` with `LeakDetector.isLive`. -/
theorem isLive_agrees {s : State} {d : Detector} (h : R s d) (id : Nat) :
    d.isLive id = LeakDetector.isLive s id := h.isLive_eq id

/-- A release is reported as "Deallocating non-allocated memory" by the table model exactly when the
    abstract detector does not hold the id (C04/C06 `free_non_allocated_iff` read through `R`). -/
theorem free_misuse_iff {s : State} {d : Detector} (h : R s d) (e : Env) (id : Nat) :
    firstFail (step s (toOp e (.free id))).2 = some .nonAllocated ↔ id ≠ 0 ∧ d.isLive id = false := by
  rw [h.isLive_eq]
  exact free_non_allocated_iff s h.inv e.a id e.file e.line e.sep

/-! ## the environment's allocations (`Detector.bump`) -/

/-- `k` tracked allocations of a block at address `x`, each released again (the test object the runner
    creates and destroys, …) -/
def churn (e : Env) (x size : Nat) : Nat → List (Env × DOp)
  | 0 => []
  | k + 1 => (e, .alloc x size) :: (e, .free x) :: churn e x size k

theorem churn_spec (e : Env) (x size : Nat) (hx : x ≠ 0) (hsz : sizeOverflows size = false)
    (hn : e.sep = true → e.nodeOk = true) : ∀ (k : Nat) (d : Detector), d.isLive x = false →
    PreAll d (churn e x size k) ∧ applyAll d (churn e x size k) = { d with seq := d.seq + k }
  | 0, _, _ => ⟨trivial, rfl⟩
  | k + 1, d, hl => by
    have ih := churn_spec e x size hx hsz hn k { d with seq := d.seq + 1 } hl
    rw [← LeakPlugin.alloc_free_eq d x size hl] at ih
    refine ⟨⟨⟨hx, hl, hsz, hn⟩, trivial, ih.1⟩, ih.2.trans ?_⟩
    rw [LeakPlugin.alloc_free_eq d x size hl]
    rw [Nat.add_assoc, Nat.add_comm 1 k]

/-- `Detector.bump n` ("the allocation number has moved on to `n`") is simulated by `n - seq` tracked
    allocate/release pairs of any block that is not outstanding.  Connects the C07 model's environment
    step with real table operations. -/
theorem bump_simulated {s : State} {d : Detector} (h : R s d) (e : Env) (x size n : Nat) (hx : x ≠ 0)
    (hl : d.isLive x = false) (hsz : sizeOverflows size = false) (hn : e.sep = true → e.nodeOk = true) :
    FreshAll s (toOps (churn e x size (n - d.seq))) ∧
      R (run s (toOps (churn e x size (n - d.seq)))).1 (d.bump n) := by
  have hc := churn_spec e x size hx hsz hn (n - d.seq) d hl
  have hr := run_simulates (churn e x size (n - d.seq)) h hc.1
  rw [hc.2] at hr
  have : ({ d with seq := d.seq + (n - d.seq) } : Detector) = d.bump n := by
    congr 1
    omega
  rw [this] at hr
  exact hr

/-! ## whole scripted runs of the C07 model are simulated by table histories -/

theorem reach_op (e : Env) {s : State} {d : Detector} (h : R s d) (op : DOp) (hp : Pre e d op) :
    Reach s (applyD d op) :=
  ⟨[toOp e op], ⟨(step_simulates e h op hp).1, trivial⟩, (step_simulates e h op hp).2⟩

/-- scripted commands the table model can follow: block ids are addresses (not `NULL`), requested sizes do
    not overflow `size_t` once the bookkeeping is added -/
def CmdOk : Cmd → Prop
  | .alloc id size => id ≠ 0 ∧ sizeOverflows size = false
  | .realloc _ newId size => newId ≠ 0 ∧ sizeOverflows size = false
  | _ => True

def TestOk (t : Test) : Prop := ∀ c ∈ t.before ++ t.setup ++ t.body ++ t.teardown, CmdOk c

/-- the call environment is one in which allocations succeed: a separately kept accounting node is available -/
def Env.Good (e : Env) : Prop := e.sep = true → e.nodeOk = true

theorem execCmd_reach (e : Env) (he : e.Good) (c : Cmd) (hok : CmdOk c) : Reaches fun w => LeakPlugin.execCmd w c := by
  intro w s h
  have hlive : ∀ {x}, x ∉ w.liveIds → w.det.isLive x = false := fun hx => by
    rw [LeakPlugin.isLive_eq]; exact decide_eq_false hx
  cases c with
  | alloc id size =>
    show Reach s (LeakPlugin.doAlloc w id size).det
    rw [LeakPlugin.doAlloc_eq]; split
    · exact Reach.refl h
    · rename_i hm
      exact reach_op e h (.alloc id size) ⟨hok.1, hlive hm, hok.2, he⟩
  | free id => exact reach_op e h (.free id) trivial
  | realloc id newId size =>
    show Reach s (LeakPlugin.doRealloc w id newId size).det
    rw [LeakPlugin.doRealloc_eq]; split
    · rename_i hk
      have hn : newId = id ∨ w.det.isLive newId = false := hk.2.imp_right hlive
      have hfree : newId ∉ (LeakPlugin.doFree w id).liveIds := fun hm => by
        have hm := (LeakPlugin.isLive_eq _ newId).trans (decide_eq_true hm)
        exact Bool.false_ne_true ((LeakPlugin.isLive_free w.det hn).symm.trans hm)
      rw [LeakPlugin.doAlloc_eq, if_neg hfree]
      exact reach_op e h (.realloc id newId size)
        ⟨hok.1, (LeakPlugin.isLive_eq w id).trans (decide_eq_true hk.1), hn, hok.2⟩
    · exact Reach.refl h
  | reallocFail id size => exact reach_op e h (.reallocFail id size) trivial
  | expectLeaks n => exact Reach.refl h
  | ignoreLeaks => exact Reach.refl h
  | fail => exact Reach.refl h
  | envSeq n =>
    obtain ⟨x, hx, hl⟩ := LeakPlugin.exists_fresh w.det
    exact ⟨_, bump_simulated h e x 1 n hx hl (by decide) he⟩

theorem runPhase_reach (e : Env) (he : e.Good) (ph : LeakPlugin.Phase) (cs : List Cmd) (hok : ∀ c ∈ cs, CmdOk c) :
    Reaches fun w => LeakPlugin.runPhase w ph cs :=
  (Reaches.of_det_eq (f := fun w => LeakPlugin.enterPhase w ph) fun _ => by cases ph <;> rfl).comp <|
    Reaches.foldl cs fun c hc w _ h => by
      dsimp only [LeakPlugin.stepCmd]
      split
      · exact Reach.refl h
      · exact execCmd_reach e he c (hok c hc) w h

theorem runOutside_reach (e : Env) (he : e.Good) (cs : List Cmd) (hok : ∀ c ∈ cs, CmdOk c) :
    Reaches fun w => LeakPlugin.runOutside w cs :=
  Reaches.foldl cs fun c hc => by
    cases c with
    | alloc id size => exact execCmd_reach e he _ (hok _ hc)
    | free id => exact execCmd_reach e he _ (hok _ hc)
    | envSeq n => exact execCmd_reach e he _ (hok _ hc)
    | _ => exact Reaches.of_det_eq fun _ => rfl

/-- every statement of the plugin's pre/post action is followed by the table: connects `LeakPlugin.pstep`
    (interpreter of the regenerated statement lists) with `LeakDetector.step` -/
theorem pstep_reach (e : Env) {s : State} (w : World) (h : R s w.det) (st : PStep) :
    Reach s (LeakPlugin.pstep w st).det := by
  cases st with
  | startChecking => exact reach_op e h .startChecking trivial
  | stopChecking => exact reach_op e h .stopChecking trivial
  | saveFailureCount => exact Reach.refl h
  | countLeaks p => exact Reach.refl h
  | verdict p =>
    have hv := LeakPlugin.verdictStep_det w p
    exact Reach.refl (h.congr hv.1 hv.2.1 hv.2.2)
  | demote => exact reach_op e h .demote trivial
  | setIgnore b => exact Reach.refl h
  | setExpected n => exact Reach.refl h

theorem mem_ok {t : Test} (hok : TestOk t) :
    (∀ c ∈ t.before, CmdOk c) ∧ (∀ c ∈ t.setup, CmdOk c) ∧ (∀ c ∈ t.body, CmdOk c) ∧ (∀ c ∈ t.teardown, CmdOk c) := by
  refine ⟨fun c hc => hok c ?_, fun c hc => hok c ?_, fun c hc => hok c ?_, fun c hc => hok c ?_⟩ <;> simp [hc]

/-- the state just before the post action (`LeakPlugin.atTeardownEnd`) is reached by a table history -/
theorem atTeardownEnd_reach (e : Env) (he : e.Good) {s : State} (w : World) (h : R s w.det) (t : Test) (hok : TestOk t) :
    Reach s (LeakPlugin.atTeardownEnd w t).det :=
  have ⟨h0, h1, h2, h3⟩ := mem_ok hok
  (((((runOutside_reach e he t.before h0).comp
    (Reaches.foldl Gen.LeakCode.preSteps fun st _ w _ h => pstep_reach e w h st)).comp
    (runPhase_reach e he .setup t.setup h1)).comp (runPhase_reach e he .body t.body h2)).comp
    (runPhase_reach e he .teardown t.teardown h3)) (LeakPlugin.clearObs w) h

/-- The table follows one statement of the plugin's pre/post action by the step `LeakDetector.pluginDetStep` names for it
    (`Model/LeakPluginDrive.lean`, the table side of the same regenerated statement lists, of which C04 proves
    `plugin_post_leaves_nothing_checking` and `plugin_next_checking_period_is_fresh`): connects `LeakPlugin.pstep` with it. -/
theorem pstep_related {s : State} (w : World) (h : R s w.det) (st : PStep) :
    R (pluginDetStep s st) (LeakPlugin.pstep w st).det := by
  cases st with
  | startChecking => exact h.step .startChecking trivial h.recs rfl rfl h.seq
  | stopChecking => exact h.step .stopChecking trivial h.recs rfl rfl h.seq
  | demote => exact sim_demote h
  | verdict p => have hv := LeakPlugin.verdictStep_det w p; exact h.congr hv.1 hv.2.1 hv.2.2
  | _ => exact h

/-- a statement list: at `Gen.LeakCode.preSteps` the table side is `pluginPre s` and the model side `preTestAction w`, at
    `Gen.LeakCode.postSteps` they are `pluginPost s` and `postTestAction w` -/
theorem psteps_related : ∀ (l : List PStep) {s : State} (w : World), R s w.det →
    R (l.foldl pluginDetStep s) (l.foldl LeakPlugin.pstep w).det
  | [], _, _, h => h
  | st :: l, _, w, h => psteps_related l _ (pstep_related w h st)

/-- the post action on related states: the table does `stopChecking` then
    `markCheckingPeriodLeaksAsNonCheckingPeriod` (`LeakDetector.pluginPost s`), and the result is related to the C07 model's
    detector after the post action -/
theorem post_related {s : State} (w : World) (h : R s w.det) :
    R (markChecking (stopChecking s)) (LeakPlugin.postTestAction w).det :=
  psteps_related Gen.LeakCode.postSteps w h

/-- **One scripted test.**  Connects `LeakPlugin.runTest` (C07) with `LeakDetector.run` (C04): some table history `ops`
    (with the C04 environment hypothesis) leads to the moment of the post action; there the number the plugin compares
    with the expected count is the REAL table's `totalMemoryLeaks(mem_leak_period_checking)` (after `stopChecking`), the
    leak failure is decided by it, its report lists (up to bucket order) the records the table's
    `getFirstLeak/getNextLeak` walk yields, and after the post action the two detectors are related again.
    So in the C07 theorems the abstract detector can be replaced by the real table. -/
theorem runTest_on_real_table (e : Env) (he : e.Good) {s : State} (w : World) (hc : LeakPlugin.Clean w)
    (h : R s w.det) (t : Test) (hok : TestOk t) :
    ∃ ops, FreshAll s ops ∧
      R (run s ops).1 (LeakPlugin.atTeardownEnd w t).det ∧
      R (markChecking (stopChecking (run s ops).1)) (LeakPlugin.runTest w t).det ∧
      totalMemoryLeaks (stopChecking (run s ops).1) .checking = (LeakPlugin.Hist.blocksOf w.liveIds t).length ∧
      ((LeakPlugin.runTest w t).leakFail.isSome = true ↔
        (w.overloads = true ∧ LeakPlugin.Hist.ownFailures w.liveIds t = 0 ∧ LeakPlugin.Hist.ignores w.liveIds t = false ∧
          totalMemoryLeaks (stopChecking (run s ops).1) .checking ≠ LeakPlugin.Hist.expected w.liveIds t)) ∧
      ∀ r, (LeakPlugin.runTest w t).leakFail = some r →
        r.total = totalMemoryLeaks (stopChecking (run s ops).1) .checking ∧
        r.entries.Perm ((reportedLeaks (stopChecking (run s ops).1) .checking).map recOf) := by
  obtain ⟨ops, hf, hr⟩ := atTeardownEnd_reach e he w h t hok
  have h1 : R (stopChecking (run s ops).1) (LeakPlugin.atTeardownEnd w t).det.stopChecking :=
    hr.step .stopChecking trivial hr.recs rfl rfl hr.seq
  have htot : totalMemoryLeaks (stopChecking (run s ops).1) .checking = (LeakPlugin.Hist.blocksOf w.liveIds t).length := by
    have := total_agrees h1 .checking
    rw [show ofPP .checking = Gen.LeakDetector.Period.checking from rfl] at this
    rw [← this, LeakPlugin.totalMemoryLeaks_checking]
    exact LeakPlugin.leak_count_is_own_blocks w hc t
  refine ⟨ops, hf, hr, post_related _ hr, htot, ?_, ?_⟩
  · rw [htot, LeakPlugin.isSome_leakFail_runTest hc t, Bool.and_eq_true]
    exact and_congr Iff.rfl (LeakPlugin.verdictAt_iff _)
  · intro r hrep
    obtain rfl := (LeakPlugin.closes_runTest hc t).report_eq hrep
    exact ⟨htot.symm, (LeakPlugin.leaksIn_checking _ ▸ (report_agrees h1 .checking).2.1).symm⟩

theorem runTest_reach (e : Env) (he : e.Good) {s : State} (w : World) (hc : LeakPlugin.Clean w) (h : R s w.det)
    (t : Test) (hok : TestOk t) : Reach s (LeakPlugin.runTest w t).det := by
  obtain ⟨ops, hf, _, hr, _⟩ := runTest_on_real_table e he w hc h t hok
  refine ⟨ops ++ [.stopChecking, .markChecking], freshAll_append _ _ _ hf
    (show FreshAll _ [Op.stopChecking, Op.markChecking] from ⟨trivial, trivial, trivial⟩), ?_⟩
  rw [run_append_fst]
  exact hr

/-- **Every sequence of scripted tests.**  Connects `LeakPlugin.runTests` with `LeakDetector.run`: the
    detector of the C07 model after any number of tests is the abstraction (`R`) of the table after some
    history that satisfies the C04 environment hypothesis — so every C04/C06 theorem (`run_refines`,
    `inv_run`, `run_totals_exact`, …) applies to it. -/
theorem runTests_reach (e : Env) (he : e.Good) : ∀ (ts : List Test) {s : State} (w : World), LeakPlugin.Clean w →
    R s w.det → (∀ t ∈ ts, TestOk t) → Reach s (LeakPlugin.runTests w ts).1.det
  | [], _, _, _, h, _ => Reach.refl h
  | t :: ts, _, w, hc, h, hok =>
    (runTest_reach e he w hc h t (hok t (List.mem_cons_self ..))).trans
      (fun _ h' => runTests_reach e he ts (LeakPlugin.runTest w t) (LeakPlugin.closes_runTest hc t).clean h'
        (fun t' ht' => hok t' (List.mem_cons_of_mem _ ht')))

theorem init_world_related (ov : Bool) (hp : Nat) (h : 0 < hp) :
    R (step (State.init hp) .enable).1 (World.init ov).det :=
  (step_simulates default (init_related hp h) .enable trivial).2

/-- from the real initial table (`hash_prime` buckets, regenerated) -/
theorem runTests_from_init (e : Env) (he : e.Good) (ov : Bool) (ts : List Test) (hok : ∀ t ∈ ts, TestOk t) :
    ∃ ops, FreshAll (State.init Gen.LeakDetector.hashPrime) ops ∧
      R (run (State.init Gen.LeakDetector.hashPrime) ops).1 (LeakPlugin.runTests (World.init ov) ts).1.det := by
  obtain ⟨ops, hf, hr⟩ := runTests_reach e he ts (World.init ov) (LeakPlugin.init_clean ov)
    (init_world_related ov Gen.LeakDetector.hashPrime (by decide)) hok
  exact ⟨.enable :: ops, ⟨trivial, hf⟩, hr⟩

/-! ## non-vacuity -/

def exEnv : Env := { a := LeakDetector.exA, file := "t.c", line := 7, sep := true, nodeOk := true, fill := 0xA5 }

/-- two blocks in one bucket (1168 and 1168+73), a release, a moving realloc, a failing realloc, demotion -/
def exDOps : List (Env × DOp) :=
  [ (exEnv, .enable), (exEnv, .alloc 1168 4), (exEnv, .startChecking), (exEnv, .alloc 1241 8), (exEnv, .alloc 5 1),
    (exEnv, .free 1168), (exEnv, .free 999), (exEnv, .realloc 1241 1314 20), (exEnv, .reallocFail 1314 100000),
    (exEnv, .stopChecking), (exEnv, .demote), (exEnv, .startChecking), (exEnv, .alloc 1168 2), (exEnv, .alloc 2 1) ]

example : PreAll Detector.init exDOps := by
  simp only [exDOps, PreAll, Pre, applyD]
  decide

example : R (run (State.init 73) (toOps exDOps)).1 (applyAll Detector.init exDOps) :=
  (run_simulates exDOps (init_related 73 (by decide)) (by simp only [exDOps, PreAll, Pre, applyD]; decide)).2

example : (applyAll Detector.init exDOps).recs.map (fun r => (r.id, r.num, r.size, r.period)) =
    [(2, 6, 1, .checking), (1168, 5, 2, .checking), (1314, 4, 20, .enabled), (5, 3, 1, .enabled)] := by decide +kernel

example : ((run (State.init 73) (toOps exDOps)).1.nodes.map recOf).map (fun r => (r.id, r.num, r.size, r.period)) =
    [(1168, 5, 2, .checking), (1314, 4, 20, .enabled), (2, 6, 1, .checking), (5, 3, 1, .enabled)] := by decide +kernel

example : totalMemoryLeaks (run (State.init 73) (toOps exDOps)).1 .checking = 2 ∧
    (applyAll Detector.init exDOps).totalMemoryLeaks .checking = 2 ∧
    (applyAll Detector.init exDOps).totalMemoryLeaks .enabled = 4 := by decide +kernel

/-- the scripted tests of `Props/C07.lean` meet the hypotheses of `runTests_from_init` -/
example : ∀ t ∈ LeakPlugin.exampleTests ++ LeakPlugin.reallocTests, TestOk t := by
  intro t ht c hc
  simp only [LeakPlugin.exampleTests, LeakPlugin.reallocTests, List.mem_append, List.mem_cons, List.not_mem_nil, or_false] at ht
  rcases ht with (rfl | rfl | rfl | rfl | rfl | rfl) | (rfl | rfl | rfl | rfl) <;>
    simp at hc <;> (try rcases hc with rfl | rfl | rfl | rfl | rfl | rfl | rfl) <;>
    first | trivial | (constructor <;> decide)

example : exEnv.Good := fun _ => rfl

end Compose.C07x
