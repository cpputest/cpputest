import CppUModel.Props.C02
import CppUModel.Props.C13
/-!
# C02x — `TestFilter::match` and `UtestShell::shouldRun` executed on the C13 string objects

Composition theorems.  They connect

* `Model/Registry.lean` (C02): `Filter.matches`, `matchFilters`, `shouldRun`, written over textbook byte strings
  (`==` and `Text.isInfix`), with
* `Model/SimpleString.lean` (C13): the bounded-buffer objects and `SStr.equals` (`operator==` = `StrCmp(...) == 0`)
  and `SStr.contains` (`StrStr(...) != 0`).
-/
namespace Compose.C02x
open CStr SStr Text

/-- a `TestFilter` whose `filter_` is a C13 string object -/
structure FilterObj where
  text   : Obj
  strict : Bool
  invert : Bool

/-- `TestFilter::match(name)`:
```
if (strictMatching_) matches = name == filter_; else matches = name.contains(filter_);
return invertMatching_ ? !matches : matches;
``` -/
def matchObj (f : FilterObj) (name : Obj) : Except Err Bool :=
  match (if f.strict then equals name f.text else contains name f.text) with
  | .error e => .error e
  | .ok m => .ok (if f.invert then !m else m)

/-- the `for` loop of `UtestShell::match`: stop at the first filter that accepts -/
def matchLoopObj (target : Obj) : List FilterObj → Except Err Bool
  | [] => .ok false
  | f :: fs =>
    match matchObj f target with
    | .error e => .error e
    | .ok true => .ok true
    | .ok false => matchLoopObj target fs

/-- `UtestShell::match(target, filters)`: `if (filters == NULLPTR) return true;` then the loop -/
def matchFiltersObj (target : Obj) : List FilterObj → Except Err Bool
  | [] => .ok true
  | f :: fs => matchLoopObj target (f :: fs)

/-- `UtestShell::shouldRun`: `match(group_, groupFilters) && match(name_, nameFilters)` (short-circuit) -/
def shouldRunObj (group name : Obj) (groupFilters nameFilters : List FilterObj) : Except Err Bool :=
  match matchFiltersObj group groupFilters with
  | .error e => .error e
  | .ok false => .ok false
  | .ok true => matchFiltersObj name nameFilters

/-- the filter object represents the C02 filter: its buffer holds the filter text -/
def Rep (fo : FilterObj) (f : Registry.Filter) : Prop :=
  Holds fo.text f.text ∧ fo.strict = f.strict ∧ fo.invert = f.invert

def RepAll : List FilterObj → List Registry.Filter → Prop
  | [], [] => True
  | fo :: fos, f :: fs => Rep fo f ∧ RepAll fos fs
  | _, _ => False

/-- **`TestFilter::match` on objects = the C02 decision.**  Connects `Registry.Filter.matches` (C02) with
    `SStr.equals` / `SStr.contains` (C13): for every NUL-free name and filter text the object-level evaluation
    returns `.ok` of the model's value — in particular it never reads outside a buffer. -/
theorem match_on_objects {fo : FilterObj} {f : Registry.Filter} {name : Obj} {a : Bytes}
    (hf : Rep fo f) (hn : Holds name a) : matchObj fo name = .ok (f.matches a) := by
  obtain ⟨ht, hs, hi⟩ := hf
  rw [matchObj, Registry.Filter.matches, Registry.gen_filterMatch, hs, hi]
  cases f.strict <;> cases f.invert <;>
    simp [C13.eq_eq hn ht, C13.contains_iff_isInfix hn ht, Bool.beq_eq_decide_eq]

theorem matchLoop_on_objects {target : Obj} {a : Bytes} (hn : Holds target a) :
    ∀ {fos : List FilterObj} {fs : List Registry.Filter}, RepAll fos fs →
      matchLoopObj target fos = .ok (Registry.matchLoop a fs)
  | [], [], _ => rfl
  | fo :: fos, f :: fs, h => by
    simp only [matchLoopObj, Registry.matchLoop, match_on_objects h.1 hn]
    cases f.matches a with
    | true => rfl
    | false => exact matchLoop_on_objects hn h.2
  | [], _ :: _, h => h.elim
  | _ :: _, [], h => h.elim

/-- **`UtestShell::match` on objects = the C02 decision**, for filter lists of any length. -/
theorem matchFilters_on_objects {target : Obj} {a : Bytes} (hn : Holds target a)
    {fos : List FilterObj} {fs : List Registry.Filter} (h : RepAll fos fs) :
    matchFiltersObj target fos = .ok (Registry.matchFilters a fs) := by
  match fos, fs, h with
  | [], [], _ => rfl
  | fo :: fos, f :: fs, h => exact matchLoop_on_objects hn (fos := fo :: fos) (fs := f :: fs) h
  | [], _ :: _, h => exact h.elim
  | _ :: _, [], h => exact h.elim

/-- **`UtestShell::shouldRun` on objects = the C02 decision.**  Connects `Registry.shouldRun` (C02) with the C13
    string objects: group and name of the test and all filter texts are arbitrary NUL-free byte strings. -/
theorem shouldRun_on_objects (cfg : Registry.Cfg) (t : Registry.Test) {group name : Obj} {gfo nfo : List FilterObj}
    (hg : Holds group t.group) (hn : Holds name t.name) (hgf : RepAll gfo cfg.groupFilters)
    (hnf : RepAll nfo cfg.nameFilters) :
    shouldRunObj group name gfo nfo = .ok (Registry.shouldRun cfg t) := by
  rw [shouldRunObj, Registry.shouldRun, Registry.gen_shouldRun, matchFilters_on_objects hg hgf]
  cases Registry.matchFilters t.group cfg.groupFilters with
  | false => rfl
  | true => exact matchFilters_on_objects hn hnf

/-- The object-level evaluation decides the documented selection (C02's `selected_iff`): a test is run
    iff its group is accepted by some group filter (or none is given) and its name by some name filter. -/
theorem shouldRun_on_objects_iff_selected (cfg : Registry.Cfg) (t : Registry.Test) {group name : Obj}
    {gfo nfo : List FilterObj} (hg : Holds group t.group) (hn : Holds name t.name)
    (hgf : RepAll gfo cfg.groupFilters) (hnf : RepAll nfo cfg.nameFilters) :
    (∃ b, shouldRunObj group name gfo nfo = .ok b) ∧
    (shouldRunObj group name gfo nfo = .ok true ↔ Registry.Selected cfg t) := by
  rw [shouldRun_on_objects cfg t hg hn hgf hnf]
  refine ⟨⟨_, rfl⟩, ?_⟩
  rw [← Registry.selected_iff]
  constructor
  · intro h; injection h
  · intro h; rw [h]

/-- every C02 filter has a representing object (exact-size buffer), for NUL-free texts -/
theorem rep_mk (id : Nat) (f : Registry.Filter) (h : TextExt.NulFree f.text) :
    Rep ⟨mkObj id f.text, f.strict, f.invert⟩ f := ⟨holds_mkObj h, rfl, rfl⟩

/-! ## non-vacuity -/

/-- filter `-g "ab"` (substring), object with slack behind the terminator; name "xaby" -/
example : matchObj ⟨⟨1, [97, 98, 0, 7, 7], 5⟩, false, false⟩ (mkObj 2 [120, 97, 98, 121]) = .ok true := rfl
/-- strict filter: "ab" ≠ "xaby"; inverted strict filter accepts -/
example : matchObj ⟨mkObj 1 [97, 98], true, false⟩ (mkObj 2 [120, 97, 98, 121]) = .ok false := rfl
example : matchObj ⟨mkObj 1 [97, 98], true, true⟩ (mkObj 2 [120, 97, 98, 121]) = .ok true := rfl
/-- an unterminated filter buffer is an out-of-bounds read in the object model (the hypothesis `Holds` is needed) -/
example : matchObj ⟨⟨1, [97, 98], 2⟩, true, false⟩ (mkObj 2 [97, 98]) = .error .oob := rfl

example : Rep ⟨⟨1, [97, 98, 0, 7, 7], 5⟩, false, false⟩ ⟨[97, 98], false, false⟩ :=
  ⟨⟨by decide, [7, 7], rfl⟩, rfl, rfl⟩

example : shouldRunObj (mkObj 1 [71]) (mkObj 2 [110, 49]) [⟨mkObj 3 [71], true, false⟩]
    [⟨mkObj 4 [120], false, false⟩, ⟨mkObj 5 [49], false, false⟩] = .ok true := rfl

end Compose.C02x
