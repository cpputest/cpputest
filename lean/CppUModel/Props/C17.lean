import CppUModel.Proofs.Plugins
import CppUModel.Proofs.PluginsTable
/-!
# C17 — pointers set for a test are restored after it; plugin actions nest properly

Property theorems (their lemmas: `CppUModel/Proofs/Plugins.lean`, `Proofs/PluginsTable.lean`).  Model:
`CppUModel/Model/Plugins.lean` (from `src/CppUTest/TestPlugin.cpp`,
`include/CppUTest/TestPlugin.h`, `src/CppUTest/TestRegistry.cpp`); vocabulary:
`CppUModel/Spec/Plugins.lean`; the limit `Gen.Plugins.maxSet` and the sentinel's name are regenerated
from the header on every run.

A test body is any list of statements `set loc val` / `stop` (`stop` = the body ends there by a
failing check, a C-style failure or an exception — for the pointer table all of them are the same:
the rest of the body does not run, the post actions do).
-/
namespace Plugins
open Gen.Plugins

/-! ## restoring -/

/-- **Restore.**  Whatever the body does (any number of redirections, repeated targets, more than
    the limit, any outcome) and whatever else is installed: if an enabled `SetPointerPlugin` is in
    the chain and the table was empty when the test started, then after the post actions every
    location holds the value it had before the test, and the table is empty again. -/
theorem restore_all (c : Chain) (s : Store) (body : List Stmt)
    (hset : HasActiveSet c) (hempty : s.table = []) :
    (∀ l, (runTest c s body).store.mem l = s.mem l) ∧ (runTest c s body).store.table = [] := by
  rw [runTest_store c s body hset hempty]
  exact ⟨fun _ => rfl, hempty⟩

/-- the general form: with entries left over from earlier tests (the plugin was not active then),
    the post action goes back to the memory those entries were started from -/
theorem restore_all_general (c : Chain) (s : Store) (body : List Stmt) (hset : HasActiveSet c) :
    (runTest c s body).store.mem = restore s.table s.mem ∧ (runTest c s body).store.table = [] := by
  rw [show (runTest c s body).store = postAction (runBody s 0 body).store from postStore_of_active hset _]
  exact ⟨runBody_restore_inv body s 0, rfl⟩

/-- repeated redirection of one target: the value that comes back is the one from before the
    FIRST redirection (the reason why the table must be undone backwards) -/
theorem repeated_target_restored (m : Loc → Val) (l : Loc) (v₁ v₂ : Val) :
    ∀ c, HasActiveSet c →
      (runTest c { mem := m, table := [] } [.set l v₁, .set l v₂]).store.mem l = m l := by
  intro c hc
  exact (restore_all c { mem := m, table := [] } _ hc rfl).1 l

/-- without an (enabled) `SetPointerPlugin` nothing is restored: the post actions of other plugins
    do not touch the pointers -/
theorem no_set_plugin_no_restore (c : Chain) (s : Store) (body : List Stmt) (h : ¬ HasActiveSet c) :
    (runTest c s body).store = (runBody s 0 body).store :=
  postStore_of_not_active h _

/-! ## a newly constructed plugin, and tests that run without an active plugin -/

/-- **A fresh plugin starts empty.**  Constructing a `SetPointerPlugin` resets the table index:
    whatever earlier tests recorded while no enabled plugin was installed is forgotten.  A test that
    then runs with an enabled plugin gets back, for EVERY location, exactly the value it had before
    that test — its restore touches only that test's own redirections — and leaves an empty table. -/
theorem fresh_plugin_starts_empty (c : Chain) (s : Store) (body : List Stmt) (hset : HasActiveSet c) :
    (∀ l, (runTest c (construct s) body).store.mem l = s.mem l) ∧
    (runTest c (construct s) body).store.table = [] :=
  restore_all c (construct s) body hset rfl

/-- stale entries have no influence at all on what happens after the construction … -/
theorem fresh_plugin_forgets_stale_entries (c : Chain) (s : Store) (body : List Stmt) :
    runTest c (construct s) body = runTest c { mem := s.mem, table := [] } body := rfl

/-- … and the new plugin has the whole table: the verdict of the next test and the number of
    redirections it carries out do not depend on how full the table was before -/
theorem fresh_plugin_has_whole_table (c : Chain) (s s' : Store) (body : List Stmt) :
    (runTest c (construct s) body).failed = (runTest c (construct s') body).failed ∧
    (runTest c (construct s) body).overflow = (runTest c (construct s') body).overflow ∧
    (runTest c (construct s) body).done = (runTest c (construct s') body).done := by
  have := runBody_flags body (construct s) (construct s') 0 rfl
  exact ⟨congrArg (· || preFails c) this.1, this.2.1, this.2.2⟩

/-- **A test that runs without an enabled plugin** keeps its entries recorded: the index grows by
    the number of redirections carried out and, if it was within the limit before, never passes the
    limit (the redirections beyond it fail the test, see `beyond_limit_fails_no_write`). -/
theorem inactive_test_keeps_entries (c : Chain) (s : Store) (body : List Stmt) (h : ¬ HasActiveSet c) :
    (runTest c s body).store.table.length = s.table.length + (runTest c s body).done ∧
    (s.table.length ≤ maxSet → (runTest c s body).store.table.length ≤ maxSet) := by
  rw [no_set_plugin_no_restore c s body h]
  exact runBody_table_length body s 0

/-- when a plugin becomes active again WITHOUT a new construction, its post action undoes all the
    recorded entries, back to the memory at the last point where the table was empty -/
theorem leftover_entries_undone_by_next_active_test (c₀ c : Chain) (s : Store) (b₀ body : List Stmt)
    (hempty : s.table = []) (h0 : ¬ HasActiveSet c₀) (hset : HasActiveSet c) :
    (runTest c (runTest c₀ s b₀).store body).store.mem = s.mem ∧
    (runTest c (runTest c₀ s b₀).store body).store.table = [] := by
  have hinv : restore (runTest c₀ s b₀).store.table (runTest c₀ s b₀).store.mem = restore s.table s.mem := by
    rw [no_set_plugin_no_restore c₀ s b₀ h0]
    exact runBody_restore_inv b₀ s 0
  rw [show (runTest c (runTest c₀ s b₀).store body).store = s from
    postStore_restores hset ((runBody_restore_inv body _ 0).trans hinv) hempty]
  exact ⟨rfl, hempty⟩

/-! ## the limit -/

/-- **Beyond the limit.**  With `maxSet` entries in the table the next `UT_PTR_SET` fails the test
    and writes neither the table nor the location. -/
theorem beyond_limit_fails_no_write (s : Store) (l : Loc) (v : Val) (rest : List Stmt) (n : Nat)
    (hfull : maxSet ≤ s.table.length) :
    ptrSet s l v = none ∧
    (runBody s n (.set l v :: rest)).failed = true ∧ (runBody s n (.set l v :: rest)).overflow = true ∧
    (runBody s n (.set l v :: rest)).store.mem = s.mem ∧
    (runBody s n (.set l v :: rest)).store.table = s.table ∧
    (runBody s n (.set l v :: rest)).done = n := by
  have hfull := Nat.not_lt.mpr hfull
  rw [runBody_set, ptrSet_eq, if_neg hfull, if_neg hfull]
  exact ⟨rfl, rfl, rfl, rfl, rfl, rfl⟩

/-- below the limit a redirection is carried out: recorded and assigned -/
theorem within_limit_succeeds (s : Store) (l : Loc) (v : Val) (h : s.table.length < maxSet) :
    ∃ s', ptrSet s l v = some s' ∧ s'.mem = update s.mem l v ∧ s'.table = (l, s.mem l) :: s.table :=
  ⟨_, (ptrSet_eq s l v).trans (if_pos h), rfl, rfl⟩

/-- a test with up to `maxSet` redirections (repeated targets allowed): all are carried out, the
    test does not fail because of them, and the memory the body sees afterwards is the memory with
    the redirections applied in order -/
theorem up_to_limit_all_redirected (s : Store) (ss : List (Loc × Val))
    (hempty : s.table = []) (hle : ss.length ≤ maxSet) :
    (runBody s 0 (setsOf ss)).failed = false ∧ (runBody s 0 (setsOf ss)).done = ss.length ∧
    (runBody s 0 (setsOf ss)).store.mem = applySets s.mem ss := by
  obtain ⟨h1, -, h3, h4⟩ := runBody_sets ss s 0 maxSet (by rw [hempty]; exact Nat.zero_add _)
  rw [Nat.min_eq_right hle, Nat.zero_add] at h3
  rw [List.take_of_length_le hle] at h4
  exact ⟨h1.trans (decide_eq_false (Nat.not_lt.mpr hle)), h3, h4⟩

/-- a test with more than `maxSet` redirections: exactly the first `maxSet` are carried out, the
    next one fails the test, nothing is written past the table -/
theorem over_limit_fails_at_limit (s : Store) (ss : List (Loc × Val))
    (hempty : s.table = []) (hgt : maxSet < ss.length) :
    (runBody s 0 (setsOf ss)).failed = true ∧ (runBody s 0 (setsOf ss)).overflow = true ∧
    (runBody s 0 (setsOf ss)).done = maxSet ∧
    (runBody s 0 (setsOf ss)).store.mem = applySets s.mem (ss.take maxSet) ∧
    (runBody s 0 (setsOf ss)).store.table.length = maxSet := by
  obtain ⟨h1, h2, h3, h4⟩ := runBody_sets ss s 0 maxSet (by rw [hempty]; exact Nat.zero_add _)
  have h5 := (runBody_table_length (setsOf ss) s 0).1
  rw [Nat.min_eq_left (Nat.le_of_lt hgt), Nat.zero_add] at h3
  rw [hempty, h3, List.length_nil, Nat.zero_add] at h5
  exact ⟨h1.trans (decide_eq_true hgt), h2.trans (decide_eq_true hgt), h3, h4, h5⟩

/-! ## consecutive tests -/

/-- **Consecutive tests are independent.**  With an active `SetPointerPlugin`, after any number
    of consecutive tests (any bodies, any outcomes) the memory is the initial one and the table
    index is back to 0 … -/
theorem consecutive_tests_independent (c : Chain) (hset : HasActiveSet c) :
    ∀ (bodies : List (List Stmt)) (s : Store), s.table = [] →
      (∀ l, (runTests c s bodies).mem l = s.mem l) ∧ (runTests c s bodies).table = [] := by
  intro bodies s h
  rw [runTests_store c hset bodies s h]
  exact ⟨fun _ => rfl, h⟩

/-- … and every test has the whole table for itself: its verdict and the number of redirections it
    carries out are what they would be if it ran first -/
theorem each_test_as_if_alone (c : Chain) (hset : HasActiveSet c) (before : List (List Stmt))
    (s : Store) (hempty : s.table = []) (body : List Stmt) :
    (runTest c (runTests c s before) body).failed = (runTest c s body).failed ∧
    (runTest c (runTests c s before) body).overflow = (runTest c s body).overflow ∧
    (runTest c (runTests c s before) body).done = (runTest c s body).done := by
  rw [runTests_store c hset before s hempty]
  exact ⟨rfl, rfl, rfl⟩

/-! ## order of the plugin actions -/

/-- the pre actions are seen by the enabled plugins in chain order (head first) -/
theorem pre_order_is_chain_order (c : Chain) :
    runAllPre c = (c.filter (·.enabled)).map (·.name) := by
  induction c with
  | nil => rfl
  | cons p rest ih =>
    unfold runAllPre
    cases h : p.enabled <;> simp [h, ih]

/-- **Pre actions run in installation-reversed order**: after installing `ps` in this order, the
    enabled ones see the pre action last-installed first. -/
theorem pre_order_is_install_reversed (ps : List Plugin) :
    runAllPre (installAll ps) = ((ps.filter (·.enabled)).map (·.name)).reverse := by
  rw [pre_order_is_chain_order, installAll_eq_reverse, List.filter_reverse, List.map_reverse]

/-- **Post actions run in exactly the reverse order of the pre actions.** -/
theorem post_order_is_reverse_of_pre (c : Chain) : runAllPost c = (runAllPre c).reverse := by
  induction c with
  | nil => rfl
  | cons p rest ih =>
    unfold runAllPost runAllPre
    cases h : p.enabled <;> simp [ih]

theorem post_order_is_install_order (ps : List Plugin) :
    runAllPost (installAll ps) = (ps.filter (·.enabled)).map (·.name) := by
  rw [post_order_is_reverse_of_pre, pre_order_is_install_reversed, List.reverse_reverse]

/-- **Disabled plugins see neither action**; enabled ones see each exactly once. -/
theorem disabled_see_neither (c : Chain) (hu : UniqueNames c) (p : Plugin) (hp : p ∈ c) :
    (p.enabled = false → p.name ∉ runAllPre c ∧ p.name ∉ runAllPost c) ∧
    (p.enabled = true → (runAllPre c).count p.name = 1 ∧ (runAllPost c).count p.name = 1) := by
  have hn : (runAllPre c).Nodup := by
    rw [pre_order_is_chain_order]
    exact (List.filter_sublist.map _).nodup hu
  have hm : p.name ∈ runAllPre c ↔ p.enabled = true := by
    rw [pre_order_is_chain_order]
    refine ⟨fun hm => ?_, fun he => List.mem_map.mpr ⟨p, List.mem_filter.mpr ⟨hp, he⟩, rfl⟩⟩
    obtain ⟨q, hq, hqn⟩ := List.mem_map.mp hm
    obtain ⟨hq1, hq2⟩ := List.mem_filter.mp hq
    rw [← ListLemmas.eq_of_key_eq Plugin.name hu hq1 hp hqn]
    exact hq2
  rw [post_order_is_reverse_of_pre, List.count_reverse, List.mem_reverse, hn.count]
  refine ⟨fun hd => ?_, fun he => ?_⟩
  · have : p.name ∉ runAllPre c := fun h => Bool.false_ne_true (hd.symm.trans (hm.mp h))
    exact ⟨this, this⟩
  · rw [if_pos (hm.mpr he)]
    exact ⟨rfl, rfl⟩

/-! ## removing by name -/

/-- **Removing by name removes exactly that plugin**, at any depth of the chain: with pairwise
    different names the chain afterwards is the chain before without the plugin of that name —
    everything else stays, in the same order, with the same enabled flags; a name that is not
    installed changes nothing. -/
theorem remove_by_name_removes_exactly (c : Chain) (name : String) (hu : UniqueNames c) :
    regRemove name c = c.filter (fun q => q.name ≠ name) := by
  cases c with
  | nil => rfl
  | cons p rest =>
    have hfirst : removeBelowHead name (p :: rest) = p :: rest.filter (fun q => q.name ≠ name) := by
      rw [removeBelowHead, removeNext_fst, eraseP_eq_filter name rest (List.nodup_cons.mp hu).2]
    have hrest := not_mem_names_filter name rest
    rw [regRemove, hfirst, removeHead]
    -- the third statement finds nothing left to remove
    by_cases hp : p.name = name
    · rw [if_pos hp, removeBelowHead_eq_self name _ hrest, List.filter_cons_of_neg (by simpa using hp)]
    · rw [if_neg hp, removeBelowHead_eq_self name _ (by simp [Ne.symm hp]),
        List.filter_cons_of_pos (by simpa using hp)]

-- `hu` is not needed: `regRemove_absent`
theorem remove_absent_is_noop (c : Chain) (name : String) (hu : UniqueNames c)
    (h : name ∉ c.map (·.name)) : regRemove name c = c :=
  regRemove_absent h

theorem install_remove_roundtrip (c : Chain) (p : Plugin) (hu : UniqueNames (install c p)) :
    regRemove p.name (install c p) = c :=
  regRemove_install c p (List.nodup_cons.mp hu).1

/-- `getPluginByName` finds the first plugin with that name -/
theorem get_by_name_finds (c : Chain) (name : String) :
    getByName name c = c.find? (fun p => name = p.name) := by
  induction c with
  | nil => rfl
  | cons p rest ih =>
    unfold getByName
    by_cases h : name = p.name <;> simp [h, ih]

/-! ## the registry's view of the chain -/

/-- `getPluginByName` returns the first plugin carrying the name; a name nobody carries yields NULL,
    except the sentinel's own name, which yields the sentinel -/
theorem lookup_spec (c : Chain) (name : String) :
    lookup name c = match c.find? (fun p => name = p.name) with
      | some p => .plugin p
      | none => if name = nullName then .sentinel else .none := by
  induction c with
  | nil => simp [lookup]
  | cons p rest ih =>
    unfold lookup
    by_cases h : name = p.name
    · simp [h]
    · simp [h, ih]

/-- `resetPlugins` leaves the sentinel only: no plugin is counted, found or called -/
theorem reset_leaves_sentinel_only (c : Chain) (name : String) :
    countPlugins (reset c) = 0 ∧ firstPlugin (reset c) = none ∧
    (lookup name (reset c) = if name = nullName then .sentinel else .none) ∧
    runAllPre (reset c) = [] ∧ runAllPost (reset c) = [] := by
  simp [reset, countPlugins, firstPlugin, lookup, runAllPre, runAllPost]

/-- `countPlugins` after install and after remove, `getFirstPlugin` after install -/
theorem count_and_first (c : Chain) (p : Plugin) (name : String) (hu : UniqueNames c) :
    countPlugins (install c p) = countPlugins c + 1 ∧ firstPlugin (install c p) = some p ∧
    countPlugins (regRemove name c) = countPlugins c - (if name ∈ c.map (·.name) then 1 else 0) := by
  refine ⟨rfl, rfl, ?_⟩
  split
  · next hm =>
    obtain ⟨q, hq, hn⟩ := List.mem_map.mp hm
    rw [remove_by_name_removes_exactly c name hu, ← eraseP_eq_filter name c hu]
    exact List.length_eraseP_of_mem hq (beq_iff_eq.mpr hn)
  · next hm => rw [regRemove_absent hm]; rfl

/-! ## how the shell runs the test -/

/-- **Separate process**: the pre actions, the body and the post actions all run (in the child, in
    the same order, with the same verdict as in-process), and the calling process keeps its pointers
    and its table exactly as they were -/
theorem separate_process_leaves_caller_untouched (c : Chain) (s : Store) (body : List Stmt) :
    (runTestKind .separate c s body).store = s ∧
    (runTestKind .separate c s body).pre = (runTest c s body).pre ∧
    (runTestKind .separate c s body).post = (runTest c s body).post ∧
    (runTestKind .separate c s body).failed = (runTest c s body).failed := ⟨rfl, rfl, rfl, rfl⟩

/-- **An ignored test** runs neither its body nor any plugin action; **a run-ignored one** is an
    ordinary test -/
theorem ignored_test_runs_nothing (c : Chain) (s : Store) (body : List Stmt) :
    (runTestKind .ignored c s body).store = s ∧ (runTestKind .ignored c s body).pre = [] ∧
    (runTestKind .ignored c s body).post = [] ∧ (runTestKind .ignored c s body).failed = false ∧
    runTestKind .ignoredRun c s body = runTest c s body := ⟨rfl, rfl, rfl, rfl, rfl⟩

/-- **A plugin that reports a failure in its pre action** makes the test fail and stops nothing:
    the later plugins' pre actions, the whole body and every post action run exactly as if it were
    an ordinary plugin, so the pointers are restored all the same -/
theorem failing_pre_action_stops_nothing (c : Chain) (s : Store) (body : List Stmt)
    (h : preFails c = true) :
    (runTest c s body).failed = true ∧
    (runTest c s body).store = postStore c (runBody s 0 body).store ∧
    (runTest c s body).done = (runBody s 0 body).done ∧
    (runTest c s body).pre = runAllPre c ∧ (runTest c s body).post = (runAllPre c).reverse ∧
    (HasActiveSet c → s.table = [] → ∀ l, (runTest c s body).store.mem l = s.mem l) :=
  ⟨by simp [runTest, h], rfl, rfl, rfl, post_order_is_reverse_of_pre c,
    fun hset hempty => (restore_all c s body hset hempty).1⟩

/-! ## changes of the chain while the registry runs -/

theorem not_mem_actions {c : Chain} {name : String} (h : name ∉ c.map (·.name)) :
    name ∉ runAllPre c ∧ name ∉ runAllPost c := by
  rw [post_order_is_reverse_of_pre, List.mem_reverse, pre_order_is_chain_order]
  have : name ∉ (c.filter (·.enabled)).map (·.name) := fun hm => h ((List.filter_sublist.map _).subset hm)
  exact ⟨this, this⟩

/-- a scripted test that changes nothing is an ordinary test and leaves the chain as it was -/
theorem scripted_without_changes (c : Chain) (s : Store) (body : List Stmt) (actor : Nat) :
    runScripted c s ⟨body, .none, actor, .none⟩ = (runTest c s body, c) := by
  refine Prod.ext (runScripted_none c s body actor .none) ?_
  rw [runScripted, effectiveBodyMut_none]
  exact ite_self _

/-- **Changes of the chain take effect from the next test.**  `runAllTests` hands every test the
    chain as it is when that test starts: the pre actions of test k are those of the chain at its
    start — whatever the test or a post action then installs or removes — and the pre actions of
    test k+1 are those of the chain test k left behind. -/
theorem chain_changes_take_effect_from_next_test (c : Chain) (s : Store) (t t₂ : ScriptedTest) :
    ((runAllTestsReg c s [t, t₂]).1.map (·.pre)) = [runAllPre c, runAllPre (runScripted c s t).2] ∧
    (runAllTestsReg c s [t]).2.1 = (runScripted c s t).2 :=
  ⟨rfl, rfl⟩

/-- a plugin installed from the body of test k sees neither action of test k, and both actions of
    test k+1: first of all in the pre order, last of all in the post order -/
theorem installed_during_test_seen_from_next (c : Chain) (s s' : Store) (body b₂ : List Stmt) (p : Plugin)
    (a a₂ : Nat) (hov : (runBody s 0 body).overflow = false) (hen : p.enabled = true)
    (hfresh : p.name ∉ c.map (·.name)) (hid : c.any (fun q => q.id == p.id) = false) :
    p.name ∉ (runScripted c s ⟨body, .install p, a, .none⟩).1.pre ∧
    p.name ∉ (runScripted c s ⟨body, .install p, a, .none⟩).1.post ∧
    (runScripted c s ⟨body, .install p, a, .none⟩).2 = p :: c ∧
    (runScripted (p :: c) s' ⟨b₂, .none, a₂, .none⟩).1.pre = p.name :: runAllPre c ∧
    (runScripted (p :: c) s' ⟨b₂, .none, a₂, .none⟩).1.post = runAllPost c ++ [p.name] := by
  obtain ⟨hpost, hsnd⟩ := runScripted_of_fit c s body (.install p) a hov
  rw [hpost, hsnd, runScripted_none]
  exact ⟨(not_mem_actions hfresh).1, (not_mem_actions hfresh).2, by simp [applyMut, hid, install],
    by rw [runTest, runAllPre, if_pos hen]; rfl, by rw [runTest, runAllPost, if_pos hen]⟩

/-- a plugin removed by name from the body of test k (pairwise different names) sees nothing from
    test k+1 on; as for test k's own post action: the head of the chain still sees it (the walk
    starts at the head captured when the test started), any other plugin does not (its predecessor
    already skips it) -/
theorem removed_during_test_gone_from_next (c : Chain) (s s' : Store) (body b₂ : List Stmt) (name : String)
    (a a₂ : Nat) (hov : (runBody s 0 body).overflow = false) (hu : UniqueNames c) :
    (runScripted c s ⟨body, .remove name, a, .none⟩).2 = c.filter (fun q => q.name ≠ name) ∧
    name ∉ (runScripted (runScripted c s ⟨body, .remove name, a, .none⟩).2 s' ⟨b₂, .none, a₂, .none⟩).1.pre ∧
    name ∉ (runScripted (runScripted c s ⟨body, .remove name, a, .none⟩).2 s' ⟨b₂, .none, a₂, .none⟩).1.post ∧
    (∀ h rest, c = h :: rest → h.name = name →
      (runScripted c s ⟨body, .remove name, a, .none⟩).1.post = runAllPost c) ∧
    (∀ h rest, c = h :: rest → h.name ≠ name →
      (runScripted c s ⟨body, .remove name, a, .none⟩).1.post = runAllPost (c.filter (fun q => q.name ≠ name))) := by
  obtain ⟨hpost, hsnd⟩ := runScripted_of_fit c s body (.remove name) a hov
  have hc : applyMut (.remove name) c = c.filter (fun q => q.name ≠ name) :=
    remove_by_name_removes_exactly c name hu
  have hnot := not_mem_actions (not_mem_names_filter name c)
  rw [hpost, hsnd, hc, runScripted_none]
  refine ⟨rfl, hnot.1, hnot.2, ?_, ?_⟩
  · rintro hd rest rfl hn
    simp only [postChainAfterBody, hn, if_true]
  · rintro hd rest rfl hn
    simp only [postChainAfterBody, hn, if_false]
    rw [remove_by_name_removes_exactly _ name hu]

/-- a change made FROM a post action does not alter who sees that test's post action (every frame of
    the post recursion exists before the first post action runs); it shows from the next test on -/
theorem change_from_post_action (c : Chain) (s : Store) (body : List Stmt) (actor : Nat) (m : Mut)
    (hact : actorActs c actor = true) :
    (runScripted c s ⟨body, .none, actor, m⟩).1.post = runAllPost c ∧
    (runScripted c s ⟨body, .none, actor, m⟩).2 = applyMut m c := by
  refine ⟨by rw [runScripted_none]; rfl, ?_⟩
  rw [runScripted, effectiveBodyMut_none]
  exact if_pos hact

/-! ## non-vacuity -/

def exChain : Chain := installAll
  [⟨0, "a", true, .recording⟩, ⟨1, "set", true, .setPointer⟩, ⟨2, "b", false, .recording⟩, ⟨3, "c", true, .recording⟩]

example : HasActiveSet exChain ∧ UniqueNames exChain := by
  refine ⟨⟨⟨1, "set", true, .setPointer⟩, by decide, rfl, rfl⟩, by unfold UniqueNames; decide⟩
example : runAllPre exChain = ["c", "set", "a"] ∧ runAllPost exChain = ["a", "set", "c"] := by decide +kernel
/-- a stale entry and a new plugin object: a test redirects pointer 1 while the plugin is disabled, a
    new plugin is constructed, the next test redirects pointer 1 again: it comes back to the value
    the first test left, not to the original one -/
example :
    let c₀ : Chain := [⟨99, "SetPointerPlugin", false, .setPointer⟩]
    let c₁ : Chain := [⟨100, "SetPointerPlugin", true, .setPointer⟩]
    let s₁ := (runTest c₀ { mem := fun l => l, table := [] } [.set 1 1001]).store
    s₁.table.length = 1 ∧ (runTest c₁ (construct s₁) [.set 1 1002]).store.mem 1 = 1001 := by decide +kernel
example : (regRemove "a" exChain).map (·.name) = ["c", "b", "set"] := by decide +kernel
example : (runTest exChain { mem := fun l => l, table := [] } [.set 3 100, .set 3 200, .set 5 7, .stop, .set 6 1]).store.mem 3 = 3 := by
  decide +kernel

/-! ## the regenerated code (`Gen/PluginCode.lean`, translated from the clang AST of the current source)

`storeA`, `postA`, `constructA`, `ptrSetA` execute the statement lists regenerated from `CppUTestStore`,
`SetPointerPlugin::postTestAction`, the `SetPointerPlugin` constructor and the `UT_PTR_SET` macro on the
array-level state `Tab` (`pointerTableIndex`, `setlist[]`, an out-of-bounds flag).  The theorems below
say that this code, as the source has it at check time, refines the list-level model the theorems above
are about, never evaluates `setlist[e]` outside the array, and — composed over whole test histories —
restores every pointer. -/

open Gen.PluginCode

/-- the array is at least as long as the limit the guard of `CppUTestStore` compares with -/
theorem table_holds_limit : maxSet ≤ setlistLen := by decide

/-- **`CppUTestStore` as regenerated** refuses exactly when the list-level `store` refuses (and then
    changes nothing); otherwise it records exactly the entry `store` records, stays inside the array and
    keeps the state invariant. -/
theorem code_store_refines (t : Tab) (l : Loc) (h : WF t) :
    ((storeA t l).isFailed = true → store (absT t) l = none ∧ (storeA t l).tab = t) ∧
    ((storeA t l).isFailed = false → store (absT t) l = some (absT (storeA t l).tab) ∧ WF (storeA t l).tab) :=
  refines_of_sim (storeA_sim t l h)

/-- **`SetPointerPlugin::postTestAction` as regenerated** is the list-level `postAction`: it undoes the
    recorded entries from the most recent to the oldest, resets the index, and stays inside the array. -/
theorem code_post_refines (t : Tab) (h : WF t) : absT (postA t) = postAction (absT t) ∧ WF (postA t) := by
  refine ⟨?_, postA_wf h⟩
  rw [postA_eq t h.1 h.2.1]
  rfl

/-- **the constructor as regenerated** only resets the index -/
theorem code_construct_refines (t : Tab) (h : WF t) :
    absT (constructA t) = construct (absT t) ∧ WF (constructA t) := by
  rw [constructA_eq]
  exact ⟨rfl, h.reset t.mem⟩

/-- **`UT_PTR_SET` as regenerated** (record first, then assign) is the list-level `ptrSet` -/
theorem code_ptrSet_refines (t : Tab) (l : Loc) (v : Val) (h : WF t) :
    ((ptrSetA t l v).isFailed = true → ptrSet (absT t) l v = none ∧ (ptrSetA t l v).tab = t) ∧
    ((ptrSetA t l v).isFailed = false →
      ptrSet (absT t) l v = some (absT (ptrSetA t l v).tab) ∧ WF (ptrSetA t l v).tab) :=
  refines_of_sim (ptrSetA_sim t l v h)

/-- **a whole test body on the regenerated code** is the list-level body: same verdict, same number of
    redirections carried out, same memory and table, and the invariant (in particular: no access outside
    the array) holds at its end — for every body, any length, any targets -/
theorem code_body_refines : ∀ (body : List Stmt) (t : Tab) (n : Nat), WF t →
    absT (runBodyA t n body).tab = (runBody (absT t) n body).store ∧
    (runBodyA t n body).failed = (runBody (absT t) n body).failed ∧
    (runBodyA t n body).overflow = (runBody (absT t) n body).overflow ∧
    (runBodyA t n body).done = (runBody (absT t) n body).done ∧ WF (runBodyA t n body).tab :=
  fun body t n h => let r := runBodyA_refines body t n h; ⟨r.store, r.failed, r.overflow, r.done, r.wf⟩

/-- **Restore, on the code as it is at check time.**  A test that starts with an empty table and runs
    with an enabled pointer plugin: whatever its body does, after the regenerated `postTestAction` every
    location holds the value from before the test, the index is 0 and no `setlist[e]` was evaluated
    outside the array. -/
theorem restore_all_code (t : Tab) (body : List Stmt) (h : WF t) (hempty : t.idx = 0) :
    (∀ l, (runTestA true t body).mem l = t.mem l) ∧ (runTestA true t body).idx = 0 ∧
    (runTestA true t body).oob = false := by
  have r := runBodyA_refines body t 0 h
  exact postA_undoes r.wf hempty (by rw [r.store]; exact runBody_restore_inv body (absT t) 0)

/-- consecutive tests on the array-level state, each with or without an active pointer plugin -/
def runTestsA (t : Tab) : List (Bool × List Stmt) → Tab
  | [] => t
  | (active, b) :: rest => runTestsA (runTestA active t b) rest

/-- **Nothing is ever written past the table**: over any history of tests — any bodies, any number of
    redirections (also more than the limit), with the pointer plugin active, inactive or absent in any
    pattern, so that entries pile up across tests — the regenerated code never evaluates `setlist[e]`
    outside the array and the index stays within `0 .. MAX_SET`. -/
theorem never_past_the_table : ∀ (tests : List (Bool × List Stmt)) (t : Tab), WF t → WF (runTestsA t tests)
  | [], _, h => h
  | (active, b) :: rest, _, h => never_past_the_table rest _ (runTestA_wf active b h)

/-- **whole histories on the code**: with the pointer plugin active for every test, after any number of
    consecutive tests the memory is the initial one -/
theorem consecutive_tests_code : ∀ (bodies : List (List Stmt)) (t : Tab), WF t → t.idx = 0 →
    (∀ l, (runTestsA t (bodies.map (fun b => (true, b)))).mem l = t.mem l) ∧
    (runTestsA t (bodies.map (fun b => (true, b)))).idx = 0
  | [], _, _, h0 => ⟨fun _ => rfl, h0⟩
  | b :: rest, t, h, h0 => by
    obtain ⟨h1, h2, h3⟩ := restore_all_code t b h h0
    obtain ⟨h4, h5⟩ := consecutive_tests_code rest (runTestA true t b) (runTestA_wf true b h) h2
    exact ⟨fun l => by simp only [List.map_cons, runTestsA]; rw [h4 l, h1 l], by simpa [runTestsA] using h5⟩

/-- **the chain walks as regenerated** (`runAllPreTestAction`: own action then `next_`;
    `runAllPostTestAction`: `next_` then own action; both guarded by `enabled_`; the sentinel's overrides
    are empty) are the list-level `runAllPre` / `runAllPost` the order theorems are about -/
theorem code_walks_are_model (c : Chain) : runAllPreA c = runAllPre c ∧ runAllPostA c = runAllPost c := by
  induction c with
  | nil => exact ⟨rfl, rfl⟩
  | cons p rest ih =>
    simp only [runAllPreA, runAllPostA, preSteps, postSteps] at ih
    simp [runAllPreA, runAllPostA, walk, preSteps, postSteps, runAllPre, runAllPost, ih.1, ih.2]

/-- so, on the code as it is at check time: post order is the exact reverse of pre order, and after
    installing `ps` the pre actions run last-installed first over the enabled plugins -/
theorem code_order (ps : List Plugin) (c : Chain) :
    runAllPostA c = (runAllPreA c).reverse ∧
    runAllPreA (installAll ps) = ((ps.filter (·.enabled)).map (·.name)).reverse := by
  rw [(code_walks_are_model c).1, (code_walks_are_model c).2, (code_walks_are_model _).1]
  exact ⟨post_order_is_reverse_of_pre c, pre_order_is_install_reversed ps⟩

example : WF (Tab.init (fun l => l)) := by simp [WF, Tab.init, maxSet]
/-- 33 redirections of one pointer on the regenerated code: the last one is refused, nothing leaves the array,
    the pointer comes back -/
example :
    let body := (List.replicate 33 (Stmt.set 5 77)) ++ [.set 6 1]
    (runBodyA (Tab.init (fun l => l)) 0 body).overflow = true ∧ (runBodyA (Tab.init (fun l => l)) 0 body).done = 32 ∧
    (runBodyA (Tab.init (fun l => l)) 0 body).tab.oob = false ∧ (runBodyA (Tab.init (fun l => l)) 0 body).tab.mem 5 = 77 ∧
    (runTestA true (Tab.init (fun l => l)) body).mem 5 = 5 ∧ (runTestA true (Tab.init (fun l => l)) body).idx = 0 := by
  decide +kernel
example : runAllPreA exChain = ["c", "set", "a"] ∧ runAllPostA exChain = ["a", "set", "c"] := by decide +kernel

/-! ## redirections in `setup()`, the body and `teardown()` -/

/-- the invariant of `Utest::run`: undoing the table after the three phases gives the memory from which
    the table was started — whichever phases ran, failed, threw or hit the limit -/
theorem phases_restore_inv (s : Store) (t : Phases) :
    restore (runPhases s t).store.table (runPhases s t).store.mem = restore s.table s.mem :=
  runPhases_inv (fun r => restore r.store.table r.store.mem = restore s.table s.mem) s t
    (runBody_restore_inv t.setup s 0) fun r next h => (runBody_restore_inv next r.store r.done).trans h

theorem runTestP_store (c : Chain) (s : Store) (t : Phases) (hset : HasActiveSet c) (hempty : s.table = []) :
    (runTestP c s t).store = s :=
  postStore_restores hset (phases_restore_inv s t) hempty

/-- **Restore, for redirections made anywhere in the test**: in `setup()`, in the body, in `teardown()`
    — any number in each, repeated targets, any phase ending by a failure or an exception, the table
    filling up in any phase — with an enabled pointer plugin and an empty table at the start every location
    holds its old value after the post actions, and the table is empty. -/
theorem restore_all_phases (c : Chain) (s : Store) (t : Phases) (hset : HasActiveSet c) (hempty : s.table = []) :
    (∀ l, (runTestP c s t).store.mem l = s.mem l) ∧ (runTestP c s t).store.table = [] := by
  rw [runTestP_store c s t hset hempty]
  exact ⟨fun _ => rfl, hempty⟩

theorem runTestsP_store (c : Chain) (hset : HasActiveSet c) :
    ∀ (tests : List Phases) (s : Store), s.table = [] → runTestsP c s tests = s
  | [], _, _ => rfl
  | t :: rest, s, h => by
    rw [runTestsP, runTestP_store c s t hset h]
    exact runTestsP_store c hset rest s h

/-- … over any number of consecutive tests -/
theorem consecutive_tests_independent_phases (c : Chain) (hset : HasActiveSet c) :
    ∀ (tests : List Phases) (s : Store), s.table = [] →
      (∀ l, (runTestsP c s tests).mem l = s.mem l) ∧ (runTestsP c s tests).table = [] := by
  intro tests s h
  rw [runTestsP_store c hset tests s h]
  exact ⟨fun _ => rfl, h⟩

/-- the table never grows past the limit in any phase, and every redirection carried out is recorded -/
theorem phases_table_length (s : Store) (t : Phases) (h : s.table.length ≤ maxSet) :
    (runPhases s t).store.table.length = s.table.length + (runPhases s t).done ∧
    (runPhases s t).store.table.length ≤ maxSet := by
  have h0 := runBody_table_length t.setup s 0
  refine runPhases_inv (fun r => r.store.table.length = s.table.length + r.done ∧ r.store.table.length ≤ maxSet)
    s t ⟨h0.1, h0.2 h⟩ fun r next ⟨h1, h2⟩ => ?_
  obtain ⟨hn1, hn2⟩ := runBody_table_length next r.store r.done
  rw [h1, Nat.add_right_comm] at hn1
  exact ⟨Nat.add_right_cancel hn1, hn2 h2⟩

/-- **a failing `setup()` skips the body, never `teardown()`**: the redirections of `teardown()` are
    carried out (or refused at the limit) on what `setup()` left; a test that redirects only in its body is
    the body-only test of the theorems above -/
theorem failed_setup_skips_body_only (s : Store) (t : Phases) :
    ((runBody s 0 t.setup).failed = true → runPhases s t = (runBody s 0 t.setup).andThen t.teardown) ∧
    ((runBody s 0 t.setup).failed = false →
      runPhases s t = ((runBody s 0 t.setup).andThen t.body).andThen t.teardown) ∧
    (runPhases s ⟨[], t.body, []⟩).store = (runBody s 0 t.body).store ∧
    (runPhases s ⟨[], t.body, []⟩).done = (runBody s 0 t.body).done ∧
    (runPhases s ⟨[], t.body, []⟩).failed = (runBody s 0 t.body).failed := by
  refine ⟨fun h => by simp [runPhases, h], fun h => by simp [runPhases, h], ?_, ?_, ?_⟩ <;>
    simp [runPhases, runBody, BodyResult.andThen]

/-- a table filled in a failing `setup()` makes the first redirection of `teardown()` fail the test without
    writing anything -/
theorem limit_reached_in_setup_refuses_teardown (s : Store) (t : Phases) (l : Loc) (v : Val) (rest : List Stmt)
    (hfull : (runBody s 0 t.setup).store.table.length = maxSet) (hfail : (runBody s 0 t.setup).failed = true)
    (ht : t.teardown = .set l v :: rest) :
    (runPhases s t).overflow = true ∧ (runPhases s t).store = (runBody s 0 t.setup).store ∧
    (runPhases s t).done = (runBody s 0 t.setup).done := by
  rw [runPhases, if_pos hfail, ht, BodyResult.andThen, runBody_set, if_neg (Nat.not_lt.mpr (Nat.le_of_eq hfull.symm))]
  exact ⟨Bool.or_true _, rfl, rfl⟩

theorem code_phases_refine (t : Tab) (p : Phases) (h : WF t) :
    absT (runPhasesA t p).tab = (runPhases (absT t) p).store ∧
    (runPhasesA t p).failed = (runPhases (absT t) p).failed ∧
    (runPhasesA t p).overflow = (runPhases (absT t) p).overflow ∧
    (runPhasesA t p).done = (runPhases (absT t) p).done ∧ WF (runPhasesA t p).tab :=
  let r := runPhasesA_refines t p h; ⟨r.store, r.failed, r.overflow, r.done, r.wf⟩

/-- **Restore for redirections in every phase, on the code as it is at check time** -/
theorem restore_all_phases_code (t : Tab) (p : Phases) (h : WF t) (hempty : t.idx = 0) :
    (∀ l, (runTestPA true t p).mem l = t.mem l) ∧ (runTestPA true t p).oob = false := by
  have r := runPhasesA_refines t p h
  obtain ⟨h1, -, h3⟩ := postA_undoes r.wf hempty (by rw [r.store]; exact phases_restore_inv (absT t) p)
  exact ⟨h1, h3⟩

/-- setup fills the table to the limit and fails; teardown's redirection is refused; everything comes back -/
example :
    let t : Phases := ⟨(List.replicate 33 (Stmt.set 2 9)), [.set 3 1], [.set 4 1, .set 2 8]⟩
    let s : Store := { mem := fun l => l, table := [] }
    (runPhases s t).done = 32 ∧ (runPhases s t).overflow = true ∧ (runPhases s t).store.mem 3 = 3 ∧
    (runPhases s t).store.mem 4 = 4 ∧ (runPhases s t).store.mem 2 = 9 ∧ (runTestP exChain s t).store.mem 2 = 2 := by
  decide +kernel
/-- setup redirects and throws, the body is skipped, teardown redirects the same pointer again -/
example :
    let t : Phases := ⟨[.set 2 9, .stop], [.set 3 1], [.set 2 8]⟩
    let s : Store := { mem := fun l => l, table := [] }
    (runPhases s t).done = 2 ∧ (runPhases s t).store.mem 3 = 3 ∧ (runPhases s t).store.mem 2 = 8 ∧
    (runTestP exChain s t).store.mem 2 = 2 := by decide +kernel

/-! ## the command-line runner -/

/-- **A run through the command-line runner restores everything, with no hypothesis at all**: whatever
    plugins the registry holds (none, disabled ones, another pointer plugin), whatever earlier tests left
    recorded in the table, for any number of repetitions of any list of tests with any bodies and outcomes —
    the runner's own freshly constructed plugin starts with an empty table and sees every post action, so
    after the run every location holds the value it had before the run and the table is empty. -/
theorem cli_run_restores (id : Nat) (c : Chain) (s : Store) (n : Nat) (bodies : List (List Stmt)) :
    (∀ l, (runCli id c s n bodies).2.mem l = s.mem l) ∧ (runCli id c s n bodies).2.table = [] := by
  rw [show (runCli id c s n bodies).2 = construct s from
    runRepeated_store _ (cliPlugin_active id c) bodies n (construct s) rfl]
  exact ⟨fun _ => rfl, rfl⟩

/-- … and every single test of every repetition is restored (not only the run as a whole): the store
    between any two tests of the run is the memory from before the run with an empty table -/
theorem cli_every_test_restored (id : Nat) (c : Chain) (s : Store) (before : List (List Stmt)) (body : List Stmt) :
    (∀ l, (runTest (install c (cliPlugin id)) (runTests (install c (cliPlugin id)) (construct s) before) body).store.mem l
        = s.mem l) ∧
    (runTest (install c (cliPlugin id)) (runTests (install c (cliPlugin id)) (construct s) before) body).store.table = [] := by
  rw [runTests_store _ (cliPlugin_active id c) before (construct s) rfl,
    runTest_store _ _ body (cliPlugin_active id c) rfl]
  exact ⟨fun _ => rfl, rfl⟩

-- `hu` is not needed (only the runner's own name must be free): `regRemove_install`
/-- **The runner leaves the registry's chain as it found it**: its remove-by-name removes exactly the plugin
    it installed, provided no installed plugin carries the runner's name (pairwise different names). -/
theorem cli_run_leaves_chain (id : Nat) (c : Chain) (s : Store) (n : Nat) (bodies : List (List Stmt))
    (hu : UniqueNames c) (hfree : Gen.Plugins.cliSetPointerName ∉ c.map (·.name)) :
    (runCli id c s n bodies).1 = c :=
  regRemove_install c (cliPlugin id) hfree

/-- stale entries and a full table before the run do not matter: 40 redirections recorded by a test that ran
    without a plugin, then a run of two tests three times over -/
example :
    let s₀ := (runTest [] { mem := fun l => l, table := [] } (setsOf ((List.range 40).map (fun i => (i % 3, 100 + i))))).store
    s₀.table.length = 32 ∧
    (runCli 98 exChain s₀ 3 [[.set 1 7, .set 1 8, .stop], [.set 2 9]]).2.table = [] ∧
    (runCli 98 exChain s₀ 3 [[.set 1 7, .set 1 8, .stop], [.set 2 9]]).2.mem 1 = s₀.mem 1 := by decide +kernel

end Plugins
