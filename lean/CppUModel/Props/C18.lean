import CppUModel.Proofs.Cache
import CppUModel.Proofs.CacheHeap
/-!
# C18 — the string buffer cache never aliases live buffers and gives everything back

The theorems C18 stands for, first on the list model (`CppUModel/Model/Cache.lean`, from
`src/CppUTest/SimpleStringInternalCache.cpp`; vocabulary: `CppUModel/Spec/Cache.lean`), then, in the second half, the
refinement of that model by the regenerated member functions run over a heap.
Ids stand for blocks of the underlying allocator; distinct live ids are disjoint memory
(the platform allocator's contract, which the environment hypothesis `Fresh` states).
-/
namespace Cache

/-- One step neither forgets nor invents an underlying allocation:
    held-after + returned-to-allocator = held-before + obtained-from-allocator (as multisets). -/
theorem conservation (s : State) (op : Op) :
    ((step s op).1.liveIds ++ freed (step s op).2).Perm (s.liveIds ++ allocd (step s op).2) := by
  obtain ⟨_, _, h, he, _⟩ := step_effect s op
  exact h.conservation he

/-- The same for every history, of any length. -/
theorem run_conservation : ∀ (ops : List Op) (s : State),
    ((run s ops).1.liveIds ++ freed (run s ops).2).Perm (s.liveIds ++ allocd (run s ops).2)
  | [], s => by simp [run, freed, allocd]
  | op :: ops, s => by
    simp only [run, freed_append, allocd_append]
    exact ListLemmas.perm_balance_trans (conservation s op) (run_conservation ops (step s op).1)

theorem run_append (s : State) (a b : List Op) :
    run s (a ++ b) = ((run (run s a).1 b).1, (run s a).2 ++ (run (run s a).1 b).2) := by
  induction a generalizing s with
  | nil => simp [run]
  | cons op a ih => simp only [List.cons_append, run, ih]; simp [List.append_assoc]

/-- No underlying allocation is referenced twice (so no buffer is in two lists, or twice
    in one list, and list nodes are not shared): a step keeps it so (`inv_run`: every reachable state). -/
theorem nodup_step (s : State) (op : Op) (hinv : s.liveIds.Nodup) (hf : Fresh s op) :
    (step s op).1.liveIds.Nodup := by
  obtain ⟨gone, new, h, _, rfl | ⟨sz, n, m, k, rfl, rfl, rfl⟩⟩ := step_effect s op
  · exact h.nodup_new (by simpa using hinv)
  · obtain ⟨h1, h2, h3⟩ := hf
    refine h.nodup_new (List.nodup_append.mpr ⟨hinv, by simp [Block.ids, h3], ?_⟩)
    intro a ha b hb hab; subst hab
    simp only [List.flatMap_cons, List.flatMap_nil, List.append_nil, Block.ids, List.mem_cons, List.not_mem_nil, or_false] at hb
    rcases hb with rfl | rfl
    · exact h1 ha
    · exact h2 ha

/-- The cache only returns to the underlying allocator blocks it holds, each at most once per
    operation: no double free and no foreign free. -/
theorem frees_only_live_once (s : State) (op : Op) (hinv : s.liveIds.Nodup) :
    (freed (step s op).2).Nodup ∧ ∀ i ∈ freed (step s op).2, i ∈ s.liveIds := by
  rcases allocd_step s op with h | ⟨sz, n, m, rfl, _, h⟩
  · have hc := conservation s op
    rw [h, List.append_nil] at hc
    have hn := (hc.nodup_iff).mpr hinv
    exact ⟨(List.nodup_append.mp hn).2.1, fun i hi => hc.subset (List.mem_append_right _ hi)⟩
  · rw [h]; simp

/-- After `clearAllIncludingCurrentlyUsedMemory` the cache holds nothing but its node table:
    together with `conservation`/`frees_only_live_once`, everything obtained was returned
    exactly once. -/
theorem clearAll_returns_everything (s : State) :
    (clearAll s).1.liveIds = s.table.toList := by
  rw [State.liveIds, clearAll_blocks]; simp [clearAll]

/-- `clearCache` empties exactly the free lists: buffers in use stay where they are. -/
theorem clearCache_keeps_used (s : State) :
    (clearCache s).1.usedMems = s.usedMems ∧ (clearCache s).1.freeMems = [] := by
  simp only [clearCache, State.usedMems, State.freeMems]
  constructor
  · congr 2
    induction s.classes with
    | nil => simp
    | cons c cs ih => simp [ih]
  · induction s.classes with
    | nil => simp
    | cons c cs ih => simp at ih ⊢

/-- **No aliasing.** The buffer returned by `alloc` is not one that is currently handed out. -/
theorem alloc_not_in_use (s : State) (size n m : Nat) (hinv : s.liveIds.Nodup)
    (hf : Fresh s (.alloc size n m)) :
    ∀ r ∈ returned (alloc s size n m).2, r ∉ s.usedMems := by
  intro r hr
  rcases alloc_returned s size n m r hr with rfl | ⟨c, b, rest, hc, hfr, rfl⟩
  · exact fun h => hf.2.1 (usedMems_sub_liveIds s _ h)
  · exact free_not_used s hinv _ c hc b rest hfr

/-! ### sizes and size classes -/

/-- `getIndexForCache` on the regenerated class table: a cached size lands in the least class
    that fits it. -/
theorem indexFor_fits (cs : List Class) (size : Nat)
    (hcs : cs.map (·.size) = Gen.Cache.classSizes) (hsz : isCached size = true) :
    ∃ c, cs[indexFor cs size]? = some c ∧ size ≤ c.size ∧
      ∀ j, j < indexFor cs size → ∀ d, cs[j]? = some d → d.size < size := by
  -- the table has a class of the cached limit, so some class fits
  have hex : ∃ d ∈ cs, size ≤ d.size := by
    have : Gen.Cache.cachedLimit ∈ cs.map (·.size) := by rw [hcs]; decide
    obtain ⟨d, hd, hds⟩ := List.mem_map.mp this
    exact ⟨d, hd, hds ▸ of_decide_eq_true hsz⟩
  unfold indexFor
  cases hfi : cs.findIdx? (fun c => decide (size ≤ c.size)) with
  | none =>
    rw [List.findIdx?_eq_none_iff] at hfi
    obtain ⟨d, hd, hle⟩ := hex
    have := hfi d hd; simp at this; omega
  | some i =>
    rw [List.findIdx?_eq_some_iff_getElem] at hfi
    obtain ⟨hi, hp, hlt⟩ := hfi
    refine ⟨cs[i], by simp [hi], by simpa using hp, ?_⟩
    intro j hj d hd
    simp only at hj
    have hjl : j < cs.length := by omega
    have := hlt j hj
    rw [List.getElem?_eq_getElem hjl] at hd
    cases hd; simpa using this

theorem sizesOk_step (s : State) (op : Op) (hok : SizesOk s) : SizesOk (step s op).1 := by
  obtain ⟨_, _, h, _⟩ := step_effect s op
  exact h.sizesOk hok

theorem inv_step (s : State) (op : Op) (hinv : Inv s) (hf : Fresh s op) : Inv (step s op).1 :=
  ⟨nodup_step s op hinv.1 hf, sizesOk_step s op hinv.2⟩

theorem inv_run : ∀ (ops : List Op) (s : State), Inv s → FreshAll s ops → Inv (run s ops).1
  | [], _, h, _ => h
  | op :: ops, s, h, hf => inv_run ops _ (inv_step s op h hf.1) hf.2

theorem inv_create (t : Nat) : Inv (create t).1 := by
  constructor
  · rw [create_liveIds]; simp
  · constructor
    · simp [create, List.map_map]; rfl
    · intro c hc b hb
      simp [create] at hc
      obtain ⟨_, _, rfl⟩ := hc
      simp [Class.blocks] at hb

/-- **Big enough, own class only.** Whatever `alloc(size)` returns is a buffer that was obtained
    from the underlying allocator with at least `size` bytes; for a cached size it is a buffer of
    exactly the size of the least class that fits — whether fresh or reused. -/
theorem alloc_size_ge (s : State) (size n m : Nat) (hok : SizesOk s) :
    ∃ b, (alloc s size n m).2.getLast? = some (.ret b.mem) ∧
      b.mem ∈ (alloc s size n m).1.usedMems ∧ size ≤ b.msize ∧
      (isCached size = true →
        ∃ c, s.classes[indexFor s.classes size]? = some c ∧ b.msize = c.size ∧
          b ∈ ((alloc s size n m).1.classes[indexFor s.classes size]?.map (·.used)).getD []) := by
  unfold alloc
  split
  · next hcached =>
    obtain ⟨c, hc, hle, _⟩ := indexFor_fits s.classes size hok.1 hcached
    rw [hc]
    have hi := (List.getElem?_eq_some_iff.mp hc).1
    simp only
    unfold allocCached
    split
    · next b rest hf =>
      have hbs : b.msize = c.size := hok.2 c (List.mem_of_getElem? hc) b (by simp [Class.blocks, hf])
      refine ⟨b, by simp, ?_, by omega, fun _ => ⟨c, rfl, hbs, by simp [hi]⟩⟩
      exact mem_usedMems_of_class _ (indexFor s.classes size) _ (by simp [hi]; rfl) b (by simp)
    · refine ⟨⟨n, m, c.size⟩, by simp [createEvs], ?_, hle, fun _ => ⟨c, rfl, rfl, by simp [hi]⟩⟩
      exact mem_usedMems_of_class _ (indexFor s.classes size) _ (by simp [hi]; rfl) ⟨n, m, c.size⟩ (by simp)
  · next hnc =>
    refine ⟨⟨n, m, size⟩, by simp [createEvs], ?_, Nat.le_refl _, fun h => absurd h hnc⟩
    simp [State.usedMems]

/-! ### releasing something the cache does not know -/

/-- Releasing a buffer that is not handed out (for its size class / the uncached list) changes
    nothing except that the warning is printed the first time. No crash, no list surgery. -/
theorem unknown_release (s : State) (m size : Nat)
    (hunk : if isCached size then
              ∀ c, s.classes[indexFor s.classes size]? = some c → ∀ b ∈ c.used, b.mem ≠ m
            else ∀ b ∈ s.uncached, b.mem ≠ m)
    (hcls : isCached size = true → ∃ c, s.classes[indexFor s.classes size]? = some c) :
    dealloc s m size = warnOnce s := by
  unfold dealloc
  split
  · next hc =>
    simp only [hc, if_true] at hunk
    obtain ⟨c, hcc⟩ := hcls hc
    rw [hcc]
    simp only [deallocCached, (unlink_eq_none_iff _ _).mpr (hunk c hcc)]
  · next hc =>
    simp only [hc] at hunk
    simp only [deallocUncached, (unlink_eq_none_iff _ _).mpr hunk]

theorem warnOnce_spec (s : State) :
    (warnOnce s).1 = { s with warned := true } ∧
    (warnOnce s).2 = (if s.warned then [] else [.warn]) := by
  unfold warnOnce
  cases s with
  | mk t cs u w => cases w <;> exact ⟨rfl, rfl⟩

/-- A known buffer released with any size of the same class behaves identically. -/
theorem wrong_size_same_class (s : State) (m size size' : Nat)
    (h1 : isCached size = true) (h2 : isCached size' = true)
    (hi : indexFor s.classes size = indexFor s.classes size') :
    dealloc s m size = dealloc s m size' := by
  simp [dealloc, h1, h2, hi]

/-- A release of a handed-out buffer puts exactly that buffer back: it leaves the used lists and
    nothing else does. -/
theorem release_removes_exactly (c : Class) (m : Nat) (b : Block)
    (used' : List Block) (hu : unlink c.used m = some (b, used')) :
    b.mem = m ∧ c.used.Perm (b :: used') := unlink_perm _ _ _ _ hu

/-- Any history from construction that ends with `clearAll`: every block obtained from the
    underlying allocator (other than the node table, which the destructor returns) has been given
    back — and by `frees_only_live_once` none twice. -/
theorem history_then_clearAll (t : Nat) (ops : List Op) :
    let r := run (create t).1 (ops ++ [.clearAll])
    (freed r.2 ++ [t]).Perm (t :: allocd r.2) ∧ r.1.liveIds = [t] := by
  have h2 : (run (create t).1 (ops ++ [.clearAll])).1.liveIds = [t] := by
    rw [run_append]
    simp only [run, step]
    rw [clearAll_returns_everything, run_table]; rfl
  refine ⟨?_, h2⟩
  have hc := run_conservation (ops ++ [.clearAll]) (create t).1
  rw [h2, create_liveIds] at hc
  exact List.perm_append_comm.trans hc

/-- **Destroyed ⇒ everything returned.** Whatever state the global string cache is in (buffers still
    handed out, buffers in free lists, uncached buffers), after `~GlobalSimpleStringCache()` it holds
    no underlying allocation at all.  Depends on the regenerated fact that the destructor calls
    `clearAllIncludingCurrentlyUsedMemory` (a destructor that only calls `clearCache` breaks this
    obligation). -/
theorem globalDestroy_returns_everything (s : State) : (globalDestroy s).1.liveIds = [] := by
  have hall : Gen.Cache.globalDtorClearsAll = true := by decide
  unfold globalDestroy
  simp only [hall, if_true]
  rw [destroy_liveIds, clearAll_blocks]; rfl

/-- and what it gives back is exactly what it held (nothing twice, nothing foreign) -/
theorem globalDestroy_conservation (s : State) :
    (freed (globalDestroy s).2).Perm s.liveIds := by
  have hall : Gen.Cache.globalDtorClearsAll = true := by decide
  unfold globalDestroy
  simp only [hall, if_true]
  obtain ⟨_, h, he⟩ := clearAll_effect s
  have hc := h.conservation he
  rw [clearAll_returns_everything, he.allocd] at hc
  simp only [List.flatMap_nil, List.append_nil] at hc
  have hd : freed (destroy (clearAll s).1).2 = s.table.toList := by
    have htab : (clearAll s).1.table = s.table := rfl
    unfold destroy
    rw [htab]
    cases s.table <;> rfl
  rw [freed_append, hd]
  exact List.perm_append_comm.trans hc

/-! ### non-vacuity: the hypotheses are met by concrete, non-trivial states -/

/-- a state reached by a real history: two buffers of class 32 (one released), one uncached -/
def sample : State :=
  (run (create 1).1 [.alloc 10 2 3, .alloc 20 4 5, .alloc 300 6 7, .dealloc 3 10]).1

example : Inv sample ∧ sample.usedMems = [5, 7] ∧ sample.freeMems = [3] := by
  refine ⟨inv_run _ _ (inv_create 1) (by simp [FreshAll, Fresh]; decide), by decide, by decide⟩

example : Fresh sample (.alloc 10 8 9) := by simp [Fresh]; decide
example : returned (alloc sample 10 8 9).2 = [3] := by decide   -- reuse from the free list
example : returned (alloc sample 40 8 9).2 = [9] := by decide   -- other class: fresh buffer

/-! ### the global cache object, its allocator adaptor, strings -/

/-- `~GlobalSimpleStringCache()` re-installs the allocator that was current at construction, whatever
    has been installed in between. -/
theorem gdestroy_restores_saved (cur a : AllocRef) (t : Nat) :
    (gdestroy (gswap (gcreate cur t) a)).1 = cur := rfl

/-- while the global cache exists, strings go through its adaptor; the blocks come from (and go back to)
    the allocator that was current at construction, also after somebody installed another one -/
theorem gcreate_installs (cur : AllocRef) (t : Nat) (a : AllocRef) :
    (gcreate cur t).strAlloc = .cache ∧ (gcreate cur t).underlying = cur ∧
      (gswap (gcreate cur t) a).underlying = cur := ⟨rfl, rfl, rfl⟩

/-- destruction of the global cache object in any state returns everything -/
theorem gdestroy_returns_everything (g : GState) : (gdestroy g).2.1.liveIds = [] :=
  globalDestroy_returns_everything g.cache

/-- the adaptor's `name()` is the regenerated literal; the other two names are the saved allocator's -/
theorem adaptorNames_spec (a f : String) : adaptorNames a f = [Gen.Cache.adaptorName, a, f] := rfl

/-- **Whole life of a global cache object**: any history from construction followed by destruction
    returns every underlying block exactly once (the multiset of frees equals the multiset of allocations,
    node table included) and holds nothing afterwards. -/
theorem history_then_globalDestroy (t : Nat) (ops : List Op) :
    let r := run (create t).1 ops
    let d := globalDestroy r.1
    (freed (r.2 ++ d.2)).Perm (t :: allocd r.2) ∧ d.1.liveIds = [] := by
  refine ⟨?_, globalDestroy_returns_everything _⟩
  have h1 := run_conservation ops (create t).1
  have h2 := globalDestroy_conservation (run (create t).1 ops).1
  rw [create_liveIds] at h1
  rw [freed_append]
  exact (h2.append_left _).trans (List.perm_append_comm.trans h1)

/-- `SimpleString::operator+=`: the buffer handed out for the longer string is never the buffer that is
    about to be released (the new one is obtained first) -/
theorem stringAppend_fresh_buffer (s : State) (oldMem len k n m : Nat) (hinv : s.liveIds.Nodup)
    (hf : Fresh s (.alloc (stringBufferSize (len + k)) n m)) (hold : oldMem ∈ s.usedMems) :
    ∀ r ∈ returned (alloc s (stringBufferSize (len + k)) n m).2, r ≠ oldMem := by
  intro r hr h
  exact alloc_not_in_use s _ n m hinv hf r hr (h ▸ hold)

/-- a string of `len` characters gets a buffer with room for the terminator -/
theorem string_buffer_fits (s : State) (len n m : Nat) (hok : SizesOk s) :
    ∃ b : Block, (alloc s (stringBufferSize len) n m).2.getLast? = some (.ret b.mem) ∧ len + 1 ≤ b.msize := by
  obtain ⟨b, h1, _, h3, _⟩ := alloc_size_ge s (stringBufferSize len) n m hok
  exact ⟨b, h1, h3⟩

/-- `hasFreeBlocksOfSize` is exactly "the next `alloc` of that size asks the allocator for nothing" -/
theorem hasFree_iff_no_underlying_alloc (s : State) (size n m : Nat) (hok : SizesOk s) (hc : isCached size = true) :
    hasFree s size = true ↔ allocd (alloc s size n m).2 = [] := by
  obtain ⟨c, hcc, _, _⟩ := indexFor_fits s.classes size hok.1 hc
  unfold hasFree alloc
  simp only [hc, if_true, hcc]
  unfold allocCached
  cases hfr : c.free with
  | nil => simp [allocd, createEvs]
  | cons b rest => simp [allocd]

/-- **No aliasing along a whole history**: at every step of every history from construction, what
    `alloc` returns is not handed out at that moment. -/
theorem run_no_aliasing (t : Nat) (pre : List Op) (size n m : Nat)
    (hfresh : FreshAll (create t).1 (pre ++ [.alloc size n m])) :
    ∀ r ∈ returned (alloc (run (create t).1 pre).1 size n m).2, r ∉ (run (create t).1 pre).1.usedMems := by
  obtain ⟨h1, h2, _⟩ := (freshAll_append pre _ _).mp hfresh
  exact alloc_not_in_use _ size n m (inv_run pre _ (inv_create t) h1).1 h2

example : FreshAll (create 1).1 ([.alloc 10 2 3, .dealloc 3 10] ++ [.alloc 20 4 5]) := by
  simp [FreshAll, Fresh]; decide
example : (gdestroy (gswap (gcreate .orig 1) .other)).1 = .orig := by decide
example : hasFree sample 10 = true ∧ hasFree sample 40 = false := by decide
example : sample.usedMems = [5, 7] ∧ returned (alloc sample (stringBufferSize (3 + 5)) 8 9).2 = [3] := by decide
end Cache

/-! ## The pointer level: the member functions as regenerated from the C++ source

`Gen/CacheCode.lean` holds `alloc`, `dealloc`, `clearCache`, `clearAllIncludingCurrentlyUsedMemory` and
`getIndexForCache` (callees inlined) in the statement language of `Model/CacheSyntax.lean`, regenerated from
`SimpleStringInternalCache.cpp` on every run; `Model/CacheHeap.lean` interprets them over a heap of
`SimpleStringMemoryBlock` cells.  The theorems below are ABOUT THOSE REGENERATED PROGRAMS (an edit of the C++
that changes a statement changes the program and breaks them). -/
namespace Cache.Heap
open Gen.Cache.Code

theorem allocH_refines (f : Nat) (hs : HState) (s : State) (size n m : Nat)
    (hrep : Rep hs s) (hinv : Inv s) (hf : FreshH s (.alloc size n m)) :
    ∃ hs', allocH (f + 40) hs size n m = .ok (hs', (alloc s size n m).2) ∧ Rep hs' (alloc s size n m).1 := by
  obtain ⟨⟨hn, hm, hnm⟩, hn0⟩ := hf
  have hfresh : ∀ cells' : Nat → Option Cell, (∀ q, q ≠ n → q ≠ m → cells' q = hs.cells q) →
      ∀ q ∈ s.liveIds, cells' q = hs.cells q := fun cells' h q hq =>
    h _ (fun e => hn (e ▸ hq)) (fun e => hm (e ▸ hq))
  unfold alloc
  by_cases hcached : isCached size = true
  · have hsz : size ≤ 256 := of_decide_eq_true hcached
    simp only [hcached, if_true]
    obtain ⟨c, hc, _, _⟩ := indexFor_fits s.classes size hinv.2.1 hcached
    rw [hc]; simp only
    obtain ⟨nd, hnd, hsize, hfl, hul, hnf, _, hfu⟩ := rep_class hs s hrep hinv.1 _ c hc
    have hi := indexForH_eq hs s hrep size
    unfold allocCached
    cases hfr : c.free with
    | nil =>
      rw [hfr] at hfl
      obtain ⟨cells', hrun, hcn, hoff⟩ := allocH_new f hs size n m _ nd hsz hi hnd hfl hnm
      refine ⟨_, hsize ▸ hrun, ?_⟩
      exact rep_set_class hs _ s hrep _ c _ nd _ hc hnd rfl rfl rfl hinv.1 (fun q hq _ => hfresh cells' hoff q hq) rfl
        hfl ⟨hn0, rfl, nd.used, hcn, isList_frame hs.cells _ _ _
          (fun b hb => hfresh cells' hoff _ (node_live s b (class_block_mem s _ c hc b (by simp [hb])))) hul⟩
    | cons b rest =>
      rw [hfr] at hfl hnf hfu
      obtain ⟨hp0, hpb, nx, hcell, hrest⟩ := hfl
      refine ⟨_, allocH_reserve f hs size n m _ nd nd.free nx b.mem hsz hi hnd rfl hp0 hcell, ?_⟩
      have hnf' := nodes_nodup_of_ids _ hnf
      rw [List.map_cons, List.nodup_cons] at hnf'
      rw [hpb]
      exact rep_set_class hs _ s hrep _ c _ nd _ hc hnd rfl rfl rfl hinv.1
        (fun q _ hq => by
          have : q ≠ b.node := fun e => hq (List.mem_flatMap.mpr ⟨b, by simp [hfr], e ▸ node_mem_ids b⟩)
          simp [setCell, this]) hsize
        (isList_setCell _ (fun x hx h => hnf'.1 (List.mem_map.mpr ⟨x, hx, h⟩)) hrest)
        ⟨hpb ▸ hp0, rfl, nd.used, by simp [setCell],
          isList_setCell _ (fun x hx => (hfu b (by simp) x hx _ (node_mem_ids b) _ (node_mem_ids x)).symm) hul⟩
  · have hsz : ¬ size ≤ 256 := fun h => hcached (decide_eq_true h)
    simp only [hcached]
    obtain ⟨cells', hrun, hcn, hoff⟩ := allocH_uncached f hs size n m hsz hnm
    exact ⟨_, hrun, rep_set_uncached hs _ s hrep _ rfl rfl hinv.1
      (fun q hq _ => hfresh cells' hoff q hq)
      ⟨hn0, rfl, hs.nonCached, hcn, isList_frame hs.cells _ _ _
        (fun b hb => hfresh cells' hoff _ (node_live s b (uncached_block_mem s b hb))) hrep.unc⟩⟩

theorem rep_create (t : Nat) : Rep createH (create t).1 := by
  refine ⟨by simp [createH, create], ?_, rfl, rfl⟩
  intro i nd c hn hc
  simp only [createH, create, List.getElem?_map] at hn hc
  cases h : Gen.Cache.classSizes[i]? with
  | none => simp [h] at hn
  | some sz =>
    simp [h] at hn hc
    subst hn; subst hc
    exact ⟨rfl, rfl, rfl⟩

theorem deallocH_refines (f : Nat) (hs : HState) (s : State) (m size : Nat)
    (hrep : Rep hs s) (hinv : Inv s) (hfuel : s.blocks.length ≤ f) :
    ∃ hs', deallocH (f + 60) hs m size = .ok (hs', (dealloc s m size).2) ∧ Rep hs' (dealloc s m size).1 := by
  unfold dealloc
  by_cases hcached : isCached size = true
  · simp only [hcached, if_true]
    obtain ⟨c, hc, _, _⟩ := indexFor_fits s.classes size hinv.2.1 hcached
    rw [hc]
    exact deallocH_cached_refines f hs s m size hrep hinv hcached c hc
      (Nat.le_trans (free_length_le s _ c hc).2 hfuel)
  · simp only [hcached]
    exact deallocH_uncached_refines f hs s m size hrep hinv hcached (Nat.le_trans (uncached_length_le s) hfuel)

/-- **Refinement, one operation.**  The member functions as regenerated from the C++ source, run at
    pointer level on a heap that represents the list-level state, never touch a dead or NULL pointer,
    terminate, produce exactly the allocator traffic / return value / warning of the list model, and leave a
    heap that represents the list model's next state. -/
theorem stepH_refines (f : Nat) (hs : HState) (s : State) (op : Op)
    (hrep : Rep hs s) (hinv : Inv s) (hf : FreshH s op) (hfuel : s.blocks.length ≤ f) :
    ∃ hs', stepH (f + 60) hs op = .ok (hs', (step s op).2) ∧ Rep hs' (step s op).1 := by
  cases op with
  | alloc sz n m =>
    have := allocH_refines (f + 20) hs s sz n m hrep hinv hf
    simpa [stepH, step, Nat.add_assoc] using this
  | dealloc m sz => exact deallocH_refines f hs s m sz hrep hinv hfuel
  | clearCache =>
    have := clearCacheH_refines (f + 10) hs s hrep hinv (by omega)
    simpa [stepH, step, Nat.add_assoc] using this
  | clearAll => exact clearAllH_refines f hs s hrep hinv hfuel

def runH (fuel : Nat) : HState → List Op → Except String (HState × List Ev)
  | hs, [] => .ok (hs, [])
  | hs, op :: ops =>
    match stepH fuel hs op with
    | .ok (hs1, e1) =>
      (match runH fuel hs1 ops with
       | .ok (hs2, e2) => .ok (hs2, e1 ++ e2)
       | .error m => .error m)
    | .error m => .error m

-- `FreshH` at every step of a history (the pointer-level counterpart of `FreshAll`)
def FreshAllH : State → List Op → Prop
  | _, [] => True
  | s, op :: ops => FreshH s op ∧ FreshAllH (step s op).1 ops

theorem freshAll_of_freshAllH : ∀ (ops : List Op) (s : State), FreshAllH s ops → FreshAll s ops
  | [], _, _ => trivial
  | op :: ops, s, h => by
    refine ⟨?_, freshAll_of_freshAllH ops _ h.2⟩
    cases op with
    | alloc sz n m => exact h.1.1
    | dealloc m sz => trivial
    | clearCache => trivial
    | clearAll => trivial

theorem blocks_length_step (s : State) (op : Op) : (step s op).1.blocks.length ≤ s.blocks.length + 1 := by
  obtain ⟨gone, new, h, _, rfl | ⟨sz, n, m, k, rfl, rfl, rfl⟩⟩ := step_effect s op
  · exact Nat.le_succ_of_le h.length_le
  · exact h.length_le

/-- **Refinement, whole histories.**  From construction, over any history of any length (fresh non-NULL
    ids from the allocator), the pointer-level run of the regenerated code succeeds (no dead pointer is
    touched, every list walk ends) and produces exactly the list model's event trace; the final heap
    represents the list model's final state.  Hence every list-level theorem of this file
    (conservation, no aliasing, sizes, clearAll, unknown release) holds of what the source says. -/
theorem runH_refines : ∀ (ops : List Op) (f : Nat) (hs : HState) (s : State),
    Rep hs s → Inv s → FreshAllH s ops → s.blocks.length + ops.length ≤ f →
    ∃ hs', runH (f + 60) hs ops = .ok (hs', (run s ops).2) ∧ Rep hs' (run s ops).1
  | [], _, hs, _, hrep, _, _, _ => ⟨hs, rfl, hrep⟩
  | op :: ops, f, hs, s, hrep, hinv, hfr, hfuel => by
    simp only [List.length_cons] at hfuel
    obtain ⟨hs1, h1, hrep1⟩ := stepH_refines f hs s op hrep hinv hfr.1 (by omega)
    have hfa := freshAll_of_freshAllH (op :: ops) s hfr
    have hinv1 := inv_step s op hinv hfa.1
    have hb := blocks_length_step s op
    obtain ⟨hs2, h2, hrep2⟩ := runH_refines ops f hs1 (step s op).1 hrep1 hinv1 hfr.2 (by omega)
    refine ⟨hs2, ?_, by simpa [run] using hrep2⟩
    simp only [runH, h1, h2, run]

theorem history_refines (t : Nat) (ops : List Op) (f : Nat) (hfr : FreshAllH (create t).1 ops)
    (hfuel : ops.length ≤ f) :
    ∃ hs', runH (f + 60) createH ops = .ok (hs', (run (create t).1 ops).2) ∧
      Rep hs' (run (create t).1 ops).1 :=
  runH_refines ops f createH (create t).1 (rep_create t) (inv_create t) hfr (by
    have : (create t).1.blocks.length = 0 := by
      simp [create, State.blocks, Class.blocks, Gen.Cache.classSizes]
    omega)

/-- **`getIndexForCache` as regenerated (the C++ loop, run by the interpreter) is `indexFor`**, for every
    size — including the sizes above the cached limit, where the loop runs out and returns 0. -/
theorem getIndexH_eq (f : Nat) (hs : HState) (size : Nat)
    (hsizes : hs.nodes.map (·.size) = Gen.Cache.classSizes) :
    getIndexH (f + 30) hs size = .ok (indexForH hs.nodes size) :=
  getIndexH_of_length f hs size (by
    have := congrArg List.length hsizes; simpa [Gen.Cache.classSizes] using this)

example : FreshAllH (create 1).1 [.alloc 10 2 3, .alloc 20 4 5, .alloc 300 6 7, .dealloc 3 10, .clearCache, .clearAll] := by
  simp [FreshAllH, FreshH, Fresh]; decide

/-- the reference decomposition is the regenerated code (tripwires for every list-manipulating function) -/
theorem regenerated_code_is_reference :
    deallocProg = deallocRef ∧ clearCacheProg = clearCacheRef ∧ clearAllProg = clearAllRef :=
  ⟨deallocProg_eq_ref, clearCacheProg_eq_ref, clearAllProg_eq_ref⟩

end Cache.Heap
