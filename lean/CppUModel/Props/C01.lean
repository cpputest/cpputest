import CppUModel.Proofs.Runner
import CppUModel.Proofs.RunnerCode
import CppUModel.Proofs.RunnerReader
/-!
# C01 — a failing check always fails the run: lifecycle, failure count, exit value

Several of the property theorems are the closed forms of `Proofs/Runner.lean` under the name the property list uses, with
the depth hypotheses spelt out.  Model: `CppUModel/Model/Runner.lean` (from `Utest.cpp`,
`UtestPlatform.cpp`, `TestResult`, `TestOutput.cpp`, `TestPlugin.cpp`, `TestRegistry.cpp`,
`CommandLineTestRunner.cpp`); vocabulary (textbook reading of the property, console reader):
`CppUModel/Spec/Runner.lean`.  Regenerated from the source on every run: the length of the
setjmp buffer array, `TestResult::isFailure`, the verdict condition of
`TestOutput::printTestsEnded`, the return expression of `runAllTests` (`Gen/RunnerConstants.lean`).

All theorems hold for every test program (any number of tests, any statements in the three
phases), every plugin chain, every filter set, every repeat count and **both build variants**
(`cfg.exceptions` is universally quantified), every verbosity (`-v`, `-vv`), with and without
colour, every stream of clock readings, with rethrow mode off — and in rethrow mode as long as no
std / foreign exception leaves a test (`QuietTest`); what happens when one does is
`rethrow_propagates`.
-/
namespace Runner

theorem quiet_of_rethrow_off {cfg : Cfg} (hr : cfg.rethrow = false) (t : Test) : QuietTest cfg t := Or.inl hr

/-- the two slots a test needs: `jmp_buf_index = d` on entry, `d` and `d+1` inside the array -/
theorem inBuf_of {d : Int} (h0 : 0 ≤ d) (h1 : d + 2 ≤ Int.ofNat Gen.Runner.jmpBufLen) :
    inBuf d = true ∧ inBuf (d + 1) = true := by
  simp only [inBuf, Bool.and_eq_true, decide_eq_true_eq]
  omega

/-- at top level (`jmp_buf_index = 0`) the regenerated array length is enough -/
theorem inBuf_top : inBuf 0 = true ∧ inBuf (0 + 1) = true := by decide

/-! ## statements after a terminating statement never execute -/

theorem executed_append_terminator (exc : Bool) (s : Stmt) (post : List Stmt) (hs : s.terminates exc = true) :
    ∀ (pre : List Stmt), (∀ x ∈ pre, x.terminates exc = false) → executed exc (pre ++ s :: post) = pre ++ [s]
  | pre, h => by simp [executed_append, completes_of_forall h, hs]

/-- **Nothing placed after a terminating statement has any effect**: the whole outcome of a phase
    (events, counters, failed flag, way of leaving) does not depend on what follows the first
    failing check / TEST_EXIT / throw. -/
theorem no_effect_after_terminator (cfg : Cfg) (t : Test) (ph : Phase) (d : Int) (s : Stmt) (post : List Stmt)
    (hs : s.terminates cfg.exceptions = true) :
    ∀ (pre : List Stmt) (res : Result) (hf : Bool),
      runStmts cfg t ph d res hf (pre ++ s :: post) = runStmts cfg t ph d res hf (pre ++ [s])
  | pre, res, hf => by
    -- the closed form of a phase looks at its statements only through `executed` and `exitOf`
    simp only [runStmts_eq, checkFailures, executed_append_of_terminates hs, exitOf_append_of_terminates hs]

/-- the marks a phase produces are exactly the marks placed
    before its first terminating statement; the terminating statement leaves the phase. -/
theorem no_statement_after_terminator (cfg : Cfg) (t : Test) (ph : Phase) (d : Int) (res : Result) (hf : Bool)
    (pre : List Stmt) (s : Stmt) (post : List Stmt)
    (hpre : ∀ x ∈ pre, x.terminates cfg.exceptions = false) (hs : s.terminates cfg.exceptions = true) :
    marksIn (runStmts cfg t ph d res hf (pre ++ s :: post)).evs = (marksOf pre).map (fun n => (ph, n)) ∧
    (runStmts cfg t ph d res hf (pre ++ s :: post)).exit ≠ .normal := by
  refine ⟨?_, ?_⟩
  · rw [runStmts_marks, executed_append_terminator cfg.exceptions s post hs pre hpre]
    cases s <;> simp [marksOf, Stmt.markNo, Stmt.terminates] at hs ⊢
  · rw [runStmts_exit]
    intro h
    simp [exitOf_append, completes_of_forall hpre, exitOf_cons, hs, Stmt.exit_ne_normal] at h

/-- a phase without a terminating statement runs all its statements and returns normally -/
theorem phase_without_terminator_completes (cfg : Cfg) (t : Test) (ph : Phase) (d : Int) (res : Result) (hf : Bool)
    (p : List Stmt) (hp : ∀ x ∈ p, x.terminates cfg.exceptions = false) :
    marksIn (runStmts cfg t ph d res hf p).evs = (marksOf p).map (fun n => (ph, n)) ∧
    (runStmts cfg t ph d res hf p).exit = .normal := by
  have hex : executed cfg.exceptions p = p := executed_eq_self hp
  refine ⟨by rw [runStmts_marks, hex], ?_⟩
  rw [runStmts_exit, exitOf_normal_iff, completes_of_forall hp]

/-! ## one test: lifecycle, setjmp depth, current test, failed flag -/

/-- `runOneTest` never faults (no index outside the setjmp buffer array, whose length `Gen.Runner.jmpBufLen` is
    regenerated; every longjmp lands in the innermost frame) and does what the property demands, for every test,
    plugin chain and build variant. -/
theorem test_outcome (cfg : Cfg) (plugins : List Plugin) (t : Test) (st : TSt)
    (hr : cfg.rethrow = false) (h0 : 0 ≤ st.depth) (h1 : st.depth + 2 ≤ Int.ofNat Gen.Runner.jmpBufLen) :
    ∃ j, runOneTest cfg plugins t st = .ok j ∧ TestOutcome cfg plugins t st j :=
  let ⟨j, hj, o, _⟩ := runOneTest_closed cfg plugins t st (quiet_of_rethrow_off hr t) (inBuf_of h0 h1).1 (inBuf_of h0 h1).2
  ⟨j, hj, o⟩

theorem test_outcome_of {cfg : Cfg} {plugins : List Plugin} {t : Test} {st : TSt} {j : JmpOut}
    (hr : cfg.rethrow = false) (h0 : 0 ≤ st.depth) (h1 : st.depth + 2 ≤ Int.ofNat Gen.Runner.jmpBufLen)
    (hj : runOneTest cfg plugins t st = .ok j) : TestOutcome cfg plugins t st j := by
  obtain ⟨j', hj', o⟩ := test_outcome cfg plugins t st hr h0 h1
  rw [hj] at hj'
  exact Except.ok.inj hj' ▸ o

/-- the body is entered (exactly once) iff setup reached its end. -/
theorem body_iff_setup_completed (cfg : Cfg) (plugins : List Plugin) (t : Test) (st : TSt) (j : JmpOut)
    (hr : cfg.rethrow = false) (h0 : 0 ≤ st.depth) (h1 : st.depth + 2 ≤ Int.ofNat Gen.Runner.jmpBufLen)
    (hj : runOneTest cfg plugins t st = .ok j) :
    (Phase.body ∈ entersOf j.evs ↔ completes cfg.exceptions t.setup = true) ∧
    (entersOf j.evs).count .body ≤ 1 := by
  have o := test_outcome_of hr h0 h1 hj
  rw [o.enters, phasesRun]
  cases completes cfg.exceptions t.setup <;> simp

/-- setup and teardown are each entered exactly once, setup first
    and teardown last, whatever happened in between. -/
theorem teardown_iff_setup_entered (cfg : Cfg) (plugins : List Plugin) (t : Test) (st : TSt) (j : JmpOut)
    (hr : cfg.rethrow = false) (h0 : 0 ≤ st.depth) (h1 : st.depth + 2 ≤ Int.ofNat Gen.Runner.jmpBufLen)
    (hj : runOneTest cfg plugins t st = .ok j) :
    (entersOf j.evs).count .setup = 1 ∧ (entersOf j.evs).count .teardown = 1 ∧
    (entersOf j.evs).head? = some .setup ∧ (entersOf j.evs).getLast? = some .teardown := by
  have o := test_outcome_of hr h0 h1 hj
  rw [o.enters, phasesRun]
  cases completes cfg.exceptions t.setup <;> simp

/-- the statements a test executes are exactly: setup up to its first terminating statement; the
    body likewise, only if setup completed; teardown likewise, always -/
theorem test_marks (cfg : Cfg) (plugins : List Plugin) (t : Test) (st : TSt) (j : JmpOut)
    (hr : cfg.rethrow = false) (h0 : 0 ≤ st.depth) (h1 : st.depth + 2 ≤ Int.ofNat Gen.Runner.jmpBufLen)
    (hj : runOneTest cfg plugins t st = .ok j) :
    marksIn j.evs =
      (marksOf (executed cfg.exceptions t.setup)).map (fun n => (Phase.setup, n)) ++
      (if completes cfg.exceptions t.setup then (marksOf (executed cfg.exceptions t.body)).map (fun n => (Phase.body, n)) else []) ++
      (marksOf (executed cfg.exceptions t.teardown)).map (fun n => (Phase.teardown, n)) := by
  have o := test_outcome_of hr h0 h1 hj
  rw [o.marks, testMarks, phasesRun]
  cases completes cfg.exceptions t.setup <;> simp [stmtsOf]

/-- after the test `jmp_buf_index` is what it was before, for
    every way the three phases can end. -/
theorem jmp_depth_restored (cfg : Cfg) (plugins : List Plugin) (t : Test) (st : TSt)
    (hr : cfg.rethrow = false) (h0 : 0 ≤ st.depth) (h1 : st.depth + 2 ≤ Int.ofNat Gen.Runner.jmpBufLen) :
    ∃ j, runOneTest cfg plugins t st = .ok j ∧ j.st.depth = st.depth ∧ j.esc = none := by
  obtain ⟨j, hj, o⟩ := test_outcome cfg plugins t st hr h0 h1
  exact ⟨j, hj, o.depth, o.esc⟩

/-- the saved `currentTest_` is put back. -/
theorem current_test_restored (cfg : Cfg) (plugins : List Plugin) (t : Test) (st : TSt)
    (hr : cfg.rethrow = false) (h0 : 0 ≤ st.depth) (h1 : st.depth + 2 ≤ Int.ofNat Gen.Runner.jmpBufLen) :
    ∃ j, runOneTest cfg plugins t st = .ok j ∧ j.st.current = st.current := by
  obtain ⟨j, hj, o⟩ := test_outcome cfg plugins t st hr h0 h1
  exact ⟨j, hj, o.current⟩

/-- the per-test failed flag is set exactly when a phase of the test recorded a failure
    (plugin-reported errors go to the result only) -/
theorem failed_flag_iff (cfg : Cfg) (plugins : List Plugin) (t : Test) (st : TSt)
    (hr : cfg.rethrow = false) (h0 : 0 ≤ st.depth) (h1 : st.depth + 2 ≤ Int.ofNat Gen.Runner.jmpBufLen) :
    ∃ j, runOneTest cfg plugins t st = .ok j ∧ (j.st.hasFailed = true ↔ testPhaseFailures cfg t ≠ []) := by
  obtain ⟨j, hj, o⟩ := test_outcome cfg plugins t st hr h0 h1
  refine ⟨j, hj, ?_⟩
  rw [o.hasFailed]
  cases testPhaseFailures cfg t <;> simp

/-- after ANY list of tests —
    in particular after any number of consecutive failing tests of any kinds — the loop has not
    faulted, `jmp_buf_index` and the current test are what they were. -/
theorem jmp_depth_restored_tests (cfg : Cfg) (plugins : List Plugin) (ts : List Test) (s : LSt)
    (hr : cfg.rethrow = false) (h0 : 0 ≤ s.depth) (h1 : s.depth + 2 ≤ Int.ofNat Gen.Runner.jmpBufLen) :
    ∃ a, runTests cfg plugins ts s = .ok a ∧ a.st.depth = s.depth ∧ a.st.current = s.current := by
  obtain ⟨a, ha, o⟩ := runTests_closed cfg plugins ts s (fun t _ => quiet_of_rethrow_off hr t) (inBuf_of h0 h1).1 (inBuf_of h0 h1).2
  exact ⟨a, ha, o.depth, o.current⟩

/-- after every single test of the run the observed depth and current test are the initial ones -/
theorem depth_after_every_test (cfg : Cfg) (plugins : List Plugin) (ts : List Test) (s : LSt)
    (hr : cfg.rethrow = false) (h0 : 0 ≤ s.depth) (h1 : s.depth + 2 ≤ Int.ofNat Gen.Runner.jmpBufLen) :
    ∃ a, runTests cfg plugins ts s = .ok a ∧
      ∀ e ∈ endedOf a.evs, e.1 = s.depth ∧ e.2.1 = s.current := by
  obtain ⟨a, ha, o⟩ := runTests_closed cfg plugins ts s (fun t _ => quiet_of_rethrow_off hr t) (inBuf_of h0 h1).1 (inBuf_of h0 h1).2
  refine ⟨a, ha, ?_⟩
  rw [o.ended]
  intro e he
  simp only [List.mem_map] at he
  obtain ⟨t, _, rfl⟩ := he
  exact ⟨rfl, rfl⟩

/-! ## the whole run -/

/-- `CommandLineTestRunner::runAllTests` never faults and its observable result
    is the declarative one. `d = 0` is the depth `main` runs at. -/
theorem run_outcome (cfg : Cfg) (plugins : List Plugin) (ts : List Test) (n : Nat) (d : Int)
    (hr : cfg.rethrow = false) (h0 : 0 ≤ d) (h1 : d + 2 ≤ Int.ofNat Gen.Runner.jmpBufLen) :
    ∃ o, runAllTests cfg plugins ts n d = .ok o ∧ RunOutcome cfg plugins ts n d o :=
  runAllTests_closed cfg plugins ts n d (fun t _ => quiet_of_rethrow_off hr t) (inBuf_of h0 h1).1 (inBuf_of h0 h1).2

/-- the same at top level, where the only hypothesis left is the regenerated array length (checked
    by `decide` in `inBuf_top`): the array is never indexed out of range -/
theorem run_outcome_top (cfg : Cfg) (plugins : List Plugin) (ts : List Test) (n : Nat)
    (hr : cfg.rethrow = false) :
    ∃ o, runAllTests cfg plugins ts n 0 = .ok o ∧ RunOutcome cfg plugins ts n 0 o :=
  runAllTests_closed cfg plugins ts n 0 (fun t _ => quiet_of_rethrow_off hr t) inBuf_top.1 inBuf_top.2

/-- after all repetitions the depth is the initial one -/
theorem jmp_depth_restored_run (cfg : Cfg) (plugins : List Plugin) (ts : List Test) (n : Nat)
    (hr : cfg.rethrow = false) :
    ∃ o, runAllTests cfg plugins ts n 0 = .ok o ∧ o.depth = 0 ∧ o.current = none ∧
      ∀ e ∈ endedOf o.evs, e.1 = 0 ∧ e.2.1 = none := by
  obtain ⟨o, ho, oo⟩ := run_outcome_top cfg plugins ts n hr
  refine ⟨o, ho, oo.depth, oo.current, ?_⟩
  intro e he
  obtain ⟨t, _, rfl⟩ := List.mem_map.mp (mem_flattenRep (oo.ended ▸ he))
  exact ⟨rfl, rfl⟩

theorem sum_map_length {α β} (f : α → List β) : ∀ (l : List α), (l.map (fun a => (f a).length)).sum = (l.flatMap f).length
  | _ => List.length_flatMap.symm

theorem testFailCount_in_process (cfg : Cfg) (plugins : List Plugin) (hsep : cfg.separate = false) :
    testFailCount cfg plugins = fun t => (testFailures cfg plugins t).length := by
  funext t; simp [testFailCount, hsep]

theorem testRecords_in_process (cfg : Cfg) (plugins : List Plugin) (hsep : cfg.separate = false) :
    testRecords cfg plugins = testFailures cfg plugins := by
  funext t; simp [testRecords, hsep]

/-- without `-p` the run's failure counter is the number of failing events -/
theorem failureCount_in_process (cfg : Cfg) (plugins : List Plugin) (ts : List Test) (hsep : cfg.separate = false) :
    (expectedCounts cfg plugins ts).failureCount = (expectedFailures cfg plugins ts).length := by
  simp only [expectedCounts, expectedFailures, testFailCount_in_process cfg plugins hsep]
  exact sum_map_length _ _

/-- without `-p` nothing but the failing events is printed as a record -/
theorem expectedRecords_in_process (cfg : Cfg) (plugins : List Plugin) (ts : List Test) (hsep : cfg.separate = false) :
    expectedRecords cfg plugins ts = expectedFailures cfg plugins ts := by
  simp only [expectedRecords, expectedFailures, testRecords_in_process cfg plugins hsep]

/-- the failure records printed in a run are, in order, exactly the
    failing events of each repetition (failed check, escaped exception per phase, plugin-reported
    error) — each once; and the failure counter of every repetition is their number. -/
theorem failures_recorded_once (cfg : Cfg) (plugins : List Plugin) (ts : List Test) (n : Nat)
    (hr : cfg.rethrow = false) :
    ∃ o, runAllTests cfg plugins ts n 0 = .ok o ∧
      failuresOf o.evs = (List.replicate n (expectedFailures cfg plugins ts)).flatten ∧
      ∀ r ∈ o.reps, r.failureCount = ((running cfg ts).map (testFailCount cfg plugins)).sum ∧
        (cfg.separate = false → r.failureCount = (expectedFailures cfg plugins ts).length) := by
  obtain ⟨o, ho, oo⟩ := run_outcome_top cfg plugins ts n hr
  refine ⟨o, ho, oo.failures, ?_⟩
  rw [oo.reps]
  intro r hrm
  rw [(List.mem_replicate.mp hrm).2]
  exact ⟨rfl, failureCount_in_process cfg plugins ts⟩

/-- with `-p` every failing event is printed exactly once, by the child that ran the test, in order; the parent prints ONE
    further record "Failed in separate process", located at the test, for every child that recorded a failing event, and
    counts one failure for it.  So a repetition's failure counter is the number of failed tests, and it is zero iff there
    was no failing event at all. -/
theorem recorded_once_with_separate_process (cfg : Cfg) (plugins : List Plugin) (ts : List Test) (n : Nat)
    (hr : cfg.rethrow = false) (hsep : cfg.separate = true) :
    ∃ o, runAllTests cfg plugins ts n 0 = .ok o ∧
      failuresOf o.evs = (List.replicate n (expectedFailures cfg plugins ts)).flatten ∧
      recordsOf o.evs = (List.replicate n ((running cfg ts).flatMap (fun t =>
        testFailures cfg plugins t ++ (if (testFailures cfg plugins t).isEmpty then [] else [sepRec cfg t])))).flatten ∧
      (∀ r ∈ o.reps, r.failureCount = ((running cfg ts).filter (fun t => !(testFailures cfg plugins t).isEmpty)).length ∧
        (r.failureCount = 0 ↔ expectedFailures cfg plugins ts = []) ∧ r.checkCount = 0) := by
  obtain ⟨o, ho, oo⟩ := run_outcome_top cfg plugins ts n hr
  have hcount : ∀ (l : List Test), (l.map (testFailCount cfg plugins)).sum =
      (l.filter (fun t => !(testFailures cfg plugins t).isEmpty)).length := by
    intro l
    induction l with
    | nil => rfl
    | cons a l ih =>
      cases ha : (testFailures cfg plugins a).isEmpty <;>
        simp [testFailCount, hsep, ha, ih] <;> omega
  refine ⟨o, ho, oo.failures, ?_, ?_⟩
  · rw [oo.records]
    have hrec : testRecords cfg plugins = fun t =>
        testFailures cfg plugins t ++ (if (testFailures cfg plugins t).isEmpty then [] else [sepRec cfg t]) := by
      funext t
      cases hh : (testFailures cfg plugins t).isEmpty <;> simp [testRecords, hsep, hh]
    simp only [flattenRep, expectedRecords, hrec]
  · rw [oo.reps]
    intro r hrm
    rw [(List.mem_replicate.mp hrm).2]
    refine ⟨hcount _, ?_, ?_⟩
    · show ((running cfg ts).map (testFailCount cfg plugins)).sum = 0 ↔ _
      rw [hcount, expectedFailures]
      simp only [List.length_eq_zero_iff, List.filter_eq_nil_iff, List.flatMap_eq_nil_iff]
      constructor
      · intro h t ht
        have := h t ht
        simpa using this
      · intro h t ht
        simp [h t ht]
    · show ((running cfg ts).map (testChecksCounted cfg)).sum = 0
      have : testChecksCounted cfg = fun _ => 0 := by funext t; simp [testChecksCounted, hsep]
      rw [this]
      induction running cfg ts with
      | nil => rfl
      | cons a l ih => simpa using ih

/-- each failing check is recorded with ITS OWN file and line; an escaping exception with the
    test's file and line -/
theorem failure_location (cfg : Cfg) (t : Test) (s : Stmt) (r : FailRec) (h : s.failure cfg t = some r) :
    (∀ loc msg, (s = .failCpp loc msg ∨ s = .failC loc msg) → r.file = loc.file ∧ r.line = loc.line ∧ r.msg = msg) ∧
    ((s = .throwStd ∨ s = .throwOther) → r.file = t.file ∧ r.line = t.line) ∧
    r.testName = formattedName cfg t := by
  cases s <;> simp [Stmt.failure, mkRec, mkRecAtTest] at h ⊢
  case failCpp => subst h; simp
  case failC => subst h; simp
  case throwStd => obtain ⟨_, rfl⟩ := h; simp
  case throwOther => obtain ⟨_, rfl⟩ := h; simp
  case check => obtain ⟨_, rfl⟩ := h; rfl

/-- the documented counting rule (every check one, a passing CHECK_COMPARE none) is what C03's model
    of the check macros counts, statement by statement -/
theorem checkCount_eq_c03 (s : Stmt) : s.checkCount = s.c03Counted := by
  cases s <;> simp [Stmt.checkCount, Stmt.c03Counted, Stmt.c03Outcome, outcome_counted] <;> rfl

theorem testChecks_eq_c03 (cfg : Cfg) (t : Test) : testChecks cfg t = c03ChecksOfTest cfg t := by
  simp only [testChecks, c03ChecksOfTest, checksOf]
  congr 1
  apply List.map_congr_left
  intro ph _
  congr 1
  apply List.map_congr_left
  intro s _
  exact checkCount_eq_c03 s

/-- the "checks" figure of a repetition is the sum, over the tests
    that run and the statements that execute, of the counts property C03's model assigns to each
    check macro (`Asserts.assert_family_counts_one`, `compare_pass_counts_zero`, …). -/
theorem summary_checks_are_c03_counts (cfg : Cfg) (plugins : List Plugin) (ts : List Test)
    (hsep : cfg.separate = false) :
    (expectedCounts cfg plugins ts).checkCount = ((running cfg ts).map (c03ChecksOfTest cfg)).sum := by
  simp only [expectedCounts]
  congr 1
  apply List.map_congr_left
  intro t _
  simp only [testChecksCounted, hsep, Bool.false_eq_true, if_false]
  exact testChecks_eq_c03 cfg t

/-- every repetition prints one summary, and it carries the true counts — for every verbosity, colour setting and
    stream of clock readings; the check count is the sum of C03's per-statement counts.  (With `-p` the counters of the
    children are lost: see `recorded_once_with_separate_process`.) -/
theorem summary_counts_true (cfg : Cfg) (plugins : List Plugin) (ts : List Test) (n : Nat)
    (hr : cfg.rethrow = false) :
    ∃ o, runAllTests cfg plugins ts n 0 = .ok o ∧
      (summariesOf o.evs).map Prod.fst = List.replicate n (expectedCounts cfg plugins ts) ∧
      o.reps = List.replicate n (expectedCounts cfg plugins ts) ∧
      (cfg.separate = false → ∀ r ∈ o.reps, r.checkCount = ((running cfg ts).map (c03ChecksOfTest cfg)).sum) := by
  obtain ⟨o, ho, oo⟩ := run_outcome_top cfg plugins ts n hr
  refine ⟨o, ho, oo.summaries, oo.reps, ?_⟩
  rw [oo.reps]
  intro hsep r hrm
  rw [(List.mem_replicate.mp hrm).2]
  exact summary_checks_are_c03_counts cfg plugins ts hsep

/-- the condition `printTestsEnded` uses to choose between
    "Errors (" and "OK (" and the condition the runner's return value is computed from
    (`TestResult::isFailure`) — both regenerated from the source — agree on every result. -/
theorem printed_verdict_is_the_returned_verdict (r : Result) : r.printsFailure = r.isFailure := by
  have h1 := printsFailure_iff r
  have h2 := isFailure_iff r
  cases hp : r.printsFailure <;> cases hi : r.isFailure <;> simp_all

/-- the summary a repetition prints is read back (by the reader that scans the
    whole text) as exactly one summary carrying the true counts and the elapsed time, and it reads
    "OK (" exactly when the repetition had no failure and ran or ignored at least one test — with and
    without colour. -/
theorem summary_ok_iff (c : Bool) (r : Result) (time : Nat) (rest : List String) :
    ∃ p, scanSummaries (summaryToks c r time ++ rest) = p :: scanSummaries rest ∧
      (p.ok = true ↔ r.failureCount = 0 ∧ 0 < r.runCount + r.ignoredCount) ∧
      p.tests = toString r.testCount ∧ p.ran = toString r.runCount ∧ p.checks = toString r.checkCount ∧
      p.ignored = toString r.ignoredCount ∧ p.filtered = toString r.filteredOutCount ∧ p.time = toString time ∧
      (p.failures = if r.failureCount = 0 then none else some (toString r.failureCount)) :=
  ⟨r.printedSummary time, scanSummaries_summaryToks c r time rest, decide_eq_true_iff, rfl, rfl, rfl, rfl, rfl, rfl, rfl⟩

/-- the colour option only adds the three escape strings -/
theorem colour_only_wraps (r : Result) (time : Nat) :
    (summaryToks true r time).filter (fun s => s != "\x1b[31;1m" && s != "\x1b[32;1m" && s != "\x1b[m")
      = summaryToks false r time := by
  have hn : ∀ n : Nat, (n.repr != "\x1b[31;1m" && n.repr != "\x1b[32;1m" && n.repr != "\x1b[m") = true := by
    intro n
    have a := repr_ne_of_nondigit n "\x1b[31;1m" '[' (by decide) (by decide)
    have b := repr_ne_of_nondigit n "\x1b[32;1m" '[' (by decide) (by decide)
    have c := repr_ne_of_nondigit n "\x1b[m" '[' (by decide) (by decide)
    simp [a, b, c]
  have hhead : (summaryHead true r).filter (fun s => s != "\x1b[31;1m" && s != "\x1b[32;1m" && s != "\x1b[m")
      = summaryHead false r := by
    unfold summaryHead
    cases r.printsFailure <;> by_cases h0 : r.failureCount > 0 <;> simp [h0, hn]
  have hcount : (countToks r time).filter (fun s => s != "\x1b[31;1m" && s != "\x1b[32;1m" && s != "\x1b[m")
      = countToks r time := by
    simp [countToks, hn]
  have hnote : ∀ b : Bool, (if b then [noteText] else []).filter
      (fun s => s != "\x1b[31;1m" && s != "\x1b[32;1m" && s != "\x1b[m") = if b then [noteText] else [] := by
    intro b; cases b <;> simp [noteText]
  rw [summaryToks_eq, summaryToks_eq]
  simp only [List.filter_append, List.filter_cons, List.filter_nil, hhead, hcount, hnote]
  simp

/-! ## the value the runner returns -/

theorem castInt_zero_iff (x : Nat) (hx : x < 4294967296) : Gen.Runner.castInt x = 0 ↔ x = 0 := by
  unfold Gen.Runner.castInt
  rw [Nat.mod_eq_of_lt hx]
  split <;> simp only [Int.ofNat_eq_natCast] <;> omega

theorem returnValue_zero_iff (ft fe : Nat) (h1 : ft < 4294967296) (h2 : fe < 4294967296) :
    Gen.Runner.returnValue ft fe = 0 ↔ ft = 0 ∧ fe = 0 := by
  unfold Gen.Runner.returnValue
  by_cases h : ft = 0
  · simp [h, castInt_zero_iff fe h2]
  · simp [h, castInt_zero_iff ft h1]

/-- below 2^32 accumulated failures (the `(int)` cast of a `size_t`), the value
    returned by the runner is zero iff every repetition had no failure and ran or ignored
    something. -/
theorem exit_zero_iff (cfg : Cfg) (plugins : List Plugin) (ts : List Test) (n : Nat)
    (hr : cfg.rethrow = false)
    (hsmall : n * (expectedCounts cfg plugins ts).failureCount < 4294967296) (hn : n < 4294967296) :
    ∃ o, runAllTests cfg plugins ts n 0 = .ok o ∧ (o.ret = 0 ↔ ∀ r ∈ o.reps, r.ok) := by
  obtain ⟨o, ho, oo⟩ := run_outcome_top cfg plugins ts n hr
  refine ⟨o, ho, ?_⟩
  have hisf := isFailure_iff (expectedCounts cfg plugins ts)
  rw [oo.ret, oo.reps, returnValue_zero_iff _ _ hsmall (by split <;> omega)]
  constructor
  · rintro ⟨h1, h2⟩ r hrm
    obtain ⟨hn0, rfl⟩ := List.mem_replicate.mp hrm
    by_cases hok : (expectedCounts cfg plugins ts).ok
    · exact hok
    · rw [if_pos (hisf.mpr hok)] at h2; exact absurd h2 hn0
  · intro hall
    by_cases hn0 : n = 0
    · subst hn0; simp
    · have hok : (expectedCounts cfg plugins ts).ok := hall _ (List.mem_replicate.mpr ⟨hn0, rfl⟩)
      have hnf : (expectedCounts cfg plugins ts).isFailure = false := by
        cases hx : (expectedCounts cfg plugins ts).isFailure
        · rfl
        · exact absurd hok (hisf.mp hx)
      refine ⟨?_, by simp [hnf]⟩
      rw [hok.1]; simp

/-- why the bound is needed — with exactly 2^32 recorded failures the
    expression `(int)(failedTestCount != 0 ? failedTestCount : failedExecutionCount)` is 0
    although a repetition failed (accepted limit of the `int` return type, not a finding). -/
theorem exit_value_wraps : Gen.Runner.returnValue 4294967296 1 = 0 ∧ Gen.Runner.returnValue 4294967295 1 ≠ 0 := by
  constructor <;> decide

/-! ## the reader of the whole console text -/

/-- whatever is printed before and after it, the strings of one failure record
    are read back as exactly that record — its own file:line, test name, message, in both print
    shapes of `TestOutput::printFailure`. -/
theorem record_read_back (r : FailRec) (hc : r.clean) (before after : List String) :
    ∃ w, scanFrom before (failureToks r ++ after) = r.printed :: scanFrom w after ∧
      r.printed.file = r.file ∧ r.printed.line = toString r.line ∧ r.printed.testName = r.testName ∧
      r.printed.msg = r.msg :=
  ⟨_, scanFrom_failureToks r hc before after, rfl, rfl, rfl, rfl⟩

/-- failing events of a program are clean when their free strings are not markers (the test name
    never is: it ends in ")") -/
theorem clean_of_strings (cfg : Cfg) (t : Test) (loc : Loc) (msg : String)
    (h1 : msg ≠ ":") (h2 : msg ∉ markers) (h3 : loc.file ∉ markers) (h4 : t.file ∉ markers) :
    (mkRec cfg t loc msg).clean :=
  ⟨h1, h2, h3, h4, formattedName_not_marker cfg t⟩

/-- reading the WHOLE console text of a run — every position, every
    verbosity, with or without colour, any clock — yields exactly the failing events of every
    repetition, in order, each once, with its own file:line, and exactly one summary per repetition
    carrying the true counts; provided the free strings of the failing events (message, file names)
    are not themselves one of the three marker strings and no message is a lone ":". -/
theorem console_reader_full (cfg : Cfg) (plugins : List Plugin) (ts : List Test) (n : Nat)
    (hr : cfg.rethrow = false) (hclean : ∀ r ∈ expectedRecords cfg plugins ts, r.clean) :
    ∃ o, runAllTests cfg plugins ts n 0 = .ok o ∧
      scanFailures (toksOf cfg.color o.evs) =
        ((List.replicate n (expectedRecords cfg plugins ts)).flatten).map FailRec.printed ∧
      (cfg.separate = false → scanFailures (toksOf cfg.color o.evs) =
        ((List.replicate n (expectedFailures cfg plugins ts)).flatten).map FailRec.printed) ∧
      scanSummaries (toksOf cfg.color o.evs) = (summariesOf o.evs).map (fun x => x.1.printedSummary x.2) ∧
      (scanSummaries (toksOf cfg.color o.evs)).map (fun p => (p.ok, p.tests, p.ran, p.checks, p.ignored, p.filtered, p.failures))
        = List.replicate n
            (let p := (expectedCounts cfg plugins ts).printedSummary 0
             (p.ok, p.tests, p.ran, p.checks, p.ignored, p.filtered, p.failures)) := by
  obtain ⟨o, ho, oo⟩ := run_outcome_top cfg plugins ts n hr
  have hce : CleanEvs o.evs := ⟨oo.safe, fun r hrm => hclean r (mem_flattenRep (oo.records ▸ hrm))⟩
  have hs := scanSummaries_toksOf cfg.color o.evs hce
  have hf : scanFailures (toksOf cfg.color o.evs) =
      ((List.replicate n (expectedRecords cfg plugins ts)).flatten).map FailRec.printed := by
    unfold scanFailures
    rw [scanFrom_toksOf cfg.color o.evs [] hce, oo.records]
    rfl
  refine ⟨o, ho, hf, ?_, hs, ?_⟩
  · intro hsep
    rw [hf, expectedRecords_in_process cfg plugins ts hsep]
  · rw [hs, List.map_map]
    have hm := oo.summaries
    have : (summariesOf o.evs).map ((fun p : PrintedSummary => (p.ok, p.tests, p.ran, p.checks, p.ignored, p.filtered, p.failures)) ∘
        (fun x : Result × Nat => x.1.printedSummary x.2)) =
        ((summariesOf o.evs).map Prod.fst).map (fun r => ((r.printedSummary 0).ok, (r.printedSummary 0).tests,
          (r.printedSummary 0).ran, (r.printedSummary 0).checks, (r.printedSummary 0).ignored,
          (r.printedSummary 0).filtered, (r.printedSummary 0).failures)) := by
      rw [List.map_map]
      apply List.map_congr_left
      intro x _
      rfl
    rw [this, hm, List.map_replicate]

/-- the time a summary shows is the last clock reading of its repetition
    minus the first one, as unsigned 64-bit subtraction — whatever the clock does. -/
theorem summary_time_is_elapsed (cfg : Cfg) (plugins : List Plugin) (ts : List Test) (s : LSt)
    (hres : s.res = {}) (hr : cfg.rethrow = false) (h0 : 0 ≤ s.depth) (h1 : s.depth + 2 ≤ Int.ofNat Gen.Runner.jmpBufLen) :
    ∃ a, registryRunAll cfg plugins ts s = .ok a ∧
      ∃ first last, (clocksOf a.evs).head? = some first ∧ (clocksOf a.evs).getLast? = some last ∧
        summariesOf a.evs = [(expectedCounts cfg plugins ts, elapsed last first)] := by
  obtain ⟨a, ha, oa⟩ := registryRunAll_closed cfg plugins ts s hres (fun t _ => quiet_of_rethrow_off hr t)
    (inBuf_of h0 h1).1 (inBuf_of h0 h1).2
  exact ⟨a, ha, oa.summary⟩

/-- the counts do not depend on the clock readings, the verbosity or the colour option -/
theorem counts_independent_of_output_options (cfg : Cfg) (plugins : List Plugin) (ts : List Test)
    (clock : List Nat) (v vv c : Bool) :
    expectedCounts { cfg with clock := clock, verbose := v, veryVerbose := vv, color := c } plugins ts
      = expectedCounts cfg plugins ts := rfl

/-! ## progress output (no `-v`) -/

/-- without `-v`/`-vv` the plain strings of a repetition are one "." per test
    that runs and one "!" per ignored test, in order, with a line break after every 50th. -/
theorem progress_output (cfg : Cfg) (plugins : List Plugin) (ts : List Test) (s : LSt)
    (hv : cfg.anyVerbose = false) (hres : s.res = {}) (hr : cfg.rethrow = false)
    (h0 : 0 ≤ s.depth) (h1 : s.depth + 2 ≤ Int.ofNat Gen.Runner.jmpBufLen) :
    ∃ a, registryRunAll cfg plugins ts s = .ok a ∧
      plainToksOf a.evs = progressToks ((selected cfg ts).map (indicatorOf cfg)) s.out.dotCount ∧
      a.st.out.dotCount = 0 := by
  obtain ⟨a, ha, oa⟩ := registryRunAll_closed cfg plugins ts s hres (fun t _ => quiet_of_rethrow_off hr t)
    (inBuf_of h0 h1).1 (inBuf_of h0 h1).2
  exact ⟨a, ha, oa.plain hv, oa.dots⟩

/-- the progress line holds one indicator per test ... -/
theorem progress_indicators (inds : List String) (hi : ∀ i ∈ inds, i ≠ "\n") :
    ∀ d, (progressToks inds d).filter (· != "\n") = inds := by
  induction inds with
  | nil => intro d; simp [progressToks]
  | cons i rest ih =>
    intro d
    have h1 : i ≠ "\n" := hi i (by simp)
    have := ih (fun x hx => hi x (by simp [hx])) (d + 1)
    unfold progressToks
    split <;> simp [h1, this]

/-- ... and exactly one line break for every 50th of them (counting the `d` printed before) -/
theorem progress_line_breaks (inds : List String) (hi : ∀ i ∈ inds, i ≠ "\n") :
    ∀ d, ((progressToks inds d).filter (· == "\n")).length = (d + inds.length) / 50 - d / 50 := by
  induction inds with
  | nil => intro d; simp [progressToks]
  | cons i rest ih =>
    intro d
    have h1 : (i == "\n") = false := beq_false_of_ne (hi i (by simp))
    have := ih (fun x hx => hi x (by simp [hx])) (d + 1)
    -- `(d + 1) / 50` is `d / 50`, plus one exactly when this indicator is followed by a line break
    have hstep : (d + 1) / 50 = d / 50 + if (d + 1) % 50 = 0 then 1 else 0 := by
      rw [Nat.succ_div]; simp only [Nat.dvd_iff_mod_eq_zero]
    unfold progressToks
    split
    all_goals
      rename_i h50
      simp only [h50, if_true, if_false] at hstep
      simp only [List.filter_append, List.filter_cons, List.filter_nil, h1, List.length_append, this]
      simp
      omega

/-! ## TEST_EXIT, counting under a failing setup, the partition of the counts -/

/-- `TEST_EXIT` (both terminators) ends its phase at once, is not a check,
    records no failure and does not set the failed flag; nothing after it runs. -/
theorem exit_test_semantics (cfg : Cfg) (t : Test) (ph : Phase) (d : Int) (res : Result) (hf : Bool)
    (pre post : List Stmt) (s : Stmt) (hs : s = .exitTest ∨ s = .exitTestC)
    (hpre : ∀ x ∈ pre, x.terminates cfg.exceptions = false) :
    let o := runStmts cfg t ph d res hf (pre ++ s :: post)
    marksIn o.evs = (marksOf pre).map (fun n => (ph, n)) ∧ o.exit ≠ .normal ∧
    failuresOf o.evs = [] ∧ o.res.failureCount = res.failureCount ∧
    o.res.checkCount = res.checkCount + checksOf pre ∧ o.hasFailed = hf := by
  have hterm : s.terminates cfg.exceptions = true := by rcases hs with rfl | rfl <;> rfl
  have hex := executed_append_terminator cfg.exceptions s post hterm pre hpre
  have hnf : ∀ x ∈ pre, Stmt.checkFailure cfg t x = none := by
    intro x hx
    have := hpre x hx
    cases x <;> simp [Stmt.terminates] at this <;> simp [Stmt.checkFailure, this]
  have hcf : checkFailures cfg t (pre ++ s :: post) = [] := by
    simp only [checkFailures, hex, List.filterMap_append]
    rw [List.append_eq_nil_iff]
    refine ⟨List.filterMap_eq_nil_iff.mpr hnf, ?_⟩
    rcases hs with rfl | rfl <;> simp [Stmt.checkFailure]
  obtain ⟨hm, hx⟩ := no_statement_after_terminator cfg t ph d res hf pre s post hpre hterm
  refine ⟨hm, hx, ?_, ?_, ?_, ?_⟩
  · rw [runStmts_failures, hcf]
  · rw [runStmts_res, hcf]; simp
  · rw [runStmts_res, hex]
    simp only [checksOf, List.map_append, List.sum_append]
    rcases hs with rfl | rfl <;> simp [Stmt.checkCount]
  · rw [runStmts_hasFailed, hcf]; simp

/-- a `TEST_EXIT` in setup means setup did not complete: the body is not
    entered, teardown is; the test still counts as run. -/
theorem exit_in_setup_skips_body (cfg : Cfg) (plugins : List Plugin) (t : Test) (st : TSt)
    (pre post : List Stmt) (s : Stmt) (hs : s = .exitTest ∨ s = .exitTestC) (hsetup : t.setup = pre ++ s :: post)
    (hr : cfg.rethrow = false) (h0 : 0 ≤ st.depth) (h1 : st.depth + 2 ≤ Int.ofNat Gen.Runner.jmpBufLen) :
    ∃ j, runOneTest cfg plugins t st = .ok j ∧ entersOf j.evs = [.setup, .teardown] ∧
      j.st.res.runCount = st.res.runCount + 1 := by
  obtain ⟨j, hj, o⟩ := test_outcome cfg plugins t st hr h0 h1
  refine ⟨j, hj, ?_, ?_⟩
  · rw [o.enters, phasesRun]
    have : completes cfg.exceptions t.setup = false := by
      rw [hsetup]
      have hterm : s.terminates cfg.exceptions = true := by rcases hs with rfl | rfl <;> rfl
      simp [completes_append, completes_cons, hterm]
    simp [this]
  · rw [o.res]; simp [Result.bump, Result.countRun]

/-- a test that is selected and not ignored is counted as run exactly
    once — also when its setup fails, throws or exits; its checks are those of the statements that
    executed (setup up to its failure, no body, teardown). -/
theorem run_counted_whatever_happens (cfg : Cfg) (plugins : List Plugin) (t : Test) (st : TSt)
    (hr : cfg.rethrow = false) (h0 : 0 ≤ st.depth) (h1 : st.depth + 2 ≤ Int.ofNat Gen.Runner.jmpBufLen) :
    ∃ j, runOneTest cfg plugins t st = .ok j ∧
      j.st.res.runCount = st.res.runCount + 1 ∧
      j.st.res.ignoredCount = st.res.ignoredCount ∧ j.st.res.testCount = st.res.testCount ∧
      j.st.res.checkCount = st.res.checkCount + testChecks cfg t ∧
      (completes cfg.exceptions t.setup = false →
        testChecks cfg t = checksOf (executed cfg.exceptions t.setup) + checksOf (executed cfg.exceptions t.teardown)) := by
  obtain ⟨j, hj, o⟩ := test_outcome cfg plugins t st hr h0 h1
  refine ⟨j, hj, ?_, ?_, ?_, ?_, ?_⟩
  · rw [o.res]; simp [Result.bump, Result.countRun]
  · rw [o.res]; simp [Result.bump, Result.countRun]
  · rw [o.res]; simp [Result.bump, Result.countRun]
  · rw [o.res]; simp [Result.bump, Result.countRun]
  · intro hc; simp [testChecks, phasesRun, hc, stmtsOf]

/-- every registered test is counted exactly once as run, ignored or filtered out. -/
theorem counts_partition (cfg : Cfg) (plugins : List Plugin) (ts : List Test) :
    (expectedCounts cfg plugins ts).testCount =
      (expectedCounts cfg plugins ts).runCount + (expectedCounts cfg plugins ts).ignoredCount +
      (expectedCounts cfg plugins ts).filteredOutCount := by
  have h1 := selected_length_le cfg ts
  have h2 := running_length_le cfg ts
  simp only [expectedCounts]
  omega

/-! ## rethrow mode -/

/-- rethrow mode changes nothing as long as no std / foreign exception leaves
    a test. -/
theorem rethrow_quiet_same (cfg : Cfg) (plugins : List Plugin) (ts : List Test) (n : Nat)
    (hq : ∀ t ∈ ts, QuietTest cfg t) :
    ∃ o, runAllTests cfg plugins ts n 0 = .ok o ∧ RunOutcome cfg plugins ts n 0 o :=
  runAllTests_closed cfg plugins ts n 0 hq inBuf_top.1 inBuf_top.2

/-- in rethrow mode the first std / foreign exception that leaves a phase of a
    selected, running test is recorded once and then leaves `runAllTests` (the modelled outcome
    `Stop.propagated`): the phases after it, the post actions, the later tests, the summary and the
    return value never happen; the setjmp index stays one above its start and the current test is
    not restored (the process is expected to end). -/
theorem rethrow_propagates (cfg : Cfg) (plugins : List Plugin) (pre : List Test) (t : Test) (post : List Test)
    (ph : Phase) (k : ExcKind) (n : Nat)
    (hx : cfg.exceptions = true) (hr : cfg.rethrow = true) (hsep : cfg.separate = false) (hq : ∀ x ∈ pre, QuietTest cfg x)
    (hs : shouldRun cfg t = true) (hw : willRun cfg t = true) (hf : firstThrow cfg t = some (ph, k)) (hn : 0 < n) :
    ∃ p, runAllTests cfg plugins (pre ++ t :: post) n 0 = .error (.propagated p) ∧
      LeftOutcome cfg plugins pre t ph k 0 p :=
  runAllTests_propagates cfg plugins pre t post ph k n 0 hx hr hsep hq hs hw hf hn inBuf_top.1 inBuf_top.2

/-! ## the int cast with a real program -/

theorem expectedFailures_replicate (cfg : Cfg) (plugins : List Plugin) (t : Test)
    (hs : shouldRun cfg t = true) (hw : willRun cfg t = true) :
    ∀ N, (expectedFailures cfg plugins (List.replicate N t)).length = N * (testFailures cfg plugins t).length
  | 0 => by simp [expectedFailures, running, selected]
  | N + 1 => by
    have ih := expectedFailures_replicate cfg plugins t hs hw N
    simp only [expectedFailures] at ih ⊢
    rw [List.replicate_succ, running_cons, running_singleton, hs, hw, List.flatMap_append, List.length_append, ih]
    simp [Nat.succ_mul, Nat.add_comm]

/-- a test whose body fails one check -/
def failingTest : Test :=
  { group := "g", name := "n", file := "f.cpp", line := 1, ignored := false,
    setup := [], body := [.failCpp ⟨"f.cpp", 2⟩ "x"], teardown := [] }

def plainCfg (exc : Bool) : Cfg :=
  { exceptions := exc, rethrow := false, verbose := false, veryVerbose := false, color := false, runIgnored := false,
    groupFilters := [], nameFilters := [], stdExcMsg := "std", otherExcMsg := "other", clock := [] }

/-- a program of exactly 2^32 failing tests makes the runner return 0
    although the repetition failed — in both build variants.  This is why `exit_zero_iff` carries
    the bound; it is the accepted limit of the `int` return type. -/
theorem exit_value_wraps_program (exc : Bool) :
    ∃ o, runAllTests (plainCfg exc) [] (List.replicate 4294967296 failingTest) 1 0 = .ok o ∧
      o.ret = 0 ∧ ¬ (∀ r ∈ o.reps, r.ok) := by
  obtain ⟨o, ho, oo⟩ := run_outcome_top (plainCfg exc) [] (List.replicate 4294967296 failingTest) 1 rfl
  have hlen : (expectedFailures (plainCfg exc) [] (List.replicate 4294967296 failingTest)).length = 4294967296 := by
    rw [expectedFailures_replicate (plainCfg exc) [] failingTest (by cases exc <;> decide) (by cases exc <;> decide)]
    have : (testFailures (plainCfg exc) [] failingTest).length = 1 := by cases exc <;> decide
    rw [this]
  have hfc : (expectedCounts (plainCfg exc) [] (List.replicate 4294967296 failingTest)).failureCount = 4294967296 := by
    rw [failureCount_in_process _ _ _ rfl]; exact hlen
  have hisf : (expectedCounts (plainCfg exc) [] (List.replicate 4294967296 failingTest)).isFailure = true := by
    rw [isFailure_iff]; intro hok; rw [Result.ok, hfc] at hok; exact absurd hok.1 (by decide)
  refine ⟨o, ho, ?_, ?_⟩
  · rw [oo.ret, hfc, hisf]; decide
  · rw [oo.reps]
    intro hall
    have := hall _ (List.mem_replicate.mpr ⟨by decide, rfl⟩)
    rw [Result.ok, hfc] at this
    exact absurd this.1 (by decide)

/-! ## non-vacuity: concrete programs -/

def exCfg (exc : Bool) : Cfg :=
  { exceptions := exc, rethrow := false, verbose := false, veryVerbose := false, color := false, runIgnored := false,
    groupFilters := [], nameFilters := [], stdExcMsg := "std", otherExcMsg := "other", clock := [] }

/-- setup fails a C++-style check after mark 1; body must not run; teardown throws after mark 4 -/
def exTest : Test :=
  { group := "g", name := "n", file := "f.cpp", line := 10, ignored := false,
    setup := [.mark 1, .failCpp ⟨"f.cpp", 12⟩ "boom", .mark 2],
    body := [.mark 3],
    teardown := [.mark 4, .throwStd, .mark 5] }

def exPlugin : Plugin := { name := "p", enabled := true, pre := [], post := [⟨none, ⟨"h.c", 7⟩, "leak"⟩] }

/-- with exceptions: marks 1 and 4 only, three failures (check, exception, plugin), depth back to 0,
    return value 3 -/
example :
    (runAllTests (exCfg true) [exPlugin] [exTest] 1 0).toOption.map
      (fun o => (marksIn o.evs, (failuresOf o.evs).map (fun r => (r.file, r.line)), o.depth, o.ret, o.reps.map (·.failureCount)))
    = some ([(.setup, 1), (.teardown, 4)], [("f.cpp", 12), ("f.cpp", 10), ("h.c", 7)], 0, 3, [3]) := by
  decide +kernel

/-- without exceptions the throw statement does not exist: teardown runs to its end -/
example :
    (runAllTests (exCfg false) [exPlugin] [exTest] 1 0).toOption.map
      (fun o => (marksIn o.evs, (failuresOf o.evs).length, o.depth, o.ret))
    = some ([(.setup, 1), (.teardown, 4), (.teardown, 5)], 2, 0, 2) := by
  decide +kernel

/-- 25 consecutive failing tests, two repetitions: no fault, depth 0 after every test -/
example :
    (runAllTests (exCfg true) [] (List.replicate 25 exTest) 2 0).toOption.map
      (fun o => (o.depth, (endedOf o.evs).all (fun e => e.1 == 0), o.ret, (endedOf o.evs).length))
    = some (0, true, 100, 50) := by
  decide +kernel

/-- the depth hypothesis is needed: started at index 9 of 10, the test's inner setjmp would use
    slot 10 — the model reports the fault instead of hiding it -/
example :
    (match runAllTests (exCfg true) [] [exTest] 1 9 with
     | .error (.fault (.jmpIndex 10)) => true
     | _ => false) = true := by decide +kernel

/-- a filter that selects nothing: "ran nothing", not OK, return value 1 -/
example :
    (runAllTests { exCfg true with nameFilters := [⟨"zz", false⟩] } [] [exTest] 1 0).toOption.map
      (fun o => (o.ret, o.reps.map (·.isFailure), o.reps.map (·.filteredOutCount)))
    = some (1, [true], [1]) := by
  decide +kernel

/-- very verbose, colour, a clock that runs 100, 107, 114, ...: the summary shows the elapsed time
    between the first and last reading of the repetition, wrapped in the colour escapes -/
example :
    (runAllTests { exCfg true with veryVerbose := true, color := true, clock := (List.range 40).map (fun i => 100 + 7 * i) }
        [] [exTest] 1 0).toOption.map
      (fun o => ((summariesOf o.evs).map (·.2), (toksOf true o.evs).filter (fun s => s == "\x1b[31;1m" || s == "\x1b[m"),
                 (plainToksOf o.evs).take 3))
    = some ([35], ["\x1b[31;1m", "\x1b[m"],
            ["TEST(g, n)", "\n-- before runAllPreTestAction: ", "\n-- after runAllPreTestAction: "]) := by
  decide +kernel

/-- rethrow mode: the exception thrown in teardown of the first test is recorded and leaves the run;
    the second test never starts, no summary, index one above its start, current test not restored -/
example :
    (match runAllTests { exCfg true with rethrow := true } [exPlugin] [exTest, exTest] 2 0 with
     | .error (.propagated p) =>
       (p.kind, p.depth, p.current, (failuresOf p.evs).map (·.line), marksIn p.evs, (summariesOf p.evs).length) ==
         (.std, 1, some "n", [12, 10], [(.setup, 1), (.teardown, 4)], 0)
     | _ => false) = true := by
  decide +kernel

/-- the reader finds the three records and the summary in the whole text of the first example run -/
example :
    ((runAllTests (exCfg true) [exPlugin] [exTest] 1 0).toOption.map
      (fun o => ((scanFailures (toksOf false o.evs)).map (fun p => (p.file, p.line)),
                 (scanSummaries (toksOf false o.evs)).map (fun p => (p.ok, p.failures.getD "-", p.tests, p.ran, p.checks))))
    == some ([("f.cpp", "12"), ("f.cpp", "10"), ("h.c", "7")], [(false, "3", "1", "1", "1")])) = true := by
  decide +kernel

/-- 51 passing tests, no `-v`: 51 dots and one line break after the 50th -/
example :
    let inds := List.replicate 51 "."
    (progressToks inds 0).length = 52 ∧ (progressToks inds 0)[50]? = some "\n" ∧ (progressToks inds 0)[51]? = some "." := by
  decide +kernel

/-- check kinds: a zero-length MEMCMP counts one and passes whatever the buffers hold, a passing
    CHECK_COMPARE counts none, a failing STRCMP_EQUAL counts one and ends the body: 2 checks, marks 1 2 -/
example :
    (runAllTests (exCfg true) []
      [{ exTest with setup := [], teardown := [],
                     body := [.check .memcmp0 false ⟨"f.cpp", 11⟩ "m", .mark 1, .check .compare true ⟨"f.cpp", 12⟩ "c", .mark 2,
                              .check .strcmp false ⟨"f.cpp", 13⟩ "s", .mark 3] }] 1 0).toOption.map
      (fun o => (marksIn o.evs, o.reps.map (·.checkCount), (failuresOf o.evs).map (·.line)))
    = some ([(.body, 1), (.body, 2)], [2], [13]) := by
  decide +kernel

/-- `-p`: a test whose ONLY failing event is reported by a plugin's post action in the child: the child
    prints it once, the parent adds "Failed in separate process", counts one failure, the run fails -/
example :
    ((runAllTests { exCfg true with separate := true } [exPlugin]
        [{ exTest with setup := [.mark 1], body := [.checkPass], teardown := [] }] 1 0).toOption.map
      (fun o => ((recordsOf o.evs).map (fun r => (r.file, r.line, r.msg)), o.reps.map (fun r => (r.failureCount, r.checkCount)),
                 o.ret, marksIn o.evs))
    == some ([("h.c", 7, "leak"), ("f.cpp", 10, "Failed in separate process")], [(1, 0)], 1, [(.setup, 1)])) = true := by
  decide +kernel

/-! ## the regenerated code of the runner (Gen/RunnerCode.lean) is the model the theorems above are about -/

/-- `UtestShell::runOneTest` around the interpreter of the REGENERATED statement
    lists of `runOneTestInCurrentProcess` and `Utest::run` (try blocks, statements, catch clauses, both
    build variants) is the hand-written `runOneTest` — for every program, plugin chain, state. -/
theorem runOneTestGen_eq (cfg : Cfg) (plugins : List Plugin) (t : Test) (st : TSt) :
    runOneTestGen cfg plugins t st = runOneTest cfg plugins t st := by
  unfold runOneTestGen runOneTest
  have h : runOneTestInCurrentProcessGen cfg plugins t = runOneTestInCurrentProcess cfg plugins t :=
    funext (runOneTestInCurrentProcessGen_eq cfg plugins t)
  rw [h]

/-- the lifecycle / depth / failure theorems hold of the code as the source has
    it at check time: the interpreter of the regenerated statements never faults, restores the setjmp
    depth and the current test, and does exactly what the property demands of one test. -/
theorem regenerated_test_outcome (cfg : Cfg) (plugins : List Plugin) (t : Test) (st : TSt)
    (hr : cfg.rethrow = false) (h0 : 0 ≤ st.depth) (h1 : st.depth + 2 ≤ Int.ofNat Gen.Runner.jmpBufLen) :
    ∃ j, runOneTestGen cfg plugins t st = .ok j ∧ TestOutcome cfg plugins t st j ∧
      j.st.depth = st.depth ∧ j.st.current = st.current ∧ j.esc = none := by
  obtain ⟨j, hj, o⟩ := test_outcome cfg plugins t st hr h0 h1
  exact ⟨j, by rw [runOneTestGen_eq]; exact hj, o, o.depth, o.current, o.esc⟩

/-- every catch clause of both try blocks of `Utest::run` restores the jump buffer exactly once, and the
    two clauses for std / foreign exceptions record the failure before they may rethrow -/
theorem catch_clauses_restore_once :
    ∀ b ∈ Gen.Runner.utestRunExcCode, ∀ c ∈ b.catches,
      c.ops.count .restore = 1 ∧
      (c.pat ≠ .failed → c.ops.head? = some (.addFailure (c.pat == .std)) ∧ c.ops.getLast? = some .rethrowIfMode) := by
  intro b hb
  rw [catches_eq b hb]
  decide

/-- handler selection: with the regenerated clauses a failed check's exception records nothing more, a
    std exception is reported with its type and text, anything else as unknown -/
theorem handler_selection :
    ∀ b ∈ Gen.Runner.utestRunExcCode,
      (findCatch b.catches .failed).map (·.ops) = some [.restore] ∧
      (findCatch b.catches .std).map (·.ops) = some [.addFailure true, .restore, .rethrowIfMode] ∧
      (findCatch b.catches .other).map (·.ops) = some [.addFailure false, .restore, .rethrowIfMode] := by
  intro b hb
  rw [catches_eq b hb]
  exact ⟨rfl, rfl, rfl⟩

/-- the interpreter is sensitive to what it is given: the same code with the `RestoreJumpBuffer` call of
    the `CppUTestFailedException` clause removed leaves the depth one too high after a failing setup -/
example :
    let mutant : List Gen.Runner.TryBlock := Gen.Runner.utestRunExcCode.map (fun b =>
      { b with catches := b.catches.map (fun c => if c.pat = .failed then { c with ops := [] } else c) })
    ((execBlocks (exCfg true) exTest mutant ⟨⟨{}, false, 1, some "n"⟩, [], false⟩).toOption.map (·.st.depth),
     (utestRunGen (exCfg true) exTest ⟨{}, false, 1, some "n"⟩).toOption.map (·.st.depth)) = (some 2, some 1) := by
  decide +kernel

/-- the shapes of the loop-free shell functions the model mirrors: a failure is recorded BEFORE the test
    is left (`failWith`), recording sets the failed flag and then counts/prints (`addFailure`),
    `fail` counts the check first, `runOneTest` clears the flag and counts the run before it calls
    `PlatformSpecificSetJmp`, the crashing terminators (`-f`) crash before they would leave the test —
    so with `-f` the failure has been printed when the process dies -/
theorem shell_statement_orders :
    Gen.Runner.failWithCode = [.addFailure, .exitCurrentTest] ∧
    Gen.Runner.shellAddFailureCode = [.setFailed, .resultAddFailure] ∧
    Gen.Runner.failCode = [.countCheck, .failWith] ∧
    Gen.Runner.exitTestCode = [.exitCurrentTest] ∧
    Gen.Runner.runOneTestCode = [.clearFailed, .countRun, .mkInfo, .setJmpByMode] ∧
    Gen.Runner.terminatorWithoutExceptionsCode = [.longJmp] ∧
    Gen.Runner.crashingTerminatorCode = [.crash, .normalExit] ∧
    Gen.Runner.crashingTerminatorWithoutExceptionsCode = [.crash, .longJmpExit] := by
  decide +kernel

/-- the strings `TestOutput::printFailure` hands to `print`, computed from
    the regenerated print sequences (location format, " Failure in ", message, one- and two-location
    layout, `isOutsideTestFile`, `isInHelperFunction`), are the model's `failureToks` in the eclipse
    environment (what the Gcc platform detects) and `failureToksVS` in the Visual Studio environment. -/
theorem printFailure_is_the_source (r : FailRec) :
    failureToksGen false r = failureToks r ∧ failureToksGen true r = failureToksVS r ∧
    envIsVisualStudio none = false ∧ envIsVisualStudio (some true) = true :=
  ⟨failureToksGen_eclipse r, failureToksGen_vs r, by decide, by decide⟩

/-- in the Visual Studio environment too, whatever is printed before and after it,
    the strings of one failure record are read back as exactly that record with its own file and line. -/
theorem record_read_back_vs (r : FailRec) (hc : r.cleanVS) (before after : List String) :
    ∃ w, scanFromVS before (failureToksGen true r ++ after) = r.printed :: scanFromVS w after ∧
      r.printed.file = r.file ∧ r.printed.line = toString r.line ∧ r.printed.testName = r.testName ∧
      r.printed.msg = r.msg := by
  rw [failureToksGen_vs]
  exact ⟨_, scanFromVS_failureToksVS r hc before after, rfl, rfl, rfl, rfl⟩

/-- the two formats differ in the two separator strings only: same length, same file / line / name / message -/
theorem formats_differ_in_separators_only (r : FailRec) :
    (failureToksVS r).length = (failureToks r).length ∧
    (failureToksVS r).filter (fun s => s != "(" && s != "):" && s != ":") =
      (failureToks r).filter (fun s => s != "(" && s != "):" && s != ":") := by
  have hl : ∀ f l, (locToksVS f l).length = (locToks f l).length := fun _ _ => rfl
  have hf : ∀ f l, (locToksVS f l).filter (fun s => s != "(" && s != "):" && s != ":") =
      (locToks f l).filter (fun s => s != "(" && s != "):" && s != ":") := by
    simp [locToksVS, locToks, List.filter_cons]
  unfold failureToksVS failureToks
  cases r.twoLocations <;> simp only [if_true, if_false, Bool.false_eq_true, List.length_append, List.filter_append, hl, hf, and_self]

/-- a failure outside the test's file, Visual Studio format -/
example :
    failureToksGen true ⟨"TEST(g, n)", "t.cpp", 10, "h.c", 7, "boom"⟩ =
      ["\n", "t.cpp", "(", "10", "):", " error:", " Failure in ", "TEST(g, n)", "\n", "h.c", "(", "7", "):", " error:",
       "\n", "\t", "boom", "\n\n"] ∧
    scanFailuresVS (failureToksGen true ⟨"TEST(g, n)", "t.cpp", 10, "h.c", 7, "boom"⟩) =
      [⟨"h.c", "7", "TEST(g, n)", "boom", some ("t.cpp", "10")⟩] := by
  decide +kernel

/-- every callback `CompositeTestOutput` forwards reaches output one and
    then output two, each exactly once (`-ojunit -v`: the JUnit writer and the console) — in particular
    `printFailure`: each failure once per attached output. -/
theorem composite_forwards_once_to_each :
    (∀ e ∈ Gen.Runner.compositeReceivers, e.2 = [.one, .two]) ∧
    (Gen.Runner.compositeReceivers.map (·.1)).contains "printFailure" = true ∧
    (Gen.Runner.compositeReceivers.map (·.1)).contains "printTestsEnded" = true := by
  decide +kernel

/-- `ConsoleTestOutput::printBuffer` (regenerated statement list: write,
    then flush) leaves nothing in the stdio buffer, so whatever a process has printed is on the file
    descriptor even if the process then ends with `_exit` — as every child of `-p` does — or is killed by a
    later test: a failure that was printed stays printed. -/
theorem printed_text_survives_process_end (xs : List String) :
    (consolePrintAll {} xs).afterExit = xs ∧ (consolePrintAll {} xs).pending = [] := by
  have := printed_text_survives_exit {} rfl xs
  simpa using this

/-- the same for a child forked with an empty buffer that prints the text of a test's events -/
theorem child_failures_reach_the_console (parent : Stream) (hp : parent.pending = []) (c : Bool) (evs : List Ev) :
    (consolePrintAll parent (toksOf c evs)).afterExit = parent.visible ++ toksOf c evs :=
  (printed_text_survives_exit parent hp _).1

/-- why every print must flush: through a `printBuffer` that only writes, a process that `_exit`s shows nothing -/
theorem flush_is_needed (xs : List String) :
    (xs.foldl (fun s x => execPrintBuffer Gen.Runner.consoleFlushCode x [.fputs] s) ({} : Stream)).afterExit = [] :=
  (unflushed_text_is_lost xs).1

example : (consolePrintAll {} ["a", "b"]).afterExit = ["a", "b"] ∧
    (["a", "b"].foldl (fun s x => execPrintBuffer Gen.Runner.consoleFlushCode x [.fputs] s) ({} : Stream)).afterExit = [] := by
  decide +kernel

/-- in the Visual Studio working environment, reading the WHOLE console text of a run
    yields exactly the failing events of every repetition, in order, each once, with its own file and line
    (`file(line): error:` form); in the eclipse environment the text is the one `console_reader_full` reads. -/
theorem console_reader_full_vs (cfg : Cfg) (plugins : List Plugin) (ts : List Test) (n : Nat)
    (hr : cfg.rethrow = false) (hclean : ∀ r ∈ expectedRecords cfg plugins ts, r.cleanVS) :
    ∃ o, runAllTests cfg plugins ts n 0 = .ok o ∧
      scanFailuresVS (toksOfEnv true cfg.color o.evs) =
        ((List.replicate n (expectedRecords cfg plugins ts)).flatten).map FailRec.printed ∧
      toksOfEnv false cfg.color o.evs = toksOf cfg.color o.evs := by
  obtain ⟨o, ho, oo⟩ := run_outcome_top cfg plugins ts n hr
  have hce : CleanEvsVS o.evs := ⟨oo.safe, fun r hrm => hclean r (mem_flattenRep (oo.records ▸ hrm))⟩
  refine ⟨o, ho, ?_, toksOfEnv_eclipse cfg.color o.evs⟩
  unfold scanFailuresVS
  rw [scanFromVS_toksOfEnv cfg.color o.evs [] hce, oo.records]
  rfl

/-- whatever sequence of (forwarded) callbacks the runner makes on a
    `CompositeTestOutput`, each of its two outputs receives exactly that sequence, in order — in particular
    every `printFailure` once per attached output and every `printTestsEnded` once. -/
theorem composite_each_output_gets_every_callback {α} (who : Gen.Runner.Receiver) (calls : List (String × α))
    (hk : ∀ c ∈ calls, c.1 ∈ ["printTestsStarted", "printTestsEnded", "printCurrentTestStarted", "printCurrentTestEnded",
      "printCurrentGroupStarted", "printCurrentGroupEnded", "verbose", "color", "printBuffer", "print", "printDouble",
      "printFailure", "setProgressIndicator", "printVeryVerbose", "flush"]) :
    receivedBy who (compositeForward calls) = calls :=
  receivedBy_forward who calls (fun c hc => receiversOf_known c.1 (hk c hc))

/-- three failures and a summary through the composite: each output sees the four callbacks once, in order -/
example :
    let calls : List (String × Nat) := [("printFailure", 1), ("printFailure", 2), ("printTestsEnded", 0), ("printFailure", 3)]
    receivedBy .one (compositeForward calls) = calls ∧ receivedBy .two (compositeForward calls) = calls ∧
    (compositeForward calls).length = 8 := by
  decide +kernel

/-! ## several runner invocations in one process

The static `UtestShell::rethrowExceptions_` outlives a `CommandLineTestRunner`. `initializeTestRun` (its statements that
write the static are regenerated from the source) ASSIGNS the option of the current command line to it, so every
invocation of a sequence behaves as if it were the only one of the process: all theorems above hold for it with the
options of ITS OWN command line, whatever the earlier invocations' options were. -/

/-- the regenerated statements leave the option's value in the static, whatever it held before -/
theorem rethrow_flag_is_the_option :
    ∀ (opt flag : Bool), execRethrowInits opt Gen.Runner.initializeTestRunRethrowCode flag = opt := by
  decide +kernel

/-- `initializeTestRun` as regenerated from the source is the unconditional
    assignment of the hand-written model -/
theorem initializeTestRun_is_the_source (opt : Bool) (pr : Process) :
    initializeTestRunGen opt pr = initializeTestRun opt pr := by
  unfold initializeTestRunGen initializeTestRun
  rw [rethrow_flag_is_the_option]

/-- the tests of an invocation see the option of its own command line -/
theorem effectiveCfg_initialized (pr : Process) (i : Invocation) :
    effectiveCfg (initializeTestRun i.cfg.rethrow pr) i = i.cfg := rfl

theorem runnerInvoke_ok (pr : Process) (i : Invocation) (o : RunOut)
    (h : runAllTests i.cfg i.plugins i.tests i.repeatCount pr.depth = .ok o) :
    runnerInvoke pr i = ({ initializeTestRun i.cfg.rethrow pr with depth := o.depth }, .ok o) := by
  unfold runnerInvoke
  rw [effectiveCfg_initialized, h]

/-- in ANY process state (whatever the earlier runners left in the static flag) an
    invocation yields what `runAllTests` yields for its own command line -/
theorem invocation_as_if_alone (pr : Process) (i : Invocation) :
    (runnerInvoke pr i).2 = runAllTests i.cfg i.plugins i.tests i.repeatCount pr.depth := by
  unfold runnerInvoke
  rw [effectiveCfg_initialized]
  cases h : runAllTests i.cfg i.plugins i.tests i.repeatCount pr.depth <;> rfl

/-- a runner started with `-e` in a process in which earlier runners ran with whatever
    options (any value of the static flag) returns, and its observable result is the declarative one -/
theorem with_e_after_any_history (pr : Process) (hd : pr.depth = 0) (i : Invocation) (he : i.cfg.rethrow = false) :
    ∃ o, (runnerInvoke pr i).2 = .ok o ∧ RunOutcome i.cfg i.plugins i.tests i.repeatCount 0 o := by
  rw [invocation_as_if_alone, hd]
  exact run_outcome_top i.cfg i.plugins i.tests i.repeatCount he

/-- a sequence of invocations in one process (each quiet: `-e`, or no std / foreign
    exception leaves a test) is the list of the single runs -/
theorem sequence_every_invocation_alone :
    ∀ (invs : List Invocation) (pr : Process), pr.depth = 0 → (∀ i ∈ invs, ∀ t ∈ i.tests, QuietTest i.cfg t) →
      runSequence pr invs = invs.map (fun i => runAllTests i.cfg i.plugins i.tests i.repeatCount 0)
  | [], _, _, _ => rfl
  | i :: rest, pr, hd, hq => by
    obtain ⟨o, ho, oo⟩ := rethrow_quiet_same i.cfg i.plugins i.tests i.repeatCount (hq i (List.mem_cons_self ..))
    have hinv := runnerInvoke_ok pr i o (by rw [hd]; exact ho)
    have hrest := sequence_every_invocation_alone rest { initializeTestRun i.cfg.rethrow pr with depth := o.depth } oo.depth
      (fun j hj => hq j (List.mem_cons_of_mem _ hj))
    simp only [runSequence, hinv, List.map_cons, hrest, ho]

/-- every invocation of such a sequence returns, with the declarative outcome of ITS
    OWN command line — whatever the options of the invocations before it were -/
theorem sequence_invocation_outcome (invs : List Invocation) (pr : Process) (hd : pr.depth = 0)
    (hq : ∀ i ∈ invs, ∀ t ∈ i.tests, QuietTest i.cfg t) (k : Nat) (hk : k < invs.length) :
    ∃ o, (runSequence pr invs)[k]? = some (.ok o) ∧
      RunOutcome invs[k].cfg invs[k].plugins invs[k].tests invs[k].repeatCount 0 o := by
  obtain ⟨o, ho, oo⟩ := rethrow_quiet_same invs[k].cfg invs[k].plugins invs[k].tests invs[k].repeatCount
    (hq invs[k] (List.getElem_mem hk))
  refine ⟨o, ?_, oo⟩
  rw [sequence_every_invocation_alone invs pr hd hq, List.getElem?_map, List.getElem?_eq_getElem hk, Option.map_some, ho]

/-- a passing test: the runner without `-e` that precedes the one with `-e` -/
def exQuietTest : Test :=
  { group := "w", name := "warmup", file := "f.cpp", line := 3, ignored := false, setup := [], body := [.checkPass], teardown := [] }

/-- runner 1 WITHOUT `-e` (switches the static on), runner 2 WITH `-e` and a test whose teardown lets a std exception
    out: runner 2 records check, exception and plugin error once each, runs mark 4, returns 3, depth 0 -/
example :
    (runSequence {} [⟨{ exCfg true with rethrow := true }, [], [exQuietTest], 1⟩, ⟨exCfg true, [exPlugin], [exTest], 1⟩]).map
      (fun r => r.toOption.map (fun o => (marksIn o.evs, (failuresOf o.evs).map (·.line), o.depth, o.ret)))
    = [some ([], [], 0, 0), some ([(.setup, 1), (.teardown, 4)], [12, 10, 7], 0, 3)] ∧
    (runnerInvoke {} ⟨{ exCfg true with rethrow := true }, [], [exQuietTest], 1⟩).1.rethrowExceptions = true := by
  decide +kernel

/-- the hypothesis on the regenerated code is needed: `if (option) setRethrowExceptions(true);` leaves the static on -/
example :
    execRethrowInits false [⟨.ifOption, .lit true⟩] true = true ∧
    execRethrowInits false Gen.Runner.initializeTestRunRethrowCode true = false := by
  decide +kernel

end Runner
