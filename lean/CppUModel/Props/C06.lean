import CppUModel.Proofs.LeakMisuse
import CppUModel.Proofs.LeakOverloads
import CppUModel.Model.Misuse
/-!
# C06 — memory misuse is reported exactly

The property theorems, with the lemmas, the example allocators and the example state they need.  Model: `CppUModel/Model/LeakDetector.lean` (`dealloc`, `checkForCorruption`,
`matching` = the regenerated `matchingAllocation`, `validGuard`, `invalidateMemory`, `release`);
vocabulary: `CppUModel/Spec/LeakDetector.lean` (`family`, `GuardIntact`, `firstFail`, `freedBytes`,
`ConsistentIds`).  `(abs s).map addr` is the record of the outstanding block at `addr`, if any.
`ConsistentIds a b`: two allocator descriptors with one identity are one object (a fact about C++ objects).
-/
namespace LeakDetector

/-- the guard loop checks exactly: every guard byte holds its pattern byte -/
theorem guard_check_exact (n : Node) : validGuard n = true ↔ GuardIntact n := by
  unfold validGuard GuardIntact
  rw [validGuardFrom_iff]
  simp

/-- the regenerated `matchingAllocation` accepts a release iff type checking is off or the families agree -/
theorem matching_exact (tc : Bool) (a b : Allocator) (hc : ConsistentIds a b) :
    matching tc a b = true ↔ tc = false ∨ family a = family b := by
  unfold matching Gen.LeakDetector.matchingAllocation family
  -- identities are compared first and names only if they differ; `ConsistentIds` (one identity, one object) turns the
  -- identity branch into equal names, so that the test is a statement about families
  by_cases hid : a.actual.id = b.actual.id
  · have := hc hid
    simp [this]
  · have hb : (a.actual.id == b.actual.id) = false := by simp [hid]
    simp only [hb, Bool.false_eq_true, if_false]
    cases tc with
    | false => simp
    | true =>
      simp only [Bool.not_true, Bool.false_eq_true, if_false, beq_iff_eq]
      constructor
      · intro h; exact Or.inr h.symm
      · intro h
        rcases h with h | h
        · exact absurd h (by decide)
        · exact h.symm

/-- The report of a release, four disjoint cases, each an iff:
    silent ⇔ NULL, or outstanding ∧ (checking off ∨ same family) ∧ all guard bytes intact;
    non-allocated ⇔ not NULL and not outstanding (foreign, interior, stale);
    mismatch ⇔ outstanding ∧ checking on ∧ families differ;
    corruption ⇔ outstanding ∧ no mismatch ∧ some guard byte changed. -/
theorem dealloc_classification (s : State) (a : Allocator) (addr : Nat) (file : String) (line : Nat) (sep : Bool)
    (hc : ∀ n, (abs s).map addr = some n → ConsistentIds n.allocator a) :
    (firstFail (dealloc s a addr file line sep).2 = none ↔
      addr = 0 ∨ ∃ n, (abs s).map addr = some n ∧ (s.typeChecking = false ∨ family n.allocator = family a) ∧ GuardIntact n) ∧
    (firstFail (dealloc s a addr file line sep).2 = some .nonAllocated ↔ addr ≠ 0 ∧ (abs s).map addr = none) ∧
    (firstFail (dealloc s a addr file line sep).2 = some .mismatch ↔
      addr ≠ 0 ∧ ∃ n, (abs s).map addr = some n ∧ s.typeChecking = true ∧ family n.allocator ≠ family a) ∧
    (firstFail (dealloc s a addr file line sep).2 = some .corruption ↔
      addr ≠ 0 ∧ ∃ n, (abs s).map addr = some n ∧ (s.typeChecking = false ∨ family n.allocator = family a) ∧ ¬ GuardIntact n) := by
  rw [firstFail_dealloc]
  unfold verdict
  by_cases hz : addr = 0
  · simp [hz]
  · cases hr : s.table.retrieveNode addr with
    | none => simp [hz, show (abs s).map addr = none from hr]
    | some n =>
      have hm : (abs s).map addr = some n := hr
      -- the two tests of the record's verdict, as the property words them; `ConsistentIds` is needed here only
      have hM := matching_exact s.typeChecking n.allocator a (hc n hm)
      have hG := guard_check_exact n
      have hM' : matching s.typeChecking n.allocator a = false ↔ s.typeChecking = true ∧ family n.allocator ≠ family a := by
        rw [← Bool.not_eq_true, hM]; simp
      simp only [hz, if_false, hm, ne_eq, not_false_eq_true, true_and, false_or, Option.some.injEq, exists_eq_left',
        recordVerdict_eq_none_iff, recordVerdict_eq_mismatch_iff, recordVerdict_eq_corruption_iff, hM, hM',
        ← Bool.not_eq_true (validGuard n), hG, reduceCtorEq, recordVerdict_ne_nonAllocated, and_self]

theorem at_most_one_report (s : State) (a : Allocator) (addr : Nat) (file : String) (line : Nat) (sep : Bool) :
    ((dealloc s a addr file line sep).2.filter (fun e => match e with | .fail .. => true | _ => false)).length ≤ 1 := by
  unfold dealloc
  split
  · simp
  · split
    · simp [nonAllocatedEv]
    · rw [check_eq]; cases recordVerdict .. <;> cases sep <;> simp [failEv]

/-- "Deallocating non-allocated memory" ⇔ the address is not NULL and no outstanding block starts there
    (`isLive` on a state that satisfies the invariant: stale, interior and foreign addresses) -/
theorem non_allocated_iff (s : State) (inv : s.Inv) (a : Allocator) (addr : Nat) (file : String) (line : Nat)
    (sep : Bool) :
    firstFail (dealloc s a addr file line sep).2 = some .nonAllocated ↔ addr ≠ 0 ∧ isLive s addr = false := by
  rw [firstFail_dealloc]
  exact verdict_nonAllocated_iff inv a addr

/-- "Allocation/deallocation type mismatch" ⇔ outstanding ∧ type checking on ∧ the releasing family differs -/
theorem mismatch_iff (s : State) (a : Allocator) (addr : Nat) (file : String) (line : Nat) (sep : Bool) (n : Node)
    (hn : (abs s).map addr = some n) (hz : addr ≠ 0) (hc : ConsistentIds n.allocator a) :
    firstFail (dealloc s a addr file line sep).2 = some .mismatch ↔
      s.typeChecking = true ∧ family n.allocator ≠ family a := by
  have h := (dealloc_classification s a addr file line sep (consistent_at hn hc)).2.2.1
  rw [h]
  simp [hz, hn]

/-- "Memory corruption" ⇔ outstanding ∧ no mismatch ∧ one of the guard bytes differs from its pattern byte -/
theorem corruption_iff (s : State) (a : Allocator) (addr : Nat) (file : String) (line : Nat) (sep : Bool) (n : Node)
    (hn : (abs s).map addr = some n) (hz : addr ≠ 0) (hc : ConsistentIds n.allocator a)
    (hmatch : s.typeChecking = false ∨ family n.allocator = family a) :
    firstFail (dealloc s a addr file line sep).2 = some .corruption ↔
      ∃ i, i < Gen.LeakDetector.guardSize ∧
        n.guardAt i ≠ Gen.LeakDetector.guardBytes.getD (i % Gen.LeakDetector.guardBytes.length) 0 := by
  have h := (dealloc_classification s a addr file line sep (consistent_at hn hc)).2.2.2
  rw [h]
  simp only [hz, ne_eq, not_false_eq_true, hn, Option.some.injEq, exists_eq_left', hmatch, true_and, not_guardIntact_iff]

theorem null_release_silent (s : State) (a : Allocator) (file : String) (line : Nat) (sep : Bool) :
    dealloc s a 0 file line sep = (s, []) := by simp [dealloc]

/-- a correctly paired release (same family, guard bytes untouched) never produces a report -/
theorem paired_release_silent (s : State) (a : Allocator) (addr : Nat) (file : String) (line : Nat) (sep : Bool)
    (n : Node) (hn : (abs s).map addr = some n) (hc : ConsistentIds n.allocator a)
    (hfam : family n.allocator = family a) (hg : GuardIntact n) :
    firstFail (dealloc s a addr file line sep).2 = none := by
  have h := (dealloc_classification s a addr file line sep (consistent_at hn hc)).1
  rw [h]
  exact Or.inr ⟨n, hn, Or.inr hfam, hg⟩

/-- a freshly (re)allocated block has its guard bytes intact, whatever the size and the fill byte -/
theorem fresh_block_guard_intact (size : Nat) (fill : UInt8) (n : Node) (hs : n.size = size)
    (hb : n.bytes = freshBytes size fill) : GuardIntact n := by
  intro i hi
  unfold Node.guardAt
  rw [hb, hs, freshBytes, List.getD_eq_getElem?_getD, List.getElem?_append_right (by simp)]
  simp only [List.length_replicate, Nat.add_sub_cancel_left, guardPattern]
  rw [List.getElem?_map, List.getElem?_range hi]
  rfl

/-- Writing any byte anywhere inside the user bytes of an outstanding block changes the report of no release
    (of that block or of any other address, through any allocator). -/
theorem user_write_never_reports (s : State) (inv : s.Inv) (addr off : Nat) (b : UInt8)
    (hoff : ∀ n, (abs s).map addr = some n → off < n.size)
    (a : Allocator) (addr' : Nat) (file : String) (line : Nat) (sep : Bool) :
    firstFail (dealloc (writeByte s addr off b) a addr' file line sep).2 =
      firstFail (dealloc s a addr' file line sep).2 := by
  rw [firstFail_dealloc, firstFail_dealloc]
  exact verdict_update (step_abs inv (.write addr off b) trivial) (fun _ => rfl)
    (fun n hn => guardAt_user_write n off b (hoff n hn)) a addr'

/-- Writing the byte `b` over guard byte `i` of an intact block is reported as corruption at release iff `b` is
    not the pattern byte (every guard position, every byte value). -/
theorem guard_write_reported_iff (s : State) (inv : s.Inv) (addr i : Nat) (b : UInt8) (n : Node)
    (hn : (abs s).map addr = some n) (hz : addr ≠ 0) (hi : i < Gen.LeakDetector.guardSize)
    (hlen : n.size + i < n.bytes.length) (hg : GuardIntact n)
    (a : Allocator) (hm : matching s.typeChecking n.allocator a = true) (file : String) (line : Nat) (sep : Bool) :
    firstFail (dealloc (writeByte s addr (n.size + i) b) a addr file line sep).2 =
      if b = Gen.LeakDetector.guardBytes.getD (i % Gen.LeakDetector.guardBytes.length) 0 then none else some .corruption := by
  rw [firstFail_dealloc]
  have hw : (writeByte s addr (n.size + i) b).table.retrieveNode addr = _ :=
    abs_update_self (step_abs inv (.write addr (n.size + i) b) trivial) hn
  unfold verdict recordVerdict
  simp only [hz, if_false, hw]
  simp only [writeByte, hm, Bool.not_true, Bool.false_eq_true, if_false]
  have hat := guardAt_guard_write n i b hlen
  -- the idea: after the write every guard byte but the `i`-th is as before (`hat`), so the written record's guard is
  -- valid iff the written byte is the pattern byte of position `i`; the rest reads this off `recordVerdict`
  have key : validGuard ({ n with bytes := setByte n.bytes (n.size + i) b } : Node) = true ↔
      b = Gen.LeakDetector.guardBytes.getD (i % Gen.LeakDetector.guardBytes.length) 0 := by
    rw [guard_check_exact]
    constructor
    · intro h; simpa [hat i] using h i hi
    · intro hb j hj
      rw [hat j]
      split
      · subst j; exact hb
      · exact hg j hj
  by_cases hb : b = Gen.LeakDetector.guardBytes.getD (i % Gen.LeakDetector.guardBytes.length) 0
  · rw [key.mpr hb, if_pos hb]; rfl
  · rw [Bool.eq_false_iff.mpr (mt key.mp hb), if_neg hb]; rfl

/-- `invalidateMemory` changes the report of no release (the guard bytes and the records' allocators are untouched) -/
theorem invalidate_keeps_verdict (s : State) (inv : s.Inv) (addr : Nat) (a : Allocator) (addr' : Nat) (file : String)
    (line : Nat) (sep : Bool) :
    firstFail (dealloc (invalidateMemory s addr) a addr' file line sep).2 =
      firstFail (dealloc s a addr' file line sep).2 := by
  rw [firstFail_dealloc, firstFail_dealloc]
  exact verdict_update (step_abs inv (.invalidate addr) trivial) (fun _ => rfl) (fun n _ => guardAt_poison n) a addr'

/-- Release through `operator delete`, `operator delete[]` or `free`: the user bytes handed back to the underlying
    allocator are all the poison byte (and it is that block, once), whatever the verdict of the release. -/
theorem poisoned_before_release (c : Current) (f : Family) (s : State) (inv : s.Inv) (n : Node) (hn : n ∈ s.nodes)
    (file : String) (line : Nat) :
    freedBytes (release c f s n.addr file line).2 = [(n.addr, List.replicate n.size Gen.LeakDetector.poisonByte)] := by
  have inv' : (invalidateMemory s n.addr).Inv := step_inv inv (.invalidate n.addr) trivial
  have hmem : poison n ∈ (invalidateMemory s n.addr).nodes :=
    ((retrieve_some_iff inv').mp (retrieve_invalidate inv hn)).1
  rw [release_eq]
  exact (freedBytes_dealloc_live inv' hmem ..).trans (by rw [user_poison]; rfl)

/-- the release wrappers report exactly what a plain release with the family's current allocator reports -/
theorem release_reports_like_dealloc (c : Current) (f : Family) (s : State) (inv : s.Inv) (addr : Nat) (file : String)
    (line : Nat) :
    firstFail (release c f s addr file line).2 = firstFail (dealloc s (c.of f) addr file line false).2 := by
  rw [release_eq, invalidate_keeps_verdict s inv, firstFail_dealloc, firstFail_dealloc]

/-- in the source every release wrapper calls `invalidateMemory` on the released pointer before `deallocMemory`
    (regenerated from MemoryLeakWarningPlugin.cpp) -/
theorem release_wrappers_poison_first :
    ∀ w ∈ Gen.LeakDetector.releaseWrappers, w.invalidateThenDealloc = true := fun w hw => (release_layout w hw).1

/-- Every release wrapper of the source, plain AND thread-safe, executed as regenerated (its own statement order,
    current allocator, location arguments, layout flag) is the modelled `release` of its family — so everything proved
    about `release` (`poisoned_before_release`, `release_reports_like_dealloc`) holds for all six wrappers. -/
theorem release_wrappers_are_release :
    ∀ w ∈ Gen.LeakDetector.releaseWrappers, ∀ (c : Current) (s : State) (addr : Nat) (file : String) (line : Nat),
      releaseBy w c s addr file line = release c (familyOfGetter w.getter) s addr file line := by
  intro w hw c s addr file line
  obtain ⟨h1, h2, h3⟩ := release_layout w hw
  rw [releaseBy, if_pos h1, release_eq, byGetter_eq_of, h2, h3]
  cases familyOfGetter w.getter <;> rfl

/-- both variants of every family are in the table: `free`, `delete`, `delete[]`, each plain and thread-safe -/
theorem release_wrappers_complete :
    (Gen.LeakDetector.releaseWrappers.map (·.name)) =
      ["threadsafe_mem_leak_free", "mem_leak_free", "threadsafe_mem_leak_operator_delete",
       "threadsafe_mem_leak_operator_delete_array", "mem_leak_operator_delete", "mem_leak_operator_delete_array"] := by decide +kernel

/-- hence: through every wrapper, plain or thread-safe, the block comes back with all user bytes poisoned -/
theorem poisoned_before_release_all_wrappers (w : Gen.LeakDetector.ReleaseWrapper) (hw : w ∈ Gen.LeakDetector.releaseWrappers)
    (c : Current) (s : State) (inv : s.Inv) (n : Node) (hn : n ∈ s.nodes) (file : String) (line : Nat) :
    freedBytes (releaseBy w c s n.addr file line).2 = [(n.addr, List.replicate n.size Gen.LeakDetector.poisonByte)] := by
  rw [release_wrappers_are_release w hw]
  exact poisoned_before_release c _ s inv n hn file line

/-- Every releasing overload (`operator delete` / `delete[]` plain, `(p, file, line)`, sized, nothrow, and
    `cpputest_free_location`), in both overload modes, ends in the release wrapper of ITS family, and every acquiring overload
    in `allocMemory` with the current allocator of its family: a `new[]` block released by any `delete[]` form is a correctly
    paired release (forwarding of every operator, both function-pointer tables and every wrapper's allocator regenerated). -/
theorem overloads_release_with_their_family : overloadsWiredCorrectly = true := overloads_wired

/-! ## the memory-report plugin's allocators (CppUTestExt) -/

/-- `setGlobalMemoryReportAllocators` / `removeGlobalMemoryReportAllocators` as regenerated: each statement stays inside one
    family (member, getter, setter, restored member) and each family is handled once -/
theorem report_allocators_wired_correctly : reportWiringOk = true := by decide +kernel

/-- identity: after the post-test action the three current allocators are exactly the ones that were current before the
    pre-test action, whatever they were -/
theorem report_post_restores_current (r : ReportAllocs) (c : Current) :
    reportPost (reportPre r c).1 (reportPre r c).2 = c := by
  cases c; cases r
  simp [reportPost, reportPre, Gen.LeakDetector.reportInstall, Gen.LeakDetector.reportRemove, installStep, removeStep,
    ReportAllocs.get, ReportAllocs.set, Current.byGetter, Current.bySetter, Allocator.rewrap, Allocator.real, Allocator.id]

/-- while installed, a report allocator stands for the family of the allocator it took over from (it is compared as its
    actual allocator: `wrapper_transparent`) -/
theorem report_allocators_keep_the_family (r : ReportAllocs) (c : Current) :
    family (reportPre r c).2.newA = family c.newA ∧ family (reportPre r c).2.newArrayA = family c.newArrayA ∧
    family (reportPre r c).2.mallocA = family c.mallocA := by
  cases c; cases r
  simp [reportPre, Gen.LeakDetector.reportInstall, installStep, ReportAllocs.get, ReportAllocs.set, Current.byGetter,
    Current.bySetter, Allocator.rewrap, family, Allocator.actual]

/-- the constants the proofs rely on: three guard bytes `B A S`, poison `0xCD` -/
theorem guard_constants :
    Gen.LeakDetector.guardSize = 3 ∧ guardPattern = [0x42, 0x41, 0x53] ∧ Gen.LeakDetector.poisonByte = 0xCD ∧
    ∀ b ∈ guardPattern, b ≠ Gen.LeakDetector.poisonByte := by decide

/-- A wrapper allocator (`MemoryLeakAllocator`, accounting, cache, report wrapper) is compared as its actual
    allocator, on either side of the comparison, at any nesting depth. -/
theorem wrapper_transparent (s : State) (i : Nat) (a : Allocator) (addr : Nat) (file : String) (line : Nat) (sep : Bool) :
    family (.wrap i a) = family a ∧
    (∀ tc b, matching tc (.wrap i a) b = matching tc a b ∧ matching tc b (.wrap i a) = matching tc b a) ∧
    (∀ tc b, matching tc a.actual b.actual = matching tc a b) ∧
    firstFail (dealloc s (.wrap i a) addr file line sep).2 = firstFail (dealloc s a addr file line sep).2 := by
  refine ⟨family_wrap i a, fun tc b => ⟨matching_wrap_left tc i a b, matching_wrap_right tc i b a⟩,
    fun tc b => matching_actual tc a b, ?_⟩
  rw [firstFail_dealloc, firstFail_dealloc]
  rfl

/-! ## a defect next to the property: the inline record handed to `freeMemoryLeakNode`

The property speaks about what is REPORTED.  What the silent release then does to the bookkeeping record is
outside its statement; the model shows it (event `nfree false` = `allocator->freeMemoryLeakNode(node)` with a
`node` that was not obtained from `allocMemoryLeakNode`, i.e. a pointer into the block being released). -/

/-- A release passes the inline record of the block (a pointer INTO the block) to `freeMemoryLeakNode` exactly when
    the release is silent, asks for the separate layout, and the record was allocated inline. -/
theorem inline_record_freed_iff (s : State) (a : Allocator) (addr : Nat) (file : String) (line : Nat) (sep : Bool)
    (n : Node) (hn : (abs s).map addr = some n) (hz : addr ≠ 0) :
    Ev.nfree false ∈ (dealloc s a addr file line sep).2 ↔
      sep = true ∧ n.sepNode = false ∧ matching s.typeChecking n.allocator a = true ∧ validGuard n = true := by
  have hr : s.table.retrieveNode addr = some n := hn
  simp only [dealloc, hz, if_false, hr, check_eq, ← recordVerdict_eq_none_iff]
  cases recordVerdict s.typeChecking n a <;> cases sep <;> simp [failEv]

/-- with one layout per block (the release uses the layout the block was allocated with) it never happens -/
theorem consistent_layout_never_frees_inline_record (s : State) (a : Allocator) (addr : Nat) (file : String) (line : Nat)
    (n : Node) (hn : (abs s).map addr = some n) (hz : addr ≠ 0) :
    Ev.nfree false ∉ (dealloc s a addr file line n.sepNode).2 := by
  rw [inline_record_freed_iff s a addr file line n.sepNode n hn hz]
  intro h
  rw [h.1] at h
  exact absurd h.2.1 (by decide)

/-- the full statement one would like for the real overloads: whatever family acquired a block and whatever family
    releases it, no release hands a pointer into the block to `freeMemoryLeakNode` -/
def overloads_never_free_inline_record_full : Prop :=
  ∀ (c : Current) (s : State) (f g : Family) (size : Nat) (file : String) (line result : Nat) (fill : UInt8),
    s.Inv → result ≠ 0 → isLive s result = false →
    Ev.nfree false ∉ (release c g (acquire c f s size file line result true fill).1 result file line).2

/-- It is false: type checking off, `operator new` then `free()` (the `free` overload asks for the separate layout,
    the block of `operator new` has its record inline).  With the default allocators this is `free()` of a pointer into
    the block (confirmed on the real code under ASan: "attempting free on address which was not malloc()-ed"). -/
theorem overloads_never_free_inline_record_fails_known : ¬ overloads_never_free_inline_record_full := by
  intro h
  have := h { newA := .plain 0 "Standard New Allocator" "new" "delete",
              newArrayA := .plain 1 "Standard New [] Allocator" "new []" "delete []",
              mallocA := .plain 2 "Standard Malloc Allocator" "malloc" "free" }
    (disableTypeChecking (State.init 73)) .new .malloc 10 "a.cpp" 1 1168 0xA5
    (Table.inv_empty 73 (by decide)) (by decide) (by decide)
  exact this (by decide)

/-- what is true: through the overloads it happens exactly for a silent `free()` of a block whose record is inline -/
theorem overloads_free_inline_record_iff (c : Current) (g : Family) (s : State) (inv : s.Inv) (n : Node)
    (hn : n ∈ s.nodes) (file : String) (line : Nat) :
    Ev.nfree false ∈ (release c g s n.addr file line).2 ↔
      g = .malloc ∧ n.sepNode = false ∧ matching s.typeChecking n.allocator c.mallocA = true ∧ validGuard n = true := by
  have hp : (abs (invalidateMemory s n.addr)).map n.addr = some (poison n) := retrieve_invalidate inv hn
  have htc : (invalidateMemory s n.addr).typeChecking = s.typeChecking := by
    unfold invalidateMemory; split <;> rfl
  rw [release_eq, inline_record_freed_iff _ _ _ _ _ _ (poison n) hp (inv.nonnull n hn), htc,
    validGuard_congr (guardAt_poison n)]
  cases g <;> simp [poison, Current.of]

/-- … so with type checking on and the `new` / `new[]` families different from the `malloc` family, never -/
theorem overloads_never_free_inline_record_partial (c : Current) (g : Family) (s : State) (inv : s.Inv) (n : Node)
    (hn : n ∈ s.nodes) (file : String) (line : Nat) (htc : s.typeChecking = true)
    (hlay : n.sepNode = false → family n.allocator ≠ family c.mallocA)
    (hc : ConsistentIds n.allocator c.mallocA) :
    Ev.nfree false ∉ (release c g s n.addr file line).2 := by
  rw [overloads_free_inline_record_iff c g s inv n hn]
  rintro ⟨_, h2, h3, _⟩
  have := (matching_exact s.typeChecking n.allocator c.mallocA hc).mp h3
  rcases this with h | h
  · rw [htc] at h; exact absurd h (by decide)
  · exact hlay h2 h

/-! ## the misuse path as REGENERATED from the source (`Gen/MisuseCode.lean`, interpreted by `Model/Misuse.lean`)

Everything above is stated about the hand model (`dealloc`, `checkForCorruption`, `invalidateMemory`).  The theorems of this
section say that the statement lists, tables and strings extracted from the source at check time, executed by the
interpreters of `Model/Misuse.lean`, ARE that hand model — so the classification, poisoning and transparency theorems speak
about what `MemoryLeakDetector.cpp` / `TestMemoryAllocator.cpp` say today. -/

section Regenerated
open Misuse

/-- the three category lines are pairwise different and each is decoded to its own category -/
theorem category_lines_decodable (k : FailKind) : kindOfMessage (categoryLine k) = some k := by
  cases k <;> decide +kernel

/-- the three report functions of the source carry exactly the three categories the property names; only the non-allocated
    report takes its allocation side from `"<unknown>", 0, 0, NullUnknownAllocator` -/
theorem report_messages_are_the_categories :
    Gen.Misuse.reportFns.map (fun r => (r.name, kindOfMessage r.message, r.allocFromNode)) =
      [("reportDeallocateNonAllocatedMemoryFailure", some FailKind.nonAllocated, false),
       ("reportAllocationDeallocationMismatchFailure", some FailKind.mismatch, true),
       ("reportMemoryCorruptionFailure", some FailKind.corruption, true)] := by decide +kernel

/-- `NullUnknownAllocator` with the regenerated name strings is the allocator the model prints in the non-allocated report -/
theorem null_unknown_regenerated : nullUnknownGen = Allocator.nullUnknown := by decide

theorem reportEv_regenerated (n : Node) (file : String) (line : Nat) (a : Allocator) :
    reportEv "reportAllocationDeallocationMismatchFailure" (some n) file line a = [failEv .mismatch n file line a] ∧
    reportEv "reportMemoryCorruptionFailure" (some n) file line a = [failEv .corruption n file line a] ∧
    reportEv "reportDeallocateNonAllocatedMemoryFailure" none file line a = [nonAllocatedEv file line a] := by
  simp [reportEv, reportFn, Gen.Misuse.reportFns, kindOfMessage, categoryLine, failEv, nonAllocatedEv,
    null_unknown_regenerated]

/-- `checkForCorruption` as regenerated (order `mismatch first, then the guard bytes, then the separate record`, the `else if`s,
    `allocator->actualAllocator()` on the releasing side) is the modelled one, for every record, allocator and flag -/
theorem checkForCorruption_regenerated (tc : Bool) (n : Node) (file : String) (line : Nat) (a : Allocator) (sep : Bool) :
    checkGen tc n file line a sep = checkForCorruption tc n file line a sep := by
  unfold checkGen checkForCorruption
  simp only [Gen.Misuse.checkChain, runChain, condHolds, actEvs]
  obtain ⟨hm, hc, _⟩ := reportEv_regenerated n file line a.actual
  cases h1 : matching tc n.allocator a <;> cases h2 : validGuard n <;> cases sep <;> simp [hm, hc]

/-- `deallocMemory` as regenerated (NULL first, `removeNode`, non-allocated report and return, then — for an allocator object
    that is alive — size read, `checkForCorruption`, `free_memory`, in this order) is the modelled `dealloc` -/
theorem deallocMemory_regenerated (s : State) (a : Allocator) (addr : Nat) (file : String) (line : Nat) (sep : Bool) :
    deallocGen false s a addr file line sep = dealloc s a addr file line sep := by
  unfold deallocGen dealloc
  simp only [Gen.Misuse.deallocStmts, List.foldl, stmtStep]
  by_cases hz : addr = 0
  · simp [hz]
  · cases hr : s.table.retrieveNode addr with
    | none =>
      simp [hz, hr, (reportEv_regenerated default file line a).2.2]
    | some n =>
      simp [hz, hr, bodyStep, checkForCorruption_regenerated]

/-- the branch the hand model does not have: when `allocator->hasBeenDestroyed()` answers true the record of an outstanding
    block is dropped, nothing is checked, reported or handed back (outside the property's quantifier: the releasing
    allocator object is dead) -/
theorem destroyed_allocator_release (s : State) (a : Allocator) (addr : Nat) (file : String) (line : Nat) (sep : Bool) :
    deallocGen true s a addr file line sep =
      if addr = 0 then (s, [])
      else match s.table.retrieveNode addr with
        | none => (s, [nonAllocatedEv file line a])
        | some _ => ({ s with table := s.table.unlinkNode addr }, []) := by
  unfold deallocGen
  simp only [Gen.Misuse.deallocStmts, List.foldl, stmtStep]
  by_cases hz : addr = 0
  · simp [hz]
  · cases hr : s.table.retrieveNode addr with
    | none =>
      simp [hz, hr, (reportEv_regenerated default file line a).2.2]
    | some n => simp [hz, hr]

/-- `invalidateMemory` as regenerated (lookup without unlinking, fill byte, exactly `node->size_` bytes) is the modelled one -/
theorem invalidateMemory_regenerated (s : State) (addr : Nat) : invalidateGen s addr = invalidateMemory s addr := by
  have hp : poisonGen = poison := by
    funext n
    simp [poisonGen, poison, poisonLen, Gen.Misuse.invalidateLenDelta, Gen.Misuse.invalidateFill, Gen.LeakDetector.poisonByte]
  unfold invalidateGen invalidateMemory
  rw [hp]
  rfl

/-- the type-checking switch: `enable…` sets the flag, `disable…` clears it, a new detector has it set -/
theorem type_checking_switch_regenerated (s : State) (hp : Nat) :
    enableTypeCheckingGen s = enableTypeChecking s ∧ disableTypeCheckingGen s = disableTypeChecking s ∧
    (State.init hp).typeChecking = Gen.Misuse.typeCheckingInitial := ⟨rfl, rfl, rfl⟩

/-- `isOfEqualType` as regenerated is equality of the `name()` strings, which is what `matching` hands to `matchingAllocation` -/
theorem equal_type_is_name_equality (tc : Bool) (a b : Allocator) :
    matching tc a b =
      Gen.LeakDetector.matchingAllocation (a.actual.id == b.actual.id) tc (Gen.Misuse.isOfEqualType b.actual.name a.actual.name) := rfl

/-- The classification of a release (four disjoint iff-cases) for `deallocMemory` AS THE SOURCE HAS IT at check time. -/
theorem dealloc_classification_regenerated (s : State) (a : Allocator) (addr : Nat) (file : String) (line : Nat) (sep : Bool)
    (hc : ∀ n, (abs s).map addr = some n → ConsistentIds n.allocator a) :
    (firstFail (deallocGen false s a addr file line sep).2 = none ↔
      addr = 0 ∨ ∃ n, (abs s).map addr = some n ∧ (s.typeChecking = false ∨ family n.allocator = family a) ∧ GuardIntact n) ∧
    (firstFail (deallocGen false s a addr file line sep).2 = some .nonAllocated ↔ addr ≠ 0 ∧ (abs s).map addr = none) ∧
    (firstFail (deallocGen false s a addr file line sep).2 = some .mismatch ↔
      addr ≠ 0 ∧ ∃ n, (abs s).map addr = some n ∧ s.typeChecking = true ∧ family n.allocator ≠ family a) ∧
    (firstFail (deallocGen false s a addr file line sep).2 = some .corruption ↔
      addr ≠ 0 ∧ ∃ n, (abs s).map addr = some n ∧ (s.typeChecking = false ∨ family n.allocator = family a) ∧ ¬ GuardIntact n) := by
  rw [deallocMemory_regenerated]
  exact dealloc_classification s a addr file line sep hc

/-- release through a wrapper of the source with `invalidateMemory` and `deallocMemory` both taken from the regenerated lists:
    the block comes back once, all user bytes poisoned -/
theorem poisoned_before_release_regenerated (w : Gen.LeakDetector.ReleaseWrapper) (hw : w ∈ Gen.LeakDetector.releaseWrappers)
    (c : Current) (s : State) (inv : s.Inv) (n : Node) (hn : n ∈ s.nodes) (file : String) (line : Nat) :
    freedBytes (deallocGen false (invalidateGen s n.addr) (c.byGetter w.getter) n.addr
        (if w.withLocation then file else "<unknown>") (if w.withLocation then line else 0) w.separateNode).2 =
      [(n.addr, List.replicate n.size Gen.Misuse.invalidateFill)] := by
  rw [deallocMemory_regenerated, invalidateMemory_regenerated]
  have h := poisoned_before_release_all_wrappers w hw c s inv n hn file line
  have hi : w.invalidateThenDealloc = true := release_wrappers_poison_first w hw
  simp only [releaseBy, hi, if_true] at h
  exact h

/-! ### the allocator objects the library creates itself -/

/-- the three default allocators are three different families, none of them is the `NullUnknownAllocator`'s or the base
    class default (`CrashOnAllocationAllocator`): `new`/`delete[]`, `new[]`/`free`, … ARE mismatches -/
theorem default_families_distinct :
    [family defaultNew, family defaultNewArray, family defaultMalloc, family nullUnknownGen, family (crashAllocator 0)].Nodup := by
  decide +kernel

/-- concretely: with type checking on, a block of one default allocator released through another one is a mismatch, through
    the same one (or a second object with its name) it is not -/
theorem default_allocators_mismatch_iff (tc : Bool) :
    matching tc defaultNew defaultNewArray = !tc ∧ matching tc defaultNewArray defaultNew = !tc ∧
    matching tc defaultNew defaultMalloc = !tc ∧ matching tc defaultMalloc defaultNew = !tc ∧
    matching tc defaultNewArray defaultMalloc = !tc ∧ matching tc defaultMalloc defaultNewArray = !tc ∧
    matching tc defaultNew defaultNew = true ∧ matching tc defaultNewArray defaultNewArray = true ∧
    matching tc defaultMalloc defaultMalloc = true := by
  cases tc <;> decide +kernel

/-- `MemoryLeakAllocator(orig).free_memory` as regenerated is a plain release through `orig` with the inline layout … -/
theorem mla_free_is_release_through_original (i : Nat) (o : Allocator) (s : State) (addr : Nat) (file : String) (line : Nat) :
    mlaFree (.wrap i o) o s addr file line = dealloc s o addr file line false := rfl

/-- … `alloc_memory` an allocation for `orig` … -/
theorem mla_alloc_is_alloc_for_original (i : Nat) (o : Allocator) (s : State) (size : Nat) (file : String) (line result : Nat)
    (fill : UInt8) :
    mlaAlloc (.wrap i o) o s size file line result fill = alloc s o size file line false result true fill := rfl

/-- … hence its report is the one of a release through the wrapper object itself (`wrapper_transparent`) -/
theorem mla_free_reports_like_the_wrapper (i : Nat) (o : Allocator) (s : State) (addr : Nat) (file : String) (line : Nat) :
    firstFail (mlaFree (.wrap i o) o s addr file line).2 = firstFail (dealloc s (.wrap i o) addr file line false).2 := by
  rw [mla_free_is_release_through_original]
  exact ((wrapper_transparent s i o addr file line false).2.2.2).symm

/-- a release THROUGH the `NullUnknownAllocator` is classified like any other release (its family is its own), and nothing is
    handed back to the underlying allocator -/
theorem null_allocator_release (s : State) (addr : Nat) (file : String) (line : Nat) (sep : Bool) :
    firstFail (nullRelease s addr file line sep).2 = firstFail (dealloc s nullUnknownGen addr file line sep).2 ∧
    freedBytes (nullRelease s addr file line sep).2 = [] :=
  filter_not_ufree _

/-- an acquisition through it tracks nothing and returns NULL -/
theorem null_allocator_acquire (s : State) (size : Nat) (file : String) (line : Nat) (sep : Bool) :
    (nullAcquire s size file line sep).1 = s ∧ Ev.ret 0 ∈ (nullAcquire s size file line sep).2 := by
  unfold nullAcquire alloc
  by_cases h : sizeOverflows size = true <;> simp [h, isUalloc]

/-- `CrashOnAllocationAllocator`: `UT_CRASH()` runs exactly when the global detector's allocation number is the chosen one
    (both `unsigned`) -/
theorem crash_allocator_crashes_iff (seq n : Nat) : crashes seq n = true ↔ seq % 2 ^ 32 = n % 2 ^ 32 := by
  simp [crashes, Gen.Misuse.crashCompare]

/-! ### the text handed to `MemoryLeakFailure::fail` -/

/-- The text of a report, for every category and every value of its fields: the category line the property names, then the
    allocation line and the deallocation line built with the regenerated formats (statement order of `reportFailure`; the
    reporter is called last, so it sees all three). -/
theorem fail_text_lines (k : FailKind) (af : String) (al asz : Nat) (aty ff : String) (fl : Nat) (fty : String) :
    failLines (.fail k af al asz aty ff fl fty) =
      [categoryLine k,
       format Gen.Misuse.allocLocationFormat [af, toString (toInt32 al), toString (asz % 2 ^ 64), aty],
       format Gen.Misuse.freeLocationFormat [ff, toString (toInt32 fl), fty]] := by
  cases k <;> rfl

/-- hence the first line of the text of every report of a release decodes to the category of the event -/
theorem fail_text_first_line_is_category (e : Ev) (k : FailKind) (h : firstFail [e] = some k) :
    ((failLines e).head?).bind kindOfMessage = some k := by
  cases e with
  | fail k' af al asz aty ff fl fty =>
    simp only [firstFail, Option.some.injEq] at h
    subst h
    rw [fail_text_lines]
    exact category_lines_decodable k'
  | _ => simp [firstFail] at h

end Regenerated

/-! ## non-vacuity -/

def c6New : Allocator := .plain 0 "Standard New Allocator" "new" "delete"
def c6New' : Allocator := .plain 3 "Standard New Allocator" "new" "delete"
def c6Malloc : Allocator := .plain 2 "Standard Malloc Allocator" "malloc" "free"
def c6Wrapped : Allocator := .wrap 9 (.wrap 10 c6New)

def c6State : State :=
  (run (State.init 73) [.enable, .alloc c6New 4 "a.c" 1 false 1168 true 0xA5, .alloc c6Malloc 2 "b.c" 2 true 1241 true 0xA5]).1

example : firstFail (dealloc c6State c6New' 1168 "x" 1 false).2 = none := by decide +kernel
example : firstFail (dealloc c6State c6Wrapped 1168 "x" 1 false).2 = none := by decide +kernel
example : firstFail (dealloc c6State c6Malloc 1168 "x" 1 true).2 = some .mismatch := by decide +kernel
example : firstFail (dealloc (disableTypeChecking c6State) c6Malloc 1168 "x" 1 false).2 = none := by decide +kernel
example : firstFail (dealloc c6State c6New 1169 "x" 1 false).2 = some .nonAllocated := by decide +kernel
example : firstFail (dealloc (writeByte c6State 1168 5 0x00) c6New 1168 "x" 1 false).2 = some .corruption := by decide +kernel
example : firstFail (dealloc (writeByte c6State 1168 6 0x42) c6New 1168 "x" 1 false).2 = some .corruption := by decide +kernel
example : firstFail (dealloc (writeByte c6State 1168 5 0x41) c6New 1168 "x" 1 false).2 = none := by decide +kernel
example : firstFail (dealloc (writeByte c6State 1168 3 0x00) c6New 1168 "x" 1 false).2 = none := by decide +kernel
example : freedBytes (release { newA := c6New, newArrayA := c6New, mallocA := c6Malloc } .malloc c6State 1241 "x" 1).2
    = [(1241, [0xCD, 0xCD])] := by decide +kernel
example : ConsistentIds c6New c6New' := by intro h; exact absurd h (by decide)

open Misuse in
example : (deallocGen false c6State c6Malloc 1168 "x.c" 7 true).2 =
    [.fail .mismatch "a.c" 1 4 "new" "x.c" 7 "free", .ufree c6Malloc 1168 4 [0xA5, 0xA5, 0xA5, 0xA5]] := by decide +kernel
open Misuse in
example : (deallocGen true c6State c6Malloc 1168 "x.c" 7 true).2 = [] := by decide +kernel
open Misuse in
example : failText (.fail .mismatch "a.c" 1 4 "new" "x.c" 7 "free") =
    "Allocation/deallocation type mismatch\n   allocated at file: a.c line: 1 size: 4 type: new\n   deallocated at file: x.c line: 7 type: free\n" := by decide +kernel
set_option maxRecDepth 100000 in
open Misuse in
example : failText (nonAllocatedEv "x.c" 9 c6New) =
    "Deallocating non-allocated memory\n   allocated at file: <unknown> line: 0 size: 0 type: unknown\n   deallocated at file: x.c line: 9 type: delete\n" := by decide +kernel
open Misuse in
example : toInt32 4294967295 = -1 ∧ toInt32 2147483647 = 2147483647 := by decide
open Misuse in
example : firstFail (nullRelease c6State 1241 "x" 1 true).2 = some .mismatch ∧
    firstFail (nullRelease (disableTypeChecking c6State) 1241 "x" 1 true).2 = none ∧
    freedBytes (dealloc (disableTypeChecking c6State) c6Malloc 1241 "x" 1 true).2 ≠ [] := by decide +kernel
open Misuse in
example : (invalidateGen c6State 1168).table.retrieveNode 1168 = (invalidateMemory c6State 1168).table.retrieveNode 1168 ∧
    ((invalidateGen c6State 1168).table.retrieveNode 1168).map (·.user) = some [0xCD, 0xCD, 0xCD, 0xCD] := by decide +kernel
open Misuse in
example : crashes 5 5 = true ∧ crashes 5 6 = false ∧ crashes (2 ^ 32 + 5) 5 = true := by decide

end LeakDetector
