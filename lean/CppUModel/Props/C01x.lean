import CppUModel.Props.C01
import CppUModel.Props.C07
import CppUModel.Props.C17x
/-!
# C01x — failures added by plugin actions are recorded once, in the order of the chain; the C07 verdict is counted once

Composition theorems.  They connect

* `Model/Runner.lean` (C01): `runAllPost`, `runAllTests`, C01's `failures_recorded_once`
  (`Spec/Runner.lean`: `postFailures`, `testFailures`, `expectedFailures`), with
* `Model/Plugins.lean` (C17) through `Props/C17x.lean`: the order of the post actions, and with
* `Model/LeakPlugin.lean` (C07): `runTest` of the per-test leak verdict, for which `failures_recorded`
  (`Props/C07.lean`) counts "own failing checks + at most one leak failure".

A post action's failure is the event `Ev.failure` that follows that plugin's `Ev.plug name true` event.
-/
namespace Compose.C01x
open Runner Compose.C17x

/-! ## the post actions in closed form -/

/-- what one enabled plugin's post action emits: its `plug` event and one failure per applicable error -/
def postSegment (cfg : Cfg) (t : Test) (d : Int) (p : Runner.Plugin) : List Ev :=
  .plug p.name true d :: (pluginErrs cfg t p.post).map Ev.failure

/-- connects `Runner.runAllPost` (C01) with the reverse-chain order of C17: the
    events are the segments of the enabled plugins, last plugin of the chain first; each applicable error of each
    enabled plugin is reported exactly once, right after that plugin's action starts. -/
theorem post_events_closed_form (cfg : Cfg) (t : Test) : ∀ (ps : List Runner.Plugin) (st : TSt),
    (Runner.runAllPost cfg t ps st).evs = (ps.reverse.filter (·.enabled)).flatMap (postSegment cfg t st.depth)
  | ps, st => by rw [runAllPost_eq]; rfl

/-- the names of the plugins in that closed form are `Plugins.runAllPost` of the chain (C17x) -/
theorem post_segments_in_chain_order (ps : List Runner.Plugin) :
    (ps.reverse.filter (·.enabled)).map (·.name) = Plugins.runAllPost (toChain ps) :=
  (runAllPost_toChainFrom 0 ps).symm

/-! ## a whole run -/

/-- from C01's `failures_recorded_once`: in a run of `n`
    repetitions every record occurs `n` times its multiplicity among the failing events of one repetition. -/
theorem failure_count_formula (cfg : Cfg) (plugins : List Runner.Plugin) (ts : List Test) (n : Nat)
    (hr : cfg.rethrow = false) :
    ∃ o, runAllTests cfg plugins ts n 0 = .ok o ∧
      ∀ r, (failuresOf o.evs).count r = n * (expectedFailures cfg plugins ts).count r := by
  obtain ⟨o, ho, hf, _⟩ := failures_recorded_once cfg plugins ts n hr
  exact ⟨o, ho, fun r => by rw [hf]; exact ListLemmas.count_flatten_replicate r _ n⟩

/-- a post action's error for a test that runs is among the failing events of the repetition -/
theorem post_error_expected (cfg : Cfg) (plugins : List Runner.Plugin) (ts : List Test) (t : Test)
    (p : Runner.Plugin) (e : PErr) (ht : t ∈ running cfg ts) (hp : p ∈ plugins) (hen : p.enabled = true)
    (he : e ∈ p.post) (ha : e.applies t = true) :
    mkRec cfg t e.loc e.msg ∈ expectedFailures cfg plugins ts := by
  unfold expectedFailures
  rw [List.mem_flatMap]
  refine ⟨t, ht, ?_⟩
  apply List.mem_append_right
  unfold postFailures
  rw [List.mem_flatMap]
  refine ⟨p, ?_, ?_⟩
  · rw [List.mem_filter]; exact ⟨List.mem_reverse.mpr hp, hen⟩
  · unfold pluginErrs
    rw [List.mem_map]
    exact ⟨e, List.mem_filter.mpr ⟨he, ha⟩, rfl⟩

/-- the record of an applicable error of an enabled plugin's post action is printed at
    least `n` times in a run of `n` repetitions, and exactly `n` times if it stems from one failing event of a
    repetition only (the hypothesis `count = 1`; two events that print the same record are not told apart). -/
theorem post_failure_recorded_once (cfg : Cfg) (plugins : List Runner.Plugin) (ts : List Test) (n : Nat)
    (hr : cfg.rethrow = false) (t : Test) (p : Runner.Plugin) (e : PErr) (ht : t ∈ running cfg ts) (hp : p ∈ plugins)
    (hen : p.enabled = true) (he : e ∈ p.post) (ha : e.applies t = true) :
    ∃ o, runAllTests cfg plugins ts n 0 = .ok o ∧
      n ≤ (failuresOf o.evs).count (mkRec cfg t e.loc e.msg) ∧
      ((expectedFailures cfg plugins ts).count (mkRec cfg t e.loc e.msg) = 1 →
        (failuresOf o.evs).count (mkRec cfg t e.loc e.msg) = n) := by
  obtain ⟨o, ho, hc⟩ := failure_count_formula cfg plugins ts n hr
  refine ⟨o, ho, ?_, ?_⟩
  · rw [hc]
    have := List.count_pos_iff.mpr (post_error_expected cfg plugins ts t p e ht hp hen he ha)
    calc n = n * 1 := (Nat.mul_one n).symm
      _ ≤ n * _ := Nat.mul_le_mul_left n this
  · intro h1; rw [hc, h1, Nat.mul_one]

/-! ## the C07 verdict in the runner model -/

def leakLoc : Loc := ⟨"MemoryLeakWarningPlugin", 0⟩

/-- a scripted command of the C07 model as a runner statement: `FAIL` is a failing check, everything else is an
    observable side effect that does not end the phase -/
def toStmt : LeakPlugin.Cmd → Stmt
  | .fail => .failCpp ⟨"test.cpp", 1⟩ "FAIL"
  | _ => .mark 0

def toTest (t : LeakPlugin.Test) : Test :=
  { group := "G", name := "t", file := "test.cpp", line := 1, ignored := false,
    setup := t.setup.map toStmt, body := t.body.map toStmt, teardown := t.teardown.map toStmt }

/-- the leak plugin as the runner model sees it for one test: it reports one error in its post action iff the C07
    model's verdict has a leak failure -/
def leakPluginFor (v : LeakPlugin.Verdict) : Runner.Plugin :=
  { name := "MemoryLeakPlugin", enabled := true, pre := [],
    post := if v.leakFail.isSome then [⟨none, leakLoc, "Memory leak(s) found."⟩] else [] }

def hasFail (cs : List LeakPlugin.Cmd) : Bool := cs.any (· == .fail)

theorem hasFail_fail (cs : List LeakPlugin.Cmd) : hasFail (.fail :: cs) = true := by simp [hasFail]

theorem hasFail_cons_of_ne {c : LeakPlugin.Cmd} (hc : c ≠ .fail) (cs : List LeakPlugin.Cmd) :
    hasFail (c :: cs) = hasFail cs := by
  have : (c == LeakPlugin.Cmd.fail) = false := by simpa using hc
  simp [hasFail, this]

theorem hrun_own : ∀ (cs : List LeakPlugin.Cmd) (h : LeakPlugin.Hist.HState),
    (LeakPlugin.Hist.hrun h cs).own = h.own + (if !h.aborted && hasFail cs then 1 else 0) ∧
    (LeakPlugin.Hist.hrun h cs).aborted = (h.aborted || hasFail cs)
  | [], h => by simp [LeakPlugin.Hist.hrun, hasFail]
  | c :: cs, h => by
    have ih := hrun_own cs
    show (LeakPlugin.Hist.hrun (LeakPlugin.Hist.hstep h c) cs).own = _ ∧
      (LeakPlugin.Hist.hrun (LeakPlugin.Hist.hstep h c) cs).aborted = _
    unfold LeakPlugin.Hist.hstep
    cases hab : h.aborted with
    | true =>
      simp only [if_true]
      rw [(ih h).1, (ih h).2, hab]
      simp
    | false =>
      simp only [Bool.false_eq_true, if_false]
      by_cases hc : c = .fail
      · subst hc
        rw [(ih _).1, (ih _).2]
        simp [LeakPlugin.Hist.hexec, hasFail_fail]
      · have hk := LeakPlugin.hexec_keeps h c hc
        rw [(ih _).1, (ih _).2, hk.1, hk.2, hab, hasFail_cons_of_ne hc]
        simp

/-- the own failing checks the C07 history counts: one per phase that runs and contains a `FAIL` -/
theorem ownFailures_formula (live : List Nat) (t : LeakPlugin.Test) :
    LeakPlugin.Hist.ownFailures live t =
      (if hasFail t.setup then 1 else 0) + (if !hasFail t.setup && hasFail t.body then 1 else 0) +
        (if hasFail t.teardown then 1 else 0) := by
  unfold LeakPlugin.Hist.ownFailures LeakPlugin.Hist.atEnd LeakPlugin.Hist.hPhase
  rw [(hrun_own t.teardown _).1]
  simp only [LeakPlugin.Hist.hEnter, Bool.not_false, Bool.true_and]
  rw [(hrun_own t.body _).1, (hrun_own t.setup _).2, (hrun_own t.setup _).1]
  simp [LeakPlugin.Hist.start]

theorem completes_map (exc : Bool) (cs : List LeakPlugin.Cmd) : completes exc (cs.map toStmt) = !hasFail cs := by
  induction cs with
  | nil => rfl
  | cons c cs ih =>
    rw [List.map_cons, completes_cons, ih]
    cases c <;> rfl

theorem phaseFailures_map (cfg : Cfg) (T : Test) (cs : List LeakPlugin.Cmd) :
    (phaseFailures cfg T (cs.map toStmt)).length = if hasFail cs then 1 else 0 := by
  unfold phaseFailures
  induction cs with
  | nil => simp [hasFail]
  | cons c cs ih =>
    by_cases hc : c = .fail
    · subst hc
      simp [toStmt, hasFail_fail, Stmt.failure]
    · have h1 : toStmt c = .mark 0 := by cases c <;> first | rfl | exact absurd rfl hc
      rw [hasFail_cons_of_ne hc, ← ih]
      simp only [List.map_cons, h1, executed_cons, term_mark, Bool.false_eq_true, if_false, List.filterMap_cons, Stmt.failure]

/-- connects `LeakPlugin.Hist.ownFailures` (C07's history semantics: a failing check ends
    its phase, the body runs only if the setup completed, the teardown always) with `Runner.testPhaseFailures` (C01's
    textbook reading of `Utest::run`) on the translated test. -/
theorem own_failures_agree (cfg : Cfg) (live : List Nat) (t : LeakPlugin.Test) :
    (testPhaseFailures cfg (toTest t)).length = LeakPlugin.Hist.ownFailures live t := by
  rw [ownFailures_formula]
  unfold testPhaseFailures phasesRun
  have hs : completes cfg.exceptions (toTest t).setup = !hasFail t.setup := completes_map _ _
  rw [hs]
  cases hfs : hasFail t.setup <;>
    simp [stmtsOf, toTest, phaseFailures_map, hfs]

/-- connects `LeakPlugin.runTest` / `verdictOf` (C07:
    failures recorded for a scripted test = own failing checks + at most one leak failure) with `Runner.testFailures`
    (C01: every failing event of one test), the leak plugin reporting its verdict in its post action: the numbers are
    equal for every scripted test from every clean state. -/
theorem leak_verdict_counted_once (cfg : Cfg) (w : LeakPlugin.World) (hc : LeakPlugin.Clean w) (t : LeakPlugin.Test) :
    (testFailures cfg [leakPluginFor (LeakPlugin.verdictOf w (LeakPlugin.runTest w t))] (toTest t)).length =
      (LeakPlugin.verdictOf w (LeakPlugin.runTest w t)).failures := by
  rw [LeakPlugin.failures_recorded w hc t]
  have hv : (LeakPlugin.verdictOf w (LeakPlugin.runTest w t)).leakFail.isSome =
      (w.overloads && LeakPlugin.Hist.shouldFail w.liveIds t) := by
    show (LeakPlugin.runTest w t).leakFail.isSome = _
    rw [LeakPlugin.leakFail_runTest hc t]
    cases (w.overloads && LeakPlugin.Hist.shouldFail w.liveIds t) <;> rfl
  have hpre : preFailures cfg [leakPluginFor (LeakPlugin.verdictOf w (LeakPlugin.runTest w t))] (toTest t) = [] := by
    simp [preFailures, leakPluginFor, pluginErrs]
  have hpost : (postFailures cfg [leakPluginFor (LeakPlugin.verdictOf w (LeakPlugin.runTest w t))] (toTest t)).length =
      if (w.overloads && LeakPlugin.Hist.shouldFail w.liveIds t) = true then 1 else 0 := by
    unfold postFailures leakPluginFor
    rw [hv]
    cases (w.overloads && LeakPlugin.Hist.shouldFail w.liveIds t) <;> simp [pluginErrs, PErr.applies]
  unfold testFailures
  rw [hpre, List.nil_append, List.length_append, hpost, own_failures_agree cfg w.liveIds t]

/-! ## non-vacuity -/

example : (Runner.runAllPost exCfg exT exPlugins ⟨{}, false, 0, none⟩).evs =
    [.plug "b" true 0, .plug "a" true 0, .failure (mkRec exCfg exT ⟨"h.c", 7⟩ "leak")] := by decide

example : (expectedFailures exCfg exPlugins [exT]).count (mkRec exCfg exT ⟨"h.c", 7⟩ "leak") = 1 := by decide

/-- a C07 test that fails its own check in the setup and leaks in the teardown: one own failure, no leak failure -/
example : LeakPlugin.Hist.ownFailures [] { setup := [.alloc 4 1, .fail, .alloc 5 1], body := [.fail], teardown := [.alloc 7 1] } = 1 ∧
    (testPhaseFailures exCfg (toTest { setup := [.alloc 4 1, .fail, .alloc 5 1], body := [.fail], teardown := [.alloc 7 1] })).length = 1 := by
  decide

end Compose.C01x
