import CppUModel.Props.C16x
import CppUModel.Props.C20
/-!
# C20x — TeamCity suites and tests are the C02 model's group blocks and selected tests

Composition theorems connecting the message list `TeamCity.messages evs` (C20) with the group blocks and the selected tests of
the C02 registry loop, through `Props/C16x.lean` (`skeleton_agrees`, `group_placement`, `tests_started_agree`).
-/
namespace Compose.C20x
open OutEv (Script)
open TeamCity Compose.C16x

def suiteStarts (ms : List Msg) : List Text.Bytes :=
  ms.filterMap (fun m => match m with | .suiteStarted g => some g | _ => none)

def testStarts (ms : List Msg) : List Text.Bytes :=
  ms.filterMap (fun m => match m with | .testStarted n => some n | _ => none)

theorem suiteStarts_append (a b : List Msg) : suiteStarts (a ++ b) = suiteStarts a ++ suiteStarts b := by
  simp [suiteStarts, List.filterMap_append]

theorem testStarts_append (a b : List Msg) : testStarts (a ++ b) = testStarts a ++ testStarts b := by
  simp [testStarts, List.filterMap_append]

/-- what the writer says about suites and tests depends only on the `groupStarted` / `testStarted` callbacks -/
theorem starts_of_messages : ∀ (evs : List OutEv.Ev) (s : St),
    suiteStarts (msgsFrom s evs) = (groupStartedInfos evs).map (·.group) ∧
    testStarts (msgsFrom s evs) = (testStartedInfos evs).map (·.name)
  | [], _ => ⟨rfl, rfl⟩
  | e :: es, s => by
    have ih := starts_of_messages es (step s e).1
    rw [msgsFrom_cons, suiteStarts_append, testStarts_append, ih.1, ih.2]
    -- where the message list is an `if` or a `match`, both branches have the same starts
    cases e with
    | testRun i n => simp only [msgsOf]; split <;> exact ⟨rfl, rfl⟩
    | testStarted t => simp only [msgsOf]; cases t.willRun <;> exact ⟨rfl, rfl⟩
    | veryVerbose x => simp only [msgsOf]; split <;> exact ⟨rfl, rfl⟩
    | testEnded ms c => simp only [msgsOf]; split <;> exact ⟨rfl, rfl⟩
    | groupEnded ms => simp only [msgsOf]; split <;> exact ⟨rfl, rfl⟩
    | _ => exact ⟨rfl, rfl⟩

/-- Connects `TeamCity.messages` (C20) with `Registry.groupBlocks` (C02):
    one `testSuiteStarted` per block, naming the block's group, in order. -/
theorem suites_are_registry_blocks (flt : Option OutEv.Filter) (ss : List Script) :
    suiteStarts (messages (OutEv.runAll flt ss)) =
      (Registry.blockHeads (Registry.groupBlocks (toTests ss))).map (fun i => (infoAt ss i).group) := by
  show suiteStarts (msgsFrom {} (OutEv.runAll flt ss)) = _
  rw [(starts_of_messages _ _).1, (group_placement flt ss).1, List.map_map]
  rfl

/-- Connects `TeamCity.messages` with `Registry.shouldRun`: one `testStarted`
    per selected test (ignored ones included), naming it, in list order. -/
theorem tests_are_registry_selection (flt : Option OutEv.Filter) (ss : List Script) :
    testStarts (messages (OutEv.runAll flt ss)) =
      ((toTests ss).filter (Registry.shouldRun (cfgOf flt))).map (fun t => (infoAt ss t.id).name) := by
  show testStarts (msgsFrom {} (OutEv.runAll flt ss)) = _
  rw [(starts_of_messages _ _).2, tests_started_agree flt ss, List.map_map]
  rfl

example : suiteStarts (messages (OutEv.runAll (some ⟨OutEv.lit "skip", false, true⟩) exScripts)) =
    [OutEv.lit "A", OutEv.lit "B", OutEv.lit "A"] := by decide +kernel

example : testStarts (messages (OutEv.runAll (some ⟨OutEv.lit "skip", false, true⟩) exScripts)) =
    [OutEv.lit "t1", OutEv.lit "t2", OutEv.lit "t3"] := by decide +kernel

end Compose.C20x
