import CppUModel.Proofs.TeamCityRun
import CppUModel.Proofs.TeamCityParse
/-!
The text items of a run's message list (test prints, the -vv progress trace, the final summary) and when they contain no
`#`; which print events a run of the registry can contain.
-/
namespace TeamCity
open Text (Bytes)
open OutEv

theorem noHash_append (a b : Bytes) : noHash (a ++ b) = (noHash a && noHash b) := List.all_append
theorem noHash_nil : noHash [] = true := rfl

theorem noHash_dec (n : Nat) : noHash (dec n) = true := List.all_eq_true.2 (dec_forall _ (by decide) n)

/-- a literal without `#`, checked on its bytes -/
theorem noHash_lit (s : String) (h : (s.toByteArray.data.toList.all fun b => b < 128 && b != 35) = true) :
    noHash (lit s) = true := by
  have h' := List.all_eq_true.1 h
  rw [lit_eq_bytes s (fun b hb => by have := h' b hb; simp at this; exact this.1)]
  exact List.all_eq_true.2 (fun b hb => by have := h' b hb; simp at this ⊢; exact this.2)

/- The two texts below are built from literals, decimal numbers and `[]` by `++` and `if`.  `simp` pushes `noHash` to the
   pieces and disposes of the numbers and of `[]`; the goal is then a tree of `∧` and `if` whose leaves are
   `noHash (lit "..") = true` or `True`.  The `repeat'` walks that tree, the last line closes one leaf per literal by a
   kernel check of its bytes.  (`lit_append` splits the long note of the summary first: a long literal is dearer than
   its halves.) -/

theorem noHash_summary (sm : Summary) : noHash (summaryOut sm) = true := by
  simp only [summaryOut, lit_append, noHash_append, apply_ite noHash, noHash_dec, noHash_nil, Bool.and_eq_true,
    Bool.ite_eq_true_distrib, true_and, and_true]
  repeat' first | apply And.intro | split
  all_goals first | exact noHash_lit _ (by decide +kernel) | trivial

theorem noHash_testRunOut (i n : Nat) : noHash (testRunOut i n) = true := by
  simp only [testRunOut, noHash_append, apply_ite noHash, noHash_dec, noHash_nil, Bool.and_eq_true, Bool.ite_eq_true_distrib,
    and_true]
  repeat' first | apply And.intro | split
  all_goals first | exact noHash_lit _ (by decide +kernel) | trivial

/-- the raw text an event may contribute -/
def evText : Ev → Option Bytes
  | .print x => some x
  | .veryVerbose x => some x
  | _ => none

/-- every test print and every progress trace line of the event list is free of `#` -/
def RawTextNoHash (evs : List Ev) : Prop := ∀ e ∈ evs, ∀ x, evText e = some x → noHash x = true

theorem texts_of_msgsOf (s : St) (e : Ev) (h : ∀ x, evText e = some x → noHash x = true) :
    textsNoHash (msgsOf s e) := by
  intro m hm raw hraw
  subst hraw
  -- only these events can say text: a repetition's heading, the two kinds of raw text, the summary
  cases e <;> simp [msgsOf] at hm
  case testRun i n => rw [hm.2]; exact noHash_testRunOut i n
  case print x => exact h raw (congrArg some hm.symm)
  case veryVerbose x => exact h raw (congrArg some hm.2.symm)
  case testEnded => split at hm <;> simp at hm
  case testsEnded sm => rw [hm]; exact noHash_summary sm

theorem texts_of_msgsFrom : ∀ (evs : List Ev) (s : St), RawTextNoHash evs → textsNoHash (msgsFrom s evs)
  | [], s, _ => by intro m hm; simp [msgsFrom_nil] at hm
  | e :: es, s, h => by
    intro m hm raw hraw
    rw [msgsFrom_cons, List.mem_append] at hm
    rcases hm with hm | hm
    · exact texts_of_msgsOf s e (h e (List.mem_cons_self ..)) m hm raw hraw
    · exact texts_of_msgsFrom es _ (fun x hx => h x (List.mem_cons_of_mem _ hx)) m hm raw hraw

/-- the test's own prints are free of `#` -/
def PrintsNoHash (sc : Script) : Prop :=
  ∀ f l x, Act.print f l x ∈ sc.acts → noHash f = true ∧ noHash x = true

theorem noHash_printText (f : Bytes) (l : Nat) (x : Bytes) (hf : noHash f = true) (hx : noHash x = true) :
    noHash (printText f l x) = true := by
  simp only [printText, noHash_append, noHash_dec, hf, hx]
  decide

theorem raw_append {a b : List Ev} (ha : RawTextNoHash a) (hb : RawTextNoHash b) : RawTextNoHash (a ++ b) :=
  List.forall_mem_append.2 ⟨ha, hb⟩

theorem raw_nil : RawTextNoHash [] := fun _ h => nomatch h

theorem raw_cons_none {e : Ev} {l : List Ev} (he : evText e = none) (hl : RawTextNoHash l) : RawTextNoHash (e :: l) :=
  List.forall_mem_cons.2 ⟨fun x hx => (by rw [he] at hx; cases hx), hl⟩

theorem raw_cons_vv (s : String) {l : List Ev} (h : (s.toByteArray.data.toList.all fun b => b < 128 && b != 35) = true)
    (hl : RawTextNoHash l) : RawTextNoHash (vv s :: l) :=
  List.forall_mem_cons.2 ⟨fun x hx => (by cases hx; exact noHash_lit s h), hl⟩

theorem raw_trace (acts : List Act) : RawTextNoHash (traceBefore ++ (traceBetween acts ++ traceAfter)) := by
  refine raw_append ?_ (raw_append (raw_append ?_ ?_) ?_)
  any_goals split
  -- each of the lists is walked from the front: every event is a trace line `vv "<literal>"`, one kernel check each
  all_goals repeat' first | exact raw_nil | refine raw_cons_vv _ (by decide +kernel) ?_

theorem raw_testEvs (sc : Script) (r : R) (h : PrintsNoHash sc) : RawTextNoHash (testEvs sc r) := by
  have hin : RawTextNoHash (testInner sc.info sc.acts) := fun e he y hy => by
    rcases mem_testInner he with ht | ⟨f, l, x, hm, rfl⟩ | ⟨f, rfl, _⟩
    · exact raw_trace sc.acts e ht y hy
    · cases hy
      exact noHash_printText f l x (h f l x hm).1 (h f l x hm).2
    · cases hy
  rw [testEvs_eq]
  exact raw_cons_none rfl (raw_append (fun e he => hin e (mem_testMid he)) (raw_cons_none rfl raw_nil))

theorem raw_loop (flt : Option Filter) (tests : List Script) (gs : Bool) (g0 : Nat) (r : R)
    (h : ∀ sc ∈ tests, PrintsNoHash sc) : RawTextNoHash (loop flt gs g0 r tests) :=
  loop_pieces raw_append raw_nil (fun _ => raw_cons_none rfl raw_nil) (fun _ => raw_cons_none rfl raw_nil)
    (fun _ => raw_cons_none rfl raw_nil) flt tests (fun t ht r => raw_testEvs t r (h t ht)) gs g0 r

theorem raw_runAll (flt : Option Filter) (tests : List Script) (h : ∀ sc ∈ tests, PrintsNoHash sc) :
    RawTextNoHash (runAll flt tests) :=
  raw_append (a := [.testsStarted]) (raw_cons_none rfl raw_nil) (raw_loop flt tests true 0 {} h)

end TeamCity
