import CppUModel.Proofs.LeakDetector
import CppUModel.Model.Misuse
/-! Helper lemmas for the C06 theorems (and for the one of C04 that speaks of what a release reports, `free_non_allocated_iff`):
what the guard loop decides, how the family comparison sees through wrapped allocators, the category a release reports read off
the table (`verdict`), the first report of every operation that can make one, and what leaves the verdict alone. -/
namespace LeakDetector

/-! ## guard bytes and families -/

theorem validGuardFrom_iff (n : Node) : ∀ (k i : Nat), validGuardFrom n i k = true ↔
    ∀ j, j < k → n.guardAt (i + j) = Gen.LeakDetector.guardBytes.getD ((i + j) % Gen.LeakDetector.guardBytes.length) 0
  | 0, i => by simp [validGuardFrom]
  | k + 1, i => by
    -- the loop tests position `i` and goes on from `i + 1`: split the quantifier the same way
    rw [Nat.forall_lt_succ_left, validGuardFrom]
    have ih := validGuardFrom_iff n k (i + 1)
    simp only [Nat.add_assoc, Nat.add_comm 1] at ih
    by_cases h : n.guardAt i = Gen.LeakDetector.guardBytes.getD (i % Gen.LeakDetector.guardBytes.length) 0
    · simp [h, ih]
    · simp only [bne_iff_ne.mpr h, if_true, Bool.false_eq_true, false_iff, Nat.add_zero]
      exact fun hh => h hh.1

theorem not_guardIntact_iff (n : Node) : ¬ GuardIntact n ↔ ∃ i, i < Gen.LeakDetector.guardSize ∧
    n.guardAt i ≠ Gen.LeakDetector.guardBytes.getD (i % Gen.LeakDetector.guardBytes.length) 0 := by
  simp only [GuardIntact, Classical.not_forall, exists_prop, ne_eq]

theorem actual_actual (a : Allocator) : a.actual.actual = a.actual := by
  induction a with
  | plain i n x f => rfl
  | wrap i o ih => simpa [Allocator.actual] using ih

theorem actual_wrap (i : Nat) (a : Allocator) : (Allocator.wrap i a).actual = a.actual := rfl

theorem family_wrap (i : Nat) (a : Allocator) : family (.wrap i a) = family a := rfl

theorem matching_wrap_left (tc : Bool) (i : Nat) (a b : Allocator) : matching tc (.wrap i a) b = matching tc a b := rfl

theorem matching_wrap_right (tc : Bool) (i : Nat) (a b : Allocator) : matching tc a (.wrap i b) = matching tc a b := rfl

theorem matching_actual (tc : Bool) (a b : Allocator) : matching tc a.actual b.actual = matching tc a b := by
  unfold matching; rw [actual_actual, actual_actual]

/-! ## the category a release reports, and the first report of every operation -/

def verdict (s : State) (a : Allocator) (addr : Nat) : Option FailKind :=
  if addr = 0 then none
  else
    match s.table.retrieveNode addr with
    | none => some .nonAllocated
    | some n => recordVerdict s.typeChecking n a

theorem recordVerdict_eq_none_iff (tc : Bool) (n : Node) (a : Allocator) :
    recordVerdict tc n a = none ↔ matching tc n.allocator a = true ∧ validGuard n = true := by
  unfold recordVerdict
  cases matching tc n.allocator a <;> cases validGuard n <;> simp

theorem recordVerdict_eq_mismatch_iff (tc : Bool) (n : Node) (a : Allocator) :
    recordVerdict tc n a = some .mismatch ↔ matching tc n.allocator a = false := by
  unfold recordVerdict
  cases matching tc n.allocator a <;> cases validGuard n <;> simp

theorem recordVerdict_eq_corruption_iff (tc : Bool) (n : Node) (a : Allocator) :
    recordVerdict tc n a = some .corruption ↔ matching tc n.allocator a = true ∧ validGuard n = false := by
  unfold recordVerdict
  cases matching tc n.allocator a <;> cases validGuard n <;> simp

theorem recordVerdict_ne_nonAllocated (tc : Bool) (n : Node) (a : Allocator) :
    recordVerdict tc n a ≠ some .nonAllocated := by
  unfold recordVerdict
  cases matching tc n.allocator a <;> cases validGuard n <;> simp

theorem firstFail_append_nofail (e1 e2 : List Ev) (h : firstFail e1 = none) : firstFail (e1 ++ e2) = firstFail e2 := by
  induction e1 with
  | nil => rfl
  | cons e es ih =>
    cases e <;> simp_all [firstFail]

theorem firstFail_check (tc : Bool) (n : Node) (file : String) (line : Nat) (a : Allocator) (sep : Bool) (rest : List Ev)
    (hrest : firstFail rest = none) :
    firstFail (checkForCorruption tc n file line a sep ++ rest) = recordVerdict tc n a := by
  rw [check_eq]; cases recordVerdict tc n a <;> cases sep <;> first | rfl | exact hrest

theorem firstFail_dealloc (s : State) (a : Allocator) (addr : Nat) (file : String) (line : Nat) (sep : Bool) :
    firstFail (dealloc s a addr file line sep).2 = verdict s a addr := by
  unfold dealloc verdict
  by_cases hz : addr = 0
  · simp [hz, firstFail]
  · simp only [hz, if_false]
    cases hr : s.table.retrieveNode addr with
    | none => simp [firstFail, nonAllocatedEv]
    | some n => exact firstFail_check _ _ _ _ _ _ _ rfl

theorem firstFail_nodeAlloc (sep : Bool) : firstFail (nodeAllocEvs sep) = none := by cases sep <;> rfl

/-- the events of a (re)allocation that got memory are the platform call, the separate record if there is one and the
    returned value: none of them is a report -/
theorem firstFail_acquired (e : Ev) (he : firstFail [e] = none) (sep : Bool) (r : Nat) :
    firstFail ([e] ++ nodeAllocEvs sep ++ [.ret r]) = none := by
  rw [List.append_assoc, firstFail_append_nofail _ _ he, firstFail_append_nofail _ _ (firstFail_nodeAlloc sep)]
  rfl

theorem firstFail_alloc (s : State) (a : Allocator) (size : Nat) (file : String) (line : Nat) (sep : Bool)
    (result : Nat) (nodeOk : Bool) (fill : UInt8) : firstFail (alloc s a size file line sep result nodeOk fill).2 = none := by
  unfold alloc
  split
  · rfl
  split
  · rfl
  split
  · rfl
  exact firstFail_acquired _ rfl sep result

theorem firstFail_realloc (s : State) (a : Allocator) (addr size : Nat) (file : String) (line : Nat) (sep : Bool)
    (result : Nat) (fill : UInt8) :
    firstFail (realloc s a addr size file line sep result fill).2 = if sizeOverflows size then none else verdict s a addr := by
  have htail : ∀ s' old, firstFail (reallocTail s' a addr size file line sep result fill old).2 = none := by
    intro s' old; unfold reallocTail; split
    · cases old with
      | none => rfl
      | some o => exact firstFail_acquired _ rfl sep 0
    · exact firstFail_acquired _ rfl sep result
  unfold realloc verdict
  split
  · rfl
  · split
    · exact htail _ _
    · cases hr : s.table.retrieveNode addr with
      | none => rfl
      | some n => exact firstFail_check _ _ _ _ _ _ _ (htail _ _)

theorem verdict_nonAllocated_iff {s : State} (inv : s.Inv) (a : Allocator) (addr : Nat) :
    verdict s a addr = some .nonAllocated ↔ addr ≠ 0 ∧ isLive s addr = false := by
  unfold verdict
  by_cases hz : addr = 0
  · simp [hz]
  · simp only [hz, if_false, ne_eq, not_false_eq_true, true_and]
    cases hr : s.table.retrieveNode addr with
    | none =>
      have : isLive s addr = false := by rw [isLive_false_iff]; exact (retrieve_none_iff inv).mp hr
      simp [this]
    | some n =>
      have hl : isLive s addr = true := (isLive_iff inv addr).mpr ⟨n, hr⟩
      simp [hl, recordVerdict_ne_nonAllocated]

/-- the hypothesis of C06's `dealloc_classification` when the record of the block is known -/
theorem consistent_at {s : State} {a : Allocator} {addr : Nat} {n : Node} (hn : (abs s).map addr = some n)
    (hc : ConsistentIds n.allocator a) : ∀ m, (abs s).map addr = some m → ConsistentIds m.allocator a :=
  fun m hm => by rw [hn] at hm; cases hm; exact hc

/-! ## what leaves the verdict alone -/

theorem validGuardFrom_congr {n m : Node} (h : ∀ i, n.guardAt i = m.guardAt i) :
    ∀ (k i : Nat), validGuardFrom n i k = validGuardFrom m i k
  | 0, _ => rfl
  | k + 1, i => by simp only [validGuardFrom, h i, validGuardFrom_congr h k (i + 1)]

theorem validGuard_congr {n m : Node} (h : ∀ i, n.guardAt i = m.guardAt i) : validGuard n = validGuard m :=
  validGuardFrom_congr h _ _

theorem guardAt_user_write (n : Node) (off : Nat) (b : UInt8) (hoff : off < n.size) (i : Nat) :
    ({ n with bytes := setByte n.bytes off b } : Node).guardAt i = n.guardAt i := by
  unfold Node.guardAt setByte
  simp only [List.getD_eq_getElem?_getD]
  rw [List.getElem?_set_ne (by omega)]

theorem guardAt_guard_write (n : Node) (i : Nat) (b : UInt8) (hlen : n.size + i < n.bytes.length) (j : Nat) :
    ({ n with bytes := setByte n.bytes (n.size + i) b } : Node).guardAt j = if j = i then b else n.guardAt j := by
  unfold Node.guardAt setByte
  simp only [List.getD_eq_getElem?_getD]
  by_cases hj : j = i
  · subst hj; simp [List.getElem?_set_self hlen]
  · rw [List.getElem?_set_ne (by omega)]; simp [hj]

theorem guardAt_poison (n : Node) (i : Nat) : (poison n).guardAt i = n.guardAt i := by
  unfold Node.guardAt poison
  simp only [List.getD_eq_getElem?_getD]
  rw [List.getElem?_append_right (by simp)]
  simp

theorem user_poison (n : Node) : (poison n).user = List.replicate n.size Gen.LeakDetector.poisonByte := by
  unfold Node.user poison
  simp

/-- the verdict looks at the abstract state only; writes and `invalidateMemory` are such updates by `step_abs` -/
theorem verdict_update {s s' : State} {a0 : Nat} {f : Node → Node}
    (h : abs s' = { abs s with map := (abs s).map.update a0 f })
    (ha : ∀ n, (f n).allocator = n.allocator)
    (hg : ∀ n, (abs s).map a0 = some n → ∀ i, (f n).guardAt i = n.guardAt i)
    (a : Allocator) (addr : Nat) : verdict s' a addr = verdict s a addr := by
  have hm : s'.table.retrieveNode addr = if addr = a0 then (s.table.retrieveNode addr).map f else s.table.retrieveNode addr :=
    congrFun (congrArg Spec.State.map h) addr
  have htc : s'.typeChecking = s.typeChecking := congrArg Spec.State.typeChecking h
  unfold verdict
  rw [hm, htc]
  by_cases hx : addr = a0
  · subst hx
    rw [if_pos rfl]
    cases hr : s.table.retrieveNode addr with
    | none => rfl
    | some n => simp only [Option.map, recordVerdict, ha, validGuard_congr (hg n hr)]
  · rw [if_neg hx]

/-- the three release wrappers are one call: poison, then release with the current allocator of the family; only `free`
    passes a location and asks for a separate record -/
theorem release_eq (c : Current) (f : Family) (s : State) (addr : Nat) (file : String) (line : Nat) :
    release c f s addr file line =
      dealloc (invalidateMemory s addr) (c.of f) addr (if f = .malloc then file else "<unknown>")
        (if f = .malloc then line else 0) (f == .malloc) := by cases f <;> rfl

open Misuse in
theorem filter_not_ufree (l : List Ev) :
    firstFail (l.filter (fun e => !isUfree e)) = firstFail l ∧ freedBytes (l.filter (fun e => !isUfree e)) = [] := by
  induction l with
  | nil => exact ⟨rfl, rfl⟩
  | cons e rest ih =>
    cases e with
    | ufree a ad sz u => rw [List.filter_cons_of_neg (by simp [isUfree])]; exact ih
    | ufreeRaw a ad sz => rw [List.filter_cons_of_neg (by simp [isUfree])]; exact ih
    | nfree g => rw [List.filter_cons_of_neg (by simp [isUfree])]; exact ih
    | fail k af al asz aty ff fl fty => rw [List.filter_cons_of_pos (by simp [isUfree])]; exact ⟨rfl, ih.2⟩
    | _ => rw [List.filter_cons_of_pos (by simp [isUfree])]; exact ih

end LeakDetector
