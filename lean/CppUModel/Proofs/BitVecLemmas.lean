/-! Facts about bit vectors, and about the integers and naturals read off them, that are about no area (core only). -/
namespace BitVecLemmas

/-! ### powers of two in `Int` -/

theorem natCast_two_pow (n : Nat) : ((2 ^ n : Nat) : Int) = (2 : Int) ^ n := by
  simp [Int.natCast_pow]

theorem pow_mono_int {w w' : Nat} (h : w ≤ w') : (2 : Int) ^ w ≤ (2 : Int) ^ w' := by
  have : (2 : Nat) ^ w ≤ 2 ^ w' := Nat.pow_le_pow_right (by decide) h
  have h2 : ((2 ^ w : Nat) : Int) ≤ ((2 ^ w' : Nat) : Int) := Int.ofNat_le.mpr this
  simpa [Int.natCast_pow] using h2

/-! ### `ofNat` of a number that fits; comparisons read through `toNat` -/

theorem toNat_ofNat_lt {n : Nat} (h : n < 2 ^ 64) : (BitVec.ofNat 64 n).toNat = n := by
  rw [BitVec.toNat_ofNat, Nat.mod_eq_of_lt h]

theorem bv_ule (a b : Nat) (ha : a < 2 ^ 64) (hb : b < 2 ^ 64) :
    BitVec.ule (BitVec.ofNat 64 a) (BitVec.ofNat 64 b) = decide (a ≤ b) := by
  simp [BitVec.ule, BitVec.toNat_ofNat, Nat.mod_eq_of_lt ha, Nat.mod_eq_of_lt hb]

theorem bv_ult (a b : Nat) (ha : a < 2 ^ 64) (hb : b < 2 ^ 64) :
    BitVec.ult (BitVec.ofNat 64 a) (BitVec.ofNat 64 b) = decide (a < b) := by
  simp [BitVec.ult, BitVec.toNat_ofNat, Nat.mod_eq_of_lt ha, Nat.mod_eq_of_lt hb]

theorem beq_toNat {n} (x y : BitVec n) : (x == y) = (x.toNat == y.toNat) := by
  rw [Bool.eq_iff_iff, beq_iff_eq, beq_iff_eq, BitVec.toNat_inj]

/-! ### `toInt` and `toNat` at 32 and 64 bits, split at the sign boundary (so that `omega` can finish, without the SAT-based
    bit-vector tactic) -/

theorem toInt_cases32 (x : BitVec 32) :
    (x.toNat < 2147483648 ∧ x.toInt = x.toNat) ∨
    (2147483648 ≤ x.toNat ∧ x.toNat < 4294967296 ∧ x.toInt = (x.toNat : Int) - 4294967296) := by
  rw [BitVec.toInt_eq_toNat_cond]
  split <;> omega

theorem toInt_cases64 (x : BitVec 64) :
    (x.toNat < 9223372036854775808 ∧ x.toInt = x.toNat) ∨
    (9223372036854775808 ≤ x.toNat ∧ x.toNat < 18446744073709551616 ∧
      x.toInt = (x.toNat : Int) - 18446744073709551616) := by
  rw [BitVec.toInt_eq_toNat_cond]
  split <;> omega

theorem toNat_eq_toInt_emod32 (x : BitVec 32) : x.toNat = (x.toInt % 4294967296).toNat := by
  have := toInt_cases32 x; omega

theorem toNat_eq_toInt_emod64 (x : BitVec 64) : x.toNat = (x.toInt % 18446744073709551616).toNat := by
  have := toInt_cases64 x; omega

theorem toInt_zext_32_64 (x : BitVec 32) : (x.setWidth 64).toInt = x.toNat := by
  rw [BitVec.toInt_eq_toNat_cond, BitVec.toNat_setWidth]
  have h : x.toNat % 2 ^ 64 = x.toNat := Nat.mod_eq_of_lt (by omega)
  rw [h, if_pos (by omega)]

theorem toInt_sext_32_64 (x : BitVec 32) : (x.signExtend 64).toInt = x.toInt :=
  BitVec.toInt_signExtend_of_le (by omega)

theorem toNat_sext_32_64 (x : BitVec 32) :
    (0 ≤ x.toInt ∧ ((x.signExtend 64).toNat : Int) = x.toInt) ∨
    (x.toInt < 0 ∧ ((x.signExtend 64).toNat : Int) = x.toInt + 18446744073709551616) := by
  have h1 := toInt_cases64 (x.signExtend 64)
  have h2 := toInt_sext_32_64 x
  omega

/-! ### widening a bit pattern is injective -/

theorem signExtend_eq_iff {w v : Nat} (h : w ≤ v) (x y : BitVec w) :
    x.signExtend v = y.signExtend v ↔ x = y := by
  constructor
  · intro e
    have := congrArg BitVec.toInt e
    rw [BitVec.toInt_signExtend_of_le h, BitVec.toInt_signExtend_of_le h] at this
    exact BitVec.toInt_inj.mp this
  · intro e; rw [e]

theorem setWidth_eq_iff {w v : Nat} (h : w ≤ v) (x y : BitVec w) :
    x.setWidth v = y.setWidth v ↔ x = y := by
  constructor
  · intro e
    have := congrArg BitVec.toNat e
    simp only [BitVec.toNat_setWidth] at this
    have hp : 2 ^ w ≤ 2 ^ v := Nat.pow_le_pow_right (by decide) h
    rw [Nat.mod_eq_of_lt (by omega), Nat.mod_eq_of_lt (by omega)] at this
    exact BitVec.toNat_inj.mp this
  · intro e; rw [e]

theorem bne_of_injective {α β : Type} [BEq α] [LawfulBEq α] [BEq β] [LawfulBEq β] (f : α → β)
    (hf : ∀ x y, f x = f y ↔ x = y) (x y : α) : (f x != f y) = (x != y) := by
  by_cases e : x = y
  · subst e; simp
  · rw [bne_iff_ne.mpr e, bne_iff_ne.mpr (mt (hf x y).mp e)]

theorem signExtend_bne {w v : Nat} (h : w ≤ v) (x y : BitVec w) :
    (x.signExtend v != y.signExtend v) = (x != y) :=
  bne_of_injective _ (signExtend_eq_iff h) x y

theorem setWidth_bne {w v : Nat} (h : w ≤ v) (x y : BitVec w) :
    (x.setWidth v != y.setWidth v) = (x != y) :=
  bne_of_injective _ (setWidth_eq_iff h) x y

/-! ### masks and single bits -/

theorem masked_eq_iff {w : Nat} (e a m : BitVec w) :
    (e &&& m) = (a &&& m) ↔ ∀ i, i < w → m.getLsbD i = true → e.getLsbD i = a.getLsbD i := by
  constructor
  · intro h i _ hm
    have := congrArg (fun x => BitVec.getLsbD x i) h
    simp only [BitVec.getLsbD_and, hm, Bool.and_true] at this
    exact this
  · intro h
    apply BitVec.eq_of_getLsbD_eq
    intro i hi
    simp only [BitVec.getLsbD_and]
    cases hm : m.getLsbD i
    · simp
    · simp [h i hi hm]

theorem msb_and_const (s m : BitVec 32) (h : m.msb = false) : (s &&& m).msb = false := by
  rw [BitVec.msb_and, h, Bool.and_false]

theorem and_two_pow_ne_zero (x j : Nat) : (x &&& 2 ^ j ≠ 0) ↔ x.testBit j = true := by
  constructor
  · intro h
    cases hb : x.testBit j with
    | true => rfl
    | false =>
      exfalso; apply h
      apply Nat.eq_of_testBit_eq
      intro i
      simp only [Nat.testBit_and, Nat.testBit_two_pow, Nat.zero_testBit]
      by_cases hji : j = i
      · subst hji; simp [hb]
      · simp [hji]
  · intro hb h0
    have := congrArg (fun y => y.testBit j) h0
    simp [Nat.testBit_and, hb] at this

end BitVecLemmas
