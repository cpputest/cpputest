import CppUModel.Spec.CacheHeap
import CppUModel.Proofs.Cache
/-!
The member functions of `SimpleStringInternalCache` as regenerated (`Gen/CacheCode.lean`), run by the interpreter of
`Model/CacheHeap.lean` on a heap that represents a list-level state (`Rep`, `IsList`), do what the list model
(`Model/Cache.lean`) says: same events, and a heap that represents the model's next state.
-/
namespace Cache.Heap

theorem isList_frame (cells cells' : Nat → Option Cell) :
    ∀ (bs : List Block) (p : Nat), (∀ b ∈ bs, cells' b.node = cells b.node) →
      IsList cells p bs → IsList cells' p bs
  | [], _, _, h => h
  | b :: bs, p, hag, h => by
    obtain ⟨h0, hp, nx, hc, hr⟩ := h
    refine ⟨h0, hp, nx, ?_, isList_frame cells cells' bs nx (fun x hx => hag x (by simp [hx])) hr⟩
    rw [hp, hag b (by simp), ← hp]; exact hc

theorem isList_setCell {cells : Nat → Option Cell} {p : Nat} (v : Option Cell) {q : Nat} {l : List Block}
    (h : ∀ x ∈ l, x.node ≠ p) (hl : IsList cells q l) : IsList (setCell cells p v) q l :=
  isList_frame cells _ l q (fun x hx => by simp [setCell, h x hx]) hl

theorem isList_nil_iff (cells : Nat → Option Cell) (p : Nat) : IsList cells p [] ↔ p = 0 := Iff.rfl

theorem isList_zero (cells : Nat → Option Cell) : ∀ bs, IsList cells 0 bs → bs = []
  | [], _ => rfl
  | _ :: _, h => absurd rfl h.1

theorem isList_ne_zero (cells : Nat → Option Cell) (p : Nat) (bs : List Block) (h : IsList cells p bs)
    (hp : p ≠ 0) : ∃ b rest, bs = b :: rest := by
  cases bs with
  | nil => exact absurd h hp
  | cons b rest => exact ⟨b, rest, rfl⟩

theorem isList_node_ne_zero (cells : Nat → Option Cell) : ∀ (p : Nat) (l : List Block), IsList cells p l → ∀ x ∈ l, x.node ≠ 0
  | _, [], _, _, hx => by simp at hx
  | p, b :: l, h, x, hx => by
    obtain ⟨h0, hpb, nx, _, hr⟩ := h
    rcases List.mem_cons.mp hx with rfl | hx
    · rw [← hpb]; exact h0
    · exact isList_node_ne_zero cells nx l hr x hx

open Gen.Cache.Code

theorem rep_sizes (hs : HState) (s : State) (hrep : Rep hs s) :
    hs.nodes.map (·.size) = s.classes.map (·.size) := by
  apply List.ext_getElem (by simp [hrep.len])
  intro i h1 h2
  simp only [List.length_map] at h1 h2
  simp only [List.getElem_map]
  exact (hrep.cls i _ _ (List.getElem?_eq_getElem h1) (List.getElem?_eq_getElem h2)).1

theorem indexForH_eq (hs : HState) (s : State) (hrep : Rep hs s) (size : Nat) :
    indexForH hs.nodes size = indexFor s.classes size := by
  have h := rep_sizes hs s hrep
  have h1 : hs.nodes.findIdx? (fun n => decide (size ≤ n.size)) =
      (hs.nodes.map (·.size)).findIdx? (fun x => decide (size ≤ x)) := by rw [List.findIdx?_map]; rfl
  have h2 : s.classes.findIdx? (fun c => decide (size ≤ c.size)) =
      (s.classes.map (·.size)).findIdx? (fun x => decide (size ≤ x)) := by rw [List.findIdx?_map]; rfl
  unfold indexForH indexFor
  rw [h1, h2, h]
  cases List.findIdx? _ _ <;> rfl

/-- class `i` of a represented state: its node, its two chains, and no id twice in them -/
theorem rep_class (hs : HState) (s : State) (hrep : Rep hs s) (hnodup : s.liveIds.Nodup) (i : Nat) (c : Class)
    (hc : s.classes[i]? = some c) :
    ∃ nd, hs.nodes[i]? = some nd ∧ nd.size = c.size ∧ IsList hs.cells nd.free c.free ∧
      IsList hs.cells nd.used c.used ∧ (c.free.flatMap Block.ids).Nodup ∧ (c.used.flatMap Block.ids).Nodup ∧
      ∀ x ∈ c.free, ∀ y ∈ c.used, ∀ a ∈ x.ids, ∀ b ∈ y.ids, a ≠ b := by
  have hlt : i < hs.nodes.length := by rw [hrep.len]; exact (List.getElem?_eq_some_iff.mp hc).1
  have hnd : hs.nodes[i]? = some hs.nodes[i] := List.getElem?_eq_getElem hlt
  obtain ⟨hsize, hfl, hul⟩ := hrep.cls i _ c hnd hc
  exact ⟨_, hnd, hsize, hfl, hul, (class_separate s hnodup i c hc).1⟩

/-! ### `alloc`: the three paths, executed symbolically on the regenerated program -/

theorem allocH_uncached (f : Nat) (hs : HState) (size n m : Nat) (hsz : ¬ size ≤ 256) (hnm : n ≠ m) :
    ∃ cells', allocH (f + 40) hs size n m =
        .ok ({ hs with nonCached := n, cells := cells' }, createEvs size n m ++ [.ret m]) ∧
      cells' n = some ⟨hs.nonCached, m⟩ ∧ ∀ q, q ≠ n → q ≠ m → cells' q = hs.cells q :=
  ⟨_, by simp [allocH, call, allocProg, exec, execSimple, evalE, evalB, params, setLocal, hsz, doAlloc, writeMem,
      writeNext, setCell, deref, hnm, createEvs, Gen.Cache.blockStructBytes]; rfl,
    by simp [setCell], fun q h1 h2 => by simp [setCell, h1, h2]⟩

theorem allocH_reserve (f : Nat) (hs : HState) (size n m i : Nat) (nd : HNode) (p nx mem : Nat)
    (hsz : size ≤ 256) (hi : indexForH hs.nodes size = i) (hnd : hs.nodes[i]? = some nd)
    (hfree : nd.free = p) (hp : p ≠ 0) (hcell : hs.cells p = some ⟨nx, mem⟩) :
    allocH (f + 40) hs size n m =
      .ok ({ hs with nodes := hs.nodes.set i { nd with free := nx, used := p },
                     cells := setCell hs.cells p (some ⟨nd.used, mem⟩) },
           [.ret mem]) := by
  obtain ⟨hlt, hget⟩ := List.getElem?_eq_some_iff.mp hnd
  subst hfree
  simp [allocH, call, allocProg, exec, execSimple, evalE, evalB, params, setLocal, hsz, writeNext,
    setCell, deref, nodeAt, hi, hget, hp, hcell, setNodeFree, setNodeUsed, hlt]

theorem allocH_new (f : Nat) (hs : HState) (size n m i : Nat) (nd : HNode)
    (hsz : size ≤ 256) (hi : indexForH hs.nodes size = i) (hnd : hs.nodes[i]? = some nd)
    (hfree : nd.free = 0) (hnm : n ≠ m) :
    ∃ cells', allocH (f + 40) hs size n m =
        .ok ({ hs with nodes := hs.nodes.set i { nd with used := n }, cells := cells' },
             createEvs nd.size n m ++ [.ret m]) ∧
      cells' n = some ⟨nd.used, m⟩ ∧ ∀ q, q ≠ n → q ≠ m → cells' q = hs.cells q := by
  obtain ⟨hlt, hget⟩ := List.getElem?_eq_some_iff.mp hnd
  exact ⟨_, by simp [allocH, call, allocProg, exec, execSimple, evalE, evalB, params, setLocal, hsz, doAlloc, writeMem,
      writeNext, setCell, deref, nodeAt, hi, hget, hfree, setNodeUsed, hlt, hnm, createEvs, Gen.Cache.blockStructBytes]; rfl,
    by simp [setCell], fun q h1 h2 => by simp [setCell, h1, h2]⟩

/-- `Rep` survives writes that, among live addresses, touch only ids of blocks of class `i`, together with a
    replacement of class `i` by one whose new lists are represented -/
theorem rep_set_class (hs hs' : HState) (s : State) (hrep : Rep hs s) (i : Nat) (c c' : Class) (nd nd' : HNode)
    (hc : s.classes[i]? = some c) (hn : hs.nodes[i]? = some nd)
    (hnodes : hs'.nodes = hs.nodes.set i nd') (hnc : hs'.nonCached = hs.nonCached) (hw : hs'.warned = hs.warned)
    (hnodup : s.liveIds.Nodup)
    (hframe : ∀ q ∈ s.liveIds, q ∉ (c.free ++ c.used).flatMap Block.ids → hs'.cells q = hs.cells q)
    (hsize : nd'.size = c'.size) (hfree : IsList hs'.cells nd'.free c'.free) (hused : IsList hs'.cells nd'.used c'.used) :
    Rep hs' { s with classes := s.classes.set i c' } := by
  -- the other classes and the uncached list keep their chains: their nodes are live and none is an id of class `i`
  -- (`class_separate`), so `hframe` says their cells are as before
  obtain ⟨_, hoth, hunc⟩ := class_separate s hnodup i c hc
  have hout : ∀ b ∈ s.blocks, (∀ x ∈ c.free ++ c.used, ∀ a ∈ x.ids, b.node ≠ a) → hs'.cells b.node = hs.cells b.node :=
    fun b hb hne => hframe _ (node_live s b hb) (fun hmem => by
      obtain ⟨x, hx, ha⟩ := List.mem_flatMap.mp hmem
      exact hne x hx _ ha rfl)
  refine ⟨by simp [hnodes, hrep.len], ?_, ?_, hw.trans hrep.warned⟩
  · intro j ndj cj hnj hcj
    rw [hnodes] at hnj
    simp only [List.getElem?_set] at hnj hcj
    by_cases hij : i = j
    · subst hij
      have h1 := (List.getElem?_eq_some_iff.mp hc).1
      have h2 := (List.getElem?_eq_some_iff.mp hn).1
      simp [h1, h2] at hnj hcj
      subst hnj; subst hcj
      exact ⟨hsize, hfree, hused⟩
    · simp [hij] at hnj hcj
      obtain ⟨k1, k2, k3⟩ := hrep.cls j ndj cj hnj hcj
      have hag : ∀ b ∈ cj.free ++ cj.used, hs'.cells b.node = hs.cells b.node := fun b hb =>
        hout b (class_block_mem s j cj hcj b hb) (fun x hx a ha =>
          hoth j cj (fun h => hij h.symm) hcj b hb x hx _ (node_mem_ids b) _ ha)
      exact ⟨k1, isList_frame hs.cells hs'.cells _ _ (fun b hb => hag b (by simp [hb])) k2,
        isList_frame hs.cells hs'.cells _ _ (fun b hb => hag b (by simp [hb])) k3⟩
  · rw [hnc]
    exact isList_frame hs.cells hs'.cells _ _ (fun b hb => hout b (uncached_block_mem s b hb)
      (fun x hx a ha => hunc b hb x hx _ (node_mem_ids b) _ ha)) hrep.unc

theorem rep_set_uncached (hs hs' : HState) (s : State) (hrep : Rep hs s) (unc' : List Block)
    (hnodes : hs'.nodes = hs.nodes) (hw : hs'.warned = hs.warned) (hnodup : s.liveIds.Nodup)
    (hframe : ∀ q ∈ s.liveIds, q ∉ s.uncached.flatMap Block.ids → hs'.cells q = hs.cells q)
    (hunc : IsList hs'.cells hs'.nonCached unc') :
    Rep hs' { s with uncached := unc' } := by
  refine ⟨hnodes ▸ hrep.len, ?_, hunc, hw.trans hrep.warned⟩
  intro j nd c hnj hcj
  obtain ⟨k1, k2, k3⟩ := hrep.cls j nd c (hnodes ▸ hnj) hcj
  have hag : ∀ b ∈ c.free ++ c.used, hs'.cells b.node = hs.cells b.node := fun b hb =>
    hframe _ (node_live s b (class_block_mem s j c hcj b hb)) (fun hmem => by
      obtain ⟨x, hx, ha⟩ := List.mem_flatMap.mp hmem
      exact (uncached_separate s hnodup).2 j c hcj b hb x hx _ (node_mem_ids b) _ ha rfl)
  exact ⟨k1, isList_frame hs.cells hs'.cells _ _ (fun b hb => hag b (by simp [hb])) k2,
    isList_frame hs.cells hs'.cells _ _ (fun b hb => hag b (by simp [hb])) k3⟩

/-! ### `dealloc`: reference decomposition of the regenerated program (loops as named pieces)

Throughout, a run of `simp` over a program must never meet a loop it cannot run: it would leave the loop as a
stuck `match` and go on unfolding the rest of the program under its binders.  So the result of each loop is
obtained first (from its own theorem, at the state the loop is entered in) and handed to `simp` as a rewrite
rule that fires before the interpreter's equations (`↓`). -/

def cScanC : B := (.and (.eq (.var "v8") (.lit 0)) (.nonNull (.var "v4")))
def cScanB : Stmt :=
  (.ite (.and (.nonNull (.next (.var "v4"))) (.eq (.memory (.next (.var "v4"))) (.var "v2"))) (.seq (.seq (.set "v9" (.next (.var "v4"))) (.seq (.setNext (.var "v4") (.next (.next (.var "v4")))) (.seq (.seq (.set "v11" (.var "v9")) (.seq (.set "v12" (.nfree (.var "v3"))) (.seq (.setNext (.var "v11") (.var "v12")) (.set "v10" (.var "v11"))))) (.setNfree (.var "v3") (.var "v10"))))) (.set "v8" (.lit 1))) (.set "v4" (.next (.var "v4"))))
def cScan : Stmt := .while cScanC cScanB

def uScanC : B := (.and (.eq (.var "v19") (.lit 0)) (.nonNull (.var "v16")))
def uScanB : Stmt :=
  (.ite (.and (.nonNull (.next (.var "v16"))) (.eq (.memory (.next (.var "v16"))) (.var "v14"))) (.seq (.seq (.set "v20" (.next (.var "v16"))) (.seq (.setNext (.var "v16") (.next (.next (.var "v16")))) (.seq (.set "v21" (.var "v20")) (.seq (.set "v22" (.var "v15")) (.seq (.ufree (.memory (.var "v21")) (.var "v22")) (.ufree (.var "v21") (.lit 16))))))) (.set "v19" (.lit 1))) (.set "v16" (.next (.var "v16"))))
def uScan : Stmt := .while uScanC uScanB

def deallocRef : Stmt :=
  (.seq (.ite (.le (.var "p1") (.lit 256)) (.seq (.set "v0" (.indexFor (.var "p1"))) (.seq (.set "v1" (.var "v0")) (.seq (.seq (.set "v2" (.var "p0")) (.seq (.set "v3" (.var "v1")) (.ite (.and (.nonNull (.nused (.var "v3"))) (.eq (.memory (.nused (.var "v3"))) (.var "v2"))) (.seq (.set "v4" (.nused (.var "v3"))) (.seq (.setNused (.var "v3") (.next (.nused (.var "v3")))) (.seq (.seq (.set "v6" (.var "v4")) (.seq (.set "v7" (.nfree (.var "v3"))) (.seq (.setNext (.var "v6") (.var "v7")) (.set "v5" (.var "v6"))))) (.setNfree (.var "v3") (.var "v5"))))) (.seq (.set "v4" (.nused (.var "v3"))) (.seq (.set "v8" (.lit 0)) (.seq cScan (.ite (.eq (.var "v8") (.lit 0)) (.seq (.set "v13" (.var "v2")) (.ite (.not .warned) (.seq .setWarned .print) .skip)) .skip))))))) .retVoid))) .skip) (.seq (.set "v14" (.var "p0")) (.seq (.set "v15" (.var "p1")) (.ite (.and (.nonNull .nonCached) (.eq (.memory .nonCached) (.var "v14"))) (.seq (.set "v16" .nonCached) (.seq (.setNonCached (.next (.var "v16"))) (.seq (.set "v17" (.var "v16")) (.seq (.set "v18" (.var "v15")) (.seq (.ufree (.memory (.var "v17")) (.var "v18")) (.ufree (.var "v17") (.lit 16))))))) (.seq (.set "v16" .nonCached) (.seq (.set "v19" (.lit 0)) (.seq uScan (.ite (.eq (.var "v19") (.lit 0)) (.seq (.set "v23" (.var "v14")) (.ite (.not .warned) (.seq .setWarned .print) .skip)) .skip))))))))

theorem deallocProg_eq_ref : deallocProg = deallocRef := rfl

theorem exec_while_false (f : Nat) (c : B) (b : Stmt) (env : Env) (h : evalB env c = .ok false) :
    exec (f + 1) (.while c b) env = .ok (env, .fall) := by
  simp [exec, h]

theorem exec_while_true (f : Nat) (c : B) (b : Stmt) (env env' : Env) (h : evalB env c = .ok true)
    (hb : exec f b env = .ok (env', .fall)) :
    exec (f + 1) (.while c b) env = exec f (.while c b) env' := by
  simp [exec, h, hb]

/-- the guarded test `e != 0 && e->memory_ == k`, on the head of a chain that spells out `l` -/
theorem evalB_memTest (env : Env) (e : E) (k : String) (p : Nat) (l : List Block)
    (he : evalE env e = .ok p) (hl : IsList env.hs.cells p l) :
    evalB env (.and (.nonNull e) (.eq (.memory e) (.var k))) =
      .ok (decide (l.head?.map (·.mem) = some (env.locals k))) := by
  cases l with
  | nil => have : p = 0 := hl; subst this; simp [evalB, he]
  | cons b rest => obtain ⟨h0, _, nx, hc, _⟩ := hl; simp [evalB, evalE, he, deref, hc, h0]

/-- the tail of both release functions: `if (!done) { warn once }` -/
theorem exec_warnTail (f : Nat) (env : Env) (d x k : String) :
    exec (f + 5) (.ite (.eq (.var d) (.lit 0))
        (.seq (.set x (.var k)) (.ite (.not .warned) (.seq .setWarned .print) .skip)) .skip) env =
      .ok (if env.locals d = 0 then
             { env with locals := setLocal env.locals x (env.locals k),
                        hs := { env.hs with warned := true },
                        evs := if env.hs.warned then env.evs else env.evs ++ [.warn] }
           else env, .fall) := by
  by_cases hd : env.locals d = 0
  · cases hw : env.hs.warned
    · simp [exec, execSimple, evalB, evalE, hd, hw]
    · simp [exec, execSimple, evalB, evalE, hd, hw]
      rw [← hw]
  · simp [exec, evalB, evalE, hd]

/-- What `scan_loop` says when `scanRemove l m` finds `x` leaving `l'`: `envk` is the state in which `cur` is the
    predecessor of `x` (cell `⟨x.node, bm⟩`, `x`'s own cell `⟨nx2, m⟩`), reached with fuel `Ff` left for `body`. -/
structure ScanFound (cur done : String) (loop body : Stmt) (env : Env) (F p m : Nat) (l l' : List Block) (x : Block)
    (envk : Env) (bm nx2 Ff : Nat) : Prop where
  fuel : F ≤ Ff + l.length + 1
  hs : envk.hs = env.hs
  evs : envk.evs = env.evs
  fresh : envk.fresh = env.fresh
  locals : ∀ y, y ≠ cur → envk.locals y = env.locals y
  pred_mem : envk.locals cur ∈ l.map (·.node)
  pred_cell : env.hs.cells (envk.locals cur) = some ⟨x.node, bm⟩
  cell : env.hs.cells x.node = some ⟨nx2, m⟩
  ne_zero : x.node ≠ 0
  ne_pred : x.node ≠ envk.locals cur
  mem : x ∈ l
  /-- a heap in which the predecessor points past `x`, the other nodes being as before, holds the remaining chain -/
  unlink : ∀ cells' : Nat → Option Cell, cells' (envk.locals cur) = some ⟨nx2, bm⟩ →
    (∀ b ∈ l', b.node ≠ envk.locals cur → cells' b.node = env.hs.cells b.node) → IsList cells' p l'
  run : ∀ env1, exec Ff body envk = .ok (env1, .fall) → env1.locals done = 1 → exec F loop env = .ok (env1, .fall)

/-- The interior scan of both release functions (`done`, `cur`, `key` are its locals, `found` what it does
    with the block it finds).  When `scanRemove` finds nothing the loop only moves `cur`; when it finds `x`, the
    loop is the `found` branch run with `cur` at the predecessor of `x`. -/
theorem scan_loop (cur done key : String) (found body : Stmt) (hcd : cur ≠ done) (hck : cur ≠ key)
    (hbody : body = .ite (.and (.nonNull (.next (.var cur))) (.eq (.memory (.next (.var cur))) (.var key)))
      found (.set cur (.next (.var cur)))) :
    ∀ (l : List Block) (F : Nat) (env : Env) (p m : Nat), l.length + 3 ≤ F →
    env.locals cur = p → env.locals done = 0 → env.locals key = m →
    IsList env.hs.cells p l → (l.map (·.node)).Nodup →
    match scanRemove l m with
    | none => ∃ env', exec F (.while (.and (.eq (.var done) (.lit 0)) (.nonNull (.var cur))) body) env = .ok (env', .fall) ∧
        env'.hs = env.hs ∧ env'.evs = env.evs ∧ env'.fresh = env.fresh ∧ ∀ y, y ≠ cur → env'.locals y = env.locals y
    | some (x, l') => ∃ envk bm nx2 Ff, ScanFound cur done
        (.while (.and (.eq (.var done) (.lit 0)) (.nonNull (.var cur))) body) body env F p m l l' x envk bm nx2 Ff := by
  intro l
  induction l with
  | nil =>
    intro F env p m hF hc hd hk hl _
    obtain ⟨F', rfl⟩ : ∃ F', F = F' + 1 := ⟨F - 1, by omega⟩
    have hp : p = 0 := hl
    exact ⟨env, exec_while_false F' _ _ env (by simp [evalB, evalE, hc, hd, hp]), rfl, rfl, rfl, fun _ _ => rfl⟩
  | cons b t ih =>
    intro F env p m hF hc hd hk hl hnodup
    obtain ⟨F', rfl⟩ : ∃ F', F = F' + 3 := ⟨F - 3, by omega⟩
    obtain ⟨hp0, hpb, nx, hcell, hrest⟩ := hl
    have htest := evalB_memTest env (.next (.var cur)) key nx t (by simp [evalE, deref, hc, hcell]) hrest
    rw [hk] at htest
    rw [List.map_cons, List.nodup_cons] at hnodup
    obtain ⟨hbt, htnodup⟩ := hnodup
    have hctrue : evalB env (.and (.eq (.var done) (.lit 0)) (.nonNull (.var cur))) = .ok true := by
      simp [evalB, evalE, hc, hd, hp0]
    by_cases hm : t.head?.map (·.mem) = some m
    · -- the successor `n` of `b` is the block looked for: `env` itself is the state `envk`, with `b` the predecessor
      obtain ⟨n, rest, rfl, rfl⟩ := head_mem_some t m hm
      obtain ⟨hq0, hqn, nx2, hcell2, hrest2⟩ := hrest
      rw [scanRemove, if_pos rfl]
      have hbn : n.node ≠ b.node := fun h => hbt (List.mem_map.mpr ⟨n, by simp, h⟩)
      refine ⟨env, b.mem, nx2, F' + 2, ⟨by simp, rfl, rfl, rfl, fun _ _ => rfl, by simp [hc, hpb],
        by rw [hc, ← hqn]; exact hcell, by rw [← hqn]; exact hcell2, hqn ▸ hq0, by rw [hc, hpb]; exact hbn,
        by simp, ?_, ?_⟩⟩
      · intro cells' h1 h2
        rw [hc] at h1 h2
        refine ⟨hp0, hpb, nx2, h1, isList_frame env.hs.cells cells' rest nx2 ?_ hrest2⟩
        exact fun x hx => h2 x (by simp [hx]) (by
          rw [hpb]; exact fun h => hbt (List.mem_map.mpr ⟨x, by simp [hx], h⟩))
      · intro env1 hex h1
        rw [exec, hctrue]
        rw [hex]
        exact exec_while_false (F' + 1) _ _ _ (by simp [evalB, evalE, h1])
    · -- the body only moves `cur` on to `nx`; the induction hypothesis for the chain from `nx` is lifted over `b`,
      -- whose cell no later write touches (`b` is not the predecessor found: `hkp`)
      rw [scanRemove_cons b t m hm]
      have hstep : exec (F' + 2) body env = .ok ({ env with locals := setLocal env.locals cur nx }, .fall) := by
        rw [hbody, exec, htest]
        simp [exec, execSimple, evalE, deref, hc, hcell, hm]
      have ih := ih (F' + 2) { env with locals := setLocal env.locals cur nx } nx m (by simp at hF ⊢; omega)
        (by simp [setLocal]) (by simp [setLocal, hd, Ne.symm hcd]) (by simp [setLocal, hk, Ne.symm hck]) hrest htnodup
      have hloop := exec_while_true (F' + 2) _ body env _ hctrue hstep
      cases hs : scanRemove t m with
      | none =>
        rw [hs] at ih
        obtain ⟨env', hex, e1, e2, e3, e4⟩ := ih
        exact ⟨env', hloop.trans hex, e1, e2, e3, fun y hy => (e4 y hy).trans (by simp [setLocal, hy])⟩
      | some pr =>
        obtain ⟨x, l'⟩ := pr
        rw [hs] at ih
        obtain ⟨envk, bm, nx3, Ff, hf⟩ := ih
        have hkp : envk.locals cur ≠ p := fun h => hbt (hpb ▸ h ▸ hf.pred_mem)
        have hFf := hf.fuel
        refine ⟨envk, bm, nx3, Ff, ⟨by simp at hFf ⊢; omega, hf.hs, hf.evs, hf.fresh,
          fun y hy => (hf.locals y hy).trans (by simp [setLocal, hy]), List.mem_cons_of_mem _ hf.pred_mem,
          hf.pred_cell, hf.cell, hf.ne_zero, hf.ne_pred, List.mem_cons_of_mem _ hf.mem, ?_,
          fun env1 hex h1 => hloop.trans (hf.run env1 hex h1)⟩⟩
        intro cells' h1 h2
        refine ⟨hp0, hpb, nx, ?_, hf.unlink cells' h1 (fun y hy => h2 y (List.mem_cons_of_mem _ hy))⟩
        rw [hpb, h2 b (by simp) (by rw [← hpb]; exact hkp.symm), ← hpb]
        exact hcell

/-- How both scans end once `found` has run at `envk`: if it raised `done`, made the predecessor point past `x`
    and left every cell alone except the predecessor's, `x`'s and those in `skip` (no node of `l`), then the loop
    has run, the chain from `p` is `l'`, and cells outside the nodes of `l` and `skip` are as before. -/
theorem ScanFound.finish {cur done : String} {loop body : Stmt} {env : Env} {F p m : Nat} {l l' : List Block} {x : Block}
    {envk : Env} {bm nx2 Ff : Nat} (hf : ScanFound cur done loop body env F p m l l' x envk bm nx2 Ff)
    (hnodup : (l.map (·.node)).Nodup) (hsr : scanRemove l m = some (x, l')) (skip : Nat → Prop)
    (hskip : ∀ b ∈ l, ¬ skip b.node) {env1 : Env} (hex : exec Ff body envk = .ok (env1, .fall))
    (hdone : env1.locals done = 1) (hpred : env1.hs.cells (envk.locals cur) = some ⟨nx2, bm⟩)
    (hoff : ∀ q, q ≠ envk.locals cur → q ≠ x.node → ¬ skip q → env1.hs.cells q = env.hs.cells q) :
    exec F loop env = .ok (env1, .fall) ∧ IsList env1.hs.cells p l' ∧
      ∀ q, q ∉ l.map (·.node) → ¬ skip q → env1.hs.cells q = env.hs.cells q := by
  obtain ⟨hnotin, hsub⟩ := scanRemove_node_notin l m x l' hnodup hsr
  exact ⟨hf.run env1 hex hdone,
    hf.unlink _ hpred (fun b hb hbk => hoff _ hbk (hnotin b hb) (hskip b (hsub b hb))),
    fun q hq => hoff q (fun h => hq (h ▸ hf.pred_mem)) (fun h => hq (List.mem_map.mpr ⟨x, hf.mem, h.symm⟩))⟩

theorem cScan_step_found (f : Nat) (env : Env) (p q q2 bm m i : Nat) (nd : HNode)
    (h4 : env.locals "v4" = p) (h2 : env.locals "v2" = m) (h3 : env.locals "v3" = i)
    (hnd : env.hs.nodes[i]? = some nd)
    (hcell : env.hs.cells p = some ⟨q, bm⟩) (hq0 : q ≠ 0) (hqp : q ≠ p)
    (hc2 : env.hs.cells q = some ⟨q2, m⟩) :
    ∃ env', exec (f + 12) cScanB env = .ok (env', .fall) ∧
      env'.hs = { env.hs with cells := setCell (setCell env.hs.cells p (some ⟨q2, bm⟩)) q (some ⟨nd.free, m⟩),
                              nodes := env.hs.nodes.set i { nd with free := q } } ∧
      env'.locals "v8" = 1 ∧ env'.locals "v2" = m ∧ env'.evs = env.evs ∧ env'.fresh = env.fresh := by
  obtain ⟨hlt, hget⟩ := List.getElem?_eq_some_iff.mp hnd
  simp [cScanB, exec, execSimple, evalE, evalB, deref, nodeAt, h4, h2, h3, hcell, hc2, hq0, hqp, setLocal, writeNext,
      setCell, setNodeFree, hlt, hget]

/-- the interior scan of `releaseCachedBlockFrom` is `scanRemove`, for a chain of any length -/
theorem cScan_loop : ∀ (l : List Block) (F : Nat) (env : Env) (p m i : Nat) (nd : HNode),
    l.length + 14 ≤ F →
    env.locals "v4" = p → env.locals "v8" = 0 → env.locals "v2" = m → env.locals "v3" = i →
    env.hs.nodes[i]? = some nd →
    IsList env.hs.cells p l → (l.map (·.node)).Nodup →
    ∃ env', exec F cScan env = .ok (env', .fall) ∧
      env'.evs = env.evs ∧ env'.fresh = env.fresh ∧ env'.hs.nonCached = env.hs.nonCached ∧
      env'.hs.warned = env.hs.warned ∧ env'.locals "v2" = m ∧
      match scanRemove l m with
      | some (x, l') =>
          env'.locals "v8" = 1 ∧ env'.hs.nodes = env.hs.nodes.set i { nd with free := x.node } ∧
          IsList env'.hs.cells p l' ∧ env'.hs.cells x.node = some ⟨nd.free, x.mem⟩ ∧ x ∈ l ∧
          (∀ q, q ∉ l.map (·.node) → env'.hs.cells q = env.hs.cells q)
      | none => env'.locals "v8" = 0 ∧ env'.hs = env.hs := by
  intro l F env p m i nd hF h4 h8 h2 h3 hnd hl hnodup
  have h := scan_loop "v4" "v8" "v2" _ cScanB (by simp) (by simp) rfl l F env p m (by omega) h4 h8 h2 hl hnodup
  cases hsr : scanRemove l m with
  | none =>
    rw [hsr] at h
    obtain ⟨env', hex, e1, e2, e3, e4⟩ := h
    exact ⟨env', hex, e2, e3, by rw [e1], by rw [e1], (e4 _ (by simp)).trans h2, (e4 _ (by simp)).trans h8, e1⟩
  | some pr =>
    obtain ⟨x, l'⟩ := pr
    rw [hsr] at h
    obtain ⟨envk, bm, nx2, Ff, hf⟩ := h
    have hxm := (scanRemove_perm l m x l' hsr).1
    have hFf := hf.fuel
    obtain ⟨Ff', rfl⟩ : ∃ Ff', Ff = Ff' + 12 := ⟨Ff - 12, by omega⟩
    obtain ⟨env1, hex, hhs, h81, h21, hevs, hfresh⟩ :=
      cScan_step_found Ff' envk _ x.node nx2 bm m i nd rfl ((hf.locals _ (by simp)).trans h2)
        ((hf.locals _ (by simp)).trans h3) (hf.hs ▸ hnd) (hf.hs ▸ hf.pred_cell) hf.ne_zero hf.ne_pred (hf.hs ▸ hf.cell)
    rw [hf.hs] at hhs
    obtain ⟨hrun, hl', hfr⟩ := hf.finish hnodup hsr (fun _ => False) (fun _ _ => id) hex h81
      (by rw [hhs]; simp [setCell, Ne.symm hf.ne_pred]) (fun q h1 h2' _ => by rw [hhs]; simp [setCell, h1, h2'])
    exact ⟨env1, hrun, hevs.trans hf.evs, hfresh.trans hf.fresh, by rw [hhs], by rw [hhs], h21, h81,
      by rw [hhs], hl', by rw [hhs, hxm]; simp [setCell], hf.mem, fun q hq => hfr q hq id⟩

theorem warnOnce_eq (s : State) :
    warnOnce s = if s.warned then (s, []) else ({ s with warned := true }, [.warn]) := rfl

theorem rep_warnOnce (hs : HState) (s : State) (hrep : Rep hs s) :
    Rep { hs with warned := true } (warnOnce s).1 ∧ (warnOnce s).2 = if hs.warned then [] else [.warn] := by
  rw [warnOnce_eq, hrep.warned]
  cases hw : s.warned with
  | true => exact ⟨⟨hrep.len, hrep.cls, hrep.unc, hw.symm⟩, rfl⟩
  | false => exact ⟨⟨hrep.len, hrep.cls, hrep.unc, rfl⟩, rfl⟩

theorem deallocH_cached_refines (f : Nat) (hs : HState) (s : State) (m size : Nat)
    (hrep : Rep hs s) (hinv : Inv s) (hcached : isCached size = true) (c : Class)
    (hc : s.classes[indexFor s.classes size]? = some c) (hfuel : c.used.length ≤ f) :
    ∃ hs', deallocH (f + 60) hs m size = .ok (hs', (deallocCached s (indexFor s.classes size) c m).2) ∧
      Rep hs' (deallocCached s (indexFor s.classes size) c m).1 := by
  have hsz : size ≤ 256 := of_decide_eq_true hcached
  obtain ⟨nd, hnd, hsize, hfl, hul, _, husedids, hfu⟩ := rep_class hs s hrep hinv.1 _ c hc
  have hnodup_used := nodes_nodup_of_ids _ husedids
  have hi := indexForH_eq hs s hrep size
  obtain ⟨hlt, hget⟩ := List.getElem?_eq_some_iff.mp hnd
  generalize hidx : indexFor s.classes size = i at *
  rw [deallocH, call, deallocProg_eq_ref]
  unfold deallocCached
  have htest := @evalB_memTest (e := .nused (.var "v3")) (k := "v2") (p := nd.used) (l := c.used)
  by_cases hhd : c.used.head?.map (·.mem) = some m
  · obtain ⟨b, rest, hu, hbm⟩ := head_mem_some _ m hhd
    rw [hu] at hul hnodup_used hfu
    obtain ⟨h0, hpb, nx, hcell, hrest⟩ := hul
    rw [hu, unlink_head b rest m hbm]
    refine ⟨_, by
      simp [deallocRef, exec, execSimple, evalE, evalB, params, setLocal, hsz, hi, nodeAt, hget, hlt, deref, h0, hcell, hbm,
        setNodeUsed, setNodeFree, writeNext]
      rfl, ?_⟩
    rw [List.map_cons, List.nodup_cons] at hnodup_used
    rw [hpb]
    exact rep_set_class hs _ s hrep i c _ nd _ hc hnd rfl rfl rfl hinv.1
      (fun q _ hq => by
        have : q ≠ b.node := fun e => hq (List.mem_flatMap.mpr ⟨b, by simp [hu], e ▸ node_mem_ids b⟩)
        simp [setCell, this]) hsize
      ⟨hpb ▸ h0, rfl, nd.free, by simp [setCell, hbm],
        isList_setCell _ (fun x hx => hfu x hx b (by simp) _ (node_mem_ids x) _ (node_mem_ids b)) hfl⟩
      (isList_setCell _ (fun x hx h => hnodup_used.1 (List.mem_map.mpr ⟨x, hx, h⟩)) hrest)
  · rw [unlink_eq_scanRemove _ _ hhd]
    obtain ⟨env', hex, hevs, _, hnc, hwarned, _, hscan⟩ := cScan_loop c.used (f + 49)
      { hs := hs, locals := setLocal (setLocal (setLocal (setLocal (setLocal (setLocal (params [m, size]) "v0" i) "v1" i) "v2" m) "v3" i) "v4" nd.used) "v8" 0,
        fresh := [], evs := [] } nd.used m i nd (by omega) rfl rfl rfl rfl hnd hul hnodup_used
    simp [deallocRef, exec, execSimple, evalE, evalB, ↓htest, ↓exec_warnTail, hex, hul, params, setLocal, hsz, hi, nodeAt, hget, hlt, hhd]
    cases hsr : scanRemove c.used m with
    | none =>
      rw [hsr] at hscan
      obtain ⟨hrw, hev⟩ := rep_warnOnce hs s hrep
      simp only [hscan.1, hscan.2, if_true, hevs, hev]
      exact ⟨_, ⟨rfl, by cases hs.warned <;> rfl⟩, hrw⟩
    | some pr =>
      obtain ⟨x, l'⟩ := pr
      rw [hsr] at hscan
      obtain ⟨hdone, hnodes, hl', hxcell, hxl, hoff⟩ := hscan
      simp only [hdone]
      refine ⟨_, ⟨rfl, hevs⟩, ?_⟩
      have hx0 : x.node ≠ 0 := isList_node_ne_zero hs.cells nd.used c.used hul x hxl
      refine rep_set_class hs _ s hrep i c _ nd _ hc hnd hnodes hnc hwarned hinv.1
        (fun q _ hq => hoff q (fun hmem => hq (by
          rw [List.flatMap_append]; exact List.mem_append_right _ (node_mem_flatMap_ids hmem)))) hsize ?_ hl'
      refine ⟨hx0, rfl, nd.free, hxcell, ?_⟩
      apply isList_frame hs.cells _ _ _ _ hfl
      intro y hy
      apply hoff
      intro hmem
      obtain ⟨z, hz, he⟩ := List.mem_map.mp hmem
      exact hfu y hy z hz _ (node_mem_ids y) _ (node_mem_ids z) he.symm

theorem uScan_step_found (f : Nat) (env : Env) (p q q2 bm m sz : Nat)
    (h4 : env.locals "v16" = p) (h2 : env.locals "v14" = m) (h3 : env.locals "v15" = sz)
    (hcell : env.hs.cells p = some ⟨q, bm⟩) (hq0 : q ≠ 0) (hqp : q ≠ p)
    (hc2 : env.hs.cells q = some ⟨q2, m⟩) :
    ∃ env', exec (f + 12) uScanB env = .ok (env', .fall) ∧
      env'.hs = { env.hs with cells := setCell (setCell (setCell env.hs.cells p (some ⟨q2, bm⟩)) m none) q none } ∧
      env'.locals "v19" = 1 ∧ env'.evs = env.evs ++ [.ufree m sz, .ufree q 16] ∧ env'.fresh = env.fresh := by
  simp [uScanB, exec, execSimple, evalE, evalB, deref, h4, h2, h3, hcell, hc2, hq0, hqp, setLocal, writeNext,
      setCell, doFree]

/-- the interior scan of `releaseNonCachedMemory` is `scanRemove` followed by `destroyBlock` -/
theorem uScan_loop : ∀ (l : List Block) (F : Nat) (env : Env) (p m sz : Nat),
    l.length + 14 ≤ F →
    env.locals "v16" = p → env.locals "v19" = 0 → env.locals "v14" = m → env.locals "v15" = sz →
    IsList env.hs.cells p l → (l.map (·.node)).Nodup → (∀ y ∈ l, ∀ z ∈ l, y.mem ≠ z.node) →
    ∃ env', exec F uScan env = .ok (env', .fall) ∧
      env'.fresh = env.fresh ∧ env'.hs.nonCached = env.hs.nonCached ∧ env'.hs.nodes = env.hs.nodes ∧
      env'.hs.warned = env.hs.warned ∧
      match scanRemove l m with
      | some (x, l') =>
          env'.locals "v19" = 1 ∧ env'.evs = env.evs ++ [.ufree x.mem sz, .ufree x.node 16] ∧
          IsList env'.hs.cells p l' ∧ x ∈ l ∧
          (∀ q, q ∉ l.map (·.node) → q ≠ x.mem → env'.hs.cells q = env.hs.cells q)
      | none => env'.locals "v19" = 0 ∧ env'.hs = env.hs ∧ env'.evs = env.evs := by
  intro l F env p m sz hF h4 h8 h2 h3 hl hnodup hmn
  have h := scan_loop "v16" "v19" "v14" _ uScanB (by simp) (by simp) rfl l F env p m (by omega) h4 h8 h2 hl hnodup
  cases hsr : scanRemove l m with
  | none =>
    rw [hsr] at h
    obtain ⟨env', hex, e1, e2, e3, e4⟩ := h
    exact ⟨env', hex, e3, by rw [e1], by rw [e1], by rw [e1], (e4 _ (by simp)).trans h8, e1, e2⟩
  | some pr =>
    obtain ⟨x, l'⟩ := pr
    rw [hsr] at h
    obtain ⟨envk, bm, nx2, Ff, hf⟩ := h
    have hxm := (scanRemove_perm l m x l' hsr).1
    have hFf := hf.fuel
    obtain ⟨Ff', rfl⟩ : ∃ Ff', Ff = Ff' + 12 := ⟨Ff - 12, by omega⟩
    obtain ⟨env1, hex, hhs, h81, hevs, hfresh⟩ :=
      uScan_step_found Ff' envk _ x.node nx2 bm m sz rfl ((hf.locals _ (by simp)).trans h2)
        ((hf.locals _ (by simp)).trans h3) (hf.hs ▸ hf.pred_cell) hf.ne_zero hf.ne_pred (hf.hs ▸ hf.cell)
    rw [hf.hs] at hhs
    have hskip : ∀ b ∈ l, ¬ b.node = m := fun b hb h => hmn x hf.mem b hb (hxm.trans h.symm)
    have hkm : envk.locals "v16" ≠ m := by
      obtain ⟨z, hz, hzn⟩ := List.mem_map.mp hf.pred_mem
      exact hzn ▸ hskip z hz
    obtain ⟨hrun, hl', hfr⟩ := hf.finish hnodup hsr (· = m) hskip hex h81
      (by rw [hhs]; simp [setCell, Ne.symm hf.ne_pred, hkm]) (fun q h1 h2' hqm => by rw [hhs]; simp [setCell, h1, h2', hqm])
    exact ⟨env1, hrun, hfresh.trans hf.fresh, by rw [hhs], by rw [hhs], by rw [hhs], h81,
      by rw [hevs, hf.evs, hxm], hl', hf.mem, fun q hq hqm => hfr q hq (hxm ▸ hqm)⟩

theorem deallocH_uncached_refines (f : Nat) (hs : HState) (s : State) (m size : Nat)
    (hrep : Rep hs s) (hinv : Inv s) (hcached : ¬ isCached size = true) (hfuel : s.uncached.length ≤ f) :
    ∃ hs', deallocH (f + 60) hs m size = .ok (hs', (deallocUncached s m size).2) ∧
      Rep hs' (deallocUncached s m size).1 := by
  have hsz : ¬ size ≤ 256 := fun h => hcached (decide_eq_true h)
  have hnodup := nodes_nodup_of_ids _ (uncached_separate s hinv.1).1
  have hmn : ∀ y ∈ s.uncached, ∀ z ∈ s.uncached, y.mem ≠ z.node := fun y hy z hz =>
    mem_ne_node s hinv.1 y (uncached_block_mem s y hy) z (uncached_block_mem s z hz)
  have hul := hrep.unc
  rw [deallocH, call, deallocProg_eq_ref]
  unfold deallocUncached
  have htest := fun env => evalB_memTest env .nonCached "v14" env.hs.nonCached s.uncached rfl
  by_cases hhd : s.uncached.head?.map (·.mem) = some m
  · obtain ⟨b, rest, hu, hbm⟩ := head_mem_some _ m hhd
    rw [hu] at hul hnodup hmn
    obtain ⟨h0, hpb, nx, hcell, hrest⟩ := hul
    rw [hu, unlink_head b rest m hbm]
    refine ⟨_, by
      simp [deallocRef, exec, execSimple, evalE, evalB, params, setLocal, hsz, deref, h0, hcell, hbm, doFree,
        destroyBlock, Gen.Cache.blockStructBytes, ← hpb]
      rfl, ?_⟩
    rw [List.map_cons, List.nodup_cons] at hnodup
    refine rep_set_uncached hs _ s hrep rest rfl rfl hinv.1 (fun q _ hq => ?_) ?_
    · have hb : b ∈ s.uncached := hu ▸ List.mem_cons_self
      have h1 : q ≠ b.node := fun e => hq (List.mem_flatMap.mpr ⟨b, hb, e ▸ node_mem_ids b⟩)
      have h2 : q ≠ m := fun e => hq (List.mem_flatMap.mpr ⟨b, hb, e ▸ hbm ▸ mem_mem_ids b⟩)
      simp [setCell, hpb, h1, h2]
    · rw [hpb]
      exact isList_setCell _ (fun x hx h => hnodup.1 (List.mem_map.mpr ⟨x, hx, h⟩))
        (isList_setCell _ (fun x hx h => hmn b (by simp) x (by simp [hx]) (hbm.trans h.symm)) hrest)
  · rw [unlink_eq_scanRemove _ _ hhd]
    obtain ⟨env', hex, _, hnc, hnodes, hwarned, hscan⟩ := uScan_loop s.uncached (f + 53)
      { hs := hs, locals := setLocal (setLocal (setLocal (setLocal (params [m, size]) "v14" m) "v15" size) "v16" hs.nonCached) "v19" 0,
        fresh := [], evs := [] } hs.nonCached m size (by omega) rfl rfl rfl rfl hul hnodup hmn
    simp [deallocRef, exec, execSimple, evalE, evalB, ↓htest, ↓exec_warnTail, hex, hul, params, setLocal, hsz, hhd]
    cases hsr : scanRemove s.uncached m with
    | none =>
      rw [hsr] at hscan
      obtain ⟨hrw, hev⟩ := rep_warnOnce hs s hrep
      simp only [hscan.1, hscan.2.1, hscan.2.2, if_true, hev]
      exact ⟨_, ⟨rfl, by cases hs.warned <;> rfl⟩, hrw⟩
    | some pr =>
      obtain ⟨x, l'⟩ := pr
      rw [hsr] at hscan
      obtain ⟨hdone, hevs, hl', hxl, hoff⟩ := hscan
      simp only [hdone]
      refine ⟨_, ⟨rfl, by simpa [destroyBlock, Gen.Cache.blockStructBytes] using hevs⟩, ?_⟩
      refine rep_set_uncached hs _ s hrep l' hnodes hwarned hinv.1 (fun q _ hq => hoff q ?_ ?_) (hnc ▸ hl')
      · exact fun hmem => hq (node_mem_flatMap_ids hmem)
      · exact fun h => hq (List.mem_flatMap.mpr ⟨x, hxl, h ▸ mem_mem_ids x⟩)

/-! ### the destroy-list loop (`destroySimpleStringMemoryBlockList`), generic in the names of its locals -/

def dBody (cur nxt blk szv src : String) : Stmt :=
  (.seq (.set nxt (.next (.var cur))) (.seq (.seq (.set blk (.var cur)) (.seq (.set szv (.var src)) (.seq (.ufree (.memory (.var blk)) (.var szv)) (.ufree (.var blk) (.lit 16))))) (.set cur (.var nxt))))
def dWhile (cur nxt blk szv src : String) : Stmt := .while (.nonNull (.var cur)) (dBody cur nxt blk szv src)

theorem dBody_step (f : Nat) (env : Env) (cur nxt blk szv src : String) (p q bm sz : Nat)
    (hn : [cur, nxt, blk, szv, src].Nodup)
    (hc : env.locals cur = p) (hs : env.locals src = sz) (hcell : env.hs.cells p = some ⟨q, bm⟩) :
    ∃ env', exec (f + 10) (dBody cur nxt blk szv src) env = .ok (env', .fall) ∧
      env'.hs = { env.hs with cells := setCell (setCell env.hs.cells bm none) p none } ∧
      env'.evs = env.evs ++ [.ufree bm sz, .ufree p 16] ∧ env'.fresh = env.fresh ∧
      env'.locals cur = q ∧ env'.locals src = sz ∧
      ∀ x, x ≠ cur → x ≠ nxt → x ≠ blk → x ≠ szv → env'.locals x = env.locals x := by
  simp only [List.nodup_cons, List.mem_cons, List.not_mem_nil, not_or, not_false_eq_true,
    List.nodup_nil, and_true, or_false] at hn
  obtain ⟨⟨h1, h2, h3, h4⟩, ⟨h5, h6, h7⟩, ⟨h8, h9⟩, h10⟩ := hn
  refine ⟨{ env with hs := { env.hs with cells := setCell (setCell env.hs.cells bm none) p none },
                     locals := setLocal (setLocal (setLocal (setLocal env.locals nxt q) blk p) szv sz) cur q,
                     evs := env.evs ++ [.ufree bm sz, .ufree p 16] }, ?_, rfl, rfl, rfl, by simp [setLocal],
    by simp [setLocal, hs, Ne.symm h4, Ne.symm h7, Ne.symm h9, Ne.symm h10],
    fun x x1 x2 x3 x4 => by simp [setLocal, x1, x2, x3, x4]⟩
  simp [dBody, exec, execSimple, evalE, deref, setLocal, doFree, hc, hs, hcell, h1, h5, h6, h8, Ne.symm h7, Ne.symm h9]

theorem dWhile_loop (cur nxt blk szv src : String) (hn : [cur, nxt, blk, szv, src].Nodup) :
    ∀ (l : List Block) (F : Nat) (env : Env) (p sz : Nat),
    l.length + 12 ≤ F → env.locals cur = p → env.locals src = sz →
    IsList env.hs.cells p l → (l.flatMap Block.ids).Nodup →
    ∃ env', exec F (dWhile cur nxt blk szv src) env = .ok (env', .fall) ∧
      env'.evs = env.evs ++ destroyList l sz ∧ env'.fresh = env.fresh ∧ env'.hs.nodes = env.hs.nodes ∧
      env'.hs.nonCached = env.hs.nonCached ∧ env'.hs.warned = env.hs.warned ∧
      (∀ q, q ∉ l.flatMap Block.ids → env'.hs.cells q = env.hs.cells q) ∧
      (∀ x, x ≠ cur → x ≠ nxt → x ≠ blk → x ≠ szv → env'.locals x = env.locals x) := by
  intro l
  induction l with
  | nil =>
    intro F env p sz hF hc hs hl _
    obtain ⟨F', rfl⟩ : ∃ F', F = F' + 1 := ⟨F - 1, by omega⟩
    have hp : p = 0 := hl
    subst hp
    refine ⟨env, ?_, by simp [destroyList], rfl, rfl, rfl, rfl, fun _ _ => rfl, fun _ _ _ _ _ => rfl⟩
    exact exec_while_false F' _ _ env (by simp [evalB, evalE, hc])
  | cons b rest ih =>
    intro F env p sz hF hc hs hl hnd
    obtain ⟨F', rfl⟩ : ∃ F', F = F' + 10 + 1 := ⟨F - 11, by simp at hF; omega⟩
    obtain ⟨hp0, hpb, nx, hcell, hrest⟩ := hl
    -- one run of the body frees `b` (buffer, then node) and moves `cur` to `nx`; the rest of the chain has neither id of `b`
    -- (`hrestids`), so it still stands and the induction hypothesis applies at `env1`
    obtain ⟨env1, hstep, e1, e2, e3, e4, e5, e6⟩ := dBody_step F' env cur nxt blk szv src p nx b.mem sz hn hc hs hcell
    rw [List.flatMap_cons, List.nodup_append] at hnd
    obtain ⟨hb, hrestnd, hdis⟩ := hnd
    have hrestids : ∀ x ∈ rest, x.node ≠ b.node ∧ x.node ≠ b.mem := fun x hx =>
      ⟨fun h => hdis b.node (by simp [Block.ids]) x.node (List.mem_flatMap.mpr ⟨x, hx, by simp [Block.ids]⟩) h.symm,
       fun h => hdis b.mem (by simp [Block.ids]) x.node (List.mem_flatMap.mpr ⟨x, hx, by simp [Block.ids]⟩) h.symm⟩
    obtain ⟨env', hex, a1, a2, a3, a4, a5, a6, a7⟩ := ih (F' + 10) env1 nx sz (by simp at hF ⊢; omega) e4 e5
      (by
        rw [e1, hpb]
        exact isList_setCell _ (fun x hx => (hrestids x hx).1) (isList_setCell _ (fun x hx => (hrestids x hx).2) hrest))
      hrestnd
    refine ⟨env', ?_, ?_, a2.trans e3, by rw [a3, e1], by rw [a4, e1], by rw [a5, e1], ?_,
      fun x x1 x2 x3 x4 => (a7 x x1 x2 x3 x4).trans (e6 x x1 x2 x3 x4)⟩
    · unfold dWhile
      rw [exec_while_true (F' + 10) _ _ env _ (by simp [evalB, evalE, hc, hp0]) hstep]
      exact hex
    · rw [a1, e2]; simp [destroyList, destroyBlock, Gen.Cache.blockStructBytes, hpb]
    · intro q hq
      simp only [List.flatMap_cons, List.mem_append, not_or, Block.ids, List.mem_cons, List.not_mem_nil, or_false] at hq
      rw [a6 q hq.2, e1]
      simp [setCell, hpb, hq.1.1, hq.1.2]

/-- What `destroySimpleStringMemoryBlockList` leaves of `env`: the blocks of the chain `l` went back to the allocator
    with size `n`; no other cell, no other part of the heap state and no local outside `names` changed. -/
structure ChainDestroyed (env env' : Env) (l : List Block) (n : Nat) (names : List String) : Prop where
  evs : env'.evs = env.evs ++ destroyList l n
  fresh : env'.fresh = env.fresh
  nodes : env'.hs.nodes = env.hs.nodes
  nonCached : env'.hs.nonCached = env.hs.nonCached
  warned : env'.hs.warned = env.hs.warned
  cells : ∀ q, q ∉ l.flatMap Block.ids → env'.hs.cells q = env.hs.cells q
  locals : ∀ x, x ∉ names → env'.locals x = env.locals x

/-- `destroySimpleStringMemoryBlockList(head, size)` as it is inlined at its call sites -/
theorem destroyChain (h s cur nxt blk szv : String) (hd sz : E) (hn : [h, cur, nxt, blk, szv, s].Nodup)
    (l : List Block) (F : Nat) (env : Env) (p n : Nat) (hF : l.length + 15 ≤ F)
    (hhd : evalE env hd = .ok p) (hsz : evalE { env with locals := setLocal env.locals h p } sz = .ok n)
    (hl : IsList env.hs.cells p l) (hids : (l.flatMap Block.ids).Nodup) :
    ∃ env', exec F (.seq (.set h hd) (.seq (.set s sz) (.seq (.set cur (.var h)) (dWhile cur nxt blk szv s)))) env =
        .ok (env', .fall) ∧ ChainDestroyed env env' l n [h, cur, nxt, blk, szv, s] := by
  obtain ⟨F', rfl⟩ : ∃ F', F = F' + 4 := ⟨F - 4, by omega⟩
  have hn' := hn
  rw [List.nodup_cons] at hn'
  simp only [List.mem_cons, List.not_mem_nil, not_or, or_false] at hn'
  obtain ⟨⟨h1, h2, h3, h4, h5⟩, hn5⟩ := hn'
  have hsc : s ≠ cur := fun e => (List.nodup_cons.mp hn5).1 (by simp [e])
  obtain ⟨env', hex, a1, a2, a3, a4, a5, a6, a7⟩ := dWhile_loop cur nxt blk szv s hn5 l (F' + 1)
    { env with locals := setLocal (setLocal (setLocal env.locals h p) s n) cur p } p n (by omega)
    (by simp [setLocal]) (by simp [setLocal, hsc]) hl hids
  refine ⟨env', by simp [exec, execSimple, hhd, hsz, hex, evalE, setLocal, h5], ⟨a1, a2, a3, a4, a5, a6, ?_⟩⟩
  intro x hx
  simp only [List.mem_cons, List.not_mem_nil, not_or, or_false] at hx
  rw [a7 x hx.2.1 hx.2.2.1 hx.2.2.2.1 hx.2.2.2.2.1]
  simp [setLocal, hx.1, hx.2.1, hx.2.2.2.2.2]

def loopCond : B := (.lt (.var "v0") (.lit 5))

/-- the `for (i = 0; i < amountOfInternalCacheNodes; i++)` loop of `clearCache` / `clearAll`, generic in
    what one iteration does to class `i`; `pre` are the classes already visited -/
theorem outerLoop (iter : Stmt) (clr : Class → Class) (evsOf : Class → List Ev) (G : Nat)
    (hiter : ∀ (F : Nat) (env : Env) (s : State) (k : Nat) (c : Class), G + s.blocks.length ≤ F →
      env.locals "v0" = k → Rep env.hs s → s.liveIds.Nodup → s.classes[k]? = some c →
      ∃ env', exec F iter env = .ok (env', .fall) ∧ env'.locals "v0" = k + 1 ∧ env'.evs = env.evs ++ evsOf c ∧
        env'.fresh = env.fresh ∧
        Rep env'.hs { s with classes := s.classes.set k (clr c) } ∧
        ∃ gone, Effect s { s with classes := s.classes.set k (clr c) } gone []) :
    ∀ (rest pre : List Class) (F : Nat) (env : Env) (s : State), s.classes = pre ++ rest →
      rest.length + pre.length = 5 → env.locals "v0" = pre.length →
      Rep env.hs s → s.liveIds.Nodup → G + s.blocks.length + rest.length + 1 ≤ F →
      ∃ env', exec F (.while loopCond iter) env = .ok (env', .fall) ∧
        env'.evs = env.evs ++ rest.flatMap evsOf ∧ env'.fresh = env.fresh ∧
        Rep env'.hs { s with classes := pre ++ rest.map clr }
  | [], pre, F, env, s, hcls, hlen, hv0, hrep, _, hF => by
    obtain ⟨F', rfl⟩ : ∃ F', F = F' + 1 := ⟨F - 1, by omega⟩
    have h5 : pre.length = 5 := by simpa using hlen
    refine ⟨env, exec_while_false F' _ _ env (by simp [loopCond, evalB, evalE, hv0, h5]), by simp, rfl, ?_⟩
    show Rep env.hs { s with classes := pre ++ [] }
    rw [← hcls]; exact hrep
  | c :: rest, pre, F, env, s, hcls, hlen, hv0, hrep, hnd, hF => by
    obtain ⟨F', rfl⟩ : ∃ F', F = F' + 1 := ⟨F - 1, by omega⟩
    simp only [List.length_cons] at hlen hF
    obtain ⟨env1, hex, h1, h2, h3, h4, _, he⟩ := hiter F' env s pre.length c (by omega) hv0 hrep hnd (by simp [hcls])
    have h5 := he.nodup hnd
    have h6 : _ ≤ s.blocks.length := he.length_le
    have hset : s.classes.set pre.length (clr c) = (pre ++ [clr c]) ++ rest := by simp [hcls]
    rw [hset] at h4 h5 h6
    obtain ⟨env', hex', a1, a2, a3⟩ := outerLoop iter clr evsOf G hiter rest (pre ++ [clr c]) F' env1 _ rfl
      (by simp; omega) (by simp [h1]) h4 h5 (by omega)
    refine ⟨env', ?_, by rw [a1, h2, List.flatMap_cons, List.append_assoc], a2.trans h3, ?_⟩
    · rw [exec_while_true F' _ _ env env1 (by simp [loopCond, evalB, evalE, hv0]; omega) hex]
      exact hex'
    · simpa using a3

def ccIter : Stmt :=
  (.seq (.seq (.seq (.set "v1" (.nfree (.var "v0"))) (.seq (.set "v2" (.nsize (.var "v0"))) (.seq (.set "v3" (.var "v1")) (dWhile "v3" "v4" "v5" "v6" "v2")))) (.setNfree (.var "v0") (.lit 0))) (.set "v0" (.succ (.var "v0"))))
def ccLoop : Stmt := .while loopCond ccIter
def clearCacheRef : Stmt := (.seq (.set "v0" (.lit 0)) ccLoop)
theorem clearCacheProg_eq_ref : clearCacheProg = clearCacheRef := rfl

def caIter : Stmt :=
  (.seq (.seq (.seq (.set "v1" (.nfree (.var "v0"))) (.seq (.set "v2" (.nsize (.var "v0"))) (.seq (.set "v3" (.var "v1")) (dWhile "v3" "v4" "v5" "v6" "v2")))) (.seq (.seq (.set "v7" (.nused (.var "v0"))) (.seq (.set "v8" (.nsize (.var "v0"))) (.seq (.set "v9" (.var "v7")) (dWhile "v9" "v10" "v11" "v12" "v8")))) (.seq (.setNfree (.var "v0") (.lit 0)) (.setNused (.var "v0") (.lit 0))))) (.set "v0" (.succ (.var "v0"))))
def caLoop : Stmt := .while loopCond caIter
def clearAllRef : Stmt :=
  (.seq (.seq (.set "v0" (.lit 0)) caLoop) (.seq (.seq (.set "v13" .nonCached) (.seq (.set "v14" (.lit 0)) (.seq (.set "v15" (.var "v13")) (dWhile "v15" "v16" "v17" "v18" "v14")))) (.setNonCached (.lit 0))))
theorem clearAllProg_eq_ref : clearAllProg = clearAllRef := rfl

theorem ccIter_refines (F : Nat) (env : Env) (s : State) (k : Nat) (c : Class)
    (hF : 30 + s.blocks.length ≤ F) (hv0 : env.locals "v0" = k) (hrep : Rep env.hs s) (hnodup : s.liveIds.Nodup)
    (hc : s.classes[k]? = some c) :
    ∃ env', exec F ccIter env = .ok (env', .fall) ∧ env'.locals "v0" = k + 1 ∧
      env'.evs = env.evs ++ destroyList c.free c.size ∧ env'.fresh = env.fresh ∧
      Rep env'.hs { s with classes := s.classes.set k { c with free := [] } } ∧
      ∃ gone, Effect s { s with classes := s.classes.set k { c with free := [] } } gone [] := by
  obtain ⟨F', rfl⟩ : ∃ F', F = F' + 20 := ⟨F - 20, by omega⟩
  obtain ⟨nd, hnd, hsize, hfl, hul, hfids, _, hfu⟩ := rep_class env.hs s hrep hnodup k c hc
  have heff := Effect.setClass (gone := c.free) (new := []) k c { c with free := [] } hc rfl
    (by simpa [Class.blocks] using List.perm_append_comm) (fun _ h => nomatch h)
  obtain ⟨env1, hex, d⟩ := destroyChain "v1" "v2" "v3" "v4" "v5" "v6" (.nfree (.var "v0"))
    (.nsize (.var "v0")) (by simp) c.free (F' + 18) env nd.free nd.size
    (by have := (free_length_le s k c hc).1; omega) (by simp [evalE, nodeAt, hv0, hnd])
    (by simp [evalE, nodeAt, setLocal, hv0, hnd]) hfl hfids
  have h0 : env1.locals "v0" = k := (d.locals "v0" (by simp)).trans hv0
  have hget1 : env1.hs.nodes[k]? = some nd := d.nodes ▸ hnd
  simp [ccIter, exec, ↓hex, execSimple, evalE, setNodeFree, setLocal, h0, hget1]
  refine ⟨d.evs.trans (by rw [hsize]), d.fresh, ?_, _, heff⟩
  exact rep_set_class env.hs _ s hrep k c { c with free := [] } nd { nd with free := 0 } hc hnd (by rw [d.nodes])
    d.nonCached d.warned hnodup (fun q _ hq => d.cells q (fun h => hq (by simp [h]))) hsize rfl
    (isList_frame env.hs.cells _ _ _ (fun y hy => d.cells _ (fun h => by
      obtain ⟨x, hx, ha⟩ := List.mem_flatMap.mp h
      exact hfu x hx y hy _ ha _ (node_mem_ids y) rfl)) hul)

/-- `clearCache()`: the regenerated program refines the list model -/
theorem clearCacheH_refines (f : Nat) (hs : HState) (s : State) (hrep : Rep hs s) (hinv : Inv s)
    (hfuel : s.blocks.length ≤ f) :
    ∃ hs', clearCacheH (f + 50) hs = .ok (hs', (clearCache s).2) ∧ Rep hs' (clearCache s).1 := by
  have h5 := classes_length s hinv
  obtain ⟨env', hex, b1, _, b3⟩ := outerLoop ccIter (fun c => { c with free := [] })
    (fun c => destroyList c.free c.size) 30 ccIter_refines s.classes [] (f + 49)
    { hs := hs, locals := setLocal (params []) "v0" 0, fresh := [], evs := [] } s rfl h5
    rfl hrep hinv.1 (by omega)
  have hex' : exec (f + 49) ccLoop _ = .ok (env', .fall) := hex
  rw [clearCacheH, call, clearCacheProg_eq_ref]
  simp [clearCacheRef, exec, execSimple, evalE, ↓hex']
  exact ⟨_, ⟨rfl, b1⟩, b3⟩

theorem caIter_refines (F : Nat) (env : Env) (s : State) (k : Nat) (c : Class)
    (hF : 30 + s.blocks.length ≤ F) (hv0 : env.locals "v0" = k) (hrep : Rep env.hs s) (hnodup : s.liveIds.Nodup)
    (hc : s.classes[k]? = some c) :
    ∃ env', exec F caIter env = .ok (env', .fall) ∧ env'.locals "v0" = k + 1 ∧
      env'.evs = env.evs ++ (destroyList c.free c.size ++ destroyList c.used c.size) ∧ env'.fresh = env.fresh ∧
      Rep env'.hs { s with classes := s.classes.set k { c with free := [], used := [] } } ∧
      ∃ gone, Effect s { s with classes := s.classes.set k { c with free := [], used := [] } } gone [] := by
  obtain ⟨F', rfl⟩ : ∃ F', F = F' + 20 := ⟨F - 20, by omega⟩
  obtain ⟨nd, hnd, hsize, hfl, hul, hfreeids, husedids, hfu⟩ := rep_class env.hs s hrep hnodup k c hc
  obtain ⟨hlt, hget⟩ := List.getElem?_eq_some_iff.mp hnd
  have heff := Effect.setClass (gone := c.blocks) (new := []) k c { c with free := [], used := [] } hc rfl
    (by simp [Class.blocks]) (fun _ h => nomatch h)
  obtain ⟨env1, hex1, d1⟩ := destroyChain "v1" "v2" "v3" "v4" "v5" "v6" (.nfree (.var "v0"))
    (.nsize (.var "v0")) (by simp) c.free (F' + 18) env nd.free nd.size
    (by have := (free_length_le s k c hc).1; omega) (by simp [evalE, nodeAt, hv0, hget, hlt])
    (by simp [evalE, nodeAt, setLocal, hv0, hget, hlt]) hfl hfreeids
  have h01 : env1.locals "v0" = k := (d1.locals "v0" (by simp)).trans hv0
  have hget1 : env1.hs.nodes[k]? = some nd := d1.nodes ▸ hnd
  -- the used chain has no id of the free chain (`hfu`), so it stands at `env1` and is destroyed in the same way
  obtain ⟨env2, hex2, d2⟩ := destroyChain "v7" "v8" "v9" "v10" "v11" "v12" (.nused (.var "v0"))
    (.nsize (.var "v0")) (by simp) c.used (F' + 17) env1 nd.used nd.size
    (by have := (free_length_le s k c hc).2; omega) (by simp [evalE, nodeAt, h01, hget1])
    (by simp [evalE, nodeAt, setLocal, h01, hget1])
    (isList_frame env.hs.cells _ _ _ (fun y hy => d1.cells _ (fun h => by
      obtain ⟨x, hx, ha⟩ := List.mem_flatMap.mp h
      exact hfu x hx y hy _ ha _ (node_mem_ids y) rfl)) hul)
    husedids
  have h02 : env2.locals "v0" = k := (d2.locals "v0" (by simp)).trans h01
  simp [caIter, exec, ↓hex1, ↓hex2, execSimple, evalE, setNodeFree, setNodeUsed, setLocal, h02, d2.nodes, d1.nodes, hget, hlt]
  refine ⟨by rw [d2.evs, d1.evs, hsize, List.append_assoc], d2.fresh.trans d1.fresh, ?_, _, heff⟩
  refine rep_set_class env.hs _ s hrep k c { c with free := [], used := [] } nd { nd with free := 0, used := 0 } hc hnd
    rfl (d2.nonCached.trans d1.nonCached) (d2.warned.trans d1.warned) hnodup
    (fun q _ hq => (d2.cells q (fun h => hq (by simp [h]))).trans (d1.cells q (fun h => hq (by simp [h])))) hsize rfl rfl

/-- `clearAllIncludingCurrentlyUsedMemory()`: the regenerated program refines the list model -/
theorem clearAllH_refines (f : Nat) (hs : HState) (s : State) (hrep : Rep hs s) (hinv : Inv s)
    (hfuel : s.blocks.length ≤ f) :
    ∃ hs', clearAllH (f + 60) hs = .ok (hs', (clearAll s).2) ∧ Rep hs' (clearAll s).1 := by
  have h5 := classes_length s hinv
  obtain ⟨env1, hex1, a1, _, a3⟩ := outerLoop caIter (fun c => { c with free := [], used := [] })
    (fun c => destroyList c.free c.size ++ destroyList c.used c.size) 30 caIter_refines s.classes [] (f + 58)
    { hs := hs, locals := setLocal (params []) "v0" 0, fresh := [], evs := [] } s rfl h5
    rfl hrep hinv.1 (by omega)
  have hex1' : exec (f + 58) caLoop _ = .ok (env1, .fall) := hex1
  obtain ⟨env2, hex2, d⟩ := destroyChain "v13" "v14" "v15" "v16" "v17" "v18" .nonCached (.lit 0)
    (by simp) s.uncached (f + 58) env1 env1.hs.nonCached 0 (by have := uncached_length_le s; omega) rfl rfl
    a3.unc (uncached_separate s hinv.1).1
  rw [clearAllH, call, clearAllProg_eq_ref]
  simp [clearAllRef, exec, execSimple, evalE, ↓hex1', ↓hex2]
  refine ⟨_, ⟨rfl, by rw [d.evs, a1]; rfl⟩, ?_⟩
  exact rep_set_uncached env1.hs { env2.hs with nonCached := 0 } _ a3 [] d.nodes d.warned
    ((Effect.clear (fun c => { c with free := [], used := [] }) Class.blocks s.uncached [] (fun _ => rfl)
      (fun c => by simp [Class.blocks]) (by simp)).nodup hinv.1) (fun q _ hq => d.cells q hq) rfl

theorem getIndex_loop (size : Nat) (body : Stmt)
    (hbody : body = .seq (.ite (.le (.var "p0") (.nsize (.var "v0"))) (.ret (.var "v0")) .skip)
      (.set "v0" (.succ (.var "v0")))) :
    ∀ (n k F : Nat) (env : Env), k + n = 5 → env.hs.nodes.length = 5 → env.locals "v0" = k →
      env.locals "p0" = size → 4 * n + 1 ≤ F →
      ∃ env', exec F (.while (.lt (.var "v0") (.lit 5)) body) env =
        .ok (env', match (env.hs.nodes.drop k).findIdx? (fun nd => decide (size ≤ nd.size)) with
                   | some j => .ret (some (k + j))
                   | none => .fall) := by
  intro n
  induction n with
  | zero =>
    intro k F env hk hlen hv0 _ hF
    obtain ⟨F', rfl⟩ : ∃ F', F = F' + 1 := ⟨F - 1, by omega⟩
    refine ⟨env, ?_⟩
    rw [List.drop_eq_nil_of_le (by omega)]
    exact exec_while_false F' _ _ env (by simp [evalB, evalE, hv0]; omega)
  | succ n ih =>
    intro k F env hk hlen hv0 hp0 hF
    obtain ⟨F', rfl⟩ : ∃ F', F = F' + 4 := ⟨F - 4, by omega⟩
    have hklt : k < env.hs.nodes.length := by omega
    have hk5 : k < 5 := by omega
    have hctrue : evalB env (.lt (.var "v0") (.lit 5)) = .ok true := by simp [evalB, evalE, hv0, hk5]
    rw [List.drop_eq_getElem_cons hklt, List.findIdx?_cons]
    by_cases hfit : size ≤ env.hs.nodes[k].size
    · refine ⟨env, ?_⟩
      simp [exec, hbody, evalB, evalE, nodeAt, hv0, hp0, hklt, hfit, hk5]
    · obtain ⟨env', hex⟩ := ih (k + 1) (F' + 3) { env with locals := setLocal env.locals "v0" (k + 1) } (by omega) hlen
        (by simp [setLocal]) (by simp [setLocal, hp0]) (by omega)
      have hstep : exec (F' + 3) body env = .ok ({ env with locals := setLocal env.locals "v0" (k + 1) }, .fall) := by
        simp [exec, execSimple, hbody, evalB, evalE, nodeAt, hv0, hp0, hklt, hfit]
      refine ⟨env', ?_⟩
      rw [exec_while_true (F' + 3) _ _ env _ hctrue hstep, hex]
      simp only [hfit, decide_false]
      cases List.findIdx? (fun nd => decide (size ≤ nd.size)) (List.drop (k + 1) env.hs.nodes) with
      | none => rfl
      | some j => simp [Nat.add_assoc, Nat.add_comm 1 j]

theorem getIndexH_of_length (f : Nat) (hs : HState) (size : Nat) (hlen : hs.nodes.length = 5) :
    getIndexH (f + 30) hs size = .ok (indexForH hs.nodes size) := by
  obtain ⟨env', hex⟩ := getIndex_loop size _ rfl 5 0 (f + 28)
    { hs := hs, locals := setLocal (params [size]) "v0" 0, fresh := [], evs := [] } rfl hlen rfl rfl (by omega)
  simp only [List.drop_zero, Nat.zero_add] at hex
  rw [indexForH]
  cases hfi : List.findIdx? (fun n => decide (size ≤ n.size)) hs.nodes <;>
    (rw [hfi] at hex; simp [getIndexH, call, getIndexProg, exec, execSimple, evalE, ↓hex])

end Cache.Heap
