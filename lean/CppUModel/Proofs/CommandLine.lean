import CppUModel.Model.CommandLine
import CppUModel.Proofs.ListLemmas
import CppUModel.Proofs.TextLemmas
/-! What the model of `CommandLineArguments::parse` does on the forms of input the C12 theorems speak of: digit
strings, one option in each spelling, rendered option lists, arguments no branch takes, values of `-t`, the
strings it stores; and what the theorems about the runner's outputs need. -/
namespace CommandLine
open Text

theorem digit_toNat (d : UInt8) (h : isDigitB d = true) : 48 ≤ d.toNat ∧ d.toNat ≤ 57 := by
  simp only [isDigitB, Bool.and_eq_true, decide_eq_true_eq] at h
  exact ⟨by simpa using UInt8.le_iff_toNat_le.mp h.1, by simpa using UInt8.le_iff_toNat_le.mp h.2⟩

theorem digit_ne (d : UInt8) (h : isDigitB d = true) (x : UInt8) (hx : x.toNat < 48 ∨ 57 < x.toNat) : d ≠ x := by
  intro e
  subst e
  have := digit_toNat d h
  omega

theorem digit_not_space (d : UInt8) (h : isDigitB d = true) : isSpaceB d = false := by
  have := digit_toNat d h
  have h32 : (d == 32) = false := beq_eq_false_iff_ne.mpr (digit_ne d h 32 (by decide))
  have h14 : decide (d < 14) = false := decide_eq_false (by rw [UInt8.lt_iff_toNat_lt]; simp; omega)
  simp [isSpaceB, h32, h14]

theorem ident_ne_nil (v : Ident) : v.val ≠ [] := by
  intro e; have := v.ok; rw [e] at this; cases this

theorem ident_chars (v : Ident) : ∀ c ∈ v.val, isIdentChar c = true := by
  have h := v.ok
  cases hv : v.val with
  | nil => intro c hc; cases hc
  | cons a t =>
    rw [hv] at h
    simp only [isIdent, Bool.and_eq_true, List.all_eq_true] at h
    intro c hc
    cases hc with
    | head => simp [isIdentChar, h.1]
    | tail _ ht => exact h.2 c ht

theorem ident_not_mem (v : Ident) (k : UInt8) (hk : isIdentChar k = false) : k ∉ v.val := by
  intro hm; rw [ident_chars v k hm] at hk; cases hk

theorem ident_no_dot (v : Ident) : (46 : UInt8) ∉ v.val := ident_not_mem v 46 (by decide)
theorem ident_no_comma (v : Ident) : (44 : UInt8) ∉ v.val := ident_not_mem v 44 (by decide)
theorem ident_no_paren (v : Ident) : (41 : UInt8) ∉ v.val := ident_not_mem v 41 (by decide)

def decFold (acc : Nat) (ds : Bytes) : Nat := ds.foldl (fun a c => a * 10 + (c.toNat - 48)) acc

theorem decVal_eq (ds : Bytes) : decVal ds = decFold 0 ds := rfl

theorem decFold_ge : ∀ (ds : Bytes) (acc : Nat), acc ≤ decFold acc ds
  | [], acc => Nat.le_refl _
  | c :: t, acc => by
    have := decFold_ge t (acc * 10 + (c.toNat - 48))
    simp only [decFold, List.foldl_cons] at this ⊢
    omega

theorem digitsAcc_eq : ∀ (ds : Bytes) (acc : Nat), ds.all isDigitB = true → decFold acc ds < 2 ^ 32 →
    digitsAcc acc ds = decFold acc ds
  | [], acc, _, _ => rfl
  | c :: t, acc, hd, hlt => by
    simp only [List.all_cons, Bool.and_eq_true] at hd
    have hge := decFold_ge t (acc * 10 + (c.toNat - 48))
    have hlt' : decFold (acc * 10 + (c.toNat - 48)) t < 2 ^ 32 := by
      simpa only [decFold, List.foldl_cons] using hlt
    have hsmall : acc * 10 + (c.toNat - 48) < 2 ^ 32 := by omega
    have ih := digitsAcc_eq t (acc * 10 + (c.toNat - 48)) hd.2 hlt'
    simp only [digitsAcc, hd.1, if_true, Nat.mod_eq_of_lt hsmall, ih]
    simp only [decFold, List.foldl_cons]

theorem skipSpaces_digit (c : UInt8) (t : Bytes) (h : isDigitB c = true) : skipSpaces (c :: t) = c :: t := by
  simp [skipSpaces, digit_not_space c h]

theorem number_cons (ds : Bytes) (h : isNumber ds = true) :
    ∃ d t, ds = d :: t ∧ isDigitB d = true := by
  cases ds with
  | nil => simp [isNumber] at h
  | cons d t =>
    simp only [isNumber, List.isEmpty_cons, Bool.not_false, Bool.true_and, List.all_cons, Bool.and_eq_true] at h
    exact ⟨d, t, rfl, h.1⟩

theorem number_all (ds : Bytes) (h : isNumber ds = true) : ds.all isDigitB = true := by
  simp only [isNumber, Bool.and_eq_true] at h; exact h.2

theorem atou_number (ds : Bytes) (h : isNumber ds = true) (hs : decVal ds < 2 ^ 32) : atou ds = decVal ds := by
  obtain ⟨d, t, rfl, hd⟩ := number_cons ds h
  rw [atou, skipSpaces_digit d t hd, digitsAcc_eq _ 0 (number_all _ h) (by rwa [← decVal_eq]), decVal_eq]

theorem atoiSizeT_number (ds : Bytes) (h : isNumber ds = true) (hs : decVal ds < 2 ^ 31) :
    atoiSizeT ds = decVal ds := by
  obtain ⟨d, t, rfl, hd⟩ := number_cons ds h
  have h45 : (d == 45) = false := beq_eq_false_iff_ne.mpr (digit_ne d hd 45 (by decide))
  have h43 : (d == 43) = false := beq_eq_false_iff_ne.mpr (digit_ne d hd 43 (by decide))
  have hlt : decFold 0 (d :: t) < 2 ^ 32 := by rw [← decVal_eq]; omega
  have e : atoiBits (d :: t) = decVal (d :: t) := by
    rw [atoiBits, skipSpaces_digit d t hd]
    simp only [h45, h43, Bool.false_eq_true, if_false]
    rw [digitsAcc_eq _ 0 (number_all _ h) hlt, decVal_eq]
  rw [atoiSizeT, e, intBitsToSizeT, if_pos hs]

/-- an argument that neither `AtoI` nor `AtoU` reads a non-zero number from: `-` followed by a
    non-digit (or nothing), or a first byte that is no blank, sign or digit -/
def nonNumeric (a : Bytes) : Bool :=
  match a with
  | [] => true
  | c :: t =>
    if c == 45 then (match t with | [] => true | c2 :: _ => !isDigitB c2)
    else (!isSpaceB c && !isDigitB c && c != 43)

theorem nonNumeric_zero (a : Bytes) (h : nonNumeric a = true) : atou a = 0 ∧ atoiSizeT a = 0 := by
  cases a with
  | nil => exact ⟨rfl, rfl⟩
  | cons c t =>
    simp only [nonNumeric] at h
    by_cases hc : (c == 45) = true
    · have := eq_of_beq hc; subst this
      have hs : skipSpaces ((45 : UInt8) :: t) = 45 :: t := by simp [skipSpaces, isSpaceB]
      cases t with
      | nil => exact ⟨rfl, rfl⟩
      | cons c2 t2 =>
        simp only [beq_self_eq_true, if_true, Bool.not_eq_true'] at h
        simp [atou, atoiSizeT, atoiBits, hs, digitsAcc, h, intBitsToSizeT, show isDigitB 45 = false from rfl]
    · simp only [hc, Bool.false_eq_true, if_false, Bool.and_eq_true, Bool.not_eq_true', bne_iff_ne, ne_eq] at h
      have h43 : (c == 43) = false := by simpa using h.2
      have h45 : (c == 45) = false := by simpa using hc
      simp [atou, atoiSizeT, atoiBits, skipSpaces, digitsAcc, h.1.1, h.1.2, h43, h45, intBitsToSizeT]

/-! ## the loop, one step at a time -/

theorem go_cons (env : Env) (c c' : Config) (a : Bytes) (rest : List Bytes) (g k : Bool)
    (h : step env c a rest.head? = ⟨c', g, k⟩) :
    go env c false (a :: rest) = if g then go env c' k rest else .reject c' := by
  simp only [go, h]

theorem go_cons_ok (env : Env) (c c' : Config) (a : Bytes) (rest : List Bytes) (k : Bool)
    (h : step env c a rest.head? = ⟨c', true, k⟩) : go env c false (a :: rest) = go env c' k rest :=
  (go_cons env c c' a rest true k h).trans (if_pos rfl)

theorem go_cons_reject (env : Env) (c c' : Config) (a : Bytes) (rest : List Bytes) (k : Bool)
    (h : step env c a rest.head? = ⟨c', false, k⟩) : go env c false (a :: rest) = .reject c' :=
  (go_cons env c c' a rest false k h).trans (if_neg Bool.false_ne_true)

theorem go_skip (env : Env) (c : Config) (a : Bytes) (rest : List Bytes) :
    go env c true (a :: rest) = go env c false rest := by
  simp only [go]

theorem go_two (env : Env) (c c' : Config) (a v : Bytes) (rest : List Bytes)
    (h : step env c a (some v) = ⟨c', true, true⟩) : go env c false (a :: v :: rest) = go env c' false rest := by
  rw [go_cons_ok env c c' a (v :: rest) true (by simpa using h), go_skip]

/-! ## options that take a value -/

theorem field_attached (n : Nat) (name v : Bytes) (next : Option Bytes) (hn : name.length = n) (hv : v ≠ []) :
    getParameterField n (name ++ v) next = ⟨v, false⟩ := by
  have : (name ++ v).length > n := by
    cases v with
    | nil => exact absurd rfl hv
    | cons x t => simp [← hn]
  subst hn
  unfold getParameterField
  rw [if_pos this, List.drop_left]

theorem field_separated (n : Nat) (name v : Bytes) (hn : name.length = n) :
    getParameterField n name (some v) = ⟨v, true⟩ := by
  simp [getParameterField, hn]

theorem field_last (n : Nat) (name : Bytes) (hn : name.length = n) :
    getParameterField n name none = ⟨[], false⟩ := by
  simp [getParameterField, hn]

/-- `name` is an option of `CommandLineArguments::parse` whose branch reads its value with
    `getParameterField(ac_, av_, i, name)` and looks at nothing else of the argument: for an argument that starts with
    `name`, whatever follows the letters and whatever `av_[i+1]` is, the iteration ends with the configuration and the
    `correctParameters` that `S` gives for the value read, and `i` was advanced iff `getParameterField` took the next
    argument.  (`-r` and `-s` are not of this kind: `setRepeatCount` and `setShuffle` do not read through `getParameterField`
    and advance `i` only when the next argument reads as a non-zero number; besides, their letters also start `-ri`, `-sg`,
    `-sn`, `-st`, so not every text after them reaches their branch.) -/
def ValueOpt (env : Env) (c : Config) (name : Bytes) (S : Bytes → Config × Bool) : Prop :=
  ∀ t next, step env c (name ++ t) next =
    ⟨(S (getParameterField name.length (name ++ t) next).val).1, (S (getParameterField name.length (name ++ t) next).val).2,
     (getParameterField name.length (name ++ t) next).consumed⟩

namespace ValueOpt
variable {env : Env} {c : Config} {name : Bytes} {S : Bytes → Config × Bool}

theorem step_attached (h : ValueOpt env c name S) (v : Bytes) (next : Option Bytes) (hv : v ≠ []) :
    step env c (name ++ v) next = ⟨(S v).1, (S v).2, false⟩ := by
  rw [h, field_attached _ _ _ _ rfl hv]

theorem step_separated (h : ValueOpt env c name S) (v : Bytes) :
    step env c name (some v) = ⟨(S v).1, (S v).2, true⟩ := by
  have := h [] (some v)
  rwa [List.append_nil, field_separated _ _ v rfl] at this

theorem step_last (h : ValueOpt env c name S) : step env c name none = ⟨(S []).1, (S []).2, false⟩ := by
  have := h [] none
  rwa [List.append_nil, field_last _ _ rfl] at this

theorem go_spell (h : ValueOpt env c name S) (v : Bytes) (fm : Form) (rest : List Bytes) (hv : fm = .attached → v ≠ []) :
    go env c false (spell fm name v ++ rest) = if (S v).2 then go env (S v).1 false rest else .reject (S v).1 := by
  cases fm with
  | attached => exact go_cons env c _ _ rest _ false (h.step_attached v _ (hv rfl))
  | separated =>
    refine (go_cons env c _ _ (v :: rest) _ true (h.step_separated v)).trans ?_
    rw [go_skip]

theorem go_last (h : ValueOpt env c name S) :
    go env c false [name] = if (S []).2 then .ok (S []).1 else .reject (S []).1 :=
  go_cons env c _ _ [] _ false h.step_last

end ValueOpt

/-! ## the handlers that cannot refuse -/

theorem setRepeatCount_good (c : Config) (a : Bytes) (next : Option Bytes) : (setRepeatCount c a next).good = true := rfl
theorem addGroup_good (n : Nat) (s x : Bool) (c : Config) (a : Bytes) (next : Option Bytes) :
    (addGroup n s x c a next).good = true := rfl
theorem addName_good (n : Nat) (s x : Bool) (c : Config) (a : Bytes) (next : Option Bytes) :
    (addName n s x c a next).good = true := rfl
theorem addTestForm_good (l : Bytes) (c : Config) (a : Bytes) (next : Option Bytes) : (addTestForm l c a next).good = true := rfl
theorem setPackageName_good (c : Config) (a : Bytes) (next : Option Bytes) : (setPackageName c a next).good = true := rfl

/-! ## which branch of the chain takes an argument -/

theorem table_heads : ∀ e ∈ table, e.lit.head? = some 45 ∨ e.lit.head? = some 84 ∨ e.lit.head? = some 73 := by
  decide +kernel

theorem Entry.head_of_hits (e : Entry) (c x : UInt8) (t : Bytes) (hx : e.lit.head? = some x)
    (h : e.hits (c :: t) = true) : c = x := by
  unfold Entry.hits at h
  cases hl : e.lit with
  | nil => rw [hl] at hx; cases hx
  | cons y ls =>
    rw [hl] at hx h
    cases hx
    cases he : e.exact <;> simp only [he, if_true, if_false, Bool.false_eq_true] at h
    · simp only [startsWith, List.isPrefixOf, Bool.and_eq_true, beq_iff_eq] at h; exact h.1.symm
    · simp only [beq_iff_eq, List.cons.injEq] at h; exact h.1

theorem dispatch_other_head (c : UInt8) (t : Bytes) (h1 : c ≠ 45) (h2 : c ≠ 84) (h3 : c ≠ 73) :
    dispatch (c :: t) = none := by
  simp only [dispatch, Option.map_eq_none_iff, List.find?_eq_none]
  intro e he hh
  rcases table_heads e he with hx | hx | hx
  · exact h1 (e.head_of_hits c _ t hx hh)
  · exact h2 (e.head_of_hits c _ t hx hh)
  · exact h3 (e.head_of_hits c _ t hx hh)

theorem dispatch_digit_head (d : UInt8) (t : Bytes) (h : isDigitB d = true) : dispatch (d :: t) = none :=
  dispatch_other_head d t (digit_ne d h 45 (by decide)) (digit_ne d h 84 (by decide)) (digit_ne d h 73 (by decide))

theorem table_third : ∀ e ∈ table, isDigitB (e.lit.getD 2 0) = false := by decide +kernel

/-- an entry whose literal has no digit in third place treats an argument with a digit there like its first two bytes -/
theorem Entry.hits_digit_third (e : Entry) (x y d : UInt8) (t : Bytes) (he : isDigitB (e.lit.getD 2 0) = false)
    (hd : isDigitB d = true) : e.hits (x :: y :: d :: t) = (!e.exact && e.lit.isPrefixOf [x, y]) := by
  unfold Entry.hits
  -- literals shorter than three bytes see only `[x, y]`; a longer one has a non-digit third byte, so it misses on both sides
  rcases hl : e.lit with _ | ⟨a, _ | ⟨b, _ | ⟨c, r⟩⟩⟩ <;> cases e.exact <;> simp [startsWith, List.isPrefixOf]
  all_goals
    have hc : c ≠ d := fun h => by simp [hl, h, hd] at he
    simp [hc, hc.symm]

theorem dispatch_digit_third (x y d : UInt8) (t : Bytes) (hd : isDigitB d = true) :
    dispatch (x :: y :: d :: t) = (table.find? fun e => !e.exact && e.lit.isPrefixOf [x, y]).map (·.h) := by
  unfold dispatch
  rw [ListLemmas.find?_congr fun e he => e.hits_digit_third x y d t (table_third e he) hd]

theorem dispatch_r_digits (d : UInt8) (t : Bytes) (h : isDigitB d = true) :
    dispatch (45 :: 114 :: d :: t) = some .repeatCount := (dispatch_digit_third _ _ d t h).trans (by decide +kernel)

theorem dispatch_s_digits (d : UInt8) (t : Bytes) (h : isDigitB d = true) :
    dispatch (45 :: 115 :: d :: t) = some .shuffle := (dispatch_digit_third _ _ d t h).trans (by decide +kernel)

/-! ## one documented option = one step of the loop -/

/-- what `-r` / `-s` need to know about the argument that follows them -/
def NextOk (next : Option Bytes) : Prop := ∀ a, next = some a → nonNumeric a = true

theorem step_flag (env : Env) (c : Config) (fl : Flag) (next : Option Bytes) :
    step env c fl.lit next = ⟨fl.apply c, true, false⟩ := by
  cases fl <;> rfl

theorem step_help (env : Env) (c : Config) (next : Option Bytes) :
    step env c [45, 104] next = ⟨{ c with needHelp := true }, false, false⟩ := rfl

theorem step_unknown (env : Env) (c : Config) (a : Bytes) (next : Option Bytes) (h : dispatch a = none) :
    step env c a next = ⟨c, false, false⟩ := by
  simp [step, h]

theorem step_plugin (env : Env) (c : Config) (x : UInt8) (t : Bytes) (next : Option Bytes) :
    step env c (45 :: 112 :: x :: t) next = ⟨c, env.plugin (45 :: 112 :: x :: t), false⟩ := rfl

-- `-r`, `-s` alone reach `setRepeatCount`, `setShuffle`; so do `-r<digit>…`, `-s<digit>…` (`step_repeat_number`, `step_shuffle_number`;
-- other bytes after the letter may belong to `-ri`, `-sg`, `-sn`, `-st`)
theorem step_repeat_bare (env : Env) (c : Config) (next : Option Bytes) :
    step env c [45, 114] next = setRepeatCount c [45, 114] next := rfl

theorem step_repeatDefault (env : Env) (c : Config) (next : Option Bytes) (h : ∀ a, next = some a → atoiSizeT a = 0) :
    step env c [45, 114] next = ⟨{ c with repeatCount := 2 }, true, false⟩ := by
  cases next with
  | none => simp [step_repeat_bare, setRepeatCount, repeatRaw, repeatConsumed]
  | some a => simp [step_repeat_bare, setRepeatCount, repeatRaw, repeatConsumed, h a rfl]

theorem step_repeat_number (env : Env) (c : Config) (ds : Bytes) (next : Option Bytes) (hnum : isNumber ds = true)
    (hs : decVal ds < 2 ^ 31) :
    step env c ([45, 114] ++ ds) next =
      ⟨{ c with repeatCount := if decVal ds = 0 then 2 else decVal ds }, true, false⟩ := by
  obtain ⟨d, t, rfl, hd⟩ := number_cons ds hnum
  simp [step, dispatch_r_digits d t hd, runHandler, setRepeatCount, repeatRaw, repeatConsumed, atoiSizeT_number _ hnum hs]

theorem step_repeatN_separated (env : Env) (c : Config) (n : Count) :
    step env c [45, 114] (some n.digits) = ⟨{ c with repeatCount := decVal n.digits }, true, true⟩ := by
  have hv := atoiSizeT_number n.digits n.num n.small
  have hne : decVal n.digits ≠ 0 := by have := n.pos; omega
  simp [step_repeat_bare, setRepeatCount, repeatRaw, repeatConsumed, hv, hne]

theorem step_shuffle_bare (env : Env) (c : Config) (next : Option Bytes) :
    step env c [45, 115] next = setShuffle env c [45, 115] next := rfl

theorem timeSeed_ne_zero (t : Nat) : timeSeed t ≠ 0 := by
  unfold timeSeed; split <;> omega

theorem step_shuffleDefault (env : Env) (c : Config) (next : Option Bytes) (h : ∀ a, next = some a → atou a = 0) :
    step env c [45, 115] next = ⟨{ c with shuffling := true, shuffleSeed := timeSeed env.time }, true, false⟩ := by
  have hz := timeSeed_ne_zero env.time
  cases next with
  | none => simp [step_shuffle_bare, setShuffle, shuffleSeedOf, shuffleConsumed, hz]
  | some a => simp [step_shuffle_bare, setShuffle, shuffleSeedOf, shuffleConsumed, h a rfl, hz]

theorem step_shuffle_number (env : Env) (c : Config) (ds : Bytes) (next : Option Bytes) (hnum : isNumber ds = true)
    (hs : decVal ds < 2 ^ 32) :
    step env c ([45, 115] ++ ds) next = ⟨{ c with shuffling := true, shuffleSeed := decVal ds }, decVal ds != 0, false⟩ := by
  obtain ⟨d, t, rfl, hd⟩ := number_cons ds hnum
  simp [step, dispatch_s_digits d t hd, runHandler, setShuffle, shuffleSeedOf, shuffleConsumed, atou_number _ hnum hs]

theorem step_shuffleSeed_separated (env : Env) (c : Config) (s : Seed) :
    step env c [45, 115] (some s.digits) =
      ⟨{ c with shuffling := true, shuffleSeed := decVal s.digits }, true, true⟩ := by
  have hv := atou_number s.digits s.num s.small
  have hne : decVal s.digits ≠ 0 := by have := s.pos; omega
  simp [step_shuffle_bare, setShuffle, shuffleSeedOf, shuffleConsumed, hv, hne]

def FKind.isStrict : FKind → Bool
  | .sub => false | .strict => true | .excl => false | .exclStrict => true
def FKind.isExcl : FKind → Bool
  | .sub => false | .strict => false | .excl => true | .exclStrict => true

theorem FKind.filter_eq (k : FKind) (v : Bytes) : k.filter v = ⟨v, k.isStrict, k.isExcl⟩ := by cases k <;> rfl

-- The instances are evaluated: with `t` and `next` variables, every condition of the chain in front of the branch is decided
-- by a fixed byte or the length of the option's letters (no earlier literal extends them), the branch's own `startsWith` by
-- the letters alone, and the handler then reads the argument through `getParameterField` only.  Where the letters do not
-- decide (`-r<digit>` against `-ri`) evaluation stops and an argument is needed: `dispatch_digit_third`.
theorem valueOpt_group (env : Env) (c : Config) (k : FKind) :
    ValueOpt env c (k.lit 103) fun v => ({ c with groupFilters := k.filter v :: c.groupFilters }, true) := by
  intro t next; cases k <;> rfl

theorem valueOpt_name (env : Env) (c : Config) (k : FKind) :
    ValueOpt env c (k.lit 110) fun v => ({ c with nameFilters := k.filter v :: c.nameFilters }, true) := by
  intro t next; cases k <;> rfl

theorem valueOpt_dotName (env : Env) (c : Config) (k : FKind) :
    ValueOpt env c (k.lit 116) fun v => match dotNameFilters k.isStrict k.isExcl c (splitCode v [46]) with
      | some c' => (c', true)
      | none => (c, false) := by
  intro t next
  have : step env c (k.lit 116 ++ t) next = addGroupDotName (k.lit 116) k.isStrict k.isExcl c (k.lit 116 ++ t) next := by
    cases k <;> rfl
  rw [this, addGroupDotName]
  dsimp only
  cases dotNameFilters k.isStrict k.isExcl c (splitCode (getParameterField (k.lit 116).length (k.lit 116 ++ t) next).val [46]) <;> rfl

theorem valueOpt_testForm (env : Env) (c : Config) (i : Bool) :
    ValueOpt env c (testPrefix i) fun v =>
      ({ c with groupFilters := ⟨testFormGroup v, true, false⟩ :: c.groupFilters,
                nameFilters := ⟨testFormName v, true, false⟩ :: c.nameFilters }, true) := by
  intro t next; cases i <;> rfl

theorem valueOpt_output (env : Env) (c : Config) :
    ValueOpt env c [45, 111] fun v => match outputOf v with
      | some o => ({ c with output := o }, true)
      | none => (c, false) := by
  intro t next
  rw [show step env c ([45, 111] ++ t) next = setOutputType c ([45, 111] ++ t) next from rfl, setOutputType,
    show ([45, 111] : Bytes).length = 2 from rfl]
  dsimp only
  cases outputOf (getParameterField 2 ([45, 111] ++ t) next).val <;> rfl

theorem valueOpt_package (env : Env) (c : Config) :
    ValueOpt env c [45, 107] fun v => (if v.length = 0 then c else { c with packageName := v }, true) := by
  intro t next; rfl

/-! ## the values of `-t group.name` and `TEST(group, name)` -/

theorem splitCode_one_dot (g n : Bytes) (hg : (46 : UInt8) ∉ g) (hn : (46 : UInt8) ∉ n) (hne : n ≠ []) :
    splitCode (g ++ [46] ++ n) [46] = [g ++ [46], n] := by
  have e : g ++ [46] ++ n = g ++ 46 :: n := by simp
  have hemp : (g ++ 46 :: n).isEmpty = false := by cases g <;> simp
  rw [e, splitCode, hemp]
  simp only [Bool.false_eq_true, if_false, split]
  rw [splitAux_one g n _ [] hg hn hne (by simp)]
  simp

theorem testFormName_eq (g n : Bytes) (hg : (44 : UInt8) ∉ g) (hn : (41 : UInt8) ∉ n) :
    testFormName (g ++ 44 :: 32 :: (n ++ [41])) = n := by
  show testFormName (g ++ 44 :: ((32 :: n) ++ 41 :: [])) = n
  rw [testFormName, subStringFromTill_between g _ _ 44 41 hg (by simp [hn])]
  rfl

theorem testFormGroup_eq (g r : Bytes) (hne : g ≠ []) (hg : (44 : UInt8) ∉ g) :
    testFormGroup (g ++ 44 :: r) = g := by
  cases g with
  | nil => exact absurd rfl hne
  | cons c t => exact subStringFromTill_between [] t r c 44 (by simp) hg

theorem testFormName_no_comma (w : Bytes) (h : (44 : UInt8) ∉ w) : testFormName w = [] := by
  simp [testFormName, subStringFromTill, find, findFrom_zero_none w 44 h, subStringFrom]

theorem testFormGroup_no_comma (w : Bytes) (h : (44 : UInt8) ∉ w) : testFormGroup w = w := by
  cases w with
  | nil => rfl
  | cons x t =>
    have h1 : find (x :: t) x = some 0 := by simp [find, findFrom, List.findIdx?_cons]
    simp [testFormGroup, subStringFromTill, h1, findFrom_zero_none _ 44 h]

theorem dotNameFilters_ident (s x : Bool) (c : Config) (g n : Ident) :
    dotNameFilters s x c (splitCode (g.val ++ [46] ++ n.val) [46]) =
      some { c with groupFilters := ⟨g.val, s, x⟩ :: c.groupFilters, nameFilters := ⟨n.val, s, x⟩ :: c.nameFilters } := by
  rw [splitCode_one_dot g.val n.val (ident_no_dot g) (ident_no_dot n) (ident_ne_nil n)]
  simp [dotNameFilters, subString]

/-! ## the round trip: rendered options give the documented configuration -/

theorem render1_head (o : Opt × Form) : ∃ a t, render1 o = a :: t ∧ nonNumeric a = true := by
  obtain ⟨opt, fm⟩ := o
  cases opt with
  | flag fl => cases fl <;> exact ⟨_, _, rfl, rfl⟩
  | repeatDefault => exact ⟨_, _, rfl, rfl⟩
  | repeatN n => cases fm <;> exact ⟨_, _, rfl, rfl⟩
  | shuffle => exact ⟨_, _, rfl, rfl⟩
  | shuffleSeed s => cases fm <;> exact ⟨_, _, rfl, rfl⟩
  | group k v => cases fm <;> cases k <;> exact ⟨_, _, rfl, rfl⟩
  | name k v => cases fm <;> cases k <;> exact ⟨_, _, rfl, rfl⟩
  | test k g n => cases fm <;> cases k <;> exact ⟨_, _, rfl, rfl⟩
  | testForm i g n => cases i <;> exact ⟨_, _, rfl, rfl⟩
  | output o => cases fm <;> exact ⟨_, _, rfl, rfl⟩
  | package v => cases fm <;> exact ⟨_, _, rfl, rfl⟩

theorem go_render1 (env : Env) (c : Config) (o : Opt × Form) (rest : List Bytes) (h : NextOk rest.head?) :
    go env c false (render1 o ++ rest) = go env (applyOpt env c o.1) false rest := by
  obtain ⟨opt, fm⟩ := o
  cases opt with
  | flag fl => exact go_cons_ok env c _ _ rest false (step_flag env c fl _)
  | repeatDefault => exact go_cons_ok env c _ _ rest false (step_repeatDefault env c _ fun a ha => (nonNumeric_zero a (h a ha)).2)
  | repeatN n =>
    cases fm
    · exact go_cons_ok env c _ _ rest false (by
        rw [step_repeat_number env c _ _ n.num n.small, if_neg (Nat.pos_iff_ne_zero.mp n.pos)]; rfl)
    · exact go_two env c _ _ _ rest (step_repeatN_separated env c n)
  | shuffle => exact go_cons_ok env c _ _ rest false (step_shuffleDefault env c _ fun a ha => (nonNumeric_zero a (h a ha)).1)
  | shuffleSeed s =>
    cases fm
    · exact go_cons_ok env c _ _ rest false (by
        rw [step_shuffle_number env c _ _ s.num s.small, bne_iff_ne.mpr (Nat.pos_iff_ne_zero.mp s.pos)]; rfl)
    · exact go_two env c _ _ _ rest (step_shuffleSeed_separated env c s)
  | group k v => exact (valueOpt_group env c k).go_spell v.val fm rest fun _ => ident_ne_nil v
  | name k v => exact (valueOpt_name env c k).go_spell v.val fm rest fun _ => ident_ne_nil v
  | test k g n =>
    refine ((valueOpt_dotName env c k).go_spell _ fm rest fun _ => by simp).trans ?_
    simp only [dotNameFilters_ident, if_true, applyOpt, FKind.filter_eq]
  | testForm i g n =>
    have e : testPrefix i ++ g.val ++ [44, 32] ++ n.val ++ [41] = testPrefix i ++ (g.val ++ 44 :: 32 :: (n.val ++ [41])) := by
      simp
    refine (congrArg (fun a => go env c false (a :: rest)) e).trans
      (((valueOpt_testForm env c i).go_spell _ .attached rest fun _ => by simp).trans ?_)
    rw [testFormGroup_eq g.val _ (ident_ne_nil g) (ident_no_comma g),
      testFormName_eq g.val n.val (ident_no_comma g) (ident_no_paren n)]
    rfl
  | output o => exact ((valueOpt_output env c).go_spell o.lit fm rest fun _ => by cases o <;> decide).trans (by cases o <;> rfl)
  | package v =>
    exact ((valueOpt_package env c).go_spell v.val fm rest fun _ => ident_ne_nil v).trans (by simp [ident_ne_nil v, applyOpt])

theorem nextOk_cons {a : Bytes} (rest : List Bytes) (h : nonNumeric a = true) : NextOk (a :: rest).head? :=
  fun _ hb => Option.some.inj hb ▸ h

theorem nextOk_render (os : List (Opt × Form)) (rest : List Bytes) (h : NextOk rest.head?) :
    NextOk (render os ++ rest).head? := by
  cases os with
  | nil => simpa [render] using h
  | cons o os =>
    obtain ⟨a, t, e, hn⟩ := render1_head o
    rw [render, List.flatMap_cons, e]
    exact nextOk_cons _ hn

theorem go_render (env : Env) : ∀ (os : List (Opt × Form)) (c : Config) (rest : List Bytes), NextOk rest.head? →
    go env c false (render os ++ rest) = go env ((os.map Prod.fst).foldl (applyOpt env) c) false rest
  | [], c, rest, _ => by simp [render]
  | o :: os, c, rest, h => by
    have e : render (o :: os) ++ rest = render1 o ++ (render os ++ rest) := by simp [render]
    rw [e, go_render1 env c o _ (nextOk_render os rest h), go_render env os _ rest h]
    simp

/-! ## the invariant of the documented meaning -/

/-- What every configuration that `CommandLineArguments::parse` reaches from documented options satisfies: `needHelp_` is
    not set (only `-h` sets it), and `shuffling_` comes with a non-zero `shuffleSeed_` (`setShuffle` refuses 0 and the
    clock seed is bumped to 1). -/
def Documented (c : Config) : Prop := c.needHelp = false ∧ (c.shuffling = true → c.shuffleSeed ≠ 0)

theorem documented_applyOpt (env : Env) (c : Config) (o : Opt) (h : Documented c) : Documented (applyOpt env c o) := by
  cases o with
  | flag fl => cases fl <;> exact h
  | shuffle => exact ⟨h.1, fun _ => timeSeed_ne_zero env.time⟩
  | shuffleSeed s => exact ⟨h.1, fun _ => Nat.pos_iff_ne_zero.mp s.pos⟩
  | _ => exact h

theorem documented_meaning (env : Env) (os : List Opt) : Documented (meaning env os) :=
  List.foldlRecOn os _ ⟨rfl, fun h => by cases h⟩ fun c h o _ => documented_applyOpt env c o h

/-! ## -t: how many tokens `split(".")` yields -/

/-- the scan ends inside a token (there is something after the last dot) -/
def openEnd (a cur : Bytes) : Bool :=
  match a.getLast? with
  | none => !cur.isEmpty
  | some l => l != 46

theorem openEnd_cons_cons (x y : UInt8) (t cur cur' : Bytes) : openEnd (x :: y :: t) cur = openEnd (y :: t) cur' := by
  cases h : (y :: t).getLast? with
  | none => simp at h
  | some l => rfl

/-- Every dot still to be scanned closes one token, and what is left at the end is one more token if it is not empty: that is
    `cur` when nothing is left to scan, and otherwise decided by the last byte alone (`openEnd_cons_cons`), which is why `cur` may
    change from step to step. -/
theorem splitAux_length : ∀ (a : Bytes) (fuel : Nat) (cur : Bytes), a.length < fuel →
    (splitAux fuel a [46] cur).length = a.count 46 + (if openEnd a cur then 1 else 0)
  | [], fuel, cur, hf => by
    cases fuel with
    | zero => omega
    | succ f => cases cur <;> simp [splitAux, openEnd]
  | x :: t, fuel, cur, hf => by
    cases fuel with
    | zero => simp at hf
    | succ f =>
      have hf' : t.length < f := by simp at hf; omega
      by_cases hx : x = 46
      · subst hx
        have ih := splitAux_length t f [] hf'
        have ho : openEnd (46 :: t) cur = openEnd t [] := by
          cases t with
          | nil => simp [openEnd]
          | cons y t' => exact openEnd_cons_cons _ _ _ _ _
        simp [splitAux, ih, ho]; omega
      · have ih := splitAux_length t f (x :: cur) hf'
        have ho : openEnd (x :: t) cur = openEnd t (x :: cur) := by
          cases t with
          | nil => simp [openEnd, hx]
          | cons y t' => exact openEnd_cons_cons _ _ _ _ _
        have hc : (x == 46) = false := by simpa using hx
        simp [splitAux, singleton_not_prefix t hx, ih, ho, List.count_cons, hc]

theorem splitCode_length_eq_two (v : Bytes) :
    (splitCode v [46]).length = 2 ↔ v.count 46 + (if openEnd v [] then 1 else 0) = 2 := by
  cases v with
  | nil => simp [splitCode, openEnd]
  | cons x t =>
    have := splitAux_length (x :: t) ((x :: t).length + 1) [] (by simp)
    simp only [splitCode, List.isEmpty_cons, Bool.false_eq_true, if_false, split, this]

theorem dotNameFilters_isSome (s x : Bool) (c : Config) (l : List Bytes) :
    (dotNameFilters s x c l).isSome = true ↔ l.length = 2 := by
  match l with
  | [] => simp [dotNameFilters]
  | [_] => simp [dotNameFilters]
  | [_, _] => simp [dotNameFilters]
  | _ :: _ :: _ :: _ => simp [dotNameFilters]

/-! ## every string the parser stores is a contiguous part of an argument -/

theorem fromArgs_of_infix {args : List Bytes} {a t : Bytes} (ha : a ∈ args) (h : t <:+: a) : FromArgs args t :=
  Or.inr ⟨a, ha, h⟩

theorem fromArgs_infix {args : List Bytes} {s t : Bytes} (hs : FromArgs args s) (h : t <:+: s) : FromArgs args t := by
  rcases hs with rfl | ⟨a, ha, hsa⟩
  · exact Or.inl (List.infix_nil.mp h)
  · exact Or.inr ⟨a, ha, h.trans hsa⟩

theorem splitCode_infix (v d t : Bytes) (h : t ∈ splitCode v d) : t <:+: v := by
  unfold splitCode at h
  split at h
  · simp only [List.mem_singleton] at h; subst h; exact List.nil_infix
  · simpa using splitAux_infix _ v d [] t h

theorem testFormGroup_infix (w : Bytes) : testFormGroup w <:+: w := by
  cases w with
  | nil => exact List.nil_infix
  | cons c t => exact subStringFromTill_infix _ _ _

theorem testFormName_infix (w : Bytes) : testFormName w <:+: w :=
  (List.drop_suffix _ _).isInfix.trans (subStringFromTill_infix _ _ _)

theorem field_fromArgs (args : List Bytes) (n : Nat) (a : Bytes) (next : Option Bytes) (ha : a ∈ args)
    (hn : ∀ b, next = some b → b ∈ args) : FromArgs args (getParameterField n a next).val := by
  unfold getParameterField
  split
  · exact fromArgs_of_infix ha (List.drop_suffix _ _).isInfix
  · cases next with
    | none => exact Or.inl rfl
    | some b => exact fromArgs_of_infix (hn b rfl) (List.infix_refl _)

theorem strings_addGroup (args : List Bytes) (c : Config) (t : Bytes) (s x : Bool) (h : StringsFromArgs args c)
    (ht : FromArgs args t) : StringsFromArgs args { c with groupFilters := ⟨t, s, x⟩ :: c.groupFilters } :=
  ⟨List.forall_mem_cons.mpr ⟨ht, h.1⟩, h.2.1, h.2.2⟩

theorem strings_addName (args : List Bytes) (c : Config) (t : Bytes) (s x : Bool) (h : StringsFromArgs args c)
    (ht : FromArgs args t) : StringsFromArgs args { c with nameFilters := ⟨t, s, x⟩ :: c.nameFilters } :=
  ⟨h.1, List.forall_mem_cons.mpr ⟨ht, h.2.1⟩, h.2.2⟩

theorem strings_dotName (args : List Bytes) (c c' : Config) (v : Bytes) (s x : Bool) (l : List Bytes)
    (h : StringsFromArgs args c) (hv : FromArgs args v) (hl : ∀ t ∈ l, t <:+: v)
    (hd : dotNameFilters s x c l = some c') : StringsFromArgs args c' := by
  match l, hd with
  | [g, n], hd =>
    simp only [dotNameFilters, Option.some.injEq] at hd
    subst hd
    have hg : FromArgs args (subString g 0 (g.length - 1)) :=
      fromArgs_infix hv ((subString_infix g 0 _).trans (hl g (by simp)))
    have hn : FromArgs args n := fromArgs_infix hv (hl n (by simp))
    exact strings_addName args _ n s x (strings_addGroup args c _ s x h hg) hn

theorem step_strings (env : Env) (args : List Bytes) (c : Config) (a : Bytes) (next : Option Bytes)
    (ha : a ∈ args) (hn : ∀ b, next = some b → b ∈ args) (h : StringsFromArgs args c) :
    StringsFromArgs args (step env c a next).cfg := by
  unfold step
  cases hd : dispatch a with
  | none => exact h
  | some hnd =>
    have hf := fun n => field_fromArgs args n a next ha hn
    cases hnd with
    | groupFilter | strictGroup | exclGroup | exclStrictGroup => exact strings_addGroup args c _ _ _ h (hf _)
    | nameFilter | strictName | exclName | exclStrictName => exact strings_addName args c _ _ _ h (hf _)
    | dotName l s x =>
      simp only [runHandler, addGroupDotName]
      cases hdn : dotNameFilters s x c (splitCode (getParameterField l.length a next).val [46]) with
      | none => exact h
      | some c' => exact strings_dotName args c c' _ s x _ h (hf _) (fun t ht => splitCode_infix _ _ t ht) hdn
    | testForm l =>
      exact strings_addName args _ _ _ _
        (strings_addGroup args c _ _ _ h (fromArgs_infix (hf _) (testFormGroup_infix _)))
        (fromArgs_infix (hf _) (testFormName_infix _))
    | outputType =>
      simp only [runHandler, setOutputType]
      cases outputOf (getParameterField 2 a next).val <;> exact h
    | packageName =>
      simp only [runHandler, setPackageName]
      split
      · exact h
      · exact ⟨h.1, h.2.1, hf 2⟩
    | _ => exact h

theorem go_strings (env : Env) (args : List Bytes) : ∀ (l : List Bytes) (c : Config) (skip : Bool),
    (∀ a ∈ l, a ∈ args) → StringsFromArgs args c → StringsFromArgs args (go env c skip l).cfg
  | [], c, skip, _, h => by cases skip <;> simpa [go, ParseResult.cfg] using h
  | a :: rest, c, true, hl, h => by
    rw [go_skip]; exact go_strings env args rest c false (fun b hb => hl b (List.mem_cons_of_mem _ hb)) h
  | a :: rest, c, false, hl, h => by
    have hs := step_strings env args c a rest.head? (hl a (by simp))
      (fun b hb => hl b (List.mem_cons_of_mem _ (List.mem_of_mem_head? hb))) h
    simp only [go]
    split
    · exact go_strings env args rest _ _ (fun b hb => hl b (List.mem_cons_of_mem _ hb)) hs
    · exact hs

/-- a stretch of plugins that refuse the argument is asked and passed over -/
theorem chain_skip (pre l : List (Bytes → Bool)) (a : Bytes) (hpre : ∀ q ∈ pre, q a = false) :
    chainAnswer (pre ++ l) a = chainAnswer l a ∧ chainAsked (pre ++ l) a = pre.length + chainAsked l a := by
  induction pre with
  | nil => simp
  | cons q qs ih =>
    have := ih fun r hr => hpre r (List.mem_cons_of_mem _ hr)
    simp [chainAnswer, chainAsked, hpre q (by simp), this]; omega

/-! ## for the runner's outputs: the per-repetition recursions, `sortUniqueBytes`, `blockNames` -/

theorem loopCalls_eq (c : Config) : ∀ n, loopCalls c n =
    (List.range n).flatMap (fun _ => if c.shuffling then [RegCall.shuffle c.shuffleSeed, .runAll] else [.runAll])
  | 0 => rfl
  | n + 1 => by rw [loopCalls, loopCalls_eq c n, List.range_succ_eq_map, List.flatMap_cons, List.flatMap_map]

theorem loopRan_eq (c : Config) (ps : List ProbeTest) : ∀ n, loopRan c ps n = (List.replicate n (oneRun c ps)).flatten
  | 0 => rfl
  | n + 1 => by rw [loopRan, loopRan_eq c ps n, List.replicate_succ, List.flatten_cons]

theorem runHeadersFrom_eq (n : Nat) : ∀ (k i : Nat), runHeadersFrom n i k = (List.range k).map (fun j => (i + j, n))
  | 0, _ => rfl
  | k + 1, i => by
    rw [runHeadersFrom, runHeadersFrom_eq n k (i + 1), List.range_succ_eq_map]
    simp [Nat.add_assoc, Nat.add_comm 1]

theorem mem_insertBytes (x y : Bytes) : ∀ l : List Bytes, y ∈ insertBytes x l ↔ y = x ∨ y ∈ l
  | [] => by simp [insertBytes]
  | z :: zs => by
    unfold insertBytes
    split
    · rename_i h; have : x = z := by simpa using h
      subst this; simp
    · split
      · simp
      · simp only [List.mem_cons, mem_insertBytes x y zs]
        constructor <;> (intro h; rcases h with h | h | h <;> simp [h])

theorem mem_sortUniqueBytes (y : Bytes) : ∀ l : List Bytes, y ∈ sortUniqueBytes l ↔ y ∈ l
  | [] => by simp [sortUniqueBytes]
  | x :: xs => by
    have ih := mem_sortUniqueBytes y xs
    simp only [sortUniqueBytes, List.foldr_cons] at ih ⊢
    rw [mem_insertBytes, ih]; simp

theorem blockNames_sub (c : Config) : ∀ (ps : List ProbeTest) (cur : Option (Bytes × Bool)) (g : Bytes),
    g ∈ blockNames c cur ps → g = [] ∨ g ∈ cur.toList.map (·.1) ++ ps.map (·.group)
  | [], none, g => by simp [blockNames]
  | [], some (g', any), g => by cases any <;> simp [blockNames] <;> (intro h; simp [h])
  | p :: ps, none, g => fun h => by simpa using blockNames_sub c ps _ g h
  | p :: ps, some (g', any), g => fun h => by
    -- the rest starts in a block whose group is `g'` or `p.group`, both of which the claim allows
    have rest : ∀ st : Bytes × Bool, st.1 = g' ∨ st.1 = p.group → g ∈ blockNames c (some st) ps →
        g = [] ∨ g ∈ (some (g', any)).toList.map (·.1) ++ (p :: ps).map (·.group) := fun st hst hm =>
      (blockNames_sub c ps _ g hm).imp_right fun h => by
        simp at h ⊢; rcases hst with e | e <;> rcases h with h | h <;> simp [h, ← e]
    simp only [blockNames] at h
    split at h
    · exact rest _ (.inl rfl) h
    · rcases List.mem_cons.mp h with h | h
      · cases any <;> simp [h]
      · exact rest _ (.inr rfl) h

theorem blockNames_cur_true (c : Config) : ∀ (ps : List ProbeTest) (g : Bytes), g ∈ blockNames c (some (g, true)) ps
  | [], g => by simp [blockNames]
  | p :: ps, g => by
    simp only [blockNames]
    split
    · simpa using blockNames_cur_true c ps g
    · simp

theorem blockNames_selected (c : Config) : ∀ (ps : List ProbeTest) (cur : Option (Bytes × Bool)) (p : ProbeTest),
    p ∈ ps → selects c p.group p.name = true → p.group ∈ blockNames c cur ps
  | [], _, _ => by simp
  | q :: qs, none, p => by
    intro hp hs
    simp only [blockNames]
    rcases List.mem_cons.mp hp with rfl | hp
    · rw [hs]; exact blockNames_cur_true c qs _
    · exact blockNames_selected c qs _ p hp hs
  | q :: qs, some (g, any), p => by
    intro hp hs
    simp only [blockNames]
    rcases List.mem_cons.mp hp with rfl | hp
    · split
      · rename_i hg
        have : p.group = g := by simpa using hg
        rw [hs, Bool.or_true, ← this]; exact blockNames_cur_true c qs _
      · rw [hs]; exact List.mem_cons_of_mem _ (blockNames_cur_true c qs _)
    · split
      · exact blockNames_selected c qs _ p hp hs
      · exact List.mem_cons_of_mem _ (blockNames_selected c qs _ p hp hs)

end CommandLine
