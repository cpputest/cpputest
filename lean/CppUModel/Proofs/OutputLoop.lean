import CppUModel.Model.TeamCityLoop
/-!
The registry loop executed from its regenerated statement list (`Model/TeamCityLoop.lean`) produces exactly the events of
the hand-written loop `OutEv.loop` / `OutEv.runAll` (Model/OutputEvents.lean), over which both report writers fold
(namespace `RunLoop`).  C20's `registry_loop_is_the_source` cites it.
-/
namespace RunLoop
open OutEv
open Gen.RunAllTestsLoop (body before after groupStartInit)

theorem groupStartStmt (flt : Option Filter) (t : Script) (rest : List Script) (gs : Bool) (g0 t0 : Nat) (r : R) :
    stmtRun flt t rest (.ifc .groupStart [.groupStarted, .setGroupStart false]) ⟨gs, g0, t0, r⟩ =
      (⟨false, if gs then r.clock else g0, t0, r⟩, startEvs gs t) := by
  cases gs <;> rfl

/-- the test time printed is the clock's advance since `currentTestStarted` took it -/
theorem shouldRunStmt (flt : Option Filter) (t : Script) (rest : List Script) (gs : Bool) (g0 t0 : Nat) (r : R) :
    stmtRun flt t rest (.ifc .shouldRun [.testStarted, .runOneTest, .testEnded]) ⟨gs, g0, t0, r⟩ =
      (⟨gs, g0, if shouldRun flt t.info then r.clock else t0, if shouldRun flt t.info then afterTest t r else countFiltered r⟩,
       if shouldRun flt t.info then testEvs t r else []) := by
  cases hs : shouldRun flt t.info <;> cases hw : t.info.willRun <;>
    simp [stmtRun, condRun, actsRun, actRun, testEvs, afterTest, hs, hw]

theorem endOfGroupStmt (flt : Option Filter) (t : Script) (rest : List Script) (g0 t0 : Nat) (r : R) :
    stmtRun flt t rest (.ifc .endOfGroup [.setGroupStart true, .groupEnded]) ⟨false, g0, t0, r⟩ =
      (⟨endOfGroup t rest, g0, t0, r⟩, endEvs t rest g0 r) := by
  cases he : endOfGroup t rest <;> simp [stmtRun, condRun, actsRun, actRun, endEvs, he]

theorem body_eq (flt : Option Filter) (t : Script) (rest : List Script) (gs : Bool) (g0 t0 : Nat) (r : R) :
    stmtsRun flt t rest body ⟨gs, g0, t0, r⟩ =
      (⟨endOfGroup t rest, if gs then r.clock else g0, if shouldRun flt t.info then r.clock else t0, bodyR flt t r⟩,
       startEvs gs t ++ bodyEvs flt t r ++ endEvs t rest (if gs then r.clock else g0) (bodyR flt t r)) := by
  -- the two flags of `-p` and `-ri` are off, `countTest` only counts
  have hflags : ∀ s, stmtRun flt t rest (.ifc .separateFlag [.setSeparate]) s = (s, []) ∧
      stmtRun flt t rest (.ifc .runIgnoredFlag [.setRunIgnored]) s = (s, []) := fun _ => ⟨rfl, rfl⟩
  have hcount : ∀ gs g0 t0 r, stmtRun flt t rest (.act .countTest) ⟨gs, g0, t0, r⟩ = (⟨gs, g0, t0, countTest r⟩, []) :=
    fun _ _ _ _ => rfl
  simp only [body, stmtsRun, hflags, groupStartStmt, hcount, shouldRunStmt, endOfGroupStmt, bodyR, bodyEvs, List.nil_append,
    List.append_nil, List.append_assoc, countTest]

theorem loopGen_eq (flt : Option Filter) : ∀ (tests : List Script) (gs : Bool) (g0 t0 : Nat) (r : R),
    loopGen flt ⟨gs, g0, t0, r⟩ tests = loop flt gs g0 r tests
  | [], gs, g0, t0, r => by simp [loopGen, after, actsRun, actRun, loop]
  | t :: rest, gs, g0, t0, r => by
    simp only [loopGen, loop, body_eq]
    rw [loopGen_eq flt rest]

theorem runAllGen_eq (flt : Option Filter) (tests : List Script) : runAllGen flt tests = runAll flt tests := by
  simp [runAllGen, runAll, before, actsRun, actRun, initLS, groupStartInit, loopGen_eq]

theorem runRepeatedGen_eq (n : Nat) (flt : Option Filter) (tests : List Script) :
    runRepeatedGen n flt tests = runRepeated n flt tests := by
  simp [runRepeatedGen, runRepeated, runAllGen_eq]

end RunLoop
