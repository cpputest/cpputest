import CppUModel.Spec.Plugins
import CppUModel.Proofs.ListLemmas
/-! Lemmas about the list-level model of the pointer table and of the plugin chain (C17). -/
namespace Plugins
open Gen.Plugins

theorem update_undo (m : Loc → Val) (l : Loc) (v : Val) : update (update m l v) l (m l) = m := by
  funext x; unfold update; by_cases h : x = l <;> simp [h]

/-! ### redirections and bodies: a redirection is recorded and assigned while the table has room, refused otherwise -/

theorem ptrSet_eq (s : Store) (l : Loc) (v : Val) :
    ptrSet s l v = if s.table.length < maxSet then some ⟨update s.mem l v, (l, s.mem l) :: s.table⟩ else none := by
  by_cases h : s.table.length < maxSet
  · rw [if_pos h, ptrSet, store, if_neg (Nat.not_le.mpr h)]
  · rw [if_neg h, ptrSet, store, if_pos (Nat.not_lt.mp h)]

theorem runBody_set (s : Store) (n : Nat) (l : Loc) (v : Val) (rest : List Stmt) :
    runBody s n (.set l v :: rest) =
      if s.table.length < maxSet then runBody ⟨update s.mem l v, (l, s.mem l) :: s.table⟩ (n + 1) rest
      else ⟨s, true, true, n⟩ := by
  rw [runBody, ptrSet_eq]
  by_cases h : s.table.length < maxSet
  · rw [if_pos h, if_pos h]
  · rw [if_neg h, if_neg h]

/-- the invariant of a test body: undoing the table gives the memory the table was started from -/
theorem runBody_restore_inv (body : List Stmt) (s : Store) (n : Nat) :
    restore (runBody s n body).store.table (runBody s n body).store.mem = restore s.table s.mem := by
  induction body generalizing s n with
  | nil => rfl
  | cons st rest ih =>
    cases st with
    | stop => rfl
    | set l v =>
      rw [runBody_set]
      split
      · rw [ih, restore, update_undo]
      · rfl

theorem runBody_table_length (body : List Stmt) (s : Store) (n : Nat) :
    (runBody s n body).store.table.length + n = s.table.length + (runBody s n body).done ∧
    (s.table.length ≤ maxSet → (runBody s n body).store.table.length ≤ maxSet) := by
  induction body generalizing s n with
  | nil => exact ⟨rfl, id⟩
  | cons st rest ih =>
    cases st with
    | stop => exact ⟨rfl, id⟩
    | set l v =>
      rw [runBody_set]
      split
      · next h =>
        have ih := ih ⟨update s.mem l v, (l, s.mem l) :: s.table⟩ (n + 1)
        rw [List.length_cons] at ih
        exact ⟨by omega, fun _ => ih.2 h⟩
      · exact ⟨rfl, id⟩

theorem runBody_flags (body : List Stmt) (s s' : Store) (n : Nat) (hl : s.table.length = s'.table.length) :
    (runBody s n body).failed = (runBody s' n body).failed ∧
    (runBody s n body).overflow = (runBody s' n body).overflow ∧
    (runBody s n body).done = (runBody s' n body).done := by
  induction body generalizing s s' n with
  | nil => exact ⟨rfl, rfl, rfl⟩
  | cons st rest ih =>
    cases st with
    | stop => exact ⟨rfl, rfl, rfl⟩
    | set l v =>
      rw [runBody_set, runBody_set, hl]
      split
      · exact ih _ _ (n + 1) (congrArg (· + 1) hl)
      · exact ⟨rfl, rfl, rfl⟩

/-- on a table with room for `r` more entries the first `r` redirections are carried out and a further one,
    if there is one, is refused -/
theorem runBody_sets (ss : List (Loc × Val)) (s : Store) (n r : Nat) (hr : s.table.length + r = maxSet) :
    (runBody s n (setsOf ss)).failed = decide (r < ss.length) ∧
    (runBody s n (setsOf ss)).overflow = decide (r < ss.length) ∧
    (runBody s n (setsOf ss)).done = n + min r ss.length ∧
    (runBody s n (setsOf ss)).store.mem = applySets s.mem (ss.take r) := by
  induction ss generalizing s n r with
  | nil =>
    rw [List.take_nil, List.length_nil, Nat.min_zero]
    exact ⟨rfl, rfl, rfl, rfl⟩
  | cons x rest ih =>
    obtain ⟨l, v⟩ := x
    rw [setsOf, List.map_cons]
    cases r with
    | zero =>
      rw [runBody_set, if_neg (Nat.not_lt.mpr (Nat.le_of_eq hr.symm : maxSet ≤ s.table.length))]
      exact ⟨rfl, rfl, rfl, rfl⟩
    | succ r =>
      rw [runBody_set, if_pos (by omega)]
      obtain ⟨h1, h2, h3, h4⟩ := ih ⟨update s.mem l v, (l, s.mem l) :: s.table⟩ (n + 1) r
        (by rw [List.length_cons]; omega)
      have hd : decide (r < rest.length) = decide (r + 1 < ((l, v) :: rest).length) :=
        decide_eq_decide.mpr Nat.succ_lt_succ_iff.symm
      refine ⟨h1.trans hd, h2.trans hd, h3.trans ?_, h4⟩
      rw [List.length_cons, Nat.succ_min_succ]
      exact Nat.add_right_comm n 1 _

/-! ### the post actions' effect on the pointers -/

theorem hasActiveSetB_iff (c : Chain) : hasActiveSetB c = true ↔ HasActiveSet c := by
  simp only [hasActiveSetB, HasActiveSet, List.any_eq_true, Bool.and_eq_true, beq_iff_eq]

theorem cliPlugin_active (id : Nat) (c : Chain) : HasActiveSet (install c (cliPlugin id)) :=
  ⟨cliPlugin id, by simp [install], rfl, rfl⟩

theorem postAction_idem (s : Store) : postAction (postAction s) = postAction s := rfl

theorem postAction_postStore : ∀ (c : Chain) (s : Store), postAction (postStore c s) = postAction s
  | [], _ => rfl
  | p :: rest, s => by
    rw [postStore]
    split
    · rw [postAction_idem, postAction_postStore rest s]
    · exact postAction_postStore rest s

theorem postStore_of_active {c : Chain} (h : HasActiveSet c) (s : Store) : postStore c s = postAction s := by
  induction c with
  | nil =>
    obtain ⟨_, hq, _⟩ := h
    cases hq
  | cons p rest ih =>
    rw [postStore]
    split
    · exact postAction_postStore rest s
    · next hp =>
      obtain ⟨q, hq, hh⟩ := h
      rcases List.mem_cons.mp hq with rfl | hq'
      · exact absurd hh hp
      · exact ih ⟨q, hq', hh⟩

theorem postStore_of_not_active : ∀ {c : Chain}, ¬ HasActiveSet c → ∀ s, postStore c s = s
  | [], _, _ => rfl
  | p :: rest, h, s => by
    rw [postStore, if_neg fun hp => h ⟨p, List.mem_cons_self, hp⟩]
    exact postStore_of_not_active (fun ⟨q, hq, hh⟩ => h ⟨q, List.mem_cons_of_mem _ hq, hh⟩) s

theorem postStore_restores {c : Chain} (hset : HasActiveSet c) {r s : Store}
    (hinv : restore r.table r.mem = restore s.table s.mem) (hempty : s.table = []) : postStore c r = s := by
  obtain ⟨m, t⟩ := s
  cases hempty
  rw [postStore_of_active hset, postAction, hinv]
  rfl

/-! ### tests with an enabled pointer plugin on an empty table -/

theorem runTest_store (c : Chain) (s : Store) (body : List Stmt) (hset : HasActiveSet c)
    (hempty : s.table = []) : (runTest c s body).store = s :=
  postStore_restores hset (runBody_restore_inv body s 0) hempty

theorem runTests_store (c : Chain) (hset : HasActiveSet c) :
    ∀ (bodies : List (List Stmt)) (s : Store), s.table = [] → runTests c s bodies = s
  | [], _, _ => rfl
  | b :: rest, s, h => by
    rw [runTests, runTest_store c s b hset h]
    exact runTests_store c hset rest s h

theorem runRepeated_store (c : Chain) (hset : HasActiveSet c) (bodies : List (List Stmt)) :
    ∀ (n : Nat) (s : Store), s.table = [] → runRepeated c s n bodies = s
  | 0, _, _ => rfl
  | n + 1, s, h => by
    rw [runRepeated, runTests_store c hset bodies s h]
    exact runRepeated_store c hset bodies n s h

theorem runPhases_inv (I : BodyResult → Prop) (s : Store) (t : Phases) (h0 : I (runBody s 0 t.setup))
    (step : ∀ r next, I r → I (r.andThen next)) : I (runPhases s t) := by
  unfold runPhases
  split
  · exact step _ _ h0
  · exact step _ _ (step _ _ h0)

/-! ### the chain: installing puts in front, removing by name erases the first plugin of that name -/

theorem installAll_eq_reverse (ps : List Plugin) : installAll ps = ps.reverse := by
  show ps.foldl (fun c p => p :: c) [] = ps.reverse
  simp

theorem removeNext_fst (name : String) : ∀ (c : Chain), (removeNext name c).1 = c.eraseP (·.name == name)
  | [] => rfl
  | q :: rest => by
    unfold removeNext
    by_cases h : q.name = name
    · simp [h]
    · simp [h, removeNext_fst name rest]

theorem removeNext_absent {name : String} {c : Chain} (h : name ∉ c.map (·.name)) : (removeNext name c).1 = c := by
  rw [removeNext_fst]
  exact List.eraseP_of_forall_not fun a ha e => h (List.mem_map.mpr ⟨a, ha, beq_iff_eq.mp e⟩)

theorem removeBelowHead_eq_self (name : String) : ∀ (c : Chain), name ∉ c.map (·.name) →
    removeBelowHead name c = c
  | [], _ => rfl
  | p :: rest, h => by rw [removeBelowHead, removeNext_absent fun hm => h (List.mem_cons_of_mem _ hm)]

theorem regRemove_absent {c : Chain} {name : String} (h : name ∉ c.map (·.name)) : regRemove name c = c := by
  cases c with
  | nil => rfl
  | cons p rest =>
    rw [regRemove, removeBelowHead_eq_self name _ h, removeHead,
      if_neg fun e => h (List.mem_cons.mpr (.inl e.symm)), removeBelowHead_eq_self name _ h]

theorem regRemove_install (c : Chain) (p : Plugin) (h : p.name ∉ c.map (·.name)) :
    regRemove p.name (install c p) = c := by
  show removeBelowHead p.name (removeHead p.name (p :: (removeNext p.name c).1)) = c
  rw [removeNext_absent h, removeHead, if_pos rfl, removeBelowHead_eq_self _ _ h]

/-- with pairwise different names the first plugin of a name is the only one; `decide (q.name ≠ name)` is how the
    statements of Props/C17.lean write the filter, `==` how `ListLemmas` does -/
theorem eraseP_eq_filter (name : String) (c : Chain) (hu : UniqueNames c) :
    c.eraseP (·.name == name) = c.filter (fun q => q.name ≠ name) := by
  simpa [bne, Bool.beq_eq_decide_eq] using ListLemmas.eraseP_key_eq_filter Plugin.name (l := c) hu name

theorem not_mem_names_filter (name : String) (c : Chain) :
    name ∉ (c.filter (fun q => q.name ≠ name)).map (·.name) := fun hm => by
  obtain ⟨q, hq, h⟩ := List.mem_map.mp hm
  exact of_decide_eq_true (List.mem_filter.mp hq).2 h

/-! ### scripted tests: when the change of the chain that the body asks for is carried out -/

theorem effectiveBodyMut_none (s : Store) (body : List Stmt) (a : Nat) (m : Mut) :
    effectiveBodyMut s ⟨body, .none, a, m⟩ = .none :=
  ite_self _

theorem effectiveBodyMut_of_fit (s : Store) (body : List Stmt) (m : Mut) (a : Nat) (pm : Mut)
    (h : (runBody s 0 body).overflow = false) : effectiveBodyMut s ⟨body, m, a, pm⟩ = m := by
  rw [effectiveBodyMut, h]
  rfl

theorem runScripted_none (c : Chain) (s : Store) (body : List Stmt) (a : Nat) (m : Mut) :
    (runScripted c s ⟨body, .none, a, m⟩).1 = runTest c s body := by
  rw [runScripted, effectiveBodyMut_none]
  rfl

theorem runScripted_of_fit (c : Chain) (s : Store) (body : List Stmt) (m : Mut) (a : Nat)
    (hov : (runBody s 0 body).overflow = false) :
    (runScripted c s ⟨body, m, a, .none⟩).1.post = runAllPost (postChainAfterBody c m) ∧
    (runScripted c s ⟨body, m, a, .none⟩).2 = applyMut m c := by
  rw [runScripted, effectiveBodyMut_of_fit s body m a .none hov]
  exact ⟨rfl, ite_self _⟩

end Plugins
