import CppUModel.Spec.MockC
/-! Helper lemmas for C19: names as numbers (how the tables of names are evaluated), the lookups of the wiring, and the
    generic simulation step (C forwarder description vs documented C++ statement). -/
namespace MockC
open Req

/-! ## names as numbers

The kernel has no primitive for `String`: to compare two literals it converts both to their UTF-8 bytes and compares byte by
byte, while two natural numbers are compared in one step.  A name converted once to a number (`code`, injective) is therefore
compared by one `Nat` equality, and a quadratic sweep over a table of names pays the conversion per name and not per pair. -/

def enc : List UInt8 → Nat
  | [] => 0
  | b :: l => enc l * 256 + b.toNat + 1

theorem enc_inj : ∀ {a b : List UInt8}, enc a = enc b → a = b
  | [], [], _ => rfl
  | [], _ :: _, h | _ :: _, [], h => by simp only [enc] at h; omega
  | x :: l, y :: l', h => by
    have hx := x.toNat_lt; have hy := y.toNat_lt
    simp only [enc] at h
    rw [enc_inj (a := l) (b := l') (by omega), UInt8.toNat_inj.mp (by omega : x.toNat = y.toNat)]

def code (s : String) : Nat := enc s.toByteArray.data.toList

theorem code_inj {a b : String} (h : code a = code b) : a = b :=
  String.toByteArray_inj.mp (ByteArray.ext (Array.ext' (enc_inj h)))

def eqK (a b : String) : Bool := code a == code b

theorem eqK_eq (a b : String) : eqK a b = decide (a = b) :=
  decide_eq_decide.mpr ⟨code_inj, congrArg code⟩

theorem eqK_beq (a b : String) : eqK a b = (a == b) := eqK_eq a b

/-! ## the lookups of the wiring -/

theorem findFwdIn_agree (A B : List Fwd) (hA : ∀ f ∈ A, findFwdIn B f.name = some f)
    (hB : ∀ f ∈ B, findFwdIn A f.name = some f) (n : String) : findFwdIn A n = findFwdIn B n := by
  cases h : findFwdIn A n with
  | some f =>
    have hn : f.name = n := by simpa using List.find?_some h
    rw [← hn, hA f (List.mem_of_find?_eq_some h)]
  | none =>
    cases h' : findFwdIn B n with
    | none => rfl
    | some g =>
      have hn : g.name = n := by simpa using List.find?_some h'
      rw [← hn, hB g (List.mem_of_find?_eq_some h')] at h
      cases h

/-- `findFwdIn` on the numbers of the names: what the evaluation of the wiring facts runs -/
def findK (fs : List Fwd) (n : String) : Option Fwd := fs.find? (fun f => eqK f.name n)

theorem findK_eq (fs : List Fwd) (n : String) : findK fs n = findFwdIn fs n := by
  simp only [findK, findFwdIn, eqK_eq]

theorem any_eqK (l : List String) (x : String) : l.any (eqK x) = l.contains x :=
  (congrArg l.any (funext (eqK_eq x))).trans List.contains_eq_any_beq.symm

theorem beq_pair_eqK (p : Ptr × String) (t : Ptr) (f : String) : (p.1 == t && eqK p.2 f) = (p == (t, f)) := by
  rw [eqK_eq]; rfl

def lookupK {β : Type} (a : String) : List (String × β) → Option β
  | [] => none
  | (k, b) :: es => bif eqK a k then some b else lookupK a es

theorem lookupK_eq {β : Type} (a : String) (l : List (String × β)) : lookupK a l = l.lookup a := by
  induction l with
  | nil => rfl
  | cons e es ih =>
    simp only [lookupK, List.lookup, eqK_beq, ih]
    cases a == e.1 <;> rfl

theorem indexOf_mem (x : String) : ∀ (l : List String) (i : Nat), x ∈ l → ∃ k, indexOf x l i = some (i + k) ∧ l[k]? = some x
  | y :: ys, i, h => by
    by_cases hxy : x = y
    · exact ⟨0, by simp [indexOf, hxy], by simp [hxy]⟩
    · obtain ⟨k, hk, hg⟩ := indexOf_mem x ys (i + 1) (by simpa [hxy] using h)
      exact ⟨k + 1, by simp only [indexOf, hxy, if_false, hk, Nat.add_assoc, Nat.add_comm 1 k], by simpa using hg⟩

theorem forwarderNameIn_map (f : String → String) (fields : List String) (field : String) (h : field ∈ fields) :
    forwarderNameIn fields (fields.map f) field = some (f field) := by
  obtain ⟨k, hk, hg⟩ := indexOf_mem field fields 0 h
  simp [forwarderNameIn, hk, hg]

theorem tags_eq : Gen.CMock.valueTags = Req.valueTags := rfl

theorem toCValue_eq (nv : NamedVal) : toCValue nv = Req.toCValue nv := by
  unfold toCValue Req.toCValue; rw [tags_eq]

theorem neZero_int_ite (b : Bool) : neZero (.int (if b then 1 else 0)) = .bool b := by
  cases b <;> simp [neZero]

/-! ## the generic simulation step -/

/-- results agree as the property compares them, and the pointers / the C++ world are the same -/
def SimR {K : CppMock} (p : Core K × CRes) (q : Core K × XRes) : Prop :=
  p.1 = q.1 ∧ canonC p.2 = canonX q.2

theorem canon_post {EC AC} (post : Post) (r : Res EC AC) (h : postOk post = true) :
    canonC (applyPost post r) = canonX (xresOf (kindOfPost post) r) := by
  cases post with
  | id => simp [applyPost, kindOfPost, xresOf, canonC, canonX]
  | boolToInt => simp [applyPost, kindOfPost, xresOf, canonC, canonX, neZero_int_ite]
  | fnCastBack => simp [applyPost, kindOfPost, xresOf, canonC, canonX]
  | toCValue => simp [applyPost, kindOfPost, xresOf, canonC, canonX, toCValue_eq]
  | other t => simp [postOk] at h

theorem storeRes_eq_storeX (K : CppMock) (st : Core K) (store : Ptr) (r : Res K.EC K.AC) :
    storeRes K st store r = storeX K st (kindOfStore store) r := by
  cases store <;> cases r <;> simp [storeRes, storeX, kindOfStore]

/-- what a getter returns is never stored -/
theorem storeX_kindOfPost (K : CppMock) (st : Core K) (post : Post) (r : Res K.EC K.AC) :
    storeX K st (kindOfPost post) r = st := by
  cases post <;> simp [kindOfPost, storeX]

theorem callVia_sup {K : CppMock} {st : Core K} {s : String} (h : st.cur = some s) (meth : String) (args : List Val) :
    callVia K st .sup meth args = some (K.sup st.m s meth args) := by
  simp [callVia, h]

theorem callVia_act {K : CppMock} {st : Core K} {a : K.AC} (h : st.a = some a) (meth : String) (args : List Val) :
    callVia K st .act meth args = some (K.ac st.m a meth args) := by
  simp [callVia, h]

/-- while aligned, asking the selected scope and asking the static call is the same call, for two getters of one meaning -/
theorem callVia_bridge {K : CppMock} (law : Lawful K) {st : Core K} (hal : AlignedAt K st) {p : String × String}
    (hp : p ∈ Req.bridgePairs) :
    callVia K st .sup (signature p.1 []) [] = callVia K st .act (signature p.2 []) [] := by
  obtain ⟨s, a, hcur, ha, hlast⟩ := hal
  rw [callVia_sup hcur, callVia_act ha, law.bridge st.m s a p hp hlast]

theorem findFwdIn_req (n : String) : findFwdIn Req.forwarders n = Req.findFwd n := rfl

/-- `hasReturnValue_c` asks the selected scope -/
theorem execSimple_has {K : CppMock} {st : Core K} {h : Fwd} {s : String}
    (hhb : h.body = .ret .sup "hasReturnValue" [] .id) (hcur : st.cur = some s) :
    execSimple K st h [] =
      ({ st with m := (K.sup st.m s (signature "hasReturnValue" []) []).1 },
       .val (asVal (K.sup st.m s (signature "hasReturnValue" []) []).2)) := by
  simp [execSimple, hhb, callVia_sup hcur, applyPost]

/-- a plain getter forwarder asks the static call, in whatever world -/
theorem execSimple_getter {K : CppMock} {st : Core K} {g : Fwd} {a : K.AC} {meth : String} {post : Post}
    (hgb : g.body = .ret .act meth [] post) (ha : st.a = some a) (m1 : K.M) :
    execSimple K { st with m := m1 } g [] =
      ({ st with m := (K.ac m1 a (signature meth []) []).1 }, applyPost post (K.ac m1 a (signature meth []) []).2) := by
  simp [execSimple, hgb, callVia_act (st := { st with m := m1 }) ha]

/-- the C++ `...OrDefault` when both calls can be made: it ends in the world after `has` (stopped there, or the default is
    returned) or in the world after the getter -/
theorem execXOrDefault_eq {K : CppMock} (st : Core K) (recv : Ptr) (getter : String) (kind : XKind) (d : Val)
    {r c : K.M × Res K.EC K.AC} (hr : callVia K st recv (signature "hasReturnValue" []) [] = some r)
    (hc : callVia K { st with m := r.1 } recv (signature getter []) [] = some c) :
    execXOrDefault K st recv getter kind d =
      if K.stopped r.1 then ({ st with m := r.1 }, .none)
      else if asBool r.2 then ({ st with m := c.1 }, xresOf kind c.2) else ({ st with m := r.1 }, .val d) := by
  simp only [execXOrDefault, hr, hc]

/-- the pair of C++ getters behind a getter of the actual call that the support table also offers -/
theorem bridge_of_any (meth : String) (h : Req.bridgePairs.any (fun p => p.2 == meth) = true) :
    ∃ n, supNameOf meth = some n ∧ (n, meth) ∈ Req.bridgePairs := by
  unfold supNameOf
  cases hf : Req.bridgePairs.find? (fun p => p.2 = meth) with
  | none =>
    rw [List.find?_eq_none] at hf
    rw [List.any_eq_true] at h
    obtain ⟨p, hp, hq⟩ := h
    have := hf p hp
    exact absurd hq this
  | some p =>
    have h1 := List.find?_some hf
    have h2 := List.mem_of_find?_eq_some hf
    simp at h1
    refine ⟨p.1, by simp, ?_⟩
    rw [← h1]; exact h2

theorem has_pair : ("hasReturnValue", "hasReturnValue") ∈ Req.bridgePairs := by decide

/-- a getter forwarder and a C++ getter statement that make the same call -/
theorem sim_call {K : CppMock} (st : Core K) (post : Post) (hpost : postOk post = true)
    (c : Option (K.M × Res K.EC K.AC)) :
    SimR (match c with
          | some (m, r) => ({ st with m := m }, applyPost post r)
          | none => (st, .undefined "null pointer"))
         (match c with
          | none => (st, .undefined "null pointer")
          | some (m, r) => (storeX K { st with m := m } (kindOfPost post) r, xresOf (kindOfPost post) r)) := by
  cases c with
  | none => exact ⟨rfl, rfl⟩
  | some p => exact ⟨(storeX_kindOfPost ..).symm, canon_post post _ hpost⟩

theorem sim_ret (K : CppMock) (law : Lawful K) (tbl : Ptr) (fw : Fwd) (args : List Val) (st : Core K)
    (recv : Ptr) (meth : String) (as : List ArgExpr) (post : Post) (hb : fw.body = .ret recv meth as post)
    (hwf : wf tbl fw = true) (hal : needsAlign tbl fw = true → AlignedAt K st) :
    SimR (execFwdWith Req.forwarders K st fw args) (execX K st (Req.meaning tbl fw args)) := by
  simp only [wf, hb, Bool.and_eq_true] at hwf
  obtain ⟨hpost, hbr⟩ := hwf
  simp only [needsAlign, hb, Bool.or_eq_true] at hal
  simp only [execFwdWith, execSimple, Req.meaning, hb]
  -- in each case the C++ statement makes the call the forwarder makes: across the bridge in the first two
  by_cases h1 : isStaticCallGetter tbl recv as = true
  · -- getter of the call, asked through the support table
    simp only [h1, if_true] at hbr ⊢
    obtain ⟨n, hn, hmem⟩ := bridge_of_any meth hbr
    have hal1 := hal (Or.inl h1)
    simp only [isStaticCallGetter, Bool.and_eq_true, beq_iff_eq, List.isEmpty_iff] at h1
    obtain ⟨⟨_, rfl⟩, rfl⟩ := h1
    simp only [hn, execX, List.map_nil, callVia_bridge law hal1 hmem]
    exact sim_call st post hpost _
  · simp only [h1, Bool.false_eq_true, if_false]
    by_cases h2 : isScopeHas tbl recv meth as = true
    · -- `has` of the scope, asked through the actual-call table
      simp only [h2, if_true]
      have hal2 := hal (Or.inr h2)
      simp only [isScopeHas, Bool.and_eq_true, beq_iff_eq, List.isEmpty_iff] at h2
      obtain ⟨⟨⟨_, rfl⟩, rfl⟩, rfl⟩ := h2
      simp only [execX, List.map_nil, ← callVia_bridge law hal2 has_pair]
      exact sim_call st post hpost _
    · simp only [h2, Bool.false_eq_true, if_false, execX]
      exact sim_call st post hpost _

theorem isTrue_val_asVal {EC AC} (r : Res EC AC) : isTrue (.val (asVal r)) = asBool r := by
  cases r with
  | val v => cases v <;> simp [isTrue, asVal, asBool]
  | _ => simp [isTrue, asVal, asBool]

theorem getterOf_some (b : Body) (meth : String) (post : Post) (h : getterOf b = some (meth, post)) :
    b = .ret .act meth [] post := by
  cases b with
  | ret recv m as p =>
    cases recv <;> cases as <;> simp [getterOf] at h
    obtain ⟨h1, h2⟩ := h; subst h1 h2; rfl
  | _ => simp [getterOf] at h

/-- what `wf` says of an `...OrDefault` forwarder: its two parts are found, the first is `hasReturnValue_c`, the second a plain
    getter of the call with a known result conversion, offered by the support table too if the member is one of that table -/
theorem wf_orDefault {tbl : Ptr} {fw : Fwd} {hasFn getFn : String} (hb : fw.body = .orDefault hasFn getFn)
    (hwf : wf tbl fw = true) :
    ∃ h g meth post, Req.findFwd hasFn = some h ∧ Req.findFwd getFn = some g ∧
      h.body = .ret .sup "hasReturnValue" [] .id ∧ g.body = .ret .act meth [] post ∧ postOk post = true ∧
      (if tbl = .sup then Req.bridgePairs.any (fun p => p.2 == meth) else tbl == .act) = true := by
  simp only [wf, hb] at hwf
  cases hf1 : Req.findFwd hasFn with
  | none => simp [hf1] at hwf
  | some h =>
    cases hf2 : Req.findFwd getFn with
    | none => simp [hf1, hf2] at hwf
    | some g =>
      simp only [hf1, hf2, Bool.and_eq_true] at hwf
      obtain ⟨hh, hrest⟩ := hwf
      cases hg : getterOf g.body with
      | none => simp [hg] at hrest
      | some mp =>
        obtain ⟨meth, post⟩ := mp
        simp only [hg, Bool.and_eq_true] at hrest
        exact ⟨h, g, meth, post, rfl, rfl, by simpa [isHasBody] using hh, getterOf_some g.body meth post hg, hrest.1, hrest.2⟩

theorem canon_default (g : Fwd) (meth : String) (post : Post) (d : Val) (hg : g.body = .ret .act meth [] post) :
    canonC (defaultRes g d) = canonX (.val (defaultX post d)) := by
  cases post <;> simp [defaultRes, hg, defaultX, canonC, canonX]

theorem sim_orDefault (K : CppMock) (law : Lawful K) (tbl : Ptr) (fw : Fwd) (args : List Val) (st : Core K)
    (hasFn getFn : String) (hb : fw.body = .orDefault hasFn getFn)
    (hwf : wf tbl fw = true) (hal : AlignedAt K st) :
    SimR (execFwdWith Req.forwarders K st fw args) (execX K st (Req.meaning tbl fw args)) := by
  obtain ⟨s, a, hcur, ha, hlast⟩ := id hal
  obtain ⟨h, g, meth, post, hf1, hf2, hhb, hgb, hpost, htbl⟩ := wf_orDefault hb hwf
  have hh : isHasBody h.body = true := by rw [hhb]; rfl
  have hg : getterOf g.body = some (meth, post) := by rw [hgb]; rfl
  simp only [execFwdWith, hb, findFwdIn_req, hf1, hf2]
  -- the C forwarder asks `has` of the scope (`r`) and then the getter of the call (`c`) ...
  obtain ⟨r, hr⟩ : ∃ r, K.sup st.m s (signature "hasReturnValue" []) [] = r := ⟨_, rfl⟩
  obtain ⟨c, hc⟩ : ∃ c, K.ac r.1 a (signature meth []) [] = c := ⟨_, rfl⟩
  simp only [execOrDefault, execSimple_has hhb hcur, isUndefined, Bool.false_eq_true, if_false,
    isTrue_val_asVal, execSimple_getter hgb ha, hr, hc]
  -- ... and so does the C++ statement, of either table, across the bridge
  have hX : execX K st (Req.meaning tbl fw args) =
      if K.stopped r.1 then ({ st with m := r.1 }, .none)
      else if asBool r.2 then ({ st with m := c.1 }, xresOf (kindOfPost post) c.2)
      else ({ st with m := r.1 }, .val (defaultX post (argOf fw.params args "defaultValue"))) := by
    simp only [Req.meaning, hb, hf1, hf2, hh, if_true, hg]
    by_cases ht : tbl = .sup
    · simp only [ht, if_true] at htbl ⊢
      obtain ⟨n, hn, hmem⟩ := bridge_of_any meth htbl
      simp only [hn, execX]
      by_cases hs : K.stopped r.1 = true
      · simp only [execXOrDefault, callVia_sup hcur, hr, hs, if_true]
      · -- asking `has` has not changed the scope's last call
        have hal1 : AlignedAt K { st with m := r.1 } :=
          ⟨s, a, hcur, ha, by rw [← hr, law.has_keeps_last st.m s (by simpa [hr] using hs)]; exact hlast⟩
        exact execXOrDefault_eq st .sup n _ _ ((callVia_sup hcur _ _).trans (congrArg some hr))
          ((callVia_bridge law hal1 hmem).trans ((callVia_act (st := { st with m := r.1 }) ha _ _).trans (congrArg some hc)))
    · simp only [ht, if_false, execX]
      exact execXOrDefault_eq st .act meth _ _
        ((callVia_bridge law hal has_pair).symm.trans ((callVia_sup hcur _ _).trans (congrArg some hr)))
        ((callVia_act (st := { st with m := r.1 }) ha _ _).trans (congrArg some hc))
  rw [hX]
  split
  · exact ⟨rfl, rfl⟩
  · split
    · exact ⟨rfl, canon_post post _ hpost⟩
    · exact ⟨rfl, canon_default g meth post _ hgb⟩

/-- The generic step: a forwarder description interpreted by the C layer and the documented C++ statement for it
    leave the same pointers and the same C++ world and return the same value (as the property compares values). -/
theorem exec_sim (K : CppMock) (law : Lawful K) (tbl : Ptr) (fw : Fwd) (args : List Val) (st : Core K)
    (hwf : wf tbl fw = true) (hal : needsAlign tbl fw = true → AlignedAt K st) :
    SimR (execFwdWith Req.forwarders K st fw args) (execX K st (Req.meaning tbl fw args)) := by
  cases hb : fw.body with
  | ret recv meth as post => exact sim_ret K law tbl fw args st recv meth as post hb hwf hal
  | orDefault h g => exact sim_orDefault K law tbl fw args st h g hb hwf (hal (by simp [needsAlign, hb]))
  | chain store recv meth as t =>
    simp only [execFwdWith, execSimple, Req.meaning, hb, execX]
    cases callVia K st recv (signature meth as) (List.map (evalArg fw.params args) as) with
    | none => simp [SimR, canonC, canonX]
    | some p => cases store <;> simp [SimR, canonC, canonX, storeRes_eq_storeX, kindOfStore, xresOf]
  | mock o =>
    cases o with
    | none => simp [execFwdWith, execSimple, Req.meaning, hb, execX, SimR, canonC, canonX]
    | some p =>
      simp only [execFwdWith, execSimple, Req.meaning, hb]
      cases argOf fw.params args p <;> simp [execX, SimR, canonC, canonX]
  | other t => simp [execFwdWith, execSimple, Req.meaning, hb, execX, SimR, canonC, canonX]
  -- a call whose result the C caller does not see
  | void_ | install | removeAll =>
    simp only [execFwdWith, execSimple, Req.meaning, hb, execX]
    split <;> simp [SimR, canonC, canonX, storeX, xresOf, *]

end MockC
