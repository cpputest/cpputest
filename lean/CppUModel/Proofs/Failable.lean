import CppUModel.Spec.Failable
import CppUModel.Proofs.ListLemmas
/-!
Lemmas behind the C15 theorems.

The allocator: a node that survives the clear-free piece of history `e` is `advance cur e nd`, in closed form; the
loop of `alloc_memory` is a filter, so stepping over an allocation is one equation (`advance_alloc`).  `run_nodes`
then gives the linked list after `e` outright: what the designations of `e` leave behind (`pendingNodes`) in front
of what is left of the old nodes.  Which allocation fails (`pendingNodes_fires`) and what the check reports
(`pendingNodes_desig`) are read off that list; the ghost ids are only counted (`conservation`).

The C level: `afterMallocs_setCountdown` is the state `k` allocating calls after a countdown was set, in closed form.
-/
namespace Failable

theorem run_append (s : State) (a b : List Op) : run s (a ++ b) = run (run s a) b := by
  simp [run, List.foldl_append]

theorem run_cons (s : State) (op : Op) (e : List Op) : run s (op :: e) = run (step s op) e := rfl

def epochAux (acc : List Op) (h : List Op) : List Op :=
  h.foldl (fun e op => if op = .clear then [] else e ++ [op]) acc

theorem epochAux_cons (acc : List Op) (op : Op) (h : List Op) :
    epochAux acc (op :: h) = epochAux (if op = .clear then [] else acc ++ [op]) h := rfl

theorem epoch_eq (h : List Op) : epoch h = epochAux [] h := rfl

theorem epoch_snoc (h : List Op) (op : Op) :
    epoch (h ++ [op]) = if op = .clear then [] else epoch h ++ [op] := by
  simp [epoch, List.foldl_append]

theorem epoch_after_clear (h e : List Op) : epoch (h ++ Op.clear :: e) = epoch e := by
  simp [epoch, List.foldl_append]

theorem epochAux_spec (h acc : List Op) :
    (Op.clear ∉ h ∧ epochAux acc h = acc ++ h) ∨
    (Op.clear ∉ epochAux acc h ∧ ∃ p, h = p ++ Op.clear :: epochAux acc h) := by
  induction h generalizing acc with
  | nil => exact .inl ⟨List.not_mem_nil, (List.append_nil acc).symm⟩
  | cons op h ih =>
    rw [epochAux_cons]
    by_cases hc : op = .clear
    · subst hc
      rw [if_pos rfl]
      rcases ih [] with ⟨h1, h2⟩ | ⟨h1, p, hp⟩
      · exact .inr ⟨h2 ▸ h1, [], by rw [h2]; rfl⟩
      · exact .inr ⟨h1, Op.clear :: p, congrArg _ hp⟩
    · rw [if_neg hc]
      rcases ih (acc ++ [op]) with ⟨h1, h2⟩ | ⟨h1, p, hp⟩
      · exact .inl ⟨fun hm => (List.mem_cons.mp hm).elim (fun e => hc e.symm) h1, by rw [h2, List.append_assoc]; rfl⟩
      · exact .inr ⟨h1, op :: p, congrArg _ hp⟩

theorem epoch_no_clear (h : List Op) : Op.clear ∉ epoch h := by
  rcases epochAux_spec h [] with ⟨h1, h2⟩ | ⟨h1, _⟩
  · rw [epoch_eq, h2]; exact h1
  · exact h1

theorem epoch_spec (h : List Op) :
    (epoch h = h ∧ Op.clear ∉ h) ∨ (∃ p, h = p ++ Op.clear :: epoch h) :=
  (epochAux_spec h []).imp (fun ⟨h1, h2⟩ => ⟨h2, h1⟩) (·.2)

theorem allocs_nil : allocs [] = 0 := rfl
theorem allocsAt_nil (f : String) (l : Nat) : allocsAt f l [] = 0 := rfl

theorem allocs_cons (op : Op) (e : List Op) :
    allocs (op :: e) = allocs e + (if op.isAlloc then 1 else 0) := by
  simp [allocs, List.countP_cons]

theorem allocsAt_cons (f : String) (l : Nat) (op : Op) (e : List Op) :
    allocsAt f l (op :: e) = allocsAt f l e + (if op.isAllocAt f l then 1 else 0) := by
  simp [allocsAt, List.countP_cons]

theorem allocs_append (a b : List Op) : allocs (a ++ b) = allocs a + allocs b := by
  simp [allocs, List.countP_append]

theorem allocsAt_append (f : String) (l : Nat) (a b : List Op) :
    allocsAt f l (a ++ b) = allocsAt f l a + allocsAt f l b := by
  simp [allocsAt, List.countP_append]

theorem isAlloc_iff (op : Op) : op.isAlloc = true ↔ ∃ f l, op = .alloc f l := by
  cases op <;> simp [Op.isAlloc]

theorem isAllocAt_iff (f : String) (l : Nat) (op : Op) : op.isAllocAt f l = true ↔ op = .alloc f l := by
  cases op <;> simp [Op.isAllocAt]

theorem locDesignated_nil (f : String) (l : Nat) : ¬ LocDesignated [] f l := by
  rintro ⟨pre, n, post, h, _⟩
  cases pre <;> simp at h

theorem locDesignated_cons (op : Op) (e : List Op) (f : String) (l : Nat) :
    LocDesignated (op :: e) f l ↔
      (∃ n, op = .failAt n f l ∧ n = ((allocsAt f l e + 1 : Nat) : Int)) ∨ LocDesignated e f l := by
  constructor
  · rintro ⟨_ | ⟨a, pre⟩, n, post, h, hn⟩ <;> cases h
    · exact .inl ⟨n, rfl, hn⟩
    · exact .inr ⟨pre, n, post, rfl, hn⟩
  · rintro (⟨n, rfl, hn⟩ | ⟨pre, n, post, rfl, hn⟩)
    · exact ⟨[], n, e, rfl, hn⟩
    · exact ⟨op :: pre, n, post, rfl, hn⟩

theorem locDesignatedB_iff (f : String) (l : Nat) (e : List Op) :
    locDesignatedB f l e = true ↔ LocDesignated e f l := by
  induction e with
  | nil => simp [locDesignatedB, locDesignated_nil]
  | cons op e ih =>
    rw [locDesignated_cons, ← ih]
    cases op <;> simp [locDesignatedB]
    exact or_congr_left ⟨fun ⟨a, b, c⟩ => ⟨c, a, b⟩, fun ⟨c, a, b⟩ => ⟨a, b, c⟩⟩

/-- the loop of `alloc_memory` keeps the nodes that do not fire and unlinks those that do, each as its visit left it -/
theorem walk_eq (cur : Nat) (f : String) (l : Nat) (nodes : List Node) : walk cur f l nodes =
    ((nodes.filter (fun nd => !nd.fires cur f l)).map (fun nd => (nd.visit cur f l).1),
     (nodes.filter (fun nd => nd.fires cur f l)).map (fun nd => (nd.visit cur f l).1)) := by
  induction nodes with
  | nil => rfl
  | cons nd rest ih =>
    unfold walk
    rw [ih]
    cases h : nd.fires cur f l <;> simp [Node.fires] at h <;> simp [h, Node.fires]

theorem allocFails_iff (s : State) (f : String) (l : Nat) :
    allocFails s f l = true ↔ ∃ nd ∈ s.nodes, nd.fires (s.current + 1) f l = true := by
  simp [allocFails, allocFired, walk_eq]

/-- a counter that stands at `a` and is incremented `k` times passes `n` -/
def firedLoc (a : Nat) (n : Int) (k : Nat) : Bool := decide (((a : Nat) : Int) < n ∧ n ≤ ((a + k : Nat) : Int))

theorem firedNum_eq (b : Nat) (n : Int) (e : List Op) : firedNum b n e = firedLoc b n (allocs e) := rfl

theorem firedAt_eq (n : Int) (f : String) (l : Nat) (e : List Op) :
    firedAt n f l e = firedLoc 0 n (allocsAt f l e) := by
  rw [Bool.eq_iff_iff]; simp only [firedLoc, firedAt, decide_eq_true_eq]; omega

theorem firedLoc_zero (a : Nat) (n : Int) : firedLoc a n 0 = false := by
  simp [firedLoc]

theorem firedLoc_succ (a : Nat) (n : Int) (k : Nat) :
    firedLoc a n (k + 1) = (decide (((a + 1 : Nat) : Int) = n) || firedLoc (a + 1) n k) := by
  rw [Bool.eq_iff_iff]
  simp only [firedLoc, Bool.or_eq_true, decide_eq_true_eq]
  omega

/-- a counter that stands at `a` passes `n` while the `p`-elements of `l` are counted iff `l` splits at the element
    that brings it to `n` -/
theorem firedLoc_countP_iff {α} (p : α → Bool) (l : List α) (a : Nat) (n : Int) :
    firedLoc a n (l.countP p) = true ↔
      ∃ l₁ x l₂, l = l₁ ++ x :: l₂ ∧ p x = true ∧ n = ((a + l₁.countP p + 1 : Nat) : Int) := by
  simp only [firedLoc, decide_eq_true_eq]
  constructor
  · intro h
    obtain ⟨l₁, x, l₂, rfl, hx, hk⟩ := (ListLemmas.countP_gt_iff_split p l (n - a - 1).toNat).mp (by omega)
    exact ⟨l₁, x, l₂, rfl, hx, by omega⟩
  · rintro ⟨l₁, x, l₂, rfl, hx, rfl⟩
    simp only [List.countP_append, List.countP_cons, hx, if_true]
    omega

/-- the node after the clear-free piece `e` that starts at global counter `cur`; `none` if it has fired -/
def advance (cur : Nat) (e : List Op) (nd : Node) : Option Node :=
  match nd.file with
  | none => if firedNum cur nd.number e then none else some nd
  | some f =>
    if firedLoc nd.actual nd.number (allocsAt f nd.line e) then none
    else some { nd with actual := nd.actual + allocsAt f nd.line e }

theorem advance_nil (cur : Nat) : ∀ nd, advance cur [] nd = some nd
  | ⟨_, _, _, none, _⟩ => by simp [advance, firedNum_eq, allocs_nil, firedLoc_zero]
  | ⟨_, _, _, some _, _⟩ => by simp [advance, allocsAt_nil, firedLoc_zero]

theorem advance_cons_other (cur : Nat) (op : Op) (e : List Op) (h : op.isAlloc = false) :
    advance cur (op :: e) = advance cur e := by
  have h2 : ∀ f l, op.isAllocAt f l = false := fun f l => by cases op <;> simp_all [Op.isAlloc, Op.isAllocAt]
  funext nd
  simp only [advance, firedNum_eq, allocs_cons, allocsAt_cons, h, h2]
  rfl

theorem advance_alloc (cur : Nat) (f0 : String) (l0 : Nat) (e : List Op) : ∀ nd : Node,
    advance cur (.alloc f0 l0 :: e) nd =
      if nd.fires (cur + 1) f0 l0 then none else advance (cur + 1) e (nd.visit (cur + 1) f0 l0).1
  | ⟨_, number, _, none, _⟩ => by
    simp only [advance, firedNum_eq, Node.fires, Node.visit, allocs_cons, Op.isAlloc, if_true, firedLoc_succ]
    -- where the node does not fire `simp` stops at two sides that agree after unfolding
    by_cases h : (cur : Int) + 1 = number <;> simp [h] <;> rfl
  | ⟨_, number, actual, some f', line⟩ => by
    by_cases hc : f0 = f' ∧ l0 = line
    · simp only [advance, Node.fires, Node.visit, allocsAt_cons, Op.isAllocAt, hc, and_self, decide_true, if_true,
        firedLoc_succ]
      by_cases h : (actual : Int) + 1 = number <;> simp [h, Nat.add_assoc, Nat.add_comm 1]
    · simp [advance, Node.fires, Node.visit, allocsAt_cons, Op.isAllocAt, hc]

theorem walk_kept_advance (cur : Nat) (f0 : String) (l0 : Nat) (e : List Op) (nodes : List Node) :
    (walk (cur + 1) f0 l0 nodes).1.filterMap (advance (cur + 1) e) =
      nodes.filterMap (advance cur (.alloc f0 l0 :: e)) := by
  rw [walk_eq, List.filterMap_map, List.filterMap_filter]
  congr 1
  funext nd
  rw [advance_alloc]
  cases nd.fires (cur + 1) f0 l0 <;> rfl

/-- the nodes that the designations of a piece of history leave linked at its end, most recent first: `id` = the
    next ghost id, `cur` = the global counter at its start; a location node has counted the allocations at its
    location since -/
def pendingNodes (id cur : Nat) : List Op → List Node
  | [] => []
  | .failNum n :: e =>
    pendingNodes (id + 1) cur e ++ if firedNum cur n e then [] else [⟨id, n, 0, none, 0⟩]
  | .failAt n f l :: e =>
    pendingNodes (id + 1) cur e ++ if firedAt n f l e then [] else [⟨id, n, allocsAt f l e, some f, l⟩]
  | .alloc _ _ :: e => pendingNodes id (cur + 1) e
  | _ :: e => pendingNodes id cur e

theorem run_current (e : List Op) (s : State) (hc : Op.clear ∉ e) : (run s e).current = s.current + allocs e := by
  induction e generalizing s with
  | nil => rfl
  | cons op e ih =>
    rw [run_cons, ih _ (fun h => hc (List.mem_cons_of_mem _ h)), allocs_cons]
    cases op with
    | clear => exact absurd List.mem_cons_self hc
    | alloc f l => simp only [step, allocState, Op.isAlloc, if_true]; omega
    | _ => rfl

theorem run_nodes (e : List Op) (s : State) (hc : Op.clear ∉ e) :
    (run s e).nodes = pendingNodes s.nextId s.current e ++ s.nodes.filterMap (advance s.current e) := by
  induction e generalizing s with
  | nil => simp [run, pendingNodes, funext (advance_nil s.current)]
  | cons op e ih =>
    rw [run_cons, ih (step s op) (fun h => hc (List.mem_cons_of_mem _ h))]
    cases op with
    | clear => exact absurd List.mem_cons_self hc
    | check => rw [advance_cons_other _ _ _ rfl]; rfl
    | failNum n =>
      rw [advance_cons_other _ _ _ rfl]
      simp only [step, failAllocNumber, pendingNodes, List.filterMap_cons, List.append_assoc, advance]
      cases firedNum s.current n e <;> rfl
    | failAt n f l =>
      rw [advance_cons_other _ _ _ rfl]
      simp only [step, failNthAllocAt, pendingNodes, List.filterMap_cons, List.append_assoc, advance, ← firedAt_eq,
        Nat.zero_add]
      cases firedAt n f l e <;> rfl
    | alloc f0 l0 => rw [← walk_kept_advance]; rfl

theorem pendingNodes_desig (e : List Op) (id cur : Nat) :
    (pendingNodes id cur e).map Node.desig = (unfiredFrom cur e).reverse := by
  induction e generalizing id cur with
  | nil => rfl
  | cons op e ih =>
    cases op with
    | failNum n =>
      simp only [pendingNodes, unfiredFrom, List.map_append, List.reverse_append, ih]
      cases firedNum cur n e <;> rfl
    | failAt n f l =>
      simp only [pendingNodes, unfiredFrom, List.map_append, List.reverse_append, ih]
      cases firedAt n f l e <;> rfl
    | alloc f l => exact ih id (cur + 1)
    | check => exact ih id cur
    | clear => exact ih id cur

theorem exists_mem_append_opt {α} (p : α → Prop) (l : List α) (b : Bool) (x : α) :
    (∃ a ∈ l ++ (if b then [] else [x]), p a) ↔ (∃ a ∈ l, p a) ∨ (b = false ∧ p x) := by
  cases b <;> simp [or_and_right, exists_or]

/-- among the nodes the designations of `e` leave behind, one fires at the next allocation at `(f, l)` iff that
    allocation is designated: a designation that selects it cannot have fired before -/
theorem pendingNodes_fires (f : String) (l : Nat) (e : List Op) (id cur : Nat) :
    (∃ nd ∈ pendingNodes id cur e, nd.fires (cur + allocs e + 1) f l = true) ↔
      Op.failNum ((cur + allocs e + 1 : Nat) : Int) ∈ e ∨ LocDesignated e f l := by
  induction e generalizing id cur with
  | nil => simp [pendingNodes, locDesignated_nil]
  | cons op e ih =>
    rw [locDesignated_cons, allocs_cons]
    cases op with
    | failNum n =>
      have key : (firedNum cur n e = false ∧ Node.fires ⟨id, n, 0, none, 0⟩ (cur + allocs e + 1) f l = true) ↔
          ((cur + allocs e + 1 : Nat) : Int) = n := by
        simp only [Node.fires, Node.visit, firedNum, decide_eq_false_iff_not, decide_eq_true_eq]; omega
      simp only [pendingNodes, exists_mem_append_opt, ih, Op.isAlloc, Bool.false_eq_true, if_false, Nat.add_zero, key,
        List.mem_cons, Op.failNum.injEq, reduceCtorEq, false_and, exists_false, false_or]
      exact or_right_comm.trans (or_congr_left or_comm)
    | failAt n f' l' =>
      have key : (firedAt n f' l' e = false ∧
            Node.fires ⟨id, n, allocsAt f' l' e, some f', l'⟩ (cur + allocs e + 1) f l = true) ↔
          ∃ n', Op.failAt n f' l' = Op.failAt n' f l ∧ n' = ((allocsAt f l e + 1 : Nat) : Int) := by
        simp only [Node.fires, Node.visit, firedAt, decide_eq_false_iff_not, Op.failAt.injEq]
        by_cases hc : f = f' ∧ l = l'
        · obtain ⟨rfl, rfl⟩ := hc
          simp; omega
        · simp [hc]
          rintro - rfl rfl
          exact hc ⟨rfl, rfl⟩
      simp only [pendingNodes, exists_mem_append_opt, ih, Op.isAlloc, Bool.false_eq_true, if_false, Nat.add_zero, key,
        List.mem_cons, reduceCtorEq, false_or]
      exact or_assoc.trans (or_congr_right or_comm)
    | alloc f0 l0 =>
      have e1 : cur + (allocs e + 1) + 1 = cur + 1 + allocs e + 1 := by omega
      simp only [pendingNodes, Op.isAlloc, if_true, e1, ih, List.mem_cons, reduceCtorEq, false_and, exists_false,
        false_or]
    | check => simpa [pendingNodes, Op.isAlloc] using ih id cur
    | clear => simpa [pendingNodes, Op.isAlloc] using ih id cur

/-- a run from the constructor equals a run of the epoch from a state with an empty list and
    global counter 0 (only the ghost id counter may differ) -/
theorem run_init_epoch (h : List Op) :
    ∃ s0 : State, s0.nodes = [] ∧ s0.current = 0 ∧ run init h = run s0 (epoch h) := by
  rcases epoch_spec h with ⟨h1, _⟩ | ⟨p, hp⟩
  · exact ⟨init, rfl, rfl, by rw [h1]⟩
  · refine ⟨clear (run init p), rfl, rfl, ?_⟩
    conv => lhs; rw [hp]
    rw [run_append, run_cons]; rfl

/-- the allocator after any history: the linked list holds what the designations of the epoch leave behind,
    the global counter the number of its allocations -/
theorem run_init_state (h : List Op) :
    ∃ id, (run init h).nodes = pendingNodes id 0 (epoch h) ∧ (run init h).current = allocs (epoch h) := by
  obtain ⟨s0, hn, hcur, hrun⟩ := run_init_epoch h
  refine ⟨s0.nextId, ?_, ?_⟩
  · rw [hrun, run_nodes _ _ (epoch_no_clear h), hn, hcur]
    exact List.append_nil _
  · rw [hrun, run_current _ _ (epoch_no_clear h), hcur, Nat.zero_add]

theorem check_eq (s : State) :
    check s = match (s.nodes.map Node.desig).head? with
      | none => .ok
      | some d => reportOf d := by
  unfold check
  cases hn : s.nodes with
  | nil => rfl
  | cons nd rest =>
    rcases nd with ⟨id, number, actual, file, line⟩
    cases file <;> simp [Node.desig, reportOf]

theorem check_ok_iff_nodes (s : State) : check s = .ok ↔ s.nodes = [] := by
  unfold check
  cases s.nodes with
  | nil => simp
  | cons nd _ => simp only []; split <;> simp

theorem allocFails_of_nodes_nil (s : State) (f : String) (l : Nat) (h : s.nodes = []) : allocFails s f l = false := by
  simp [allocFails, allocFired, h, walk]

theorem unfiredFrom_eq_nil (e : List Op) (b : Nat) (hd : ∀ op ∈ e, op.isDesignation = false) : unfiredFrom b e = [] := by
  induction e generalizing b with
  | nil => rfl
  | cons op e ih =>
    have := hd op List.mem_cons_self
    have ih := fun b => ih b (fun o ho => hd o (List.mem_cons_of_mem _ ho))
    cases op with
    | failNum n => cases this
    | failAt n f l => cases this
    | _ => exact ih _

theorem visit_id (nd : Node) (cur : Nat) (f : String) (l : Nat) : (nd.visit cur f l).1.id = nd.id := by
  rcases nd with ⟨id, number, actual, file, line⟩
  cases file with
  | none => simp [Node.visit]
  | some f' => simp only [Node.visit]; split <;> rfl

theorem walk_ids_perm (cur : Nat) (f : String) (l : Nat) (nodes : List Node) :
    (((walk cur f l nodes).1.map (·.id)) ++ ((walk cur f l nodes).2.map (·.id))).Perm (nodes.map (·.id)) := by
  have hid : ∀ ns : List Node, (ns.map (fun nd => (nd.visit cur f l).1)).map (·.id) = ns.map (·.id) := fun ns => by
    rw [List.map_map]; exact List.map_congr_left (fun nd _ => visit_id nd cur f l)
  rw [walk_eq, hid, hid, ← List.map_append]
  exact (List.perm_append_comm.trans (List.filter_append_perm _ _)).map _

theorem run_nextId (h : List Op) (s : State) : (run s h).nextId = s.nextId + h.countP Op.isDesignation := by
  induction h generalizing s with
  | nil => simp [run]
  | cons op h ih =>
    rw [run_cons, ih, List.countP_cons]
    cases op <;> simp [step, failAllocNumber, failNthAllocAt, allocState, clear, Op.isDesignation] <;> omega

/-- `a` in front of the ids and the range above it, or the ids and the range that starts at `a`: the same up to order
    (a designation step of `conservation`: the new node takes the next id) -/
theorem perm_cons_range' {L ids : List Nat} {a N : Nat} (hm : a + 1 ≤ N)
    (ih : L.Perm ((a :: ids) ++ List.range' (a + 1) (N - (a + 1)))) : L.Perm (ids ++ List.range' a (N - a)) := by
  have : N - a = (N - (a + 1)) + 1 := by omega
  rw [this, List.range'_succ]
  exact ih.trans List.perm_middle.symm

theorem conservation : ∀ (h : List Op) (s : State),
    (((run s h).nodes.map (·.id)) ++ firedIds s h ++ clearedIds s h).Perm
      (s.nodes.map (·.id) ++ List.range' s.nextId ((run s h).nextId - s.nextId)) := by
  intro h
  induction h with
  | nil => intro s; simp [run, firedIds, clearedIds]
  | cons op h ih =>
    intro s
    have ih := ih (step s op)
    have hm : (step s op).nextId ≤ (run (step s op) h).nextId := by rw [run_nextId]; omega
    rw [run_cons]
    cases op with
    | check => exact ih
    | failNum n => exact perm_cons_range' hm ih
    | failAt n f l => exact perm_cons_range' hm ih
    | alloc f l =>
      apply List.perm_iff_count.mpr; intro x
      have ihc := ih.count_eq x
      have hw := (walk_ids_perm (s.current + 1) f l s.nodes).count_eq x
      simp only [firedIds, clearedIds, step, allocState, allocFired, List.count_append] at ihc hw ⊢
      omega
    | clear =>
      apply List.perm_iff_count.mpr; intro x
      have ihc := ih.count_eq x
      simp only [firedIds, clearedIds, step, clear, clearFreed, List.count_append, List.map_nil, List.count_nil] at ihc ⊢
      omega

open Gen.Failable

theorem countdown_idle (c : CState) (h : c.counter ≤ -1) : countdown c = c := by
  unfold countdown; rw [if_pos (by simpa [noCountdown] using h)]

theorem countdown_zero (c : CState) (h : c.counter = 0) : countdown c = c := by
  unfold countdown
  rw [if_neg (by simp [noCountdown]; omega), if_pos (by simpa [outOfMemory] using h)]

theorem countdown_one (c : CState) (h : c.counter = 1) :
    countdown c = setOutOfMemory { c with counter := 0 } := by
  unfold countdown
  rw [if_neg (by simp [noCountdown]; omega), if_neg (by simp [outOfMemory]; omega),
    if_pos (by simp [outOfMemory]; omega)]
  simp [h]

theorem countdown_big (c : CState) (h : 2 ≤ c.counter) :
    countdown c = { c with counter := c.counter - 1 } := by
  unfold countdown
  rw [if_neg (by simp [noCountdown]; omega), if_neg (by simp [outOfMemory]; omega),
    if_neg (by simp [outOfMemory]; omega)]

theorem mallocNull_afterMallocs (c : CState) (k : Nat) :
    mallocNull (afterMallocs c k) = decide ((afterMallocs c (k + 1)).cur = .null) := rfl

/-- the state `k` allocating calls after a countdown was set while nothing was simulated: the counter runs down
    and the installed allocator stays current until the countdown expires; from then on the counter is 0, the
    null allocator is current and the installed one is the saved one.  A negative countdown never expires. -/
theorem afterMallocs_setCountdown (c : CState) (hc : c.orig = none) (n : Int) (k : Nat) :
    afterMallocs (setCountdown c n) k =
      if 0 ≤ n ∧ n ≤ (k : Int) then { counter := 0, count := c.count + k, cur := .null, orig := some c.cur }
      else { c with counter := if n < 0 then n else n - k, count := c.count + k } := by
  induction k with
  | zero =>
    unfold afterMallocs setCountdown
    by_cases h0 : n = 0
    · subst h0; simp [setOutOfMemory, outOfMemory, hc]
    · rw [if_neg (by simpa [outOfMemory] using h0), if_neg (by omega)]
      simp
  | succ k ih =>
    rw [afterMallocs, ih, mallocState]
    -- where `n` stands: expired before this call, never expires, expires at this call, still running
    by_cases h1 : 0 ≤ n ∧ n ≤ (k : Int)
    · rw [if_pos h1, if_pos (by omega), countdown_zero _ rfl]
      simp only [Nat.add_assoc]
    · rw [if_neg h1]
      by_cases h2 : n < 0
      · rw [if_pos h2, if_neg (by omega), countdown_idle _ (by simp; omega), if_pos h2]
        simp only [Nat.add_assoc]
      · rw [if_neg h2]
        by_cases h3 : n = k + 1
        · rw [countdown_one _ (by simp; omega), if_pos (by omega)]
          simp [setOutOfMemory, hc, Nat.add_assoc]
        · rw [countdown_big _ (by simp; omega), if_neg (by omega), if_neg h2]
          simp [Nat.add_assoc]; omega

theorem cinv_setOutOfMemory (c : CState) (h : CInv c) : CInv (setOutOfMemory c) := by
  rcases h with ⟨a, b⟩ | ⟨a, b⟩ <;> right <;> simp [setOutOfMemory, a, b]

theorem cinv_counter (c : CState) (n : Int) (h : CInv c) : CInv { c with counter := n } := h

theorem cinv_countdown (c : CState) (h : CInv c) : CInv (countdown c) := by
  unfold countdown
  split
  · exact h
  · split
    · exact h
    · split
      · exact cinv_setOutOfMemory _ h
      · exact h

theorem cinv_step (c : CState) (op : COp) (h : CInv c) : CInv (cstep c op) := by
  cases op with
  | setCountdown n =>
    simp only [cstep, setCountdown]
    split
    · exact cinv_setOutOfMemory _ h
    · exact h
  | setOOM => exact cinv_setOutOfMemory c h
  | setNotOOM =>
    rcases h with ⟨a, b⟩ | ⟨a, b⟩ <;> left <;> simp [cstep, setNotOutOfMemory, a]
  | malloc | strdup s | strndup s n => exact cinv_countdown c h
  | calloc a b =>
    simp only [cstep, calloc]
    split
    · exact h
    · exact cinv_countdown c h
  | _ => exact h

theorem cinv_run (ops : List COp) (c : CState) (h : CInv c) : CInv (crun c ops) :=
  List.foldlRecOn ops cstep h fun c h op _ => cinv_step c op h

/-- `countdown()` does not read `malloc_count`: the two statements of `cpputest_malloc_location` commute -/
theorem countdown_count_comm (c : CState) (k : Nat) :
    countdown { c with count := k } = { countdown c with count := k } := by
  unfold countdown setOutOfMemory
  split
  · rfl
  · split
    · rfl
    · split <;> rfl

theorem countdown_count (c : CState) : (countdown c).count = c.count :=
  (congrArg CState.count (countdown_count_comm c c.count) :)

theorem cstep_count (c : CState) (op : COp) :
    (cstep c op).count =
      match op with
      | .countReset => 0
      | op => if op.allocating then c.count + 1 else c.count := by
  cases op with
  | setCountdown n => simp only [cstep, setCountdown, COp.allocating]; split <;> rfl
  | malloc | strdup s | strndup s n => simp [cstep, strdup, strndup, mallocState, countdown_count, COp.allocating]
  | calloc a b =>
    simp only [cstep, calloc, COp.allocating]
    by_cases h : callocOverflows a b = true
    · simp [h]
    · simp [h, mallocState, countdown_count]
  | _ => rfl

theorem familyForm_mem (fam form : String) (h : familyForm fam = some form) : form ∈ newForms := by
  unfold familyForm at h
  split at h <;> simp_all [newForms]

/-- the regenerated table `newThrowsOnNull` says of the function behind every form, in both overload modes, what C++
    promises for the form -/
theorem throwsOnNull_table (form : String) (hf : form ∈ newForms) :
    (lookupS ("mem_leak_" ++ form) newThrowsOnNull).getD false = formThrowsSpec form ∧
    (lookupS ("threadsafe_mem_leak_" ++ form) newThrowsOnNull).getD false = formThrowsSpec form := by
  revert form
  decide +kernel

end Failable
