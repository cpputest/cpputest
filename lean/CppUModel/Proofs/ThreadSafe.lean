import CppUModel.Spec.ThreadSafe
import CppUModel.Proofs.ListLemmas
/-!
C10 helper lemmas on the detector table and on schedules.  The table is an association list with distinct live ids; a
release and a reallocation are equations over the release check (`released`), so what a step needs and what it leaves
is read off `lookup`; a step of the table and a step of one thread each neither forget nor invent a block; a schedule is
seen thread by thread through `proj`.
-/
namespace ThreadSafe

/-! ## the table -/

theorem lookup_eq_find (d : Det) (id : Nat) : lookup d id = (d.find? fun p => p.1 == id).map (·.2) := by
  induction d with
  | nil => rfl
  | cons p d ih =>
    have hb : (p.1 == id) = decide (p.1 = id) := rfl
    rw [lookup, List.find?_cons, ih, hb]; by_cases h : p.1 = id <;> simp [h]

theorem remove_eq_eraseP (d : Det) (id : Nat) : remove d id = d.eraseP fun p => p.1 == id := by
  induction d with
  | nil => rfl
  | cons p d ih =>
    have hb : (p.1 == id) = decide (p.1 = id) := rfl
    rw [remove, List.eraseP_cons, ih, hb]; by_cases h : p.1 = id <;> simp [h]

theorem lookup_cons (d : Det) (i j : Nat) (k : Kind) :
    lookup ((i, k) :: d) j = if j = i then some k else lookup d j := by
  by_cases h : j = i
  · subst h; simp [lookup]
  · simp [lookup, h, Ne.symm h]

theorem lookup_eq_none_iff (d : Det) (id : Nat) : lookup d id = none ↔ id ∉ ids d := by
  rw [lookup_eq_find, Option.map_eq_none_iff, List.find?_eq_none, ids, List.mem_map]
  exact ⟨fun h ⟨p, hp, e⟩ => h p hp (beq_iff_eq.mpr e), fun h p hp e => h ⟨p, hp, eq_of_beq e⟩⟩

theorem lookup_none_not_mem {d : Det} {id : Nat} (h : lookup d id = none) : id ∉ ids d :=
  (lookup_eq_none_iff d id).mp h

theorem perm_remove {d : Det} {id : Nat} {k : Kind} (h : lookup d id = some k) :
    d.Perm ((id, k) :: remove d id) := by
  rw [lookup_eq_find] at h
  obtain ⟨⟨i, k⟩, hp, rfl⟩ := Option.map_eq_some_iff.mp h
  obtain rfl : i = id := eq_of_beq (List.find?_some (p := fun p : Nat × Kind => p.1 == id) hp)
  exact remove_eq_eraseP d i ▸ ListLemmas.perm_cons_eraseP hp

theorem lookup_some_mem {d : Det} {id : Nat} {k : Kind} (h : lookup d id = some k) : (id, k) ∈ d :=
  (perm_remove h).symm.subset (List.mem_cons_self ..)

theorem remove_absent {d : Det} {i : Nat} (h : lookup d i = none) : remove d i = d :=
  remove_eq_eraseP d i ▸ List.eraseP_of_forall_not fun p hp e =>
    lookup_none_not_mem h (List.mem_map.mpr ⟨p, hp, eq_of_beq e⟩)

theorem nodup_ids_remove {d : Det} (id : Nat) (h : (ids d).Nodup) : (ids (remove d id)).Nodup :=
  ((remove_eq_eraseP d id ▸ List.eraseP_sublist).map _).nodup h

/-- the first block with the address is the only one when live ids are distinct -/
theorem lookup_remove {d : Det} (hn : (ids d).Nodup) (i j : Nat) :
    lookup (remove d i) j = if j = i then none else lookup d j := by
  rw [lookup_eq_find, remove_eq_eraseP, ListLemmas.find?_key_eraseP Prod.fst hn, lookup_eq_find]
  split <;> rfl

theorem mem_ids_remove (d : Det) (hn : (ids d).Nodup) (i x : Nat) :
    x ∈ ids (remove d i) ↔ (x ∈ ids d ∧ x ≠ i) := by
  have mem_iff : ∀ e : Det, x ∈ ids e ↔ lookup e x ≠ none := fun e => by
    rw [Ne, lookup_eq_none_iff, Decidable.not_not]
  rw [mem_iff, mem_iff, lookup_remove hn]
  split <;> simp [*]

theorem mem_lookup_of_nodup {d : Det} {id : Nat} {k : Kind} (hn : (ids d).Nodup) (h : (id, k) ∈ d) :
    lookup d id = some k := by
  rw [lookup_eq_find, ListLemmas.find?_key_of_nodup Prod.fst hn h]; rfl

/-! ## conservation of one operation -/

/-- how the release check of `deallocMemory` / `reallocMemory` ends for the block at `id`, the lookup included -/
def released (d : Det) (id : Nat) (k : Kind) (c : Bool) : Outcome :=
  match lookup d id with
  | none => .misuse
  | some st => checkRelease st k c

theorem released_normal_iff {d : Det} {id : Nat} {k : Kind} {c : Bool} :
    released d id k c = .normal ↔ lookup d id = some k ∧ c = false := by
  unfold released checkRelease
  cases lookup d id with
  | none => simp
  | some st => by_cases hk : st = k <;> cases c <;> simp [hk]

theorem body_free_eq (d : Det) (id : Nat) (k : Kind) (c : Bool) :
    body (.free id k c) d = (remove d id, released d id k c) := by
  simp only [body, released]
  cases hl : lookup d id with
  | none => simp [freeFound, remove_absent hl]
  | some st => rfl

theorem body_realloc_eq (d : Det) (old new : Nat) (c : Bool) :
    body (.realloc old new c) d =
      (if released d old .malloc c = .normal then (new, .malloc) :: remove d old else remove d old,
       released d old .malloc c) := by
  cases hl : lookup d old with
  | none => simp [body, released, hl, reallocFound, remove_absent hl]
  | some st => simp only [body, released, hl, reallocFound]; cases checkRelease st .malloc c <;> simp [reallocChecked]

theorem step_conservation (op : DetOp) (d : Det) (h : (body op d).2 = .normal) :
    ((body op d).1 ++ freedOf (.det op)).Perm (d ++ allocdOf (.det op)) := by
  cases op with
  | alloc id k =>
    simp only [body, freedOf, allocdOf, List.append_nil]
    exact (List.perm_append_singleton _ _).symm
  | free id k c =>
    rw [body_free_eq] at h ⊢
    simp only [freedOf, allocdOf, List.append_nil]
    exact (List.perm_append_singleton _ _).trans (perm_remove (released_normal_iff.mp h).1).symm
  | realloc old new c =>
    rw [body_realloc_eq] at h ⊢
    simp only [if_pos h, freedOf, allocdOf]
    rw [List.perm_iff_count]; intro x
    have := (perm_remove (released_normal_iff.mp h).1).count_eq x
    simp [List.count_append, List.count_cons] at this ⊢
    omega

theorem stepOk_normal {op : DetOp} {d : Det} (h : stepOk op d = true) : (body op d).2 = .normal := by
  simp only [stepOk, Bool.and_eq_true, beq_iff_eq] at h
  exact h.2

theorem stepOk_iff (op : DetOp) (d : Det) : stepOk op d = true ↔
    match op with
    | .alloc i _ => lookup d i = none
    | .free i k c => lookup d i = some k ∧ c = false
    | .realloc o n c => lookup (remove d o) n = none ∧ lookup d o = some .malloc ∧ c = false := by
  cases op with
  | alloc i k => simp [stepOk, fresh, body, lookup_eq_none_iff]
  | free i k c => simp [stepOk, fresh, body_free_eq, released_normal_iff]
  | realloc o n c => simp [stepOk, fresh, body_realloc_eq, released_normal_iff, lookup_eq_none_iff]

/-! ## what one thread holds -/

theorem hold_step_conservation (o : List (Nat × Kind)) (op : TOp) (h : opOwned o op = true) :
    (holdStep o op ++ freedOf op ++ givenOf op).Perm (o ++ allocdOf op ++ takenOf op) := by
  cases op with
  | det d =>
    cases d with
    | alloc id k =>
      simpa [holdStep, freedOf, givenOf, allocdOf, takenOf] using (List.perm_append_singleton (id, k) o).symm
    | free id k c => simpa [holdStep, freedOf, givenOf, allocdOf, takenOf] using ListLemmas.erase_append_perm h
    | realloc old new c =>
      simpa [holdStep, freedOf, givenOf, allocdOf, takenOf] using
        ((ListLemmas.erase_append_perm h).cons (new, Kind.malloc)).trans (List.perm_append_singleton _ _).symm
  | give id k to => simpa [holdStep, freedOf, givenOf, allocdOf, takenOf] using ListLemmas.erase_append_perm h
  | take id k =>
    simpa [holdStep, freedOf, givenOf, allocdOf, takenOf] using (List.perm_append_singleton (id, k) o).symm

/-! ## the projection of a schedule to a thread; the schedule that runs the threads one after another -/

theorem proj_cons (t u : Nat) (op : TOp) (es : List Event) :
    proj t ((u, op) :: es) = if u = t then op :: proj t es else proj t es := rfl

theorem proj_append (t : Nat) (a b : List Event) : proj t (a ++ b) = proj t a ++ proj t b := by
  induction a with
  | nil => rfl
  | cons e a ih =>
    obtain ⟨u, op⟩ := e
    simp only [List.cons_append, proj, ih]
    split <;> simp

theorem proj_map (t u : Nat) (ops : List TOp) :
    proj t (ops.map (fun op => (u, op))) = if u = t then ops else [] := by
  induction ops with
  | nil => simp [proj]
  | cons op ops ih => by_cases h : u = t <;> simp_all [proj]

theorem proj_sequential : ∀ (ts : List (List TOp)) (k t : Nat),
    proj t (sequential ts k) = if k ≤ t then ts.getD (t - k) [] else []
  | [], k, t => by simp [sequential, proj]
  | ops :: rest, k, t => by
    simp only [sequential, proj_append, proj_map, proj_sequential rest (k + 1) t]
    -- thread `t` comes after the first script (`k < t`), is its thread (`k = t`), or is none of those from `k` on
    rcases Nat.lt_trichotomy k t with h | rfl | h
    · have h3 : t - k = (t - (k + 1)) + 1 := by omega
      simp [Nat.ne_of_lt h, Nat.succ_le_of_lt h, Nat.le_of_lt h, h3]
    · simp [Nat.not_succ_le_self]
    · have h1 : ¬ k + 1 ≤ t := by omega
      simp [Nat.ne_of_gt h, Nat.not_le_of_gt h, h1]

theorem mem_sequential_lt : ∀ (ts : List (List TOp)) (k : Nat) (e : Event),
    e ∈ sequential ts k → e.1 < k + ts.length
  | [], _, e, h => by simp [sequential] at h
  | ops :: rest, k, e, h => by
    simp only [sequential, List.mem_append, List.mem_map] at h
    rcases h with ⟨op, _, rfl⟩ | h
    · simp
    · have := mem_sequential_lt rest (k + 1) e h
      simp only [List.length_cons]; omega

theorem unionHeld_of_interleaving (ts : List (List TOp)) (sched : List Event) (h : IsInterleaving sched ts) :
    unionHeld ts.length sched = (List.range ts.length).flatMap (fun t => holds (ts.getD t []) []) :=
  ListLemmas.flatMap_range_congr fun t ht => by
    rw [h.2 t ht, List.getD_eq_getElem?_getD, List.getElem?_eq_getElem ht]; rfl

end ThreadSafe
