import CppUModel.Proofs.OutputEvents
import CppUModel.Proofs.JUnit
/-!
The structured view of a written file (`reportOf`) and what holds of it along ANY event list: the file bytes are its
rendering, the counters agree with the node list, the file name is the specified one, the captured output is everything printed.
-/
namespace JUnit
open Text (Bytes)
open OutEv

/-- the decoded `message` of a failure element: `file:line: message` -/
def failureMessage (f : Failure) : Bytes :=
  f.file ++ lit ":" ++ fmtInt (castInt f.line) ++ lit ": " ++ f.message

def caseOf (package group : Bytes) (total : Nat) (n : Node) : Case :=
  { classname := package ++ (if package.isEmpty then [] else lit ".") ++ group
    name := n.name
    assertions := castInt ((n.checkCount : Int) - (total : Int))
    secs := castInt (n.execTime / 1000 : Nat)
    millis := n.execTime % 1000
    file := n.file
    line := castInt n.line
    failure := n.failure.map failureMessage
    skipped := n.ignored }

def casesOf (package group : Bytes) : Nat → List Node → List Case
  | _, [] => []
  | total, n :: rest => caseOf package group total n :: casesOf package group n.checkCount rest

def suiteOf (s : St) : Suite :=
  { failures := castInt s.failureCount
    name := s.group
    tests := castInt s.testCount
    secs := castInt (s.groupExecTime / 1000 : Nat)
    millis := s.groupExecTime % 1000
    timestamp := s.timeString
    cases := casesOf s.package s.group s.totalCheckCount s.nodesRev.reverse
    stdout := s.stdOutput }

theorem fmtInt_eq_showInt (z : Int) : fmtInt z = showInt z := rfl

theorem fmtTime_eq_showTime (ms : Nat) : fmtTime ms = showTime (castInt (ms / 1000 : Nat)) (ms % 1000) := rfl

theorem encode_failureMessage (f : Failure) :
    encodeRef (failureMessage f) =
      encodeRef f.file ++ lit ":" ++ fmtInt (castInt f.line) ++ lit ": " ++ encodeRef f.message := by
  unfold failureMessage
  have h1 : encodeRef (lit ":") = lit ":" := encodeRef_plain _ (by decide)
  have h2 : encodeRef (lit ": ") = lit ": " := encodeRef_plain _ (by decide)
  simp only [encodeRef_append, h1, h2, encodeRef_plain _ (fmtInt_plain _)]

theorem encode_classname (package group : Bytes) :
    encodeRef (package ++ (if package.isEmpty then [] else lit ".") ++ group) =
      encodeRef package ++ (if package.isEmpty then [] else lit ".") ++ encodeRef group := by
  have h1 : encodeRef (lit ".") = lit "." := encodeRef_plain _ (by decide)
  simp only [encodeRef_append]
  split <;> simp [h1, encodeRef_nil]

theorem castInt_small (n : Nat) (h : n < 2147483648) : castInt (n : Int) = (n : Int) := by
  unfold castInt
  have h1 : (n : Int) % 4294967296 = n := by omega
  rw [h1]
  split
  · rfl
  · omega

theorem zeroPad3_dec (n : Nat) (h : n < 1000) : zeroPad 3 (dec n) = pad3 n := by
  have h0 : digit 0 = 48 := rfl
  unfold pad3
  by_cases h1 : n < 10
  · rw [dec_lt h1, show n / 100 = 0 by omega, show n / 10 = 0 by omega, h0]; rfl
  · rw [dec_ge (by omega)]
    by_cases h2 : n < 100
    · rw [dec_lt (by omega), show n / 100 = 0 by omega, h0]; rfl
    · rw [dec_ge (by omega), dec_lt (by omega), show n / 10 / 10 = n / 100 by omega]; rfl

theorem fmtPad3_millis (ms : Nat) : fmtPad 3 (castInt ((ms % 1000 : Nat) : Int)) = pad3 (ms % 1000) := by
  have hlt : ms % 1000 < 1000 := Nat.mod_lt _ (by decide)
  rw [castInt_small _ (by omega)]
  unfold fmtPad
  have : ¬ ((ms % 1000 : Nat) : Int) < 0 := by omega
  rw [if_neg this]
  simp only [Int.natAbs_natCast]
  exact zeroPad3_dec _ hlt

theorem lit_empty : lit "" = [] := by decide

theorem showTime_eq (secs : Int) (m : Nat) : showTime secs m = showInt secs ++ lit "." ++ pad3 m := by
  have : lit "." = [46] := by decide
  rw [this]; rfl

theorem testCase_renders (s : St) (total : Nat) (n : Node) :
    testCase s total n = (caseOf s.package s.group total n).render := by
  simp only [testCase, interp, Gen.JUnitTemplates.caseOpen, Gen.JUnitTemplates.caseSkipped, Gen.JUnitTemplates.caseClose,
    Gen.JUnitTemplates.failureElem, List.flatMap_cons, List.flatMap_nil, itemBytes, evalField, evalNum, evalN,
    List.append_nil, Case.render, caseOf, encode_classname, fmtInt_eq_showInt, encodeXmlText_eq_ref, fmtPad3_millis,
    showTime_eq, lit_empty]
  cases hf : n.failure with
  | none => simp only [Option.map_none, List.append_assoc]; split <;> rfl
  | some f =>
    simp only [Option.map_some, encode_failureMessage, fmtInt_eq_showInt, List.append_assoc]

theorem testCases_renders (s : St) : ∀ (nodes : List Node) (total : Nat),
    testCases s total nodes = (casesOf s.package s.group total nodes).flatMap Case.render
  | [], _ => rfl
  | n :: rest, total => by
    simp [testCases, casesOf, testCase_renders, testCases_renders s rest]

theorem fileBytes_renders (s : St) : fileBytes s = (suiteOf s).render := by
  simp only [fileBytes, Gen.JUnitTemplates.groupFile, sectionBytes, interp, Gen.JUnitTemplates.xmlHeader,
    Gen.JUnitTemplates.suiteSummary, Gen.JUnitTemplates.properties, Gen.JUnitTemplates.fileEnding, List.flatMap_cons,
    List.flatMap_nil, itemBytes, evalField, evalNum, evalN, Ctx.ofSt, fmtInt_eq_showInt, encodeXmlText_eq_ref,
    fmtPad3_millis, testCases_renders, List.append_nil]
  unfold Suite.render suiteOf
  simp only [showTime_eq, List.append_assoc]

@[simp] theorem reset_eq (s : St) : reset s = { s with testCount := 0, failureCount := 0, group := [], nodesRev := [] } := rfl

@[simp] theorem groupEnded_eq (s : St) (ms : Nat) :
    groupEnded s ms = (onGroupEnded s ms, [writeGroup { s with groupExecTime := ms }]) := rfl

def reportOf (s : St) : Bytes × Suite := (createFileName s.package s.group, suiteOf s)

def reportsOf (s : St) : Ev → List (Bytes × Suite)
  | .groupEnded ms => if s.crashed then [] else [reportOf { s with groupExecTime := ms }]
  | _ => []

def rstep (s : St) (e : Ev) : St × List (Bytes × Suite) := ((step s e).1, reportsOf s e)

def toFile (r : Bytes × Suite) : File := { name := r.1, bytes := r.2.render }

theorem step_files (s : St) (e : Ev) : (step s e).2 = (reportsOf s e).map toFile := by
  unfold step reportsOf
  cases hc : s.crashed
  · cases e <;> simp [toFile, reportOf, writeGroup, fileBytes_renders, groupEnded_eq, hc]
  · cases e <;> simp

theorem fold_files (evs : List Ev) (s : St) :
    foldEvents step s evs = ((foldEvents rstep s evs).1, (foldEvents rstep s evs).2.map toFile) :=
  foldEvents_sim id (List.map toFile) rfl (fun _ _ => List.map_append)
    (fun s e => Prod.ext rfl (step_files s e)) evs s

def reportsFrom (s : St) (evs : List Ev) : List (Bytes × Suite) := (foldEvents rstep s evs).2
def stFrom (s : St) (evs : List Ev) : St := (foldEvents rstep s evs).1

theorem reportsFrom_nil (s : St) : reportsFrom s [] = [] := rfl
theorem stFrom_nil (s : St) : stFrom s [] = s := rfl
theorem reportsFrom_cons (s : St) (e : Ev) (es : List Ev) :
    reportsFrom s (e :: es) = reportsOf s e ++ reportsFrom (step s e).1 es := rfl
theorem stFrom_cons (s : St) (e : Ev) (es : List Ev) : stFrom s (e :: es) = stFrom (step s e).1 es := rfl
theorem reportsFrom_append (s : St) (a b : List Ev) :
    reportsFrom s (a ++ b) = reportsFrom s a ++ reportsFrom (stFrom s a) b := by
  simp [reportsFrom, stFrom, foldEvents_append]
theorem stFrom_append (s : St) (a b : List Ev) : stFrom s (a ++ b) = stFrom (stFrom s a) b := by
  simp [stFrom, foldEvents_append]

/-- every report of an event list is written from a collector state that satisfies whatever the steps preserve -/
theorem reportsFrom_inv (I : St → Prop) (hstep : ∀ s e, I s → I (step s e).1) :
    ∀ (evs : List Ev) (s : St), I s → ∀ r ∈ reportsFrom s evs, ∃ s' ms, I s' ∧ r = reportOf { s' with groupExecTime := ms }
  | [], _, _, _, hr => nomatch hr
  | e :: es, s, hs, r, hr => by
    rw [reportsFrom_cons, List.mem_append] at hr
    rcases hr with hr | hr
    · cases e <;> simp only [reportsOf, List.not_mem_nil] at hr
      case groupEnded ms =>
        split at hr
        · cases hr
        · exact ⟨s, ms, hs, List.mem_singleton.mp hr⟩
    · exact reportsFrom_inv I hstep es _ (hstep s e hs) r hr

def failedNodes (ns : List Node) : Nat := (ns.filter fun n => n.failure.isSome).length

def CountsOk (s : St) : Prop :=
  s.testCount = s.nodesRev.length ∧ s.failureCount = failedNodes s.nodesRev

theorem casesOf_proj {κ : Type} (ck : Case → κ) (nk : Node → κ) (hcn : ∀ p g t n, ck (caseOf p g t n) = nk n)
    (p g : Bytes) : ∀ (ns : List Node) (t : Nat), (casesOf p g t ns).map ck = ns.map nk
  | [], _ => rfl
  | n :: rest, t => by simp [casesOf, casesOf_proj ck nk hcn p g rest, hcn]

theorem casesOf_length (p g : Bytes) (ns : List Node) (t : Nat) : (casesOf p g t ns).length = ns.length := by
  simpa using congrArg List.length (casesOf_proj (fun _ => ()) (fun _ => ()) (fun _ _ _ _ => rfl) p g ns t)

theorem casesOf_millis (p g : Bytes) (ns : List Node) (t : Nat) : ∀ c ∈ casesOf p g t ns, c.millis < 1000 := by
  intro c hc
  have hm : c.millis ∈ (casesOf p g t ns).map Case.millis := List.mem_map_of_mem hc
  rw [casesOf_proj Case.millis (fun n => n.execTime % 1000) (fun _ _ _ _ => rfl)] at hm
  obtain ⟨n, _, hn⟩ := List.mem_map.mp hm
  exact hn ▸ Nat.mod_lt _ (by decide)

theorem casesOf_failed (p g : Bytes) (ns : List Node) (t : Nat) :
    ((casesOf p g t ns).filter fun c => c.failure.isSome).length = failedNodes ns := by
  have h := congrArg (List.countP id) (casesOf_proj (fun c => c.failure.isSome) (fun n => n.failure.isSome)
    (fun _ _ _ _ => by simp [caseOf]) p g ns t)
  rw [failedNodes, ← List.countP_eq_length_filter, ← List.countP_eq_length_filter]
  simpa [List.countP_map, Function.comp_def] using h

theorem failedNodes_reverse (ns : List Node) : failedNodes ns.reverse = failedNodes ns := by
  simp [failedNodes, List.filter_reverse]

/-- the node after a failure has been reported for it: only the first one is kept -/
def mergeFailure (n : Node) (f : Option Failure) : Node :=
  match n.failure with
  | some _ => n
  | none => { n with failure := f }

def failInc (n : Node) (f : Option Failure) : Nat :=
  match n.failure, f with
  | none, some _ => 1
  | _, _ => 0

theorem mergeFailure_none (n : Node) : mergeFailure n none = n := by
  unfold mergeFailure
  cases h : n.failure with
  | none => cases n; simp_all
  | some f => rfl

theorem failInc_none (n : Node) : failInc n none = 0 := by
  unfold failInc; cases n.failure <;> rfl

theorem mergeFailure_merge (n : Node) (f : Failure) (g : Option Failure) :
    mergeFailure (mergeFailure n (some f)) g = mergeFailure n (some f) ∧ failInc (mergeFailure n (some f)) g = 0 := by
  cases h : n.failure <;> simp [mergeFailure, failInc, h]

theorem failedNodes_cons (n : Node) (rest : List Node) :
    failedNodes (n :: rest) = (if n.failure.isSome then 1 else 0) + failedNodes rest := by
  unfold failedNodes; rw [List.filter_cons]; split <;> simp <;> omega

theorem failedNodes_merge (n : Node) (f : Failure) (rest : List Node) :
    failedNodes (mergeFailure n (some f) :: rest) = failedNodes (n :: rest) + failInc n (some f) := by
  cases h : n.failure <;> simp [failedNodes, mergeFailure, failInc, h]

theorem onFailure_nil {s : St} (h : s.nodesRev = []) (f : Failure) : onFailure s f = { s with crashed := true } := by
  simp [onFailure, h]

theorem onFailure_cons {s : St} {n : Node} {rest : List Node} (h : s.nodesRev = n :: rest) (f : Failure) :
    onFailure s f =
      { s with failureCount := s.failureCount + failInc n (some f), nodesRev := mergeFailure n (some f) :: rest } := by
  cases s
  cases hf : n.failure <;> simp_all [onFailure, failInc, mergeFailure]

theorem onTestEnded_nil {s : St} (h : s.nodesRev = []) (ms c : Nat) : onTestEnded s ms c = { s with crashed := true } := by
  simp [onTestEnded, h]

theorem onTestEnded_cons {s : St} {n : Node} {rest : List Node} (h : s.nodesRev = n :: rest) (ms c : Nat) :
    onTestEnded s ms c = { s with nodesRev := { n with execTime := ms, checkCount := c } :: rest } := by
  simp [onTestEnded, h]

theorem onFailure_frame (s : St) (f : Failure) :
    ∃ fc ns cr, onFailure s f = { s with failureCount := fc, nodesRev := ns, crashed := cr } := by
  unfold onFailure
  split
  · exact ⟨_, _, _, rfl⟩
  · split <;> exact ⟨_, _, _, rfl⟩

theorem onTestEnded_frame (s : St) (ms c : Nat) :
    ∃ ns cr, onTestEnded s ms c = { s with nodesRev := ns, crashed := cr } := by
  unfold onTestEnded
  split <;> exact ⟨_, _, rfl⟩

theorem step_of_crashed {s : St} (hc : s.crashed = true) (e : Ev) : step s e = (s, []) := by
  simp [step, hc]

theorem step_of_not_crashed {s : St} (hc : s.crashed = false) (e : Ev) :
    step s e =
      match e with
      | .testRun _ n => ({ s with stdOutput := s.stdOutput ++ testRunText n }, [])
      | .testStarted t => (onTestStarted s t, [])
      | .print text => ({ s with stdOutput := s.stdOutput ++ text }, [])
      | .failure f => (onFailure s f, [])
      | .testEnded ms checks => (onTestEnded s ms checks, [])
      | .groupEnded ms => (onGroupEnded s ms, [writeGroup { s with groupExecTime := ms }])
      | _ => (s, []) := by
  cases e <;> simp [step, hc]

/-- only three events move what `CountsOk` counts: a test start adds a node without failure, a first failure adds one to
    both sides (`failedNodes_merge`), a group end clears both -/
theorem countsOk_step (s : St) (e : Ev) (h : CountsOk s) : CountsOk (step s e).1 := by
  cases hc : s.crashed
  · obtain ⟨h1, h2⟩ := h
    cases e <;> simp only [step_of_not_crashed hc]
    case testStarted t => exact ⟨congrArg (· + 1) h1, h2⟩
    case failure f =>
      cases hn : s.nodesRev with
      | nil => rw [onFailure_nil hn]; exact ⟨h1, h2⟩
      | cons n rest =>
        rw [onFailure_cons hn]
        rw [hn] at h1 h2
        exact ⟨h1, by show _ = failedNodes (_ :: rest); rw [failedNodes_merge, ← h2]⟩
    case testEnded ms c =>
      cases hn : s.nodesRev with
      | nil => rw [onTestEnded_nil hn]; exact ⟨h1, h2⟩
      | cons n rest =>
        rw [onTestEnded_cons hn]
        rw [hn] at h1 h2
        exact ⟨h1, by rw [failedNodes_cons] at h2 ⊢; exact h2⟩
    case groupEnded ms => exact ⟨rfl, rfl⟩
    all_goals exact ⟨h1, h2⟩
  · rw [step_of_crashed hc]; exact h

theorem step_inputs (s : St) (e : Ev) :
    (step s e).1.timeString = s.timeString ∧ (step s e).1.package = s.package := by
  cases hc : s.crashed
  · rw [step_of_not_crashed hc]
    cases e with
    | failure f =>
      obtain ⟨_, _, _, h⟩ := onFailure_frame s f
      show (onFailure s f).timeString = _ ∧ (onFailure s f).package = _
      rw [h]; exact ⟨rfl, rfl⟩
    | testEnded ms c =>
      obtain ⟨_, _, h⟩ := onTestEnded_frame s ms c
      show (onTestEnded s ms c).timeString = _ ∧ (onTestEnded s ms c).package = _
      rw [h]; exact ⟨rfl, rfl⟩
    | _ => exact ⟨rfl, rfl⟩
  · rw [step_of_crashed hc]; exact ⟨rfl, rfl⟩

theorem stFrom_package : ∀ (evs : List Ev) (s : St), (stFrom s evs).package = s.package
  | [], _ => rfl
  | e :: es, s => by rw [stFrom_cons, stFrom_package es, (step_inputs s e).2]

theorem reportOf_counts (s : St) (h : CountsOk s) :
    (reportOf s).2.tests = castInt (reportOf s).2.cases.length ∧
    (reportOf s).2.failures = castInt ((reportOf s).2.cases.filter fun c => c.failure.isSome).length := by
  simp [reportOf, suiteOf, casesOf_length, casesOf_failed, failedNodes_reverse, h.1, h.2]

theorem reportOf_proj {κ : Type} (ck : Case → κ) (nk : Node → κ) (hcn : ∀ p g t n, ck (caseOf p g t n) = nk n) (s : St) :
    (reportOf s).2.cases.map ck = s.nodesRev.reverse.map nk := by
  simp [reportOf, suiteOf, casesOf_proj ck nk hcn]

theorem replaceBytes_eq_map (repl : UInt8) : ∀ (forb : List UInt8) (s : Bytes), forb.contains repl = false →
    replaceBytes repl forb s = s.map fun c => if forb.contains c then repl else c
  | [], s, _ => by simp [replaceBytes]
  | c1 :: rest, s, h => by
    have h' : (repl == c1) = false ∧ rest.contains repl = false := by
      simpa [List.contains_cons, Bool.or_eq_false_iff] using h
    have hne : repl ≠ c1 := by
      intro e; have := h'.1; simp [e] at this
    rw [replaceBytes, replaceBytes_eq_map repl rest _ h'.2, Text.replaceByte, List.map_map]
    apply List.map_congr_left
    intro c _
    simp only [Function.comp, List.contains_cons]
    by_cases hc : c = c1
    · subst hc; simp
    · have : (c == c1) = false := by simpa using hc
      simp [hc, this]

theorem replacement_not_forbidden :
    Gen.EscapeTables.fileNameForbidden.contains Gen.EscapeTables.fileNameReplacement = false := by decide

theorem file_name_tables :
    (∀ c : UInt8, Gen.EscapeTables.fileNameForbidden.contains c = forbiddenInFileNames.contains c) ∧
    Gen.EscapeTables.fileNameReplacement = 95 ∧ Gen.EscapeTables.fileNamePrefix = lit "cpputest_" ∧
    Gen.EscapeTables.fileNamePackageSep = lit "_" ∧ Gen.EscapeTables.fileNameSuffix = lit ".xml" := by
  have hf : Gen.EscapeTables.fileNameForbidden = forbiddenInFileNames := rfl
  exact ⟨fun _ => by rw [hf], rfl, by decide, by decide, by decide⟩

theorem encodeFileName_eq_sanitize (s : Bytes) : encodeFileName s = sanitize s := by
  unfold encodeFileName sanitize
  rw [replaceBytes_eq_map _ _ _ replacement_not_forbidden]
  apply List.map_congr_left
  intro c _
  rw [file_name_tables.1 c, file_name_tables.2.1]

theorem createFileName_eq_expected (package group : Bytes) :
    createFileName package group = expectedFileName package group := by
  unfold createFileName expectedFileName
  obtain ⟨-, -, hprefix, hsep, hsuffix⟩ := file_name_tables
  rw [encodeFileName_eq_sanitize, hprefix, hsep, hsuffix]

theorem sanitize_clean (s : Bytes) : ∀ c ∈ sanitize s, forbiddenInFileNames.contains c = false := by
  intro c hc
  simp only [sanitize, List.mem_map] at hc
  obtain ⟨d, _, rfl⟩ := hc
  by_cases h : forbiddenInFileNames.contains d = true
  · simp only [h, if_true]; decide
  · simp only [h]; simpa using h

theorem sanitize_append (a b : Bytes) : sanitize (a ++ b) = sanitize a ++ sanitize b := by simp [sanitize]

theorem sanitize_length (a : Bytes) : (sanitize a).length = a.length := by simp [sanitize]

theorem expectedFileName_eq_iff (p g1 g2 : Bytes) :
    expectedFileName p g1 = expectedFileName p g2 ↔ sanitize g1 = sanitize g2 := by
  unfold expectedFileName
  simp only [sanitize_append]
  constructor
  · intro h
    exact List.append_cancel_left (List.append_cancel_right h)
  · intro h; rw [h]

/-! ## the captured output and the crash flag along any event list -/

/-- the text collected from the events (what tests print, and the runner's "Test run of" line per repetition) -/
def evsPrinted : List Ev → Bytes
  | [] => []
  | .print x :: es => x ++ evsPrinted es
  | .testRun _ n :: es => testRunText n ++ evsPrinted es
  | _ :: es => evsPrinted es

theorem crashed_sticky : ∀ (evs : List Ev) (s : St), s.crashed = true → (stFrom s evs).crashed = true
  | [], s, h => h
  | e :: es, s, h => by
    rw [stFrom_cons, step_of_crashed h]; exact crashed_sticky es s h

theorem step_stdOutput (s : St) (e : Ev) (hc : s.crashed = false) :
    (step s e).1.stdOutput = s.stdOutput ++ evsPrinted [e] := by
  rw [step_of_not_crashed hc]
  cases e with
  | failure f => obtain ⟨_, _, _, h⟩ := onFailure_frame s f; simp [h, evsPrinted]
  | testEnded ms c => obtain ⟨_, _, h⟩ := onTestEnded_frame s ms c; simp [h, evsPrinted]
  | _ => simp [evsPrinted, onTestStarted, onGroupEnded, reset_eq]

theorem evsPrinted_cons (e : Ev) (es : List Ev) : evsPrinted (e :: es) = evsPrinted [e] ++ evsPrinted es := by
  cases e <;> simp [evsPrinted]

theorem stdOutput_after : ∀ (evs : List Ev) (s : St), (stFrom s evs).crashed = false →
    (stFrom s evs).stdOutput = s.stdOutput ++ evsPrinted evs
  | [], s, _ => by simp [stFrom_nil, evsPrinted]
  | e :: es, s, h => by
    have hc : s.crashed = false := by
      cases hs : s.crashed with
      | false => rfl
      | true => rw [crashed_sticky (e :: es) s hs] at h; exact absurd h (by decide)
    rw [stFrom_cons] at h ⊢
    rw [stdOutput_after es _ h, step_stdOutput s e hc, evsPrinted_cons e es, List.append_assoc]

theorem not_crashed_prefix (a b : List Ev) (s : St) (h : (stFrom s (a ++ b)).crashed = false) :
    (stFrom s a).crashed = false := by
  cases hs : (stFrom s a).crashed with
  | false => rfl
  | true =>
    rw [stFrom_append, crashed_sticky b _ hs] at h
    exact absurd h (by decide)

end JUnit
