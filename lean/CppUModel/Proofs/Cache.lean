import CppUModel.Spec.Cache
import CppUModel.Proofs.ListLemmas
/-!
List-level facts about the cache model.  What an operation does to the blocks held is said once (`Effect`: held after + gone =
held before + new; `Accounts`: the events return `gone` and obtain `new`); conservation of ids, `SizesOk`, `Nodup liveIds` and
the bound on the number of blocks are read off an `Effect`.
-/
namespace Cache
open ListLemmas

/-! ### `unlink` and the interior scan `scanRemove` -/

theorem scanRemove_eq (b : Block) : ∀ (t : List Block) (m : Nat),
    scanRemove (b :: t) m = (t.find? (·.mem == m)).map fun x => (x, b :: t.eraseP (·.mem == m))
  | [], _ => rfl
  | n :: rest, m => by
    rw [scanRemove, List.find?_cons, List.eraseP_cons]
    by_cases h : n.mem = m
    · simp [h]
    · rw [if_neg h, scanRemove_eq n rest m]
      have : (n.mem == m) = false := by simpa using h
      simp only [this]
      cases rest.find? (·.mem == m) <;> rfl

theorem unlink_eq (l : List Block) (m : Nat) :
    unlink l m = (l.find? (·.mem == m)).map fun x => (x, l.eraseP (·.mem == m)) := by
  cases l with
  | nil => rfl
  | cons b rest =>
    rw [unlink, List.find?_cons, List.eraseP_cons]
    by_cases h : b.mem = m
    · simp [h]
    · have : (b.mem == m) = false := by simpa using h
      rw [if_neg h, scanRemove_eq, this]; rfl

theorem unlink_perm (l : List Block) (m : Nat) (b : Block) (r : List Block)
    (h : unlink l m = some (b, r)) : b.mem = m ∧ l.Perm (b :: r) := by
  rw [unlink_eq] at h
  cases hf : l.find? (·.mem == m) with
  | none => rw [hf] at h; cases h
  | some x => rw [hf] at h; cases h; exact ⟨by simpa using List.find?_some hf, perm_cons_eraseP hf⟩

theorem unlink_eq_none_iff (l : List Block) (m : Nat) : unlink l m = none ↔ ∀ b ∈ l, b.mem ≠ m := by
  rw [unlink_eq, Option.map_eq_none_iff, List.find?_eq_none]; simp

theorem unlink_none (l : List Block) (m : Nat) (h : unlink l m = none) : ∀ b ∈ l, b.mem ≠ m :=
  (unlink_eq_none_iff l m).mp h

theorem unlink_head (b : Block) (rest : List Block) (m : Nat) (h : b.mem = m) :
    unlink (b :: rest) m = some (b, rest) := by rw [unlink, if_pos h]

theorem unlink_eq_scanRemove (l : List Block) (m : Nat) (h : l.head?.map (·.mem) ≠ some m) :
    unlink l m = scanRemove l m := by
  cases l with
  | nil => rfl
  | cons b rest => rw [unlink, if_neg (fun hb => h (by rw [← hb]; rfl))]

theorem head_mem_some (l : List Block) (m : Nat) (h : l.head?.map (·.mem) = some m) :
    ∃ b rest, l = b :: rest ∧ b.mem = m := by
  cases l with
  | nil => cases h
  | cons b rest => exact ⟨b, rest, rfl, Option.some.inj h⟩

theorem scanRemove_eq_unlink (b : Block) (t : List Block) (m : Nat) :
    scanRemove (b :: t) m = (unlink t m).map fun r => (r.1, b :: r.2) := by
  rw [scanRemove_eq, unlink_eq, Option.map_map]; rfl

theorem scanRemove_cons (b : Block) (t : List Block) (m : Nat) (h : t.head?.map (·.mem) ≠ some m) :
    scanRemove (b :: t) m = (scanRemove t m).map (fun r => (r.1, b :: r.2)) := by
  rw [scanRemove_eq_unlink, unlink_eq_scanRemove t m h]

theorem scanRemove_perm (l : List Block) (m : Nat) (x : Block) (l' : List Block)
    (h : scanRemove l m = some (x, l')) : x.mem = m ∧ l.Perm (x :: l') := by
  cases l with
  | nil => cases h
  | cons b t =>
    rw [scanRemove_eq_unlink] at h
    obtain ⟨⟨y, r⟩, hu, he⟩ := Option.map_eq_some_iff.mp h
    cases he
    obtain ⟨h1, h2⟩ := unlink_perm t m _ _ hu
    exact ⟨h1, (h2.cons b).trans (.swap ..)⟩

theorem scanRemove_node_notin (l : List Block) (m : Nat) (x : Block) (l' : List Block)
    (hnd : (l.map (·.node)).Nodup) (h : scanRemove l m = some (x, l')) :
    (∀ b ∈ l', b.node ≠ x.node) ∧ ∀ b ∈ l', b ∈ l := by
  have hp := (scanRemove_perm l m x l' h).2
  have := (hp.map (·.node)).nodup_iff.mp hnd
  rw [List.map_cons, List.nodup_cons] at this
  exact ⟨fun b hb he => this.1 (List.mem_map.mpr ⟨b, hb, he⟩), fun b hb => hp.symm.subset (List.mem_cons_of_mem _ hb)⟩

/-! ### what an operation does to the blocks held: `Effect`, `Accounts` -/

theorem reserve_blocks_perm (c : Class) (b : Block) (rest : List Block) (hf : c.free = b :: rest) :
    ({ c with free := rest, used := b :: c.used } : Class).blocks.Perm c.blocks := by
  simp only [Class.blocks, hf]
  exact List.perm_middle

theorem release_blocks_perm (c : Class) (b : Block) (used' : List Block) (hp : c.used.Perm (b :: used')) :
    ({ c with used := used', free := b :: c.free } : Class).blocks.Perm c.blocks := by
  simp only [Class.blocks]
  exact (List.perm_middle.symm).trans (hp.symm.append_left c.free)

theorem freed_append (a b : List Ev) : freed (a ++ b) = freed a ++ freed b := by
  simp [freed, List.filterMap_append]
theorem allocd_append (a b : List Ev) : allocd (a ++ b) = allocd a ++ allocd b := by
  simp [allocd, List.filterMap_append]

theorem destroyList_freed (bs : List Block) (sz : Nat) :
    (freed (destroyList bs sz)).Perm (bs.flatMap Block.ids) := by
  induction bs with
  | nil => simp [destroyList, freed]
  | cons b bs ih =>
    simp only [destroyList, List.flatMap_cons] at ih ⊢
    rw [freed_append]
    exact List.Perm.append (by simpa [freed, destroyBlock, Block.ids] using List.Perm.swap ..) ih

theorem destroyList_allocd (bs : List Block) (sz : Nat) : allocd (destroyList bs sz) = [] := by
  induction bs with
  | nil => simp [destroyList, allocd]
  | cons b bs ih =>
    simp only [destroyList, List.flatMap_cons] at ih ⊢
    rw [allocd_append, ih]; simp [allocd, destroyBlock]

/-- What an operation may do to the state, as far as the invariants can tell: the table and the class sizes stay,
    the blocks held change by `gone` and `new`, and a block of a class was in a class of that size or has that size. -/
structure Effect (s s' : State) (gone new : List Block) : Prop where
  table : s'.table = s.table
  sizes : s'.classes.map (·.size) = s.classes.map (·.size)
  blocks : (s'.blocks ++ gone).Perm (s.blocks ++ new)
  msize : ∀ c' ∈ s'.classes, ∀ b ∈ c'.blocks, (∃ c ∈ s.classes, c.size = c'.size ∧ b ∈ c.blocks) ∨ b.msize = c'.size

/-- The events account for a change of the blocks held: what they return to the allocator are the ids of `gone`,
    what they obtain from it the ids of `new`. -/
structure Accounts (evs : List Ev) (gone new : List Block) : Prop where
  freed : (freed evs).Perm (gone.flatMap Block.ids)
  allocd : allocd evs = new.flatMap Block.ids

theorem Accounts.of_freed_nil {evs : List Ev} {new : List Block} (hf : Cache.freed evs = [])
    (ha : Cache.allocd evs = new.flatMap Block.ids) : Accounts evs [] new :=
  ⟨hf ▸ .refl _, ha⟩

theorem Accounts.append {e₁ e₂ : List Ev} {g₁ g₂ : List Block} (h₁ : Accounts e₁ g₁ []) (h₂ : Accounts e₂ g₂ []) :
    Accounts (e₁ ++ e₂) (g₁ ++ g₂) [] :=
  ⟨by rw [freed_append, List.flatMap_append]; exact h₁.freed.append h₂.freed,
   by rw [allocd_append, h₁.allocd, h₂.allocd]; rfl⟩

theorem Accounts.flatMap {α} (ev : α → List Ev) (goneOf : α → List Block) (h : ∀ c, Accounts (ev c) (goneOf c) []) :
    ∀ cs : List α, Accounts (cs.flatMap ev) (cs.flatMap goneOf) []
  | [] => .of_freed_nil rfl rfl
  | c :: cs => (h c).append (Accounts.flatMap ev goneOf h cs)

theorem Accounts.destroyList (bs : List Block) (sz : Nat) : Accounts (destroyList bs sz) bs [] :=
  ⟨destroyList_freed bs sz, destroyList_allocd bs sz⟩

namespace Effect
variable {s s' : State} {gone new : List Block}

theorem conservation (h : Effect s s' gone new) {evs : List Ev} (he : Accounts evs gone new) :
    (s'.liveIds ++ freed evs).Perm (s.liveIds ++ allocd evs) := by
  have := h.blocks.flatMap_right Block.ids
  simp only [List.flatMap_append] at this
  simp only [State.liveIds, h.table, he.allocd, List.append_assoc]
  exact ((he.freed.append_left _).trans this).append_left _

theorem sizesOk (h : Effect s s' gone new) (hok : SizesOk s) : SizesOk s' :=
  ⟨h.sizes.trans hok.1, fun c' hc' b hb => (h.msize c' hc' b hb).elim
    (fun ⟨c, hc, hsz, hbc⟩ => (hok.2 c hc b hbc).trans hsz) id⟩

theorem length_le (h : Effect s s' gone new) : s'.blocks.length ≤ s.blocks.length + new.length := by
  have := h.blocks.length_eq
  simp only [List.length_append] at this
  omega

theorem nodup_new (h : Effect s s' gone new) (hnd : (s.liveIds ++ new.flatMap Block.ids).Nodup) :
    s'.liveIds.Nodup := by
  have hp := h.blocks.flatMap_right Block.ids
  simp only [List.flatMap_append] at hp
  have : (s'.liveIds ++ gone.flatMap Block.ids).Perm (s.liveIds ++ new.flatMap Block.ids) := by
    simp only [State.liveIds, h.table, List.append_assoc]; exact hp.append_left _
  exact (List.nodup_append.mp (this.nodup_iff.mpr hnd)).1

theorem nodup (h : Effect s s' gone []) (hnd : s.liveIds.Nodup) : s'.liveIds.Nodup :=
  h.nodup_new (by simpa using hnd)

theorem warned (w : Bool) : Effect s { s with warned := w } [] [] :=
  ⟨rfl, rfl, List.Perm.refl _, fun c' hc' _ hb => Or.inl ⟨c', hc', rfl, hb⟩⟩

theorem setClass (i : Nat) (c c' : Class) (hc : s.classes[i]? = some c) (hsz : c'.size = c.size)
    (hp : (c'.blocks ++ gone).Perm (c.blocks ++ new)) (hnew : ∀ b ∈ new, b.msize = c.size) :
    Effect s { s with classes := s.classes.set i c' } gone new := by
  refine ⟨rfl, ?_, ?_, ?_⟩
  · rw [List.map_set, hsz, ← (List.getElem?_eq_some_iff.mp (show (s.classes.map (·.size))[i]? = some c.size by
      simp [hc])).2, List.set_getElem_self]
  · -- the balance of class `i` is that of all classes; the uncached list stands on both sides: rearranged by counting
    have := flatMap_set_perm Class.blocks s.classes i c c' gone new hc hp
    simp only [State.blocks]
    apply List.perm_iff_count.mpr; intro x
    have := this.count_eq x
    simp only [List.count_append] at this ⊢; omega
  · intro d hd b hb
    rcases List.mem_or_eq_of_mem_set hd with hd | rfl
    · exact Or.inl ⟨d, hd, rfl, hb⟩
    · rcases List.mem_append.mp (hp.subset (List.mem_append_left _ hb)) with h | h
      · exact Or.inl ⟨c, List.mem_of_getElem? hc, hsz.symm, h⟩
      · exact Or.inr ((hnew b h).trans hsz.symm)

theorem clear (clr : Class → Class) (goneOf : Class → List Block) (u' goneU : List Block)
    (hsz : ∀ c, (clr c).size = c.size) (hp : ∀ c, ((clr c).blocks ++ goneOf c).Perm c.blocks)
    (hu : (u' ++ goneU).Perm s.uncached) :
    Effect s { s with classes := s.classes.map clr, uncached := u' } (s.classes.flatMap goneOf ++ goneU) [] := by
  refine ⟨rfl, by rw [List.map_map]; exact List.map_congr_left (fun c _ => hsz c), ?_, ?_⟩
  · -- the classes' balances, one per class, and that of the uncached list add up: by counting
    have := flatMap_append_perm hp s.classes
    rw [← List.flatMap_map] at this
    apply List.perm_iff_count.mpr; intro x
    have := this.count_eq x; have := hu.count_eq x
    simp only [State.blocks, List.count_append, List.append_nil] at *; omega
  · intro c' hc' b hb
    obtain ⟨c, hc, rfl⟩ := List.mem_map.mp hc'
    exact Or.inl ⟨c, hc, (hsz c).symm, (hp c).subset (List.mem_append_left _ hb)⟩

theorem setUncached (u' : List Block) (hp : (u' ++ gone).Perm (s.uncached ++ new)) :
    Effect s { s with uncached := u' } gone new := by
  refine ⟨rfl, rfl, ?_, fun c' hc' b hb => Or.inl ⟨c', hc', rfl, hb⟩⟩
  simp only [State.blocks, List.append_assoc]
  exact hp.append_left _

end Effect

theorem warnOnce_effect (s : State) : Effect s (warnOnce s).1 [] [] ∧ Accounts (warnOnce s).2 [] [] := by
  unfold warnOnce; split
  · exact ⟨Effect.warned s.warned, .of_freed_nil rfl rfl⟩
  · exact ⟨Effect.warned true, .of_freed_nil rfl rfl⟩

theorem alloc_effect (s : State) (sz n m : Nat) :
    ∃ new, Effect s (alloc s sz n m).1 [] new ∧ Accounts (alloc s sz n m).2 [] new ∧
      (new = [] ∨ ∃ k, new = [⟨n, m, k⟩]) := by
  unfold alloc
  split
  · split
    · exact ⟨[], Effect.warned s.warned, .of_freed_nil rfl rfl, Or.inl rfl⟩
    · next c hc =>
      unfold allocCached
      split
      · next b rest hf =>
        exact ⟨[], Effect.setClass _ c _ hc rfl (by simpa using reserve_blocks_perm c b rest hf) (fun _ h => nomatch h),
          .of_freed_nil rfl rfl, Or.inl rfl⟩
      · exact ⟨[⟨n, m, c.size⟩], Effect.setClass _ c _ hc rfl (by
            simp only [Class.blocks, List.append_nil, List.append_assoc]
            exact (List.perm_append_singleton _ _).symm.append_left _) (by simp), .of_freed_nil rfl rfl, Or.inr ⟨_, rfl⟩⟩
  · exact ⟨[⟨n, m, sz⟩], Effect.setUncached _ (by simpa using (List.perm_append_singleton _ _).symm),
      .of_freed_nil rfl rfl, Or.inr ⟨_, rfl⟩⟩

theorem dealloc_effect (s : State) (m sz : Nat) :
    ∃ gone, Effect s (dealloc s m sz).1 gone [] ∧ Accounts (dealloc s m sz).2 gone [] := by
  unfold dealloc
  split
  · split
    · exact ⟨[], Effect.warned s.warned, .of_freed_nil rfl rfl⟩
    · next c hc =>
      unfold deallocCached
      split
      · next b used' hu =>
        exact ⟨[], Effect.setClass _ c _ hc rfl (by simpa using release_blocks_perm c b used' (unlink_perm _ _ _ _ hu).2)
          (fun _ h => nomatch h), .of_freed_nil rfl rfl⟩
      · exact ⟨[], warnOnce_effect s⟩
  · unfold deallocUncached
    split
    · next b rest hu =>
      exact ⟨[b], Effect.setUncached rest
          (by simpa using ((unlink_perm _ _ _ _ hu).2.trans (List.perm_append_singleton _ _).symm).symm),
        by simpa [destroyList] using Accounts.destroyList [b] sz⟩
    · exact ⟨[], warnOnce_effect s⟩

theorem clearCache_effect (s : State) :
    ∃ gone, Effect s (clearCache s).1 gone [] ∧ Accounts (clearCache s).2 gone [] :=
  ⟨_, Effect.clear (fun c => { c with free := [] }) (·.free) s.uncached [] (fun _ => rfl)
      (fun c => by simpa [Class.blocks] using List.perm_append_comm) (by simp),
    by rw [List.append_nil]
       exact Accounts.flatMap (fun c : Class => destroyList c.free c.size) Class.free
         (fun c => Accounts.destroyList c.free c.size) s.classes⟩

theorem clearAll_effect (s : State) :
    ∃ gone, Effect s (clearAll s).1 gone [] ∧ Accounts (clearAll s).2 gone [] :=
  ⟨_, Effect.clear (fun c => { c with free := [], used := [] }) Class.blocks [] s.uncached
      (fun _ => rfl) (fun c => by simp [Class.blocks]) (by simp),
    (Accounts.flatMap (fun c : Class => destroyList c.free c.size ++ destroyList c.used c.size) Class.blocks
      (fun c => (Accounts.destroyList c.free c.size).append (Accounts.destroyList c.used c.size))
      s.classes).append (Accounts.destroyList s.uncached 0)⟩

theorem step_effect (s : State) (op : Op) :
    ∃ gone new, Effect s (step s op).1 gone new ∧ Accounts (step s op).2 gone new ∧
      (new = [] ∨ ∃ sz n m k, op = .alloc sz n m ∧ gone = [] ∧ new = [⟨n, m, k⟩]) := by
  cases op with
  | alloc sz n m =>
    obtain ⟨new, h, he, hn⟩ := alloc_effect s sz n m
    exact ⟨[], new, h, he, hn.imp id (fun ⟨k, hk⟩ => ⟨sz, n, m, k, rfl, rfl, hk⟩)⟩
  | dealloc m sz =>
    obtain ⟨gone, h, he⟩ := dealloc_effect s m sz
    exact ⟨gone, [], h, he, Or.inl rfl⟩
  | clearCache =>
    obtain ⟨gone, h, he⟩ := clearCache_effect s
    exact ⟨gone, [], h, he, Or.inl rfl⟩
  | clearAll =>
    obtain ⟨gone, h, he⟩ := clearAll_effect s
    exact ⟨gone, [], h, he, Or.inl rfl⟩

/-! ### what `Nodup liveIds` says about the chains of a state -/

theorem node_mem_ids (b : Block) : b.node ∈ Block.ids b := by simp [Block.ids]

theorem mem_mem_ids (b : Block) : b.mem ∈ Block.ids b := by simp [Block.ids]

theorem node_mem_flatMap_ids {l : List Block} {q : Nat} (h : q ∈ l.map (·.node)) : q ∈ l.flatMap Block.ids := by
  obtain ⟨z, hz, rfl⟩ := List.mem_map.mp h
  exact List.mem_flatMap.mpr ⟨z, hz, node_mem_ids z⟩

theorem nodes_nodup_of_ids (l : List Block) (h : (l.flatMap Block.ids).Nodup) : (l.map (·.node)).Nodup :=
  List.pairwise_map.mpr ((List.pairwise_flatMap.mp h).2.imp
    (fun hab => hab _ (node_mem_ids _) _ (node_mem_ids _)))

theorem blocks_ids_nodup (s : State) (hnd : s.liveIds.Nodup) : (s.blocks.flatMap Block.ids).Nodup :=
  (List.nodup_append.mp hnd).2.1

theorem ids_apart (A B : List Block) (h : ((A ++ B).flatMap Block.ids).Nodup) :
    ∀ x ∈ A, ∀ y ∈ B, ∀ a ∈ x.ids, ∀ b ∈ y.ids, a ≠ b := by
  rw [List.flatMap_append, List.nodup_append] at h
  exact fun x hx y hy a ha b hb => h.2.2 a (List.mem_flatMap.mpr ⟨x, hx, ha⟩) b (List.mem_flatMap.mpr ⟨y, hy, hb⟩)

theorem blocks_perm_class (s : State) (i : Nat) (c : Class) (hc : s.classes[i]? = some c) :
    ∃ rest, s.blocks.Perm ((c.free ++ c.used) ++ rest) ∧
      (∀ (j : Nat) (d : Class), j ≠ i → s.classes[j]? = some d → ∀ b ∈ d.free ++ d.used, b ∈ rest) ∧
      ∀ b ∈ s.uncached, b ∈ rest := by
  refine ⟨(s.classes.eraseIdx i).flatMap Class.blocks ++ s.uncached, ?_,
    fun j d hj hd b hb => List.mem_append_left _
      (List.mem_flatMap.mpr ⟨d, List.mem_eraseIdx_iff_getElem?.mpr ⟨j, hj, hd⟩, hb⟩),
    fun b hb => List.mem_append_right _ hb⟩
  rw [← List.append_assoc]
  exact ((perm_cons_eraseIdx _ i c hc).flatMap_right Class.blocks).append_right _

/-- what `Nodup liveIds` says about the ids of one size class: none twice, none shared with another chain -/
theorem class_separate (s : State) (hnd : s.liveIds.Nodup) (i : Nat) (c : Class) (hc : s.classes[i]? = some c) :
    ((c.free.flatMap Block.ids).Nodup ∧ (c.used.flatMap Block.ids).Nodup ∧
      ∀ x ∈ c.free, ∀ y ∈ c.used, ∀ a ∈ x.ids, ∀ b ∈ y.ids, a ≠ b) ∧
    (∀ (j : Nat) (d : Class), j ≠ i → s.classes[j]? = some d → ∀ b ∈ d.free ++ d.used, ∀ b' ∈ c.free ++ c.used,
      ∀ a ∈ b.ids, ∀ a' ∈ b'.ids, a ≠ a') ∧
    (∀ b ∈ s.uncached, ∀ b' ∈ c.free ++ c.used, ∀ a ∈ b.ids, ∀ a' ∈ b'.ids, a ≠ a') := by
  obtain ⟨rest, hperm, hoth, hunc⟩ := blocks_perm_class s i c hc
  have hn := (hperm.flatMap_right Block.ids).nodup_iff.mp (blocks_ids_nodup s hnd)
  have hap := ids_apart _ _ hn
  rw [List.flatMap_append, List.nodup_append] at hn
  have hfu := ids_apart _ _ hn.1
  rw [List.flatMap_append, List.nodup_append] at hn
  exact ⟨⟨hn.1.1, hn.1.2.1, hfu⟩, fun j d hj hd b hb b' hb' a ha a' ha' => (hap b' hb' b (hoth j d hj hd b hb) a' ha' a ha).symm,
    fun b hb b' hb' a ha a' ha' => (hap b' hb' b (hunc b hb) a' ha' a ha).symm⟩

theorem uncached_separate (s : State) (hnd : s.liveIds.Nodup) :
    (s.uncached.flatMap Block.ids).Nodup ∧
    ∀ (j : Nat) (d : Class), s.classes[j]? = some d → ∀ b ∈ d.free ++ d.used, ∀ b' ∈ s.uncached,
      ∀ a ∈ b.ids, ∀ a' ∈ b'.ids, a ≠ a' := by
  have hn := blocks_ids_nodup s hnd
  have hap := ids_apart _ _ hn
  rw [State.blocks, List.flatMap_append, List.nodup_append] at hn
  exact ⟨hn.2.1, fun j d hd b hb => hap b (List.mem_flatMap.mpr ⟨d, List.mem_of_getElem? hd, hb⟩)⟩

theorem class_block_mem (s : State) (j : Nat) (d : Class) (hd : s.classes[j]? = some d) :
    ∀ b ∈ d.free ++ d.used, b ∈ s.blocks := by
  intro b hb
  unfold State.blocks
  exact List.mem_append_left _ (List.mem_flatMap.mpr ⟨d, List.mem_of_getElem? hd, by simpa [Class.blocks] using hb⟩)

theorem uncached_block_mem (s : State) : ∀ b ∈ s.uncached, b ∈ s.blocks := by
  intro b hb; unfold State.blocks; exact List.mem_append_right _ hb

theorem node_live (s : State) (b : Block) (hb : b ∈ s.blocks) : b.node ∈ s.liveIds :=
  List.mem_append_right _ (List.mem_flatMap.mpr ⟨b, hb, node_mem_ids b⟩)

/-- within a block the two ids differ; two different blocks share none, whichever comes first -/
theorem mem_ne_node (s : State) (hnd : s.liveIds.Nodup) : ∀ x ∈ s.blocks, ∀ y ∈ s.blocks, x.mem ≠ y.node := by
  obtain ⟨h1, h2⟩ := List.pairwise_flatMap.mp (blocks_ids_nodup s hnd)
  intro x hx y hy
  by_cases hxy : x = y
  · subst hxy
    have := h1 x hx
    simp only [Block.ids, List.pairwise_cons, List.mem_cons, List.not_mem_nil, or_false, forall_eq] at this
    exact Ne.symm this.1
  · obtain ⟨i, hi, rfl⟩ := List.getElem_of_mem hx
    obtain ⟨j, hj, rfl⟩ := List.getElem_of_mem hy
    rcases Nat.lt_or_gt_of_ne (fun e : i = j => hxy (by subst e; rfl)) with hlt | hlt
    · exact List.pairwise_iff_getElem.mp h2 i j hi hj hlt _ (mem_mem_ids _) _ (node_mem_ids _)
    · exact (List.pairwise_iff_getElem.mp h2 j i hj hi hlt _ (node_mem_ids _) _ (mem_mem_ids _)).symm

theorem free_length_le (s : State) (k : Nat) (c : Class) (hc : s.classes[k]? = some c) :
    c.free.length ≤ s.blocks.length ∧ c.used.length ≤ s.blocks.length := by
  obtain ⟨rest, hperm, _⟩ := blocks_perm_class s k c hc
  have := hperm.length_eq
  simp only [List.length_append] at this
  omega

theorem classes_length (s : State) (hinv : Inv s) : s.classes.length = 5 := by
  have := congrArg List.length hinv.2.1
  simpa [Gen.Cache.classSizes] using this

theorem uncached_length_le (s : State) : s.uncached.length ≤ s.blocks.length := by
  simp [State.blocks]

/-! ### steps and histories -/

theorem alloc_returned (s : State) (sz n m : Nat) :
    ∀ r ∈ returned (alloc s sz n m).2, r = m ∨
      ∃ c b rest, s.classes[indexFor s.classes sz]? = some c ∧ c.free = b :: rest ∧ r = b.mem := by
  unfold alloc
  split
  · split
    · exact fun r hr => nomatch hr
    · next c hc =>
      unfold allocCached
      split
      · next b rest hf => exact fun r hr => Or.inr ⟨c, b, rest, hc, hf, by simpa [returned] using hr⟩
      · exact fun r hr => Or.inl (by simpa [returned, createEvs] using hr)
  · exact fun r hr => Or.inl (by simpa [returned, createEvs] using hr)

theorem allocd_step (s : State) (op : Op) :
    allocd (step s op).2 = [] ∨
      ∃ sz n m, op = .alloc sz n m ∧ allocd (step s op).2 = [n, m] ∧ freed (step s op).2 = [] := by
  obtain ⟨gone, new, _, he, rfl | ⟨sz, n, m, k, rfl, rfl, rfl⟩⟩ := step_effect s op
  · exact Or.inl he.allocd
  · exact Or.inr ⟨sz, n, m, rfl, he.allocd, he.freed.eq_nil⟩

theorem table_step (s : State) (op : Op) : (step s op).1.table = s.table := by
  obtain ⟨_, _, h, _⟩ := step_effect s op
  exact h.table

theorem run_table : ∀ (ops : List Op) (s : State), (run s ops).1.table = s.table
  | [], _ => rfl
  | op :: ops, s => (run_table ops (step s op).1).trans (table_step s op)

theorem freshAll_append : ∀ (a b : List Op) (s : State),
    FreshAll s (a ++ b) ↔ FreshAll s a ∧ FreshAll (run s a).1 b
  | [], _, _ => ⟨fun h => ⟨trivial, h⟩, fun h => h.2⟩
  | op :: a, b, s => by
    simp only [List.cons_append, FreshAll, run, freshAll_append a b, and_assoc]

theorem mem_usedMems_of_class (s : State) (i : Nat) (c : Class) (hc : s.classes[i]? = some c)
    (b : Block) (hb : b ∈ c.used) : b.mem ∈ s.usedMems := by
  simp only [State.usedMems, List.mem_map, List.mem_append, List.mem_flatMap]
  exact ⟨b, Or.inl ⟨c, List.mem_of_getElem? hc, hb⟩, rfl⟩

theorem usedMems_sub_liveIds (s : State) : ∀ x ∈ s.usedMems, x ∈ s.liveIds := by
  intro x hx
  simp only [State.usedMems, List.mem_map, List.mem_append, List.mem_flatMap] at hx
  obtain ⟨b, hb, rfl⟩ := hx
  simp only [State.liveIds, State.blocks, List.mem_append, List.mem_flatMap]
  right
  rcases hb with ⟨c, hc, hb⟩ | hb
  · exact ⟨b, Or.inl ⟨c, hc, by simp [Class.blocks, hb]⟩, by simp [Block.ids]⟩
  · exact ⟨b, Or.inr hb, by simp [Block.ids]⟩

theorem free_not_used (s : State) (hinv : s.liveIds.Nodup) (i : Nat) (c : Class)
    (hc : s.classes[i]? = some c) (b : Block) (rest : List Block) (hf : c.free = b :: rest) :
    b.mem ∉ s.usedMems := by
  obtain ⟨⟨_, _, hfu⟩, hoth, hunc⟩ := class_separate s hinv i c hc
  have hb : b ∈ c.free := by simp [hf]
  intro hu
  simp only [State.usedMems, List.mem_map, List.mem_append, List.mem_flatMap] at hu
  obtain ⟨b', (⟨d, hd, hb'⟩ | hb'), hm⟩ := hu
  · obtain ⟨j, hj⟩ := List.getElem?_of_mem hd
    by_cases hji : j = i
    · subst hji
      cases hc.symm.trans hj
      exact hfu b hb b' hb' _ (mem_mem_ids b) _ (mem_mem_ids b') hm.symm
    · exact hoth j d hji hj b' (List.mem_append_right _ hb') b (List.mem_append_left _ hb)
        _ (mem_mem_ids b') _ (mem_mem_ids b) hm
  · exact hunc b' hb' b (List.mem_append_left _ hb) _ (mem_mem_ids b') _ (mem_mem_ids b) hm

theorem create_liveIds (t : Nat) : (create t).1.liveIds = [t] := by
  simp [create, State.liveIds, State.blocks, Class.blocks, Gen.Cache.classSizes]

theorem clearAll_blocks (s : State) : (clearAll s).1.blocks = [] := by
  simp [clearAll, State.blocks, Class.blocks, List.flatMap_map]

theorem destroy_liveIds (s : State) : (destroy s).1.liveIds = s.blocks.flatMap Block.ids := by
  unfold destroy
  cases h : s.table <;> simp [State.liveIds, State.blocks, h]

end Cache
