import CppUModel.Model.OutputEvents
/-!
The text primitives of `Model/OutputEvents.lean` that both report writers print with: the decimal digits of a number
(`dec`) and the bytes of a source literal (`lit`).  A fact about every digit of every number is `dec_forall`; a fact
that follows the digits from the most significant one is `dec_induction`; a reader that folds over the digits reads
the number back (`foldl_dec`, `readDec_dec`).
-/
namespace OutEv
open Text (Bytes)

theorem dec_lt {n : Nat} (h : n < 10) : dec n = [digit n] := by
  simp [dec, decAux, h]

theorem decAux_eq_dec (n : Nat) : ∀ (fuel : Nat) (acc : Bytes), n < fuel → decAux fuel n acc = dec n ++ acc := by
  induction n using Nat.strongRecOn with
  | _ n ih =>
    intro fuel acc h
    obtain ⟨f, rfl⟩ : ∃ f, fuel = f + 1 := ⟨fuel - 1, by omega⟩
    by_cases hn : n < 10
    · simp [dec_lt hn, decAux, hn]
    · have hd : n / 10 < n := by omega
      simp only [dec, decAux, hn, if_false]
      rw [ih _ hd f _ (by omega), ih _ hd n _ hd, List.append_assoc]
      rfl

theorem dec_ge {n : Nat} (h : 10 ≤ n) : dec n = dec (n / 10) ++ [digit n] := by
  rw [dec, decAux, if_neg (by omega), decAux_eq_dec _ _ _ (by omega)]

theorem dec_induction {P : Nat → Bytes → Prop} (one : ∀ n, n < 10 → P n [digit n])
    (snoc : ∀ n, 10 ≤ n → P (n / 10) (dec (n / 10)) → P n (dec (n / 10) ++ [digit n])) (n : Nat) : P n (dec n) := by
  induction n using Nat.strongRecOn with
  | _ n ih =>
    by_cases hn : n < 10
    · rw [dec_lt hn]; exact one n hn
    · rw [dec_ge (by omega)]; exact snoc n (by omega) (ih _ (by omega))

theorem dec_ne_nil (n : Nat) : dec n ≠ [] :=
  dec_induction (P := fun _ s => s ≠ []) (fun _ _ => List.cons_ne_nil _ _) (fun _ _ _ => by simp) n

/-- a digit byte is one of ten bytes: what holds of these (a closed fact) holds of it -/
theorem digit_forall (p : UInt8 → Prop) (hp : ∀ k, k < 10 → p (UInt8.ofNat (48 + k))) (n : Nat) : ∀ c ∈ [digit n], p c :=
  fun _ hc => List.mem_singleton.mp hc ▸ hp _ (Nat.mod_lt n (by decide))

theorem dec_forall (p : UInt8 → Prop) (hp : ∀ k, k < 10 → p (UInt8.ofNat (48 + k))) (n : Nat) : ∀ c ∈ dec n, p c :=
  dec_induction (P := fun _ s => ∀ c ∈ s, p c) (fun n _ => digit_forall p hp n)
    (fun n _ ih c hc => (List.mem_append.mp hc).elim (ih c) (digit_forall p hp n c)) n

theorem digit_range (n : Nat) : (48 ≤ digit n ∧ digit n ≤ 57) ∧ (digit n).toNat - 48 = n % 10 :=
  have key : ∀ k, k < 10 →
      (48 ≤ UInt8.ofNat (48 + k) ∧ UInt8.ofNat (48 + k) ≤ 57) ∧ (UInt8.ofNat (48 + k)).toNat - 48 = k := by decide
  key _ (Nat.mod_lt n (by decide))

theorem foldl_dec {step : Option Nat → UInt8 → Option Nat}
    (h : ∀ a n, step (some a) (digit n) = some (a * 10 + n % 10)) (n : Nat) : (dec n).foldl step (some 0) = some n := by
  refine dec_induction (P := fun n s => s.foldl step (some 0) = some n) ?_ ?_ n
  · intro n hn
    simp [h, Nat.mod_eq_of_lt hn]
  · intro n _ ih
    rw [List.foldl_append, ih, List.foldl_cons, h, List.foldl_nil, Nat.div_add_mod']

/-- `foldl_dec` in the form of the two report readers (`JUnit.digitsVal?`, `TeamCity.natOfBytes?`), which refuse the empty string -/
theorem readDec_dec {step : Option Nat → UInt8 → Option Nat}
    (h : ∀ a n, step (some a) (digit n) = some (a * 10 + n % 10)) (d : Nat) :
    (if (dec d).isEmpty then none else (dec d).foldl step (some 0)) = some d := by
  rw [List.isEmpty_eq_false_iff.mpr (dec_ne_nil d), if_neg (by decide), foldl_dec h]

theorem lit_append (a b : String) : lit (a ++ b) = lit a ++ lit b := by
  simp [lit]

theorem lit_append_append (a b : String) (r : Bytes) : lit a ++ (lit b ++ r) = lit (a ++ b) ++ r := by
  rw [lit_append, List.append_assoc]

/-! `lit` of an ASCII literal is its UTF-8 bytes, the form in which the kernel evaluates a closed fact about a literal
(it reaches the byte array of a string literal directly, `String.toList` only through the decoding of every character). -/

theorem utf8EncodeChar_ascii (c : Char) (h : ∀ b ∈ String.utf8EncodeChar c, b < 128) :
    String.utf8EncodeChar c = [UInt8.ofNat c.toNat] := by
  -- the first byte of a longer encoding is 192 + .., 224 + .. or 240 + ..
  have key : ∀ n, 128 ≤ n → n < 256 → ¬ (UInt8.ofNat n < 128) := by
    intro n h1 h2 h3
    rw [UInt8.lt_iff_toNat_lt, UInt8.toNat_ofNat'] at h3
    have : (128 : UInt8).toNat = 128 := rfl
    omega
  unfold String.utf8EncodeChar at h ⊢
  simp only [] at h ⊢
  split at h
  · rename_i h1
    rw [if_pos h1]; rfl
  · exfalso
    split at h
    · refine key _ ?_ ?_ (h _ (List.mem_cons_self ..)) <;> omega
    · split at h
      · refine key _ ?_ ?_ (h _ (List.mem_cons_self ..)) <;> omega
      · refine key _ ?_ ?_ (h _ (List.mem_cons_self ..)) <;> omega

theorem lit_ofList (l : List Char) (h : ∀ b ∈ l.flatMap String.utf8EncodeChar, b < 128) :
    lit (String.ofList l) = l.flatMap String.utf8EncodeChar := by
  induction l with
  | nil => rfl
  | cons c l ih =>
    have hc := utf8EncodeChar_ascii c (fun b hb => h b (by simp [hb]))
    have := ih (fun b hb => h b (by simp [hb]))
    simp only [lit, String.toList_ofList, List.map_cons, List.flatMap_cons] at this ⊢
    rw [hc, this]; rfl

theorem lit_eq_bytes (s : String) (h : ∀ b ∈ s.toByteArray.data.toList, b < 128) : lit s = s.toByteArray.data.toList := by
  obtain ⟨l, rfl⟩ : ∃ l, s = String.ofList l := ⟨s.toList, String.ofList_toList.symm⟩
  have hs : (String.ofList l).toByteArray.data.toList = l.flatMap String.utf8EncodeChar := by
    rw [String.toByteArray_ofList]; simp [List.utf8Encode]
  rw [hs] at h ⊢
  exact lit_ofList l h

end OutEv
