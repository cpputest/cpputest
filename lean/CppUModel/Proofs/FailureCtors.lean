import CppUModel.Model.OutputEvents
/-!
What the regenerated member-initialiser lists of the `TestFailure` constructors (`Gen/FailureCtors.lean`, from
src/CppUTest/TestFailure.cpp) say, whichever constructor builds a failure: its test location is the test's own file and line; its
failure location is the given file:line or, when none is given, the test's; the message is the given one or "no message";
`testNameOnly_` (what TeamCity prints as the failure's `name`) is the NAME of the test, and the printable `TEST(group, name)` goes to
`testName_` only.  An edit of an initialiser list breaks these theorems.
-/
namespace OutEv
open Text (Bytes)

variable (t : TestInfo) (f : Bytes) (l : Nat) (m : Bytes)

theorem locMsgFailure_file : (locMsgFailure t f l m).file = f := rfl
theorem locMsgFailure_line : (locMsgFailure t f l m).line = l := rfl
theorem locMsgFailure_testFile : (locMsgFailure t f l m).testFile = t.file := rfl
theorem locMsgFailure_testLine : (locMsgFailure t f l m).testLine = t.line := rfl
theorem locMsgFailure_message : (locMsgFailure t f l m).message = m := rfl

theorem msgFailure_file : (msgFailure t m).file = t.file := rfl
theorem msgFailure_line : (msgFailure t m).line = t.line := rfl
theorem msgFailure_testFile : (msgFailure t m).testFile = t.file := rfl
theorem msgFailure_testLine : (msgFailure t m).testLine = t.line := rfl
theorem msgFailure_message : (msgFailure t m).message = m := rfl

theorem locFailure_file : (locFailure t f l).file = f := rfl
theorem locFailure_line : (locFailure t f l).line = l := rfl
theorem locFailure_testFile : (locFailure t f l).testFile = t.file := rfl
theorem locFailure_testLine : (locFailure t f l).testLine = t.line := rfl
theorem locFailure_message : (locFailure t f l).message = lit "no message" := by
  have h : (lit "no message" : Bytes) = [110, 111, 32, 109, 101, 115, 115, 97, 103, 101] := by decide
  rw [h]; rfl

theorem exitFailure_file : (exitFailure t f l m).file = f := rfl
theorem exitFailure_line : (exitFailure t f l m).line = l := rfl
theorem exitFailure_testFile : (exitFailure t f l m).testFile = t.file := rfl
theorem exitFailure_testLine : (exitFailure t f l m).testLine = t.line := rfl
theorem exitFailure_message : (exitFailure t f l m).message = m := rfl

theorem locMsgFailure_testName : (locMsgFailure t f l m).testName = t.name := rfl
theorem msgFailure_testName : (msgFailure t m).testName = t.name := rfl
theorem locFailure_testName : (locFailure t f l).testName = t.name := rfl
theorem exitFailure_testName : (exitFailure t f l m).testName = t.name := rfl

theorem formatted_name_only_in_testName :
    Gen.FailureCtors.withLocationAndMessage.testName = .shellFormattedName ∧
    Gen.FailureCtors.withMessage.testName = .shellFormattedName ∧
    Gen.FailureCtors.withLocation.testName = .shellFormattedName := by decide

end OutEv
