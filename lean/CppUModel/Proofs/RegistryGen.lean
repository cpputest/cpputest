import CppUModel.Proofs.Registry
import CppUModel.Model.RegistryGen
/-!
The regenerated `UtestShellPointerArray` methods (`Gen/PointerArray.lean`) equal the hand-written
array model of `Model/Registry.lean`.  These proofs are re-checked against whatever the translator
produced from the current source.
-/
namespace Registry
open PA

/-- `n` iterations, from index `i`, of a loop whose body falls through -/
def iter {σ} (step : Nat → Nat) (g : Nat → σ → σ) : Nat → Nat → σ → σ
  | 0, _, s => s
  | n + 1, i, s => iter step g n (step i) (g i s)

/-- A `for` loop whose condition holds as long as the measure `m` of the index is positive, whose
    step lowers the measure by one and whose body falls through runs exactly `m i` iterations
    (given more fuel than that). -/
theorem forLoop_iter {σ} (inv : Nat → σ → Prop) (cond : Nat → σ → Bool) (step : Nat → Nat)
    (body : Nat → σ → Ctl σ) (g : Nat → σ → σ) (m : Nat → Nat)
    (hcond : ∀ i s, inv i s → cond i s = decide (0 < m i))
    (hbody : ∀ i s, inv i s → 0 < m i →
      body i s = .go (g i s) ∧ inv (step i) (g i s) ∧ m (step i) + 1 = m i) :
    ∀ (n i : Nat) (s : σ) (fuel : Nat), inv i s → m i = n → n < fuel →
      Rt.forLoop cond step body fuel i s = .go (iter step g n i s)
  | 0, i, s, fuel, hs, hm, hf => by
    cases fuel with
    | zero => omega
    | succ f => simp [Rt.forLoop, hcond i s hs, hm, iter]
  | n + 1, i, s, fuel, hs, hm, hf => by
    cases fuel with
    | zero => omega
    | succ f =>
      have hpos : 0 < m i := by omega
      have hb := hbody i s hs hpos
      simp only [Rt.forLoop, hcond i s hs, hpos, decide_true, if_true, hb.1, iter]
      exact forLoop_iter inv cond step body g m hcond hbody n (step i) (g i s) f hb.2.1
        (by omega) (by omega)

theorem gen_swap (s : St) (i j : Nat) (hi : i < s.arr.size) (hj : j < s.arr.size) :
    Gen.PointerArray.swap s i j = .go { s with arr := swap s.arr i j } := by
  simp [Gen.PointerArray.swap, Rt.get, Rt.set, swap, Array.swapIfInBounds_def, hi, hj, Array.swap_def,
    Array.setIfInBounds_def, Array.getD_eq_getD_getElem?]

/-- the body of the loop of `relinkTestsInOrder`: `tests = arrayOfTests_[count_ - i - 1]->addTest(tests)` -/
def relinkBody (i : Nat) (s : St) : St :=
  Rt.setPtr (Rt.addTest s (Rt.get s (s.count - i - 1)) s.ptr) (some (Rt.get s (s.count - i - 1)))

theorem relink_iter : ∀ (n i : Nat) (s : St), s.count = s.arr.size → i + n = s.count →
    iter (· + 1) relinkBody n i s = { s with next := (relinkFrom s.arr n s.next s.ptr).1,
                                             ptr := (relinkFrom s.arr n s.next s.ptr).2 }
  | 0, i, s, _, _ => rfl
  | n + 1, i, s, hc, hi => by
    have hk : n < s.arr.size := by omega
    have hs' : relinkBody i s = { s with next := setNext s.next s.arr[n] s.ptr, ptr := some s.arr[n] } := by
      rw [relinkBody, show s.count - i - 1 = n by omega, show Rt.get s n = s.arr[n] by simp [Rt.get, hk]]
      rfl
    simp only [iter, relinkFrom, Array.getElem?_eq_getElem hk]
    rw [hs']
    exact relink_iter n (i + 1) _ hc (by show i + 1 + n = s.count; omega)

theorem gen_relink (s : St) (hc : s.count = s.arr.size) :
    ∃ s', Gen.PointerArray.relinkTestsInOrder s = .go s' ∧ s'.next = relink s.arr s.next ∧
      s'.arr = s.arr ∧ s'.count = s.count ∧ s'.rands = s.rands ∧ s'.srands = s.srands := by
  have hloop := forLoop_iter (fun _ (t : St) => t.count = s.count)
    (fun i t => decide (i < t.count)) (· + 1)
    (fun i t => Ctl.go (relinkBody i t)) relinkBody (s.count - ·)
    (by intro i t ht; rw [ht]; exact decide_eq_decide.mpr Nat.sub_pos_iff_lt.symm)
    (by intro i t ht hi; exact ⟨rfl, ht, by omega⟩)
    s.count 0 (Rt.setPtr s none) (s.count + 1) rfl rfl (Nat.lt_succ_self _)
  rw [relink_iter s.count 0 (Rt.setPtr s none) hc (Nat.zero_add _)] at hloop
  refine ⟨?s', ?run, ?_, ?_, ?_, ?_, ?_⟩
  case run =>
    show (Rt.forLoop (fun i t => decide (i < t.count)) (fun i => i + 1) (fun i t => Ctl.go (relinkBody i t))
      (s.count + 1) 0 (Rt.setPtr s none)).bind (fun s => Ctl.go s) = _
    rw [hloop]
    rfl
  · simp only [relink, Rt.setPtr, hc]
  all_goals rfl

/-- how `reverse` and `shuffle` end: the loop has fallen through with `t`, then
    `relinkTestsInOrder()` is called -/
theorem then_relink {c : Ctl St} {t : St} (hl : c = .go t) (hc : t.count = t.arr.size) :
    ∃ s', (c.bind (fun s => (Gen.PointerArray.relinkTestsInOrder s).call (fun s => Ctl.go s))).state?
        = some s' ∧
      s'.arr = t.arr ∧ s'.next = relink t.arr t.next ∧ s'.rands = t.rands ∧ s'.srands = t.srands := by
  obtain ⟨s', e1, e2, e3, _, e5, e6⟩ := gen_relink t hc
  exact ⟨s', by rw [hl]; simp only [Ctl.bind, e1, Ctl.call, Ctl.state?], e3, e2, e5, e6⟩

/-- the body of the loop of `reverse`: `swap(i, count_ - i - 1)` -/
def reverseBody (i : Nat) (s : St) : St := { s with arr := swap s.arr i (s.count - i - 1) }

theorem reverse_iter (c : Nat) : ∀ (n i : Nat) (s : St), s.count = c →
    iter (· + 1) reverseBody n i s = { s with arr := reverseLoop c n i s.arr }
  | 0, i, s, _ => by simp [iter, reverseLoop]
  | n + 1, i, s, hcnt => by
    simp only [iter, reverseLoop]
    rw [reverse_iter c n (i + 1) (reverseBody i s) hcnt, reverseBody, hcnt]

theorem gen_reverse (s : St) (hc : s.count = s.arr.size) :
    ∃ s', (Gen.PointerArray.reverse s).state? = some s' ∧ s'.arr = reverseArr s.arr ∧
      s'.next = (if s.arr.size = 0 then s.next else relink (reverseArr s.arr) s.next) ∧
      s'.rands = s.rands ∧ s'.srands = s.srands := by
  by_cases h0 : s.arr.size = 0
  · refine ⟨s, ?_, ?_, by simp [h0], rfl, rfl⟩
    · simp [Gen.PointerArray.reverse, hc, h0, Ctl.state?]
    · simp [reverseArr, h0]
  · have hloop := forLoop_iter (fun _ (t : St) => t.count = s.count ∧ t.arr.size = s.arr.size)
      (fun i _ => decide (i < s.count / 2)) (· + 1)
      (fun i t => (Gen.PointerArray.swap t i (t.count - i - 1)).call (fun t => Ctl.go t)) reverseBody
      (s.count / 2 - ·)
      (by intro i t _; exact decide_eq_decide.mpr Nat.sub_pos_iff_lt.symm)
      (by intro i t ht hi
          have h1 : i < t.arr.size := by omega
          have h2 : t.count - i - 1 < t.arr.size := by omega
          rw [gen_swap t i _ h1 h2]
          exact ⟨rfl, ⟨ht.1, by simp [reverseBody, swap_size, ht.2]⟩, by omega⟩)
      (s.count / 2) 0 s (s.count + 1) ⟨rfl, rfl⟩ rfl (by omega)
    have harr : reverseLoop s.count (s.count / 2) 0 s.arr = reverseArr s.arr := by
      simp [reverseArr, h0, hc]
    have hsz : (reverseArr s.arr).size = s.arr.size := by
      rw [← Array.length_toList, reverseArr_toList]; simp
    rw [reverse_iter s.count (s.count / 2) 0 s rfl, harr] at hloop
    obtain ⟨s', e1, ea, en, er, es⟩ := then_relink hloop (hc.trans hsz.symm)
    refine ⟨s', ?_, ea, by rw [en]; simp [h0], er, es⟩
    have hne : ¬ s.count = 0 := by omega
    simp only [Gen.PointerArray.reverse, beq_iff_eq, hne, if_false]
    exact e1

/-- the body of the loop of `shuffle`: `j = rand() % (i + 1); swap(i, j)` -/
def shuffleBody (i : Nat) (s : St) : St :=
  { s with arr := swap s.arr i (s.rands.headD 0 % (i + 1)), rands := s.rands.tail }

theorem shuffle_iter : ∀ (i : Nat) (s : St), i ≤ s.rands.length →
    iter (· - 1) shuffleBody i i s = { s with arr := shuffleLoop i s.rands s.arr, rands := s.rands.drop i }
  | 0, s, _ => by simp [iter, shuffleLoop]
  | i + 1, s, h => by
    cases hr : s.rands with
    | nil => rw [hr] at h; simp at h
    | cons r rs =>
      simp only [iter, Nat.add_sub_cancel]
      rw [shuffle_iter i (shuffleBody (i + 1) s) (by simp [shuffleBody, hr]; simpa [hr] using h), shuffleBody]
      simp [hr, shuffleLoop, gen_shuffleModulus]

theorem gen_shuffle (s : St) (seed : Nat) (hc : s.count = s.arr.size)
    (hr : randsNeeded s.arr.size ≤ s.rands.length) :
    ∃ s', (Gen.PointerArray.shuffle s seed).state? = some s' ∧ s'.arr = shuffleArr s.rands s.arr ∧
      s'.next = (if s.arr.size = 0 then s.next else relink (shuffleArr s.rands s.arr) s.next) ∧
      s'.rands = (if s.arr.size = 0 then s.rands else s.rands.drop (randsNeeded s.arr.size)) ∧
      s'.srands = (if s.arr.size = 0 then s.srands else s.srands ++ [seed % 4294967296]) := by
  by_cases h0 : s.arr.size = 0
  · refine ⟨s, ?_, ?_, by simp [h0], by simp [h0], by simp [h0]⟩
    · simp [Gen.PointerArray.shuffle, hc, h0, Ctl.state?]
    · simp [shuffleArr, h0]
  · let s1 := Rt.srand s (seed % 4294967296)
    have hne : ¬ s.count = 0 := by omega
    have hloop := forLoop_iter
      (fun i (t : St) => t.count = s.count ∧ t.arr.size = s.arr.size ∧ i < s.arr.size)
      (fun i _ => decide (i ≥ 1)) (· - 1)
      (fun i t => if (t.count == 0) then Ctl.ret t else
        (Gen.PointerArray.swap (Rt.popRand t) i (Rt.peekRand t % (i + 1))).call (fun t => Ctl.go t)) shuffleBody
      (·)
      (by intro i t _; rfl)
      (by intro i t ht hi
          have hn : ¬ t.count = 0 := by omega
          have h1 : i < (Rt.popRand t).arr.size := by simp [Rt.popRand]; omega
          have h2 : Rt.peekRand t % (i + 1) < (Rt.popRand t).arr.size := by
            have := Nat.mod_lt (Rt.peekRand t) (show 0 < i + 1 by omega)
            simp [Rt.popRand]; omega
          simp only [beq_iff_eq, hn, if_false]
          rw [gen_swap _ _ _ h1 h2]
          refine ⟨rfl, ⟨ht.1, ?_, by omega⟩, Nat.sub_one_add_one (Nat.ne_of_gt hi)⟩
          simp [shuffleBody, swap_size, ht.2.1])
      (s.count - 1) (s.count - 1) s1 (s.count + 1) ⟨rfl, rfl, by omega⟩ rfl (by omega)
    have harr : shuffleLoop (s.count - 1) s.rands s.arr = shuffleArr s.rands s.arr := by
      simp [shuffleArr, h0, hc]
    have hsz : (shuffleArr s.rands s.arr).size = s.arr.size := by
      rw [← Array.length_toList, (shuffleArr_perm s.rands s.arr).length_eq, Array.length_toList]
    rw [shuffle_iter (s.count - 1) s1
      (by simp only [s1, Rt.srand]; rw [hc]; exact hr)] at hloop
    simp only [s1, Rt.srand, harr] at hloop
    obtain ⟨s', e1, ea, en, er, es⟩ := then_relink hloop (hc.trans hsz.symm)
    refine ⟨s', ?_, ea, by rw [en]; simp [h0], by rw [er]; simp [h0, randsNeeded, hc],
      by rw [es]; simp [h0]⟩
    unfold Gen.PointerArray.shuffle
    rw [if_neg (by simp [hne])]
    exact e1

end Registry
