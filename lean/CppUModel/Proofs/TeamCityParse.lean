import CppUModel.Proofs.TeamCity
/-!
The specification's stream parser reads the rendering of a message list back: one message at a time through its name and
attribute list (`Msg.wire`), and the text between messages as long as it contains no `#`.
-/
namespace TeamCity
open Text (Bytes)
open OutEv

theorem takeUntil_append (stop : UInt8 → Bool) (c : UInt8) (y : Bytes) (hc : stop c = true) (a acc : Bytes)
    (h : ∀ b ∈ a, stop b = false) : takeUntil stop (a ++ c :: y) acc = (acc.reverse ++ a, c :: y) := by
  rw [ListLemmas.scan_push (fun acc s => takeUntil stop s acc) (stop · = false) (fun b acc r hb => by simp [takeUntil, hb]) a acc _ h]
  simp [takeUntil, hc]

theorem natOfBytes?_dec (d : Nat) : natOfBytes? (dec d) = some d :=
  readDec_dec (fun a n => by simp only [digit_range n, and_self, if_true]) d

def keyStop (b : UInt8) : Bool := b == 61 || b == 93 || b == 39 || b == 32

/-- a key without `=`, `]`, `'`, space -/
def keyOk (k : String) : Bool := (lit k).all fun b => !keyStop b

theorem parseAttrs_attr (k : String) (hk : keyOk k = true) (v rest : Bytes) (acc : List (Bytes × Bytes)) (fuel : Nat) :
    parseAttrs (fuel + 1) (attr k v ++ rest) acc = parseAttrs fuel rest ((lit k, v) :: acc) := by
  have hk' : ∀ b ∈ lit k, keyStop b = false := by
    intro b hb
    have := (List.all_eq_true.mp hk) b hb
    simpa using this
  have ht := takeUntil_append keyStop 61 (39 :: (escapeRef v ++ 39 :: rest)) (by decide) (lit k) [] hk'
  have hs : attr k v ++ rest = 32 :: (lit k ++ 61 :: 39 :: (escapeRef v ++ 39 :: rest)) := by
    simp [attr, List.append_assoc]
  rw [hs]
  simp only [parseAttrs]
  have h1 : ¬ ((32 : UInt8) = 93) := by decide
  simp only [h1, if_false, if_true]
  have ht' : takeUntil (fun b => b == 61 || b == 93 || b == 39 || b == 32) (lit k ++ 61 :: 39 :: (escapeRef v ++ 39 :: rest)) [] =
      (lit k, 61 :: 39 :: (escapeRef v ++ 39 :: rest)) := ht
  rw [ht']
  simp only [scanValue_escapeRef, List.reverse_nil, List.nil_append]

def renderAttrs (as : List (String × Bytes)) : Bytes := as.flatMap fun p => attr p.1 p.2
def attrPairs (as : List (String × Bytes)) : List (Bytes × Bytes) := as.map fun p => (lit p.1, p.2)

theorem parseAttrs_all : ∀ (as : List (String × Bytes)) (rest : Bytes) (acc : List (Bytes × Bytes)) (fuel : Nat),
    (∀ p ∈ as, keyOk p.1 = true) → as.length < fuel →
    parseAttrs fuel (renderAttrs as ++ 93 :: rest) acc = .ok (acc.reverse ++ attrPairs as, rest)
  | [], rest, acc, fuel, _, hf => by
    obtain ⟨f, rfl⟩ : ∃ f, fuel = f + 1 := ⟨fuel - 1, by simp at hf; omega⟩
    simp [renderAttrs, attrPairs, parseAttrs]
  | (k, v) :: as, rest, acc, fuel, hk, hf => by
    obtain ⟨f, rfl⟩ : ∃ f, fuel = f + 1 := ⟨fuel - 1, by simp at hf; omega⟩
    have ih := parseAttrs_all as rest ((lit k, v) :: acc) f (fun p hp => hk p (List.mem_cons_of_mem _ hp))
      (by simp at hf; omega)
    have : renderAttrs ((k, v) :: as) ++ 93 :: rest = attr k v ++ (renderAttrs as ++ 93 :: rest) := by
      simp [renderAttrs, List.append_assoc]
    rw [this, parseAttrs_attr k (hk (k, v) (List.mem_cons_self ..)), ih]
    simp [attrPairs]

theorem renderAttrs_length (as : List (String × Bytes)) : as.length ≤ (renderAttrs as).length := by
  induction as with
  | nil => simp [renderAttrs]
  | cons p as ih =>
    simp only [renderAttrs, List.flatMap_cons, List.length_append, List.length_cons] at ih ⊢
    have : 1 ≤ (attr p.1 p.2).length := by simp [attr]
    omega

theorem marker_eq : marker = 35 :: marker.tail := by decide

def flushTxt (txt : Bytes) (acc : List Msg) : List Msg := if txt.isEmpty then acc else .text txt.reverse :: acc

def nameStop (b : UInt8) : Bool := b == 32 || b == 93
def nameOk (n : String) : Bool := (lit n).all fun b => !nameStop b

/-- a rendered message with at least one attribute, followed by anything, is read as one message -/
theorem parseStream_message (nm : String) (hn : nameOk nm = true) (a : String × Bytes) (as : List (String × Bytes))
    (hk : ∀ p ∈ a :: as, keyOk p.1 = true) (m : Msg) (hm : mkMsg (lit nm) (attrPairs (a :: as)) = .ok m)
    (rest txt : Bytes) (acc : List Msg) (fuel : Nat) :
    parseStream (fuel + 1) (message nm (renderAttrs (a :: as)) ++ rest) txt acc =
      parseStream fuel rest [] (m :: flushTxt txt acc) := by
  have hn' : ∀ b ∈ lit nm, nameStop b = false := by
    intro b hb
    have := (List.all_eq_true.mp hn) b hb
    simpa using this
  -- the input as the parser meets it: marker, name, then `attrs`: a space (the first attribute), ..., `]`, line break
  obtain ⟨attrs, hattrs⟩ : ∃ attrs, attrs = renderAttrs (a :: as) ++ 93 :: 10 :: rest := ⟨_, rfl⟩
  have hclose : lit "]\n" = [93, 10] := by decide
  have hs : message nm (renderAttrs (a :: as)) ++ rest = marker ++ (lit nm ++ attrs) := by
    simp only [hattrs, message, marker, hclose, List.append_assoc, List.cons_append, List.nil_append]
  obtain ⟨tl, hspace⟩ : ∃ tl, attrs = 32 :: tl := ⟨_, hattrs⟩
  have hpre := List.isPrefixOf_iff_prefix.mpr (List.prefix_append marker (lit nm ++ attrs))
  have hdrop := List.drop_left (l₁ := marker) (l₂ := lit nm ++ attrs)
  have htake : takeUntil (fun b => b == 32 || b == 93) (lit nm ++ attrs) [] = (lit nm, attrs) := by
    rw [hspace]; exact takeUntil_append nameStop 32 tl rfl (lit nm) [] hn'
  have hfuel : (a :: as).length < attrs.length + 1 := by
    have := renderAttrs_length (a :: as)
    simp only [hattrs, List.length_append, List.length_cons] at this ⊢
    omega
  rw [hs]
  -- `parseStream` matches its input as `c :: rest` before it tests the prefix: give the input a head, keeping `hpre`, `hdrop`
  generalize hin : marker ++ (lit nm ++ attrs) = input at hpre hdrop
  obtain ⟨c, tl', rfl⟩ : ∃ c tl', input = c :: tl' := ⟨_, _, by rw [← hin, marker_eq]; rfl⟩
  subst hattrs
  simp only [parseStream, hpre, if_true, hdrop, htake, parseAttrs_all (a :: as) (10 :: rest) [] _ hk hfuel, List.reverse_nil,
    List.nil_append, hm, flushTxt]

/-- name and attributes of a service message as `Msg.render` writes them -/
def Msg.wire : Msg → String × List (String × Bytes)
  | .suiteStarted n => ("testSuiteStarted", [("name", n)])
  | .suiteFinished n => ("testSuiteFinished", [("name", n)])
  | .testStarted n => ("testStarted", [("name", n)])
  | .testIgnored n => ("testIgnored", [("name", n)])
  | .testFinished n d => ("testFinished", [("name", n), ("duration", dec d)])
  | .testFailed n m d => ("testFailed", [("name", n), ("message", m), ("details", d)])
  | .text _ => ("", [])

def isTextMsg : Msg → Bool
  | .text _ => true
  | _ => false

theorem render_wire (m : Msg) (hm : isTextMsg m = false) : m.render = message m.wire.1 (renderAttrs m.wire.2) := by
  cases m <;> simp [isTextMsg] at hm <;> simp [Msg.render, Msg.wire, renderAttrs]

/-- the message names and attribute keys of the vocabulary (reducible, so that `simp` can look a word up) -/
abbrev wireWords : List String :=
  ["testSuiteStarted", "testSuiteFinished", "testStarted", "testIgnored", "testFinished", "testFailed", "name", "duration",
   "message", "details"]

/-- Everything the parser has to know about these words, evaluated once: none contains a byte that ends a name or a key,
    and different words are different byte strings. -/
theorem wireWords_ok : ∀ a ∈ wireWords, (nameOk a = true ∧ keyOk a = true) ∧ ∀ b ∈ wireWords, lit a = lit b → a = b := by
  -- evaluated on the words' bytes, which `lit` is for ASCII words
  have key : ∀ a ∈ wireWords, (∀ b ∈ a.toByteArray.data.toList, b < 128) ∧
      ((a.toByteArray.data.toList.all fun b => !nameStop b) = true ∧ (a.toByteArray.data.toList.all fun b => !keyStop b) = true) ∧
      ∀ b ∈ wireWords, a.toByteArray.data.toList = b.toByteArray.data.toList → a = b := by decide +kernel
  intro a ha
  obtain ⟨hascii, hstop, hinj⟩ := key a ha
  refine ⟨?_, fun b hb => ?_⟩
  · simp only [nameOk, keyOk, lit_eq_bytes a hascii]
    exact hstop
  · rw [lit_eq_bytes a hascii, lit_eq_bytes b (key b hb).1]
    exact hinj b hb

theorem lit_eq_iff {a b : String} (ha : a ∈ wireWords) (hb : b ∈ wireWords) : lit a = lit b ↔ a = b :=
  ⟨(wireWords_ok a ha).2 b hb, congrArg lit⟩

theorem wire_words (m : Msg) : isTextMsg m = false → m.wire.1 ∈ wireWords ∧ ∀ p ∈ m.wire.2, p.1 ∈ wireWords := by
  cases m <;> simp [isTextMsg, Msg.wire]

theorem mkMsg_wire (m : Msg) (hm : isTextMsg m = false) : mkMsg (lit m.wire.1) (attrPairs m.wire.2) = .ok m := by
  cases m <;> simp [isTextMsg] at hm <;>
    simp [Msg.wire, attrPairs, mkMsg, lookupAttr, lit_eq_iff, natOfBytes?_dec]

theorem parseStream_render (m : Msg) (hm : isTextMsg m = false) (rest txt : Bytes) (acc : List Msg) (fuel : Nat) :
    parseStream (fuel + 1) (m.render ++ rest) txt acc = parseStream fuel rest [] (m :: flushTxt txt acc) := by
  obtain ⟨hname, hkeys⟩ := wire_words m hm
  have hmk := mkMsg_wire m hm
  rw [render_wire m hm]
  obtain ⟨a, as, has⟩ : ∃ a as, m.wire.2 = a :: as := by
    cases m with
    | text _ => cases hm
    | _ => exact ⟨_, _, rfl⟩
  rw [has] at hkeys hmk ⊢
  exact parseStream_message _ (wireWords_ok _ hname).1.1 a as (fun p hp => (wireWords_ok _ (hkeys p hp)).1.2) m hmk rest txt acc fuel

/-- no `#` in the text (so the marker `##teamcity[` cannot start inside it) -/
def noHash (t : Bytes) : Bool := t.all fun c => c != 35

theorem marker_not_prefix (c : UInt8) (hc : c ≠ 35) (rest : Bytes) : marker.isPrefixOf (c :: rest) = false := by
  rw [marker_eq, List.isPrefixOf, beq_false_of_ne (Ne.symm hc), Bool.false_and]

theorem parseStream_text : ∀ (t rest txt : Bytes) (acc : List Msg) (fuel : Nat), noHash t = true →
    parseStream (t.length + fuel) (t ++ rest) txt acc = parseStream fuel rest (t.reverse ++ txt) acc
  | [], rest, txt, acc, fuel, _ => by simp
  | c :: t, rest, txt, acc, fuel, h => by
    have hc : c ≠ 35 := by
      have := (List.all_eq_true.mp h) c (List.mem_cons_self ..); simpa using this
    have ht : noHash t = true := by
      simp only [noHash, List.all_cons, Bool.and_eq_true] at h; exact h.2
    have ih := parseStream_text t rest (c :: txt) acc fuel ht
    have hl : (c :: t).length + fuel = (t.length + fuel) + 1 := by simp; omega
    rw [hl]
    simp only [List.cons_append, parseStream, marker_not_prefix c hc, Bool.false_eq_true, if_false]
    rw [ih]
    simp

/-- the message list a reader sees: adjacent texts are one text, empty texts are not there.
    `pending` = text collected so far -/
def normFrom (pending : Bytes) : List Msg → List Msg
  | [] => if pending.isEmpty then [] else [.text pending]
  | .text t :: ms => normFrom (pending ++ t) ms
  | m :: ms => (if pending.isEmpty then [] else [.text pending]) ++ m :: normFrom [] ms

def textsNoHash (ms : List Msg) : Prop := ∀ m ∈ ms, ∀ raw, m = .text raw → noHash raw = true

theorem flushTxt_reverse (txt : Bytes) (acc : List Msg) :
    (flushTxt txt acc).reverse = acc.reverse ++ (if txt.reverse.isEmpty then [] else [.text txt.reverse]) := by
  unfold flushTxt
  cases txt <;> simp

theorem render_pos (m : Msg) (hm : isTextMsg m = false) : 1 ≤ m.render.length := by
  rw [render_wire m hm]
  show 1 ≤ (marker ++ lit m.wire.1 ++ renderAttrs m.wire.2 ++ lit "]\n").length
  rw [marker_eq]
  simp only [List.cons_append, List.length_cons]
  omega

theorem parseStream_renderAll : ∀ (ms : List Msg) (txt : Bytes) (acc : List Msg) (fuel : Nat),
    textsNoHash ms → (renderAll ms).length < fuel →
    parseStream fuel (renderAll ms) txt acc = .ok (acc.reverse ++ normFrom txt.reverse ms)
  | [], txt, acc, fuel, _, hf => by
    obtain ⟨f, rfl⟩ : ∃ f, fuel = f + 1 := ⟨fuel - 1, by simp [renderAll] at hf; omega⟩
    simp only [renderAll, List.flatMap_nil, parseStream, normFrom]
    have := flushTxt_reverse txt acc
    unfold flushTxt at this
    rw [this]
  | m :: ms, txt, acc, fuel, hno, hf => by
    have hno' : textsNoHash ms := fun x hx => hno x (List.mem_cons_of_mem _ hx)
    rw [renderAll_cons] at hf ⊢
    simp only [List.length_append] at hf
    by_cases hm : isTextMsg m = true
    · cases m with
      | text raw =>
        have hraw : noHash raw = true := hno _ (List.mem_cons_self ..) raw rfl
        obtain ⟨f, rfl⟩ : ∃ f, fuel = raw.length + f := ⟨fuel - raw.length, by simp [Msg.render] at hf; omega⟩
        simp only [Msg.render] at hf ⊢
        rw [parseStream_text raw _ txt acc f hraw, parseStream_renderAll ms _ acc f hno' (by omega)]
        simp [normFrom]
      | _ => simp [isTextMsg] at hm
    · have hm' : isTextMsg m = false := by simpa using hm
      have hpos := render_pos m hm'
      obtain ⟨f, rfl⟩ : ∃ f, fuel = f + 1 := ⟨fuel - 1, by omega⟩
      rw [parseStream_render m hm' _ txt acc f, parseStream_renderAll ms [] _ f hno' (by omega), List.reverse_cons,
        flushTxt_reverse]
      cases m <;> simp [isTextMsg] at hm' <;> simp [normFrom, List.append_assoc]

theorem normFrom_no_text : ∀ (ms : List Msg), (∀ m ∈ ms, isTextMsg m = false) → normFrom [] ms = ms
  | [], _ => rfl
  | m :: ms, h => by
    have hm := h m (List.mem_cons_self ..)
    have ih := normFrom_no_text ms (fun x hx => h x (List.mem_cons_of_mem _ hx))
    cases m <;> simp [isTextMsg] at hm <;> simp [normFrom, ih]

theorem parse_renderAll (ms : List Msg) (h : textsNoHash ms) : parse (renderAll ms) = .ok (normFrom [] ms) := by
  unfold parse
  rw [parseStream_renderAll ms [] [] _ h (by omega)]
  simp

end TeamCity
