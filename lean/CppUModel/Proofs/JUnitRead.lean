import CppUModel.Proofs.JUnitDoc
import CppUModel.Proofs.ListLemmas
/-!
The token list of a report is well formed (so the tokenizer returns it), and the layout reader turns it back into the
structured report.
-/
namespace JUnit
open Text (Bytes)
open OutEv

def toks (rs : List RTok) : List Tok := rs.map RTok.toTok

theorem caseOpen_ok (c : Case) : rOk (.tok (.open_ (lit "testcase") (caseAttrs c) false)) :=
  tokOk_open _ _ (by decide +kernel) (by decide +kernel) (by decide +kernel) (by simp [caseKeys])

theorem suiteOpen_ok (su : Suite) : rOk (.tok (.open_ (lit "testsuite") (suiteAttrs su) false)) :=
  tokOk_open _ _ (by decide +kernel) (by decide +kernel) (by decide +kernel) (by simp [suiteKeys])

theorem failureOpen_ok (m : Bytes) :
    rOk (.tok (.open_ (lit "failure") (failureKeys.zip [m, lit "AssertionFailedError"]) false)) :=
  tokOk_open _ _ (by decide +kernel) (by decide +kernel) (by decide +kernel) (by simp [failureKeys])

theorem emptyOpen_ok {name : Bytes} {sc : Bool} (h : nameOk name) : rOk (.tok (.open_ name [] sc)) :=
  tokOk_open (ks := []) [] sc h (fun _ hk => nomatch hk) .nil (Nat.le_refl _)

theorem docOk_case (c : Case) (p : Bool) (rest : List RTok) (h : docOk true rest) : docOk p (caseR c ++ rest) := by
  obtain ⟨nCase, nFailure, nSkipped⟩ :
      nameOk (lit "testcase") ∧ nameOk (lit "failure") ∧ nameOk (lit "skipped") := by decide
  unfold caseR caseChildren
  cases c.failure with
  | some m =>
    exact docOk_tag_nl (caseOpen_ok c) rfl (docOk_tag_nl (failureOpen_ok m) rfl (docOk_tag_nl nFailure rfl
      (docOk_tag_nl nCase rfl h)))
  | none =>
    cases c.skipped
    · exact docOk_tag_nl (caseOpen_ok c) rfl (docOk_tag_nl nCase rfl h)
    · exact docOk_tag_nl (caseOpen_ok c) rfl (docOk_tag_nl (emptyOpen_ok nSkipped) rfl (docOk_tag_nl nCase rfl h))

theorem docOk_cases (rest : List RTok) (h : docOk true rest) : ∀ (cs : List Case), docOk true (cs.flatMap caseR ++ rest)
  | [] => h
  | c :: cs => by
    rw [List.flatMap_cons, List.append_assoc]
    exact docOk_case c true _ (docOk_cases rest h cs)

theorem docR_docOk (su : Suite) : docOk false (docR su) := by
  obtain ⟨nSuite, nProps, nOut, nErr⟩ :
      nameOk (lit "testsuite") ∧ nameOk (lit "properties") ∧ nameOk (lit "system-out") ∧ nameOk (lit "system-err") := by
    decide
  have hend : docOk false [.tok (.close (lit "system-out")), .nl, .tok (.open_ (lit "system-err") [] false),
      .tok (.close (lit "system-err")), .nl, .tok (.close (lit "testsuite")), .nl] :=
    docOk_tag_nl nOut rfl ⟨emptyOpen_ok nErr, fun _ => rfl, docOk_tag_nl nErr rfl (docOk_tag_nl nSuite rfl trivial)⟩
  have htail : docOk true (suiteTail su) := by
    unfold suiteTail
    split
    · exact ⟨emptyOpen_ok nOut, fun _ => rfl, hend⟩
    · next hs => exact ⟨emptyOpen_ok nOut, fun _ => rfl, hs, nofun, hend.1, fun _ => rfl, hend.2.2⟩
  exact docOk_tag_nl (t := .tok .pi) trivial rfl (docOk_tag_nl (suiteOpen_ok su) rfl
    (docOk_tag_nl (emptyOpen_ok nProps) rfl (docOk_tag_nl nProps rfl (docOk_cases _ htail su.cases))))

theorem tokenize_doc (su : Suite) (hts : encodeRef su.timestamp = su.timestamp) :
    tokenize (su.render.length + 1) su.render [] = .ok (toks (docR su)) := by
  rw [suite_render_eq su hts]
  exact tokenize_renderR (docR su) (docR_docOk su)

theorem getAttr_of_mem (k : String) (v : Bytes) (as : List (Bytes × Bytes)) (hnd : (as.map (·.1)).Nodup)
    (hm : (lit k, v) ∈ as) : getAttr as k = .ok v := by
  rw [getAttr, ListLemmas.find?_key_of_nodup (·.1) hnd hm]

def caseWf (c : Case) : Prop := c.millis < 1000 ∧ (c.failure.isSome = true → c.skipped = false)

/-- well-formed report: times have a millisecond part below 1000; a case with a failure is not also
    marked skipped (only one of the two is ever rendered) -/
def suiteWf (su : Suite) : Prop := su.millis < 1000 ∧ ∀ c ∈ su.cases, caseWf c

theorem getInt_of (as : List (Bytes × Bytes)) (k : String) (z : Int) (h : getAttr as k = .ok (showInt z)) :
    getInt as k = .ok z := by
  simp [getInt, h, intOfBytes?_showInt]

/-- looking up an attribute of a `<testcase>` tag; the membership is found by unfolding the attribute list -/
theorem getAttr_case (c : Case) (k : String) (v : Bytes) (h : (lit k, v) ∈ caseAttrs c := by simp [caseAttrs, caseKeys]) :
    getAttr (caseAttrs c) k = .ok v := getAttr_of_mem k v _ (caseOpen_ok c).2.2 h

theorem getAttr_suite (su : Suite) (k : String) (v : Bytes)
    (h : (lit k, v) ∈ suiteAttrs su := by simp [suiteAttrs, suiteKeys]) :
    getAttr (suiteAttrs su) k = .ok v := getAttr_of_mem k v _ (suiteOpen_ok su).2.2 h

theorem caseOfAttrs_case (c : Case) (hm : c.millis < 1000) (f : Option Bytes) (sk : Bool) :
    caseOfAttrs (caseAttrs c) f sk = .ok { c with failure := f, skipped := sk } := by
  have h1 := getAttr_case c "classname" c.classname
  have h2 := getAttr_case c "name" c.name
  have h3 := getInt_of _ _ _ (getAttr_case c "assertions" (showInt c.assertions))
  have h4 := getTime_of _ _ _ _ hm (getAttr_case c "time" (showTime c.secs c.millis))
  have h5 := getAttr_case c "file" c.file
  have h6 := getInt_of _ _ _ (getAttr_case c "line" (showInt c.line))
  simp [caseOfAttrs, h1, h2, h3, h4, h5, h6]

theorem isBlank_nl : isBlank [10] = true := by decide

theorem readCaseBody_case (c : Case) (hwf : caseWf c) (rest : List RTok) :
    readCaseBody (toks (.nl :: (caseChildren c ++ ([.tok (.close (lit "testcase")), .nl] ++ rest)))) =
      .ok (c.failure, c.skipped, toks (.nl :: rest)) := by
  have d1 : ¬ (lit "failure" = lit "skipped") := by decide
  unfold caseChildren
  cases hf : c.failure with
  | some m =>
    have hsk : c.skipped = false := hwf.2 (by simp [hf])
    have hg : getAttr (failureKeys.zip [m, lit "AssertionFailedError"]) "message" = .ok m :=
      getAttr_of_mem "message" m _ (failureOpen_ok m).2.2 (by simp [failureKeys])
    simp [toks, RTok.toTok, readCaseBody, dropBlank, isBlank_nl, d1, hg, hsk]
  | none =>
    cases hs : c.skipped <;> simp [toks, RTok.toTok, readCaseBody, dropBlank, isBlank_nl]

theorem readCases_cases (tail : List RTok) (tl : List Tok)
    (htail : toks tail = .open_ (lit "system-out") [] false :: tl) :
    ∀ (cs : List Case) (acc : List Case) (fuel : Nat), (∀ c ∈ cs, caseWf c) → cs.length < fuel →
      readCases fuel (toks (.nl :: (cs.flatMap caseR ++ tail))) acc = .ok (acc.reverse ++ cs, toks tail)
  | [], acc, fuel, _, hf => by
    obtain ⟨f, rfl⟩ : ∃ f, fuel = f + 1 := ⟨fuel - 1, by simp at hf; omega⟩
    have d : ¬ (lit "system-out" = lit "testcase") := by decide
    have : toks (.nl :: ([].flatMap caseR ++ tail)) = .text [10] :: toks tail := by simp [toks, RTok.toTok]
    rw [this, htail]
    simp [readCases, dropBlank, isBlank_nl, d]
  | c :: cs, acc, fuel, hwf, hf => by
    obtain ⟨f, rfl⟩ : ∃ f, fuel = f + 1 := ⟨fuel - 1, by simp at hf; omega⟩
    have hc := hwf c (List.mem_cons_self ..)
    have ih := readCases_cases tail tl htail cs ({ c with failure := c.failure, skipped := c.skipped } :: acc) f
      (fun x hx => hwf x (List.mem_cons_of_mem _ hx)) (by simp at hf; omega)
    have hshape : toks (.nl :: ((c :: cs).flatMap caseR ++ tail)) =
        .text [10] :: .open_ (lit "testcase") (caseAttrs c) false ::
          toks (.nl :: (caseChildren c ++ ([.tok (.close (lit "testcase")), .nl] ++ (cs.flatMap caseR ++ tail)))) := by
      simp [toks, RTok.toTok, caseR, List.append_assoc]
    rw [hshape]
    simp only [readCases, dropBlank, isBlank_nl, if_true, and_self]
    rw [readCaseBody_case c hc]
    simp only [caseOfAttrs_case c hc.1]
    rw [ih]
    simp

theorem suiteTail_head (su : Suite) : ∃ tl, toks (suiteTail su) = .open_ (lit "system-out") [] false :: tl := by
  unfold suiteTail
  by_cases h : su.stdout = [] <;> simp [h, toks, RTok.toTok]

theorem readEnding_tail (su : Suite) : readEnding (toks (suiteTail su)) = .ok su.stdout := by
  unfold suiteTail
  by_cases h : su.stdout = [] <;> simp [h, toks, RTok.toTok, readEnding, dropBlank, isBlank_nl]

theorem suiteOfAttrs_suite (su : Suite) (hm : su.millis < 1000) (cases : List Case) (out : Bytes) :
    suiteOfAttrs (suiteAttrs su) cases out = .ok { su with cases := cases, stdout := out } := by
  have h1 := getInt_of _ _ _ (getAttr_suite su "failures" (showInt su.failures))
  have h2 := getAttr_suite su "name" su.name
  have h3 := getInt_of _ _ _ (getAttr_suite su "tests" (showInt su.tests))
  have h4 := getTime_of _ _ _ _ hm (getAttr_suite su "time" (showTime su.secs su.millis))
  have h5 := getAttr_suite su "timestamp" su.timestamp
  simp [suiteOfAttrs, h1, h2, h3, h4, h5]

theorem caseR_length (cs : List Case) : cs.length ≤ (cs.flatMap caseR).length := by
  induction cs with
  | nil => simp
  | cons c cs ih =>
    simp only [List.flatMap_cons, List.length_append, List.length_cons]
    have : 1 ≤ (caseR c).length := by simp [caseR]
    omega

theorem readSuite_doc (su : Suite) (hwf : suiteWf su) : readSuite (toks (docR su)) = .ok su := by
  obtain ⟨tl, htl⟩ := suiteTail_head su
  have hshape : toks (docR su) =
      .pi :: .text [10] :: .open_ (lit "testsuite") (suiteAttrs su) false :: .text [10] ::
        .open_ (lit "properties") [] false :: .text [10] :: .close (lit "properties") ::
          toks (.nl :: (su.cases.flatMap caseR ++ suiteTail su)) := by
    simp [docR, suiteHead, toks, RTok.toTok]
  have hfuel : su.cases.length < (toks (.nl :: (su.cases.flatMap caseR ++ suiteTail su))).length + 1 := by
    have := caseR_length su.cases
    simp only [toks, List.length_map, List.length_cons, List.length_append]
    omega
  have hcases := readCases_cases (suiteTail su) tl htl su.cases [] _ hwf.2 hfuel
  rw [hshape]
  simp only [readSuite, dropBlank, isBlank_nl, if_true, ne_eq, not_true_eq_false, if_false, hcases, List.reverse_nil, List.nil_append,
    readEnding_tail, suiteOfAttrs_suite su hwf.1]

theorem map_parse_of_roundtrip (rs : List (Bytes × Suite)) (hr : ∀ r ∈ rs, parseReport r.2.render = .ok r.2) :
    (rs.map fun r => ({ name := r.1, bytes := r.2.render } : File)).map (fun f => parseReport f.bytes) =
      rs.map (fun r => (Except.ok r.2 : Except String Suite)) := by
  simp only [List.map_map, Function.comp_def]
  exact List.map_congr_left hr

end JUnit
