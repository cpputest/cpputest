import CppUModel.Proofs.FailureCtors
/-! The writer fold `foldEvents` (JUnit and TeamCity outputs): two writers related step by step, an event at which nothing is
put out; the registry loop ends with `testsEnded`; what a selected test sends is a block (started, the events of the running
test, ended), and what those events are.  (An event list in two parts: `foldEvents_append`, with the definition.) -/
namespace OutEv

/-- A writer `b` that, seen through `f` (states) and the list homomorphism `g` (output), does what the writer `a`
    does: then so do whole runs.  (`f = id`, `g = id`: equal steps give equal runs.) -/
theorem foldEvents_sim {σ τ ω υ : Type} {b : τ → Ev → τ × List υ} {a : σ → Ev → σ × List ω} (f : τ → σ)
    (g : List υ → List ω) (g_nil : g [] = []) (g_append : ∀ x y, g (x ++ y) = g x ++ g y)
    (h : ∀ x e, a (f x) e = (f (b x e).1, g (b x e).2)) :
    ∀ (evs : List Ev) (x : τ), foldEvents a (f x) evs = (f (foldEvents b x evs).1, g (foldEvents b x evs).2)
  | [], _ => by rw [foldEvents, foldEvents, g_nil]
  | e :: es, x => by
    rw [foldEvents, foldEvents, h, foldEvents_sim f g g_nil g_append h es, g_append]

theorem foldEvents_cons_quiet {σ ω : Type} {f : σ → Ev → σ × List ω} {s s' : σ} {e : Ev} (es : List Ev)
    (h : f s e = (s', [])) : foldEvents f s (e :: es) = foldEvents f s' es := by
  simp [foldEvents, h]

/-- What `++` keeps and every piece of the registry loop has — nothing, a group start, what a selected test sends, a group
    end, the final summary — the loop has. -/
theorem loop_pieces {P : List Ev → Prop} (happ : ∀ {a b : List Ev}, P a → P b → P (a ++ b)) (hnil : P [])
    (hstart : ∀ t, P [.groupStarted t]) (hend : ∀ ms, P [.groupEnded ms]) (hsum : ∀ sm, P [.testsEnded sm])
    (flt : Option Filter) : ∀ (tests : List Script), (∀ t ∈ tests, ∀ r, P (testEvs t r)) →
      ∀ (gs : Bool) (g0 : Nat) (r : R), P (loop flt gs g0 r tests)
  | [], _, _, _, _ => hsum _
  | t :: rest, h, gs, g0, r => by
    refine happ (happ (happ ?_ ?_) ?_)
      (loop_pieces happ hnil hstart hend hsum flt rest (fun x hx => h x (List.mem_cons_of_mem _ hx)) _ _ _)
    · unfold startEvs
      split
      · exact hstart _
      · exact hnil
    · unfold bodyEvs
      split
      · exact h t (List.mem_cons_self ..) _
      · exact hnil
    · unfold endEvs
      split
      · exact hend _
      · exact hnil

theorem loop_ends (flt : Option Filter) : ∀ (tests : List Script) (gs : Bool) (g0 : Nat) (r : R),
    ∃ s pre, loop flt gs g0 r tests = pre ++ [.testsEnded s]
  | [], _, _, r => ⟨r.summary, [], rfl⟩
  | t :: rest, gs, g0, r => by
    obtain ⟨s, pre, h⟩ := loop_ends flt rest (endOfGroup t rest) (if gs then r.clock else g0) (bodyR flt t r)
    exact ⟨s, startEvs gs t ++ bodyEvs flt t r ++ endEvs t rest (if gs then r.clock else g0) (bodyR flt t r) ++ pre,
      by simp only [loop, h, List.append_assoc]⟩

/-! ## the block of a test -/

/-- what a selected test sends between its start and its end: nothing if it is ignored -/
def testMid (sc : Script) : List Ev := if sc.info.willRun then testInner sc.info sc.acts else []

theorem testEvs_eq (sc : Script) (r : R) :
    testEvs sc r = .testStarted sc.info :: (testMid sc ++
      [.testEnded (if sc.info.willRun then actTicks sc.acts else 0)
        (if sc.info.willRun then r.checks + actChecks sc.acts else r.checks)]) := by
  unfold testEvs testMid
  cases sc.info.willRun <;> rfl

theorem mem_testMid {sc : Script} {e : Ev} (h : e ∈ testMid sc) : e ∈ testInner sc.info sc.acts := by
  unfold testMid at h
  split at h
  · exact h
  · cases h

theorem mem_actEvs (t : TestInfo) (e : Ev) : ∀ acts : List Act, e ∈ actEvs t acts →
    (∃ f l x, Act.print f l x ∈ acts ∧ e = .print (printText f l x)) ∨ ∃ f, e = .failure f ∧ f.testName = t.name
  | [], h => nomatch h
  | a :: as, h => by
    have ih : e ∈ actEvs t as →
        (∃ f l x, Act.print f l x ∈ a :: as ∧ e = .print (printText f l x)) ∨ ∃ f, e = .failure f ∧ f.testName = t.name :=
      fun h' => (mem_actEvs t e as h').imp (fun ⟨f, l, x, hm, he⟩ => ⟨f, l, x, List.mem_cons_of_mem _ hm, he⟩) id
    -- a failure in front, built by whichever constructor, carries the test's name
    have fail : ∀ g : Failure, g.testName = t.name → e ∈ Ev.failure g :: actEvs t as →
        (∃ f l x, Act.print f l x ∈ a :: as ∧ e = .print (printText f l x)) ∨ ∃ f, e = .failure f ∧ f.testName = t.name :=
      fun g hg h' => (List.mem_cons.1 h').elim (fun he => .inr ⟨g, he, hg⟩) ih
    cases a with
    | print f l x => exact (List.mem_cons.1 h).elim (fun he => .inl ⟨f, l, x, List.mem_cons_self .., he⟩) ih
    | fail f l m => exact fail _ (locMsgFailure_testName t f l m) h
    | failMsg m => exact fail _ (msgFailure_testName t m) h
    | failLoc f l => exact fail _ (locFailure_testName t f l) h
    | failExit f l m => exact .inr ⟨_, List.mem_singleton.1 h, exitFailure_testName t f l m⟩
    | _ => exact ih h

theorem mem_postEvs (t : TestInfo) (e : Ev) : ∀ acts : List Act, e ∈ postEvs t acts →
    ∃ f, e = .failure f ∧ f.testName = t.name
  | [], h => nomatch h
  | a :: as, h => by
    cases a with
    | postFail m =>
      rcases List.mem_cons.1 h with rfl | h
      · exact ⟨_, rfl, msgFailure_testName t m⟩
      · exact mem_postEvs t e as h
    | _ => exact mem_postEvs t e as h

theorem postEvs_append (t : TestInfo) (a b : List Act) : postEvs t (a ++ b) = postEvs t a ++ postEvs t b := by
  induction a with
  | nil => rfl
  | cons x as ih => cases x <;> simp [postEvs, ih]

theorem actEvs_append_postFail (t : TestInfo) (m : Text.Bytes) (a : List Act) : actEvs t (a ++ [.postFail m]) = actEvs t a := by
  induction a with
  | nil => rfl
  | cons x as ih => cases x <;> simp [actEvs, ih]

theorem trace_vv {acts : List Act} {e : Ev} (h : e ∈ traceBefore ++ (traceBetween acts ++ traceAfter)) :
    ∃ x, e = .veryVerbose x := by
  have hall : ((traceBefore ++ (traceBetween acts ++ traceAfter)).all fun e =>
      match e with | .veryVerbose _ => true | _ => false) = true := by
    unfold traceBetween; split <;> rfl
  have := List.all_eq_true.1 hall e h
  cases e <;> first | exact ⟨_, rfl⟩ | cases this

/-- Every event of a running test is a line of the progress trace, one of its prints, or a failure that carries its name. -/
theorem mem_testInner {t : TestInfo} {acts : List Act} {e : Ev} (h : e ∈ testInner t acts) :
    e ∈ traceBefore ++ (traceBetween acts ++ traceAfter) ∨
      (∃ f l x, Act.print f l x ∈ acts ∧ e = .print (printText f l x)) ∨ ∃ f, e = .failure f ∧ f.testName = t.name := by
  simp only [testInner, List.mem_append] at h ⊢
  rcases h with h | h | h | h | h
  · exact .inl (.inl h)
  · exact .inr (mem_actEvs t e acts h)
  · exact .inl (.inr (.inl h))
  · exact .inr (.inr (mem_postEvs t e acts h))
  · exact .inl (.inr (.inr h))

/-- the three kinds of event a running test sends between its start and its end -/
def Ev.inBody : Ev → Bool
  | .print _ | .failure _ | .veryVerbose _ => true
  | _ => false

theorem inBody_testMid {sc : Script} {e : Ev} (h : e ∈ testMid sc) : e.inBody = true := by
  rcases mem_testInner (mem_testMid h) with ht | ⟨_, _, _, _, rfl⟩ | ⟨_, rfl, _⟩
  · obtain ⟨_, rfl⟩ := trace_vv ht
    rfl
  · rfl
  · rfl

end OutEv
