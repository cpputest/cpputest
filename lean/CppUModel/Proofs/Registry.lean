import CppUModel.Spec.Registry
import CppUModel.Proofs.TextLemmas
import CppUModel.Proofs.ListLemmas
/-! Lemmas about the registry model (`Model/Registry.lean`, `Spec/Registry.lean`) on which the C02 theorems rest. -/
namespace Registry
open Text (Bytes)

/-! ## regenerated decision functions: their meaning (re-checked whenever the source changes) -/

theorem gen_filterMatch (s i e c : Bool) :
    Gen.Registry.filterMatch s i e c = ((if s then e else c) != i) := by
  cases s <;> cases i <;> cases e <;> cases c <;> rfl

theorem gen_shouldRun (a b : Bool) : Gen.Registry.shouldRun a b = (a && b) := by
  cases a <;> cases b <;> rfl

theorem gen_endOfGroup_last (d : Bool) : Gen.Registry.endOfGroup false true d = true := by
  cases d <;> rfl

theorem gen_endOfGroup_mid (d : Bool) : Gen.Registry.endOfGroup false false d = d := by
  cases d <;> rfl

theorem gen_ignoredRuns (b : Bool) : Gen.Registry.ignoredRuns b = b := by
  cases b <;> rfl

theorem gen_shuffleModulus (i : Nat) : Gen.Registry.shuffleModulus i = i + 1 := rfl

theorem matches_iff (f : Filter) (s : Bytes) : f.matches s = true ↔ f.accepts s := by
  unfold Filter.matches Filter.accepts Filter.hit
  rw [gen_filterMatch]
  have h := Text.isInfix_iff s f.text
  cases hs : f.strict <;> cases hi : f.invert <;> simp [← h]

theorem matchLoop_iff (s : Bytes) (fs : List Filter) :
    matchLoop s fs = true ↔ ∃ f ∈ fs, f.accepts s := by
  induction fs with
  | nil => simp [matchLoop]
  | cons f fs ih =>
    simp only [matchLoop, List.mem_cons, exists_eq_or_imp, ← matches_iff f s]
    cases h : f.matches s <;> simp [ih]

theorem matchFilters_iff (s : Bytes) (fs : List Filter) :
    matchFilters s fs = true ↔ kindAccepts fs s := by
  unfold matchFilters kindAccepts
  cases fs with
  | nil => simp
  | cons f fs => simp only [matchLoop_iff]; simp

theorem runOneTest_eq (cfg : Cfg) (t : Test) (c : Counters) :
    runOneTest cfg t c =
      if willRun cfg t then (c.countRun, [Ev.exec t.id]) else (c.countIgnored, []) := by
  unfold runOneTest ignoredRunOneTest utestShellRunOneTest willRun shellFlagAtUse
  rw [gen_ignoredRuns]
  cases t.ignored <;> cases cfg.runIgnored <;> cases t.flag <;> simp

theorem testStep_eq (cfg : Cfg) (t : Test) (c : Counters) :
    testStep cfg t c =
      if shouldRun cfg t then
        if willRun cfg t then
          (c.countTest.countRun, [Ev.testStart t.id, Ev.exec t.id, Ev.testEnd t.id])
        else (c.countTest.countIgnored, [Ev.testStart t.id, Ev.testEnd t.id])
      else (c.countTest.countFilteredOut, []) := by
  unfold testStep
  rw [runOneTest_eq]
  cases shouldRun cfg t <;> cases willRun cfg t <;> simp

theorem runLoop_counters (cfg : Cfg) : ∀ (ts : List Test) (gs : Bool) (c : Counters),
    (runLoop cfg gs ts c).1 =
      { testCount := c.testCount + ts.length,
        runCount := c.runCount + (ts.filter (fun t => shouldRun cfg t && willRun cfg t)).length,
        ignoredCount :=
          c.ignoredCount + (ts.filter (fun t => shouldRun cfg t && !willRun cfg t)).length,
        filteredOutCount := c.filteredOutCount + (ts.filter (fun t => !shouldRun cfg t)).length }
  | [], _, _ => rfl
  | t :: rest, gs, c => by
    simp only [runLoop, runLoop_counters cfg rest, testStep_eq, List.filter_cons, List.length_cons]
    cases shouldRun cfg t <;> cases willRun cfg t <;>
      simp [Counters.countTest, Counters.countRun, Counters.countIgnored,
        Counters.countFilteredOut, Nat.add_assoc, Nat.add_comm 1]

theorem endOfGroup_nil (t : Test) : endOfGroup t [] = true := by
  simp [endOfGroup, gen_endOfGroup_last]

theorem endOfGroup_cons (t n : Test) (rest : List Test) :
    endOfGroup t (n :: rest) = (t.group != n.group) := by
  simp [endOfGroup, gen_endOfGroup_mid]

theorem groupBlocks_head (t : Test) (rest : List Test) :
    ∃ b bs, groupBlocks (t :: rest) = (t :: b) :: bs := by
  simp only [groupBlocks]
  split
  · exact ⟨[], _, rfl⟩
  · split
    · exact ⟨[], [], rfl⟩
    · exact ⟨_, _, rfl⟩

theorem groupBlocks_cons_end (t : Test) (rest : List Test) (he : endOfGroup t rest = true) :
    groupBlocks (t :: rest) = [t] :: groupBlocks rest := by
  simp [groupBlocks, he]

theorem groupBlocks_cons_mid (t : Test) (rest b : List Test) (bs : List (List Test))
    (he : endOfGroup t rest = false) (hb : groupBlocks rest = b :: bs) :
    groupBlocks (t :: rest) = (t :: b) :: bs := by
  simp [groupBlocks, he, hb]

theorem groupBlocks_cons (t : Test) (rest : List Test) :
    (endOfGroup t rest = true ∧ groupBlocks (t :: rest) = [t] :: groupBlocks rest) ∨
    ∃ n b bs, endOfGroup t rest = false ∧ t.group = n.group ∧
      groupBlocks rest = (n :: b) :: bs ∧ groupBlocks (t :: rest) = (t :: n :: b) :: bs := by
  cases he : endOfGroup t rest with
  | true => exact Or.inl ⟨rfl, groupBlocks_cons_end t rest he⟩
  | false =>
    cases rest with
    | nil => simp [endOfGroup_nil] at he
    | cons n rest' =>
      obtain ⟨b, bs, hb⟩ := groupBlocks_head n rest'
      exact Or.inr ⟨n, b, bs, rfl, by simpa [endOfGroup_cons] using he, hb,
        groupBlocks_cons_mid t _ _ bs he hb⟩

theorem groupBlocks_flatten : ∀ (ts : List Test), (groupBlocks ts).flatten = ts
  | [] => by simp [groupBlocks]
  | t :: rest => by
    have ih := groupBlocks_flatten rest
    rcases groupBlocks_cons t rest with ⟨_, e⟩ | ⟨n, b, bs, _, _, hb, e⟩
    · rw [e, List.flatten_cons, ih]; rfl
    · rw [hb] at ih
      rw [e, ← ih]; rfl

theorem forall_groupBlocks {P : List Test → Prop} (h1 : ∀ t, P [t])
    (h2 : ∀ t n b, t.group = n.group → P (n :: b) → P (t :: n :: b)) :
    ∀ ts : List Test, ∀ b ∈ groupBlocks ts, P b
  | [], b, h => by simp [groupBlocks] at h
  | t :: rest, b, h => by
    have ih := forall_groupBlocks h1 h2 rest
    rcases groupBlocks_cons t rest with ⟨_, e⟩ | ⟨n, b0, bs, _, hg, hb, e⟩ <;> rw [e] at h <;>
      rcases List.mem_cons.mp h with rfl | h
    · exact h1 t
    · exact ih b h
    · exact h2 t n b0 hg (ih _ (hb ▸ List.mem_cons_self ..))
    · exact ih b (hb ▸ List.mem_cons_of_mem _ h)

theorem groupBlocks_block_ne_nil (ts : List Test) : ∀ b ∈ groupBlocks ts, b ≠ [] :=
  forall_groupBlocks (fun _ => List.cons_ne_nil _ _) (fun _ _ _ _ _ => List.cons_ne_nil _ _) ts

theorem groupBlocks_same_group (ts : List Test) :
    ∀ b ∈ groupBlocks ts, ∀ t ∈ b, ∀ t' ∈ b, t.group = t'.group := by
  refine forall_groupBlocks (fun t a ha a' ha' => by rw [List.mem_singleton.mp ha, List.mem_singleton.mp ha'])
    (fun t n b hg ih => ?_) ts
  have key : ∀ a ∈ t :: n :: b, a.group = n.group := fun a ha =>
    (List.mem_cons.mp ha).elim (· ▸ hg) fun ha => ih a ha n (List.mem_cons_self ..)
  exact fun a ha a' ha' => (key a ha).trans (key a' ha').symm

/-! ## the callback stream of the loop, block by block -/

/-- what one iteration announces about its test -/
def testEvs (cfg : Cfg) (t : Test) : List Ev :=
  if shouldRun cfg t then
    Ev.testStart t.id :: (if willRun cfg t then [Ev.exec t.id] else []) ++ [Ev.testEnd t.id]
  else []

theorem testStep_evs (cfg : Cfg) (t : Test) (c : Counters) : (testStep cfg t c).2 = testEvs cfg t := by
  rw [testStep_eq, testEvs]
  cases shouldRun cfg t <;> cases willRun cfg t <;> rfl

/-- what the loop announces for one block: `gs (ts x? te)* ge` -/
def blockEvs (cfg : Cfg) (b : List Test) : List Ev :=
  (b.head?.map (Ev.groupStart ·.id)).toList ++ b.flatMap (testEvs cfg) ++
    (b.getLast?.map (Ev.groupEnd ·.id)).toList

/-- Entered inside a group, the loop does not announce the start of the first block again. -/
theorem runLoop_events (cfg : Cfg) : ∀ (ts : List Test) (gs : Bool) (c : Counters),
    (runLoop cfg gs ts c).2 =
      ((groupBlocks ts).flatMap (blockEvs cfg)).drop (if gs then 0 else 1)
  | [], gs, c => by cases gs <;> rfl
  | t :: rest, gs, c => by
    have ih := runLoop_events cfg rest (endOfGroup t rest) (testStep cfg t c).1
    simp only [runLoop, testStep_evs, ih]
    rcases groupBlocks_cons t rest with ⟨he, e⟩ | ⟨n, b, bs, he, _, hb, e⟩
    -- `t` ends its group: its block is `[t]`, and the rest is entered with a group start to come
    · rw [e, he]; cases gs <;> simp [blockEvs]
    -- `t` joins the block `n :: b` of its successor, which is entered inside the group: of that block's events
    -- the group start is dropped, and the last test of `t :: n :: b` is the last of `n :: b`
    · rw [e, he, hb]; cases gs <;> simp [blockEvs, List.getLast?_cons_cons]

/-- `S (gs (ts x? te)* ge)* E`: everything said below about the stream of a run is read off this. -/
theorem runAllTests_events (cfg : Cfg) (ts : List Test) :
    (runAllTests cfg ts).2 =
      [Ev.testsStarted] ++ (groupBlocks ts).flatMap (blockEvs cfg) ++ [Ev.testsEnded] := by
  simp [runAllTests, runLoop_events]

theorem filterMap_blockEvs (cfg : Cfg) (p : Ev → Option Nat) (q : Test → Bool)
    (hg : ∀ i, p (.groupStart i) = none ∧ p (.groupEnd i) = none)
    (ht : ∀ t, (testEvs cfg t).filterMap p = if q t then [t.id] else []) :
    ∀ bs : List (List Test),
      (bs.flatMap (blockEvs cfg)).filterMap p = (bs.flatten.filter q).map (·.id)
  | [] => rfl
  | b :: bs => by
    have hb : ∀ l : List Test, (l.flatMap (testEvs cfg)).filterMap p = (l.filter q).map (·.id) := by
      intro l
      induction l with
      | nil => rfl
      | cons t l ih =>
        simp only [List.flatMap_cons, List.filterMap_append, ht, ih, List.filter_cons]
        cases q t <;> rfl
    have h1 : (b.head?.map (Ev.groupStart ·.id)).toList.filterMap p = [] := by
      cases b.head? <;> simp [(hg _).1]
    have h2 : (b.getLast?.map (Ev.groupEnd ·.id)).toList.filterMap p = [] := by
      cases b.getLast? <;> simp [(hg _).2]
    simp [blockEvs, List.filterMap_append, h1, h2, hb, filterMap_blockEvs cfg p q hg ht bs]

theorem runAllTests_filterMap (cfg : Cfg) (p : Ev → Option Nat) (q : Test → Bool)
    (hs : p .testsStarted = none ∧ p .testsEnded = none)
    (hg : ∀ i, p (.groupStart i) = none ∧ p (.groupEnd i) = none)
    (ht : ∀ t, (testEvs cfg t).filterMap p = if q t then [t.id] else []) (ts : List Test) :
    (runAllTests cfg ts).2.filterMap p = (ts.filter q).map (·.id) := by
  simp [runAllTests_events, hs.1, hs.2, filterMap_blockEvs cfg p q hg ht, groupBlocks_flatten]

theorem runAllTests_started (cfg : Cfg) (ts : List Test) :
    started (runAllTests cfg ts).2 = (ts.filter (shouldRun cfg)).map (·.id) :=
  runAllTests_filterMap cfg _ _ ⟨rfl, rfl⟩ (fun _ => ⟨rfl, rfl⟩)
    (fun t => by unfold testEvs; cases shouldRun cfg t <;> cases willRun cfg t <;> rfl) ts

theorem runAllTests_ended (cfg : Cfg) (ts : List Test) :
    ended (runAllTests cfg ts).2 = (ts.filter (shouldRun cfg)).map (·.id) :=
  runAllTests_filterMap cfg _ _ ⟨rfl, rfl⟩ (fun _ => ⟨rfl, rfl⟩)
    (fun t => by unfold testEvs; cases shouldRun cfg t <;> cases willRun cfg t <;> rfl) ts

theorem runAllTests_executed (cfg : Cfg) (ts : List Test) :
    executed (runAllTests cfg ts).2 =
      (ts.filter (fun t => shouldRun cfg t && willRun cfg t)).map (·.id) :=
  runAllTests_filterMap cfg _ _ ⟨rfl, rfl⟩ (fun _ => ⟨rfl, rfl⟩)
    (fun t => by unfold testEvs; cases shouldRun cfg t <;> cases willRun cfg t <;> rfl) ts

theorem balRun_append (p : Phase) (a b : List Ev) :
    balRun p (a ++ b) = (balRun p a).bind (fun q => balRun q b) :=
  ListLemmas.optRun_append (step := balStep) (fun _ => rfl) (fun p e _ => by rw [balRun]; cases balStep p e <;> rfl) a b p

theorem balRun_flatMap {α} (p : Phase) (f : α → List Ev) : ∀ l : List α,
    (∀ x ∈ l, balRun p (f x) = some p) → balRun p (l.flatMap f) = some p
  | [], _ => rfl
  | x :: l, h => by
    rw [List.flatMap_cons, balRun_append, h x (List.mem_cons_self ..)]
    exact balRun_flatMap p f l (fun y hy => h y (List.mem_cons_of_mem _ hy))

theorem balRun_testEvs (cfg : Cfg) (t : Test) : balRun .opened (testEvs cfg t) = some .opened := by
  unfold testEvs
  cases shouldRun cfg t <;> cases willRun cfg t <;> simp [balRun, balStep]

theorem balRun_blockEvs (cfg : Cfg) : ∀ b : List Test, b ≠ [] →
    balRun .closed (blockEvs cfg b) = some .closed
  | [], h => absurd rfl h
  | t :: l, _ => by
    obtain ⟨u, hu⟩ : ∃ u, (t :: l).getLast? = some u :=
      ⟨_, List.getLast?_eq_some_getLast (List.cons_ne_nil _ _)⟩
    rw [blockEvs, hu, balRun_append, balRun_append]
    simp only [List.head?_cons, Option.map_some, Option.toList_some, balRun, balStep, Option.bind_some,
      balRun_flatMap .opened _ _ (fun t _ => balRun_testEvs cfg t)]

theorem balRun_runLoop_nil (cfg : Cfg) (gs : Bool) (c : Counters) :
    (runLoop cfg gs [] c).2 = [] := by simp [runLoop]

theorem balanced_runAllTests (cfg : Cfg) (ts : List Test) : Balanced (runAllTests cfg ts).2 := by
  rw [Balanced, runAllTests_events, List.append_assoc, balRun_append]
  simp only [balRun, balStep, Option.bind_some]
  rw [balRun_append, balRun_flatMap .closed _ _
    (fun b hb => balRun_blockEvs cfg b (groupBlocks_block_ne_nil ts b hb))]
  rfl

theorem groupStarts_append (a b : List Ev) : groupStarts (a ++ b) = groupStarts a ++ groupStarts b := by
  simp [groupStarts]
theorem groupEnds_append (a b : List Ev) : groupEnds (a ++ b) = groupEnds a ++ groupEnds b := by
  simp [groupEnds]

def blockHeads (bs : List (List Test)) : List Nat := bs.filterMap (fun b => b.head?.map (·.id))
def blockLasts (bs : List (List Test)) : List Nat := bs.filterMap (fun b => b.getLast?.map (·.id))

theorem groupStarts_blocks (cfg : Cfg) : ∀ bs : List (List Test),
    groupStarts (bs.flatMap (blockEvs cfg)) = blockHeads bs ∧
    groupEnds (bs.flatMap (blockEvs cfg)) = blockLasts bs
  | [] => ⟨rfl, rfl⟩
  | b :: bs => by
    have hs : ∀ l : List Test,
        groupStarts (l.flatMap (testEvs cfg)) = [] ∧ groupEnds (l.flatMap (testEvs cfg)) = [] := by
      intro l
      induction l with
      | nil => exact ⟨rfl, rfl⟩
      | cons t l ih =>
        rw [List.flatMap_cons, groupStarts_append, groupEnds_append, ih.1, ih.2]
        unfold testEvs
        cases shouldRun cfg t <;> cases willRun cfg t <;> exact ⟨rfl, rfl⟩
    have ih := groupStarts_blocks cfg bs
    simp only [List.flatMap_cons, blockEvs, groupStarts_append, groupEnds_append, hs, ih, blockHeads,
      blockLasts, List.filterMap_cons]
    cases b.head? <;> cases b.getLast? <;> exact ⟨rfl, rfl⟩

/-! ## the linked list: following it, copying it into the array, relinking the array -/

theorem setNext_self (nx : Next) (i : Nat) (v : Option Nat) : setNext nx i v i = v := by
  simp [setNext]

theorem setNext_of_ne (nx : Next) {i k : Nat} (v : Option Nat) (h : k ≠ i) :
    setNext nx i v k = nx k := by
  simp [setNext, h]

theorem Linked.head_eq {nx : Next} {h : Option Nat} {l : List Nat} (hl : Linked nx h l) :
    h = l.head? := by
  cases hl <;> rfl

theorem Linked.unique {nx : Next} {h : Option Nat} {l l' : List Nat}
    (h1 : Linked nx h l) (h2 : Linked nx h l') : l = l' := by
  induction h1 generalizing l' with
  | nil => cases h2; rfl
  | cons _ ih => cases h2 with | cons h2' => rw [ih h2']

theorem walk_of_linked {nx : Next} {h : Option Nat} {l : List Nat} (hl : Linked nx h l) :
    ∀ f, l.length ≤ f → walk nx f h = l := by
  induction hl with
  | nil => intro f _; cases f <;> rfl
  | cons _ ih =>
    intro f hf
    cases f with
    | zero => simp at hf
    | succ f => simp only [walk]; rw [ih f (by simpa using hf)]

theorem countTests_of_linked {nx : Next} : ∀ (f i : Nat) (l : List Nat),
    Linked nx (some i) l → l.length ≤ f + 1 → countTests nx f i = l.length
  | 0, i, l, hl, hf => by
    cases hl with
    | cons hl' =>
      rename_i l'
      have : l' = [] := by cases l' <;> simp_all
      subst this; rfl
  | f + 1, i, l, hl, hf => by
    cases hl with
    | cons hl' =>
      rename_i l'
      simp only [countTests]
      cases hn : nx i with
      | none => rw [hn] at hl'; cases hl'; rfl
      | some n =>
        rw [hn] at hl'
        simp only
        rw [countTests_of_linked f n l' hl' (by simpa using hf)]
        rfl

theorem copyLoop_of_linked {nx : Next} {h : Option Nat} {l : List Nat} (hl : Linked nx h l) :
    ∀ a : Array Nat, copyLoop nx l.length h a = a ++ l.toArray := by
  induction hl with
  | nil => intro a; simp [copyLoop]
  | cons _ ih =>
    intro a
    simp only [List.length_cons, copyLoop]
    rw [ih]
    simp

theorem mkArray_of_linked {nx : Next} {h : Option Nat} {l : List Nat} (hl : Linked nx h l)
    (fuel : Nat) (hf : l.length ≤ fuel + 1) : (mkArray nx fuel h).toList = l := by
  unfold mkArray
  cases hl with
  | nil => rfl
  | cons hl' =>
    rename_i i l'
    simp only
    rw [countTests_of_linked fuel i (i :: l') (Linked.cons hl') hf]
    rw [copyLoop_of_linked (Linked.cons hl')]
    simp

theorem Linked.setNext_of_not_mem {nx : Next} {h : Option Nat} {l : List Nat}
    (hl : Linked nx h l) (x : Nat) (v : Option Nat) (hx : x ∉ l) :
    Linked (setNext nx x v) h l := by
  induction hl with
  | nil => exact Linked.nil
  | @cons i l' _ ih =>
    apply Linked.cons
    rw [setNext_of_ne nx v (fun e => hx (by simp [e]))]
    exact ih (fun m => hx (by simp [m]))

/-- `x->addTest(h)`: a shell that is not in the list is put in front of it -/
theorem Linked.push {nx : Next} {h : Option Nat} {l : List Nat} (hl : Linked nx h l) {x : Nat}
    (hx : x ∉ l) : Linked (setNext nx x h) (some x) (x :: l) :=
  Linked.cons (by rw [setNext_self]; exact hl.setNext_of_not_mem x h hx)

/-- invariant of the relink loop: the already relinked suffix is a proper list -/
theorem relinkFrom_linked (a : Array Nat) (hnd : a.toList.Nodup) :
    ∀ (k : Nat) (nx : Next) (tests : Option Nat), k ≤ a.size →
      Linked nx tests (a.toList.drop k) →
      Linked (relinkFrom a k nx tests).1 (relinkFrom a k nx tests).2 a.toList
  | 0, nx, tests, _, hl => by simpa [relinkFrom] using hl
  | k + 1, nx, tests, hk, hl => by
    have hk' : k < a.size := by omega
    have hdrop : a.toList.drop k = a[k] :: a.toList.drop (k + 1) := by
      rw [List.drop_eq_getElem_cons (by simpa using hk')]
      simp
    have hn : (a.toList.drop k).Nodup := hnd.sublist (List.drop_sublist _ _)
    simp only [relinkFrom, Array.getElem?_eq_getElem hk']
    apply relinkFrom_linked a hnd k _ _ (by omega)
    rw [hdrop] at hn ⊢
    exact hl.push (List.nodup_cons.mp hn).1

theorem relink_linked (a : Array Nat) (nx : Next) (hnd : a.toList.Nodup) :
    Linked (relink a nx) (firstOf a) a.toList := by
  have h := relinkFrom_linked a hnd a.size nx none (Nat.le_refl _)
    (by rw [List.drop_of_length_le (by simp)]; exact Linked.nil)
  have hh := h.head_eq
  unfold relink firstOf
  have : a[0]? = a.toList.head? := by
    cases a with | mk l => cases l <;> simp
  rw [this, ← hh]
  exact h

/-! ## the pointer array: swap, shuffle, reverse -/

theorem swap_perm (a : Array Nat) (i j : Nat) : (swap a i j).toList.Perm a.toList := by
  unfold swap
  rw [Array.swapIfInBounds_def]
  split
  · split
    · exact Array.perm_iff_toList_perm.mp (Array.swap_perm _ _)
    · exact List.Perm.refl _
  · exact List.Perm.refl _

theorem swap_size (a : Array Nat) (i j : Nat) : (swap a i j).size = a.size := by
  simp [swap]

theorem shuffleLoop_perm : ∀ (k : Nat) (rs : List Nat) (a : Array Nat),
    (shuffleLoop k rs a).toList.Perm a.toList
  | 0, _, a => by simp [shuffleLoop]
  | _ + 1, [], a => by simp [shuffleLoop]
  | k + 1, r :: rs, a => (shuffleLoop_perm k rs _).trans (swap_perm a _ _)

theorem shuffleArr_perm (rs : List Nat) (a : Array Nat) :
    (shuffleArr rs a).toList.Perm a.toList := by
  unfold shuffleArr
  split
  · exact List.Perm.refl _
  · exact shuffleLoop_perm _ _ _

/-- the index pairs the shuffle loop swaps, in order -/
def shuffleSwaps : Nat → List Nat → List (Nat × Nat)
  | 0, _ => []
  | _ + 1, [] => []
  | k + 1, r :: rs => (k + 1, r % Gen.Registry.shuffleModulus (k + 1)) :: shuffleSwaps k rs

theorem shuffleLoop_eq_foldl : ∀ (k : Nat) (rs : List Nat) (a : Array Nat),
    shuffleLoop k rs a = (shuffleSwaps k rs).foldl (fun b p => swap b p.1 p.2) a
  | 0, _, a => by simp [shuffleLoop, shuffleSwaps]
  | _ + 1, [], a => by simp [shuffleLoop, shuffleSwaps]
  | k + 1, r :: rs, a => shuffleLoop_eq_foldl k rs _

theorem shuffleSwaps_bounds : ∀ (k : Nat) (rs : List Nat) (p : Nat × Nat),
    p ∈ shuffleSwaps k rs → 1 ≤ p.1 ∧ p.1 ≤ k ∧ p.2 ≤ p.1
  | 0, _, p, h => by simp [shuffleSwaps] at h
  | _ + 1, [], p, h => by simp [shuffleSwaps] at h
  | k + 1, r :: rs, p, h => by
    simp only [shuffleSwaps, List.mem_cons] at h
    rcases h with rfl | h
    · simp only [gen_shuffleModulus]
      have := Nat.mod_lt r (show 0 < k + 1 + 1 by omega)
      omega
    · have := shuffleSwaps_bounds k rs p h
      omega

theorem shuffleSwaps_length : ∀ (k : Nat) (rs : List Nat), k ≤ rs.length →
    (shuffleSwaps k rs).length = k
  | 0, _, _ => by simp [shuffleSwaps]
  | k + 1, [], h => by simp at h
  | k + 1, r :: rs, h => by
    simp only [shuffleSwaps, List.length_cons]
    rw [shuffleSwaps_length k rs (by simpa using h)]

/-- `reverse`'s loop is the loop of core's `Array.reverse`: `j = count - i - 1`, and `f` iterations
    are what is left while `i < j` -/
theorem reverseLoop_eq_core (count f i j : Nat) (a : Array Nat) (hj : j < a.size)
    (hij : i + j + 1 = count) (hf : j ≤ i + 2 * f ∧ i + 2 * f ≤ j + 1) :
    reverseLoop count f i a = Array.reverse.loop a i ⟨j, hj⟩ := by
  induction f generalizing i j a with
  | zero => rw [reverseLoop, Array.reverse.loop, dif_neg (show ¬ i < j by omega)]
  | succ f ih =>
    have h : i < j := by omega
    rw [reverseLoop, Array.reverse.loop, dif_pos h, show count - i - 1 = j by omega, swap,
      Array.swapIfInBounds_def, dif_pos (Nat.lt_trans h hj), dif_pos hj]
    exact ih (i + 1) (j - 1) _ _ (by omega) (by omega)

theorem reverseArr_eq (a : Array Nat) : reverseArr a = a.reverse := by
  rw [reverseArr, Array.reverse]
  split
  · rw [dif_pos (by omega)]
  · rw [reverseLoop_eq_core a.size _ 0 (a.size - 1) a (by omega) (by omega) (by omega)]
    split
    · rw [Array.reverse.loop, dif_neg (show ¬ 0 < a.size - 1 by omega)]
    · rfl

theorem reverseArr_toList (a : Array Nat) : (reverseArr a).toList = a.toList.reverse := by
  rw [reverseArr_eq, Array.toList_reverse]

/-! ## well-formed registries, and what each operation does to the list -/

theorem wf_of_linked (r : Reg) (l : List Nat) (hl : Linked r.next r.head l) (hnd : l.Nodup)
    (hb : ∀ i ∈ l, i < r.objs.size)
    (hids : ∀ (i : Nat) (t : Test), r.objs[i]? = some t → t.id = i) : r.WF ∧ r.order = l := by
  have hord : r.order = l := walk_of_linked hl _ (ListLemmas.length_le_of_nodup_of_lt hnd hb)
  exact ⟨{ linked := by rw [hord]; exact hl, nodup := by rw [hord]; exact hnd,
           bound := by rw [hord]; exact hb, ids := hids }, hord⟩

theorem wf_of_same_links {r r' : Reg} (h : r.WF) (hn : r'.next = r.next) (hh : r'.head = r.head)
    (hs : r'.objs.size = r.objs.size)
    (hids : ∀ (i : Nat) (t : Test), r'.objs[i]? = some t → t.id = i) :
    r'.WF ∧ r'.order = r.order :=
  wf_of_linked r' r.order (by rw [hn, hh]; exact h.linked) h.nodup (by rw [hs]; exact h.bound) hids

theorem Reg.WF.of_same_shells {r r' : Reg} (h : r.WF) (ho : r'.objs = r.objs)
    (hn : r'.next = r.next) (hh : r'.head = r.head) : r'.WF :=
  (wf_of_same_links h hn hh (by rw [ho]) (ho ▸ h.ids)).1

theorem Reg.WF.order_length_le {r : Reg} (h : r.WF) : r.order.length ≤ r.objs.size :=
  ListLemmas.length_le_of_nodup_of_lt h.nodup h.bound

theorem Reg.WF.mkArray_toList {r : Reg} (h : r.WF) :
    (mkArray r.next r.objs.size r.head).toList = r.order :=
  mkArray_of_linked h.linked _ (by have := h.order_length_le; omega)

theorem wf_empty : Reg.empty.WF ∧ Reg.empty.order = [] :=
  wf_of_linked Reg.empty [] .nil .nil (by simp) (by simp [Reg.empty])

theorem complete_empty : Reg.empty.Complete := by
  rw [Reg.Complete, wf_empty.2]; exact .refl _

theorem ids_push {objs : Array Test} (h : ∀ (i : Nat) (t : Test), objs[i]? = some t → t.id = i)
    {t : Test} (ht : t.id = objs.size) :
    ∀ (i : Nat) (u : Test), (objs.push t)[i]? = some u → u.id = i := by
  intro i u hu
  simp only [Array.getElem?_push] at hu
  split at hu
  · rename_i e; cases hu; exact ht.trans e.symm
  · exact h i u hu

theorem wf_addTest {r : Reg} (h : r.WF) (g n : Bytes) (ig : Bool) (file : Bytes := []) (line : Nat := 0) :
    (r.addTest g n ig file line).WF ∧ (r.addTest g n ig file line).order = r.objs.size :: r.order := by
  have hnot : r.objs.size ∉ r.order := fun hm => Nat.lt_irrefl _ (h.bound _ hm)
  refine wf_of_linked _ _ (h.linked.push hnot) (List.nodup_cons.mpr ⟨hnot, h.nodup⟩) ?_
    (ids_push h.ids rfl)
  intro i hi
  simp only [Reg.addTest, Array.size_push]
  rcases List.mem_cons.mp hi with rfl | hi
  · omega
  · have := h.bound i hi; omega

theorem complete_addTest {r : Reg} (h : r.WF) (hc : r.Complete) (g n : Bytes) (ig : Bool)
    (file : Bytes := []) (line : Nat := 0) : (r.addTest g n ig file line).Complete := by
  unfold Reg.Complete
  rw [(wf_addTest h g n ig file line).2]
  simp only [Reg.addTest, Array.size_push, List.range_succ]
  exact (List.Perm.cons _ hc).trans (List.perm_append_singleton _ _).symm

theorem relink_empty (a : Array Nat) (nx : Next) (h : a.size = 0) : relink a nx = nx := by
  unfold relink
  rw [h]
  rfl

/-- any re-ordering that goes through a pointer array holding a permutation of the list and
    relinks it (unless `c`, which holds of empty arrays only) yields a well-formed registry whose
    list is the array -/
theorem wf_reorder {r : Reg} (h : r.WF) (arr : Array Nat) (hp : arr.toList.Perm r.order)
    (c : Prop) [Decidable c] (hc : c → arr.size = 0) :
    ({ r with next := (if c then r.next else relink arr r.next), head := firstOf arr } : Reg).WF ∧
    ({ r with next := (if c then r.next else relink arr r.next), head := firstOf arr } : Reg).order =
      arr.toList := by
  have hnd : arr.toList.Nodup := hp.nodup_iff.mpr h.nodup
  have hnext : (if c then r.next else relink arr r.next) = relink arr r.next := by
    split
    · rename_i e; exact (relink_empty arr r.next (hc e)).symm
    · rfl
  exact wf_of_linked _ arr.toList (by rw [hnext]; exact relink_linked arr r.next hnd) hnd
    (fun i hi => h.bound i (hp.subset hi)) h.ids

theorem wf_reverseTests {r : Reg} (h : r.WF) :
    r.reverseTests.WF ∧ r.reverseTests.order = r.order.reverse := by
  have e : (reverseArr (mkArray r.next r.objs.size r.head)).toList = r.order.reverse := by
    rw [reverseArr_toList, h.mkArray_toList]
  have := wf_reorder h _ (e ▸ List.reverse_perm _) ((mkArray r.next r.objs.size r.head).size = 0)
    (fun e0 => by simp [reverseArr, e0])
  rw [e] at this
  exact this

theorem wf_shuffleTests {r : Reg} (h : r.WF) (rs : List Nat) :
    (r.shuffleTests rs).WF ∧ (r.shuffleTests rs).order.Perm r.order := by
  have hp : (shuffleArr rs (mkArray r.next r.objs.size r.head)).toList.Perm r.order :=
    h.mkArray_toList ▸ shuffleArr_perm rs (mkArray r.next r.objs.size r.head)
  have := wf_reorder h _ hp ((mkArray r.next r.objs.size r.head).size = 0)
    (fun e0 => by simp [shuffleArr, e0])
  exact ⟨this.1, this.2 ▸ hp⟩

theorem wf_unDoLastAddTest {r : Reg} (h : r.WF) :
    r.unDoLastAddTest.WF ∧ r.unDoLastAddTest.order = r.order.drop 1 := by
  have hl := h.linked
  generalize ho : r.order = l at hl
  generalize hh : r.head = hd at hl
  have key : Linked r.unDoLastAddTest.next r.unDoLastAddTest.head (l.drop 1) := by
    cases hl with
    | nil =>
      simp only [Reg.unDoLastAddTest, hh]
      exact Linked.nil
    | cons hl' =>
      simp only [Reg.unDoLastAddTest, hh, List.drop_succ_cons, List.drop_zero]
      exact hl'
  exact wf_of_linked _ _ key ((ho ▸ h.nodup).sublist (List.drop_sublist _ _))
    (fun i hi => h.bound i (ho ▸ List.mem_of_mem_drop hi)) h.ids

/-! ## the shells of the list, and what a run leaves in them -/

/-- the shells the run loop visits carry, in list order, the ids of the list: every id of the list
    is the index of an existing shell, so `Reg.tests` drops none -/
theorem tests_ids {r : Reg} (h : r.WF) : r.tests.map (·.id) = r.order := by
  unfold Reg.tests
  have hb := h.bound
  generalize r.order = l at hb
  induction l with
  | nil => rfl
  | cons i l ih =>
    have hi : i < r.objs.size := hb i (by simp)
    have hget : r.objs[i]? = some r.objs[i] := by simp [hi]
    simp only [List.filterMap_cons, hget, List.map_cons]
    rw [h.ids i _ hget, ih (fun j hj => hb j (by simp [hj]))]

theorem tests_length {r : Reg} (h : r.WF) : r.tests.length = r.order.length := by
  have := congrArg List.length (tests_ids h)
  simpa using this

theorem tests_map_objs (r : Reg) (g : Test → Test) :
    ({ r with objs := r.objs.map g } : Reg).tests = r.tests.map g := by
  unfold Reg.tests Reg.order
  simp only [Array.size_map, Array.getElem?_map, List.map_filterMap]

theorem wf_map_objs {r : Reg} (h : r.WF) (g : Test → Test) (hg : ∀ t, (g t).id = t.id) :
    ({ r with objs := r.objs.map g } : Reg).WF ∧
      ({ r with objs := r.objs.map g } : Reg).order = r.order := by
  refine wf_of_same_links h rfl rfl (Array.size_map ..) ?_
  intro i t ht
  simp only [Array.getElem?_map, Option.map_eq_some_iff] at ht
  obtain ⟨u, hu, rfl⟩ := ht
  rw [hg]; exact h.ids i u hu

theorem markRunIgnored_eq (ri : Bool) (ord : List Nat) (objs : Array Test) :
    markRunIgnored ri ord objs =
      objs.map (fun t => if ri && ord.contains t.id then t.setRunIgnored else t) := by
  apply Array.ext'
  simp [markRunIgnored]

theorem setRunIgnored_id (t : Test) : t.setRunIgnored.id = t.id := by
  unfold Test.setRunIgnored; split <;> rfl

theorem afterRun_eq (r : Reg) : r.afterRun =
    { r with objs := r.objs.map fun t => if r.runIgnored && r.order.contains t.id then t.setRunIgnored else t } := by
  unfold Reg.afterRun; rw [markRunIgnored_eq]

theorem afterRun_tests {r : Reg} (h : r.WF) :
    r.afterRun.tests = r.tests.map (fun t => if r.runIgnored then t.setRunIgnored else t) := by
  rw [afterRun_eq, tests_map_objs r]
  apply List.map_congr_left
  intro t ht
  have hid : t.id ∈ r.order := by
    rw [← tests_ids h]; exact List.mem_map_of_mem ht
  cases r.runIgnored <;> simp [hid]

theorem wf_afterRun {r : Reg} (h : r.WF) : r.afterRun.WF ∧ r.afterRun.order = r.order := by
  rw [afterRun_eq]
  refine wf_map_objs h _ fun t => ?_
  split
  · exact setRunIgnored_id t
  · rfl

theorem wf_shellSetRunIgnored {r : Reg} (h : r.WF) (i : Nat) :
    (r.shellSetRunIgnored i).WF ∧ (r.shellSetRunIgnored i).order = r.order := by
  refine wf_of_same_links h rfl rfl (Array.size_modify ..) ?_
  intro j t ht
  simp only [Reg.shellSetRunIgnored, Array.getElem?_modify] at ht
  split at ht
  · simp only [Option.map_eq_some_iff] at ht
    obtain ⟨u, hu, rfl⟩ := ht
    rw [setRunIgnored_id]; exact h.ids j u hu
  · exact h.ids j t ht

theorem wf_initializeTestRun {a : RunnerArgs} {r : Reg} (h : r.WF) : (initializeTestRun a r).WF :=
  h.of_same_shells rfl rfl rfl

/-! ## runs in terms of keys; the repeat loop -/

theorem runAllTests_counters (cfg : Cfg) (ts : List Test) :
    (runAllTests cfg ts).1 = countersOfKeys (ts.map (Test.key cfg)) := by
  simp only [runAllTests, runLoop_counters, countersOfKeys, List.length_map, List.filter_map,
    Nat.zero_add]
  rfl

theorem execOfKeys_map_key (cfg : Cfg) (ts : List Test) :
    execOfKeys (ts.map (Test.key cfg)) =
      (ts.filter (fun t => shouldRun cfg t && willRun cfg t)).map (·.id) := by
  simp only [execOfKeys, List.filter_map, List.map_map]; rfl

theorem startOfKeys_map_key (cfg : Cfg) (ts : List Test) :
    startOfKeys (ts.map (Test.key cfg)) = (ts.filter (shouldRun cfg)).map (·.id) := by
  simp only [startOfKeys, List.filter_map, List.map_map]; rfl

theorem runOf_run (r : Reg) : RunOf r.keys r.run :=
  ⟨runAllTests_counters _ _,
   by rw [Reg.run, runAllTests_executed, Reg.keys, execOfKeys_map_key],
   by rw [Reg.run, runAllTests_started, Reg.keys, startOfKeys_map_key],
   balanced_runAllTests _ _⟩

theorem countersOfKeys_perm {K K' : List Key} (h : K'.Perm K) :
    countersOfKeys K' = countersOfKeys K := by
  simp only [countersOfKeys, h.length_eq, (h.filter _).length_eq]

theorem countersOfKeys_partition (K : List Key) :
    (countersOfKeys K).runCount + (countersOfKeys K).ignoredCount +
      (countersOfKeys K).filteredOutCount = K.length := by
  induction K with
  | nil => rfl
  | cons k K ih =>
    obtain ⟨i, sel, will⟩ := k
    simp only [countersOfKeys, List.filter_cons, List.length_cons] at ih ⊢
    cases sel <;> cases will <;> simp <;> omega

theorem runOf_perm {K K' : List Key} (h : K'.Perm K) (ce : Counters × List Ev) :
    RunOf K' ce → RunOf K ce := by
  rintro ⟨h1, h2, h3, h4⟩
  exact ⟨by rw [h1, countersOfKeys_perm h], h2.trans ((h.filter _).map _),
    h3.trans ((h.filter _).map _), h4⟩

theorem key_setRunIgnored (cfg : Cfg) (t : Test) (hri : cfg.runIgnored = true) :
    Test.key cfg t.setRunIgnored = Test.key cfg t := by
  unfold Test.key Test.setRunIgnored
  split
  · simp [willRun, hri, shouldRun]
  · rfl

theorem keys_afterRun {r : Reg} (h : r.WF) : r.afterRun.keys = r.keys := by
  have hc : r.afterRun.cfg = r.cfg := rfl
  unfold Reg.keys
  rw [hc, afterRun_tests h, List.map_map]
  apply List.map_congr_left
  intro t _
  cases hri : r.runIgnored
  · simp
  · simp only [if_true]
    exact key_setRunIgnored r.cfg t hri

theorem keys_shuffleTests {r : Reg} (h : r.WF) (rs : List Nat) :
    (r.shuffleTests rs).keys.Perm r.keys := by
  unfold Reg.keys
  apply List.Perm.map
  exact (wf_shuffleTests h rs).2.filterMap _

theorem runsOf_append (a b : List ROut) : runsOf (a ++ b) = runsOf a ++ runsOf b := by
  simp [runsOf]

theorem runsOf_printTestRun (n t : Nat) : runsOf (printTestRun n t) = [] := by
  unfold printTestRun; split <;> simp [runsOf]

/-- what `k` repetitions from `r` leave: the list is still a proper list of the same shells, there
    were `k` runs, each did what the keys of `r` say, and each or none of them ran nothing -/
structure RepeatOutcome (r : Reg) (k : Nat) (lo : LoopOut) : Prop where
  wf     : lo.reg.WF
  perm   : lo.reg.order.Perm r.order
  count  : (runsOf lo.out).length = k
  runs   : ∀ ce ∈ runsOf lo.out, RunOf r.keys ce
  failed : lo.failed = (if ranNothing (countersOfKeys r.keys) then k else 0)

theorem repeatLoop_spec (shuf : Bool) (total : Nat) :
    ∀ (k lc : Nat) (r : Reg) (rs : List Nat), r.WF →
      RepeatOutcome r k (repeatLoop shuf total k lc r rs)
  | 0, lc, r, rs, h => ⟨h, .refl _, rfl, by simp [repeatLoop, runsOf], by simp [repeatLoop]⟩
  | k + 1, lc, r, rs, h => by
    simp only [repeatLoop]
    -- `r1` is the registry this repetition runs on: `r`, or `r` shuffled; all that is needed of it is that it
    -- is a proper list of the same shells with the same keys up to order
    generalize hr1 : (if shuf = true then r.shuffleTests (rs.take (randsNeeded r.order.length)) else r) = r1
    have h1 : r1.WF ∧ r1.order.Perm r.order ∧ r1.keys.Perm r.keys := by
      subst hr1
      cases shuf
      · exact ⟨h, List.Perm.refl _, List.Perm.refl _⟩
      · exact ⟨(wf_shuffleTests h _).1, (wf_shuffleTests h _).2, keys_shuffleTests h _⟩
    obtain ⟨hw1, ho1, hk1⟩ := h1
    have ha := wf_afterRun hw1
    have ih := repeatLoop_spec shuf total k (lc + 1) r1.afterRun
      (if shuf = true then rs.drop (randsNeeded r.order.length) else rs) ha.1
    -- the later repetitions start from `r1.afterRun`: the flags a run sets do not change the keys
    have hkeys : r1.afterRun.keys.Perm r.keys := by rw [keys_afterRun hw1]; exact hk1
    refine ⟨ih.wf, (ha.2 ▸ ih.perm).trans ho1, ?_, ?_, ?_⟩
    · simp only [runsOf_append, runsOf_printTestRun, List.nil_append, List.length_append, ih.count]
      simp [runsOf]; omega
    · intro ce hce
      simp only [runsOf_append, runsOf_printTestRun, List.nil_append, List.mem_append] at hce
      rcases hce with hce | hce
      · simp [runsOf] at hce
        subst hce
        exact runOf_perm hk1 _ (runOf_run r1)
      · exact runOf_perm hkeys _ (ih.runs ce hce)
    · show (if ranNothing r1.run.1 then 1 else 0) + _ = _
      rw [ih.failed, (runOf_perm hk1 _ (runOf_run r1)).1, countersOfKeys_perm hkeys]
      split <;> omega

/-! ## queries that walk the list; list modes -/

theorem findTestWithName_eq (name : Bytes) : ∀ ts : List Test,
    findTestWithName name ts = (ts.find? (fun t => t.name == name)).map (·.id)
  | [] => rfl
  | t :: rest => by
    simp only [findTestWithName, List.find?_cons]
    cases t.name == name <;> simp [findTestWithName_eq name rest]

theorem findTestWithGroup_eq (group : Bytes) : ∀ ts : List Test,
    findTestWithGroup group ts = (ts.find? (fun t => t.group == group)).map (·.id)
  | [] => rfl
  | t :: rest => by
    simp only [findTestWithGroup, List.find?_cons]
    cases t.group == group <;> simp [findTestWithGroup_eq group rest]

theorem countTestsList_eq : ∀ ts : List Test, countTestsList ts = ts.length
  | [] => rfl
  | _ :: rest => by simp [countTestsList, countTestsList_eq rest]

theorem lgLoop_eq_accLoop : ∀ (ts : List Test) (acc : Bytes),
    lgLoop ts acc = accLoop (ts.map groupEntry) acc
  | [], _ => rfl
  | t :: rest, acc => by
    simp only [lgLoop, List.map_cons, accLoop, groupEntry]
    split
    · exact lgLoop_eq_accLoop rest acc
    · exact lgLoop_eq_accLoop rest _

theorem lnLoop_eq (cfg : Cfg) : ∀ (ts : List Test) (acc : Bytes) (c : Counters),
    (lnLoop cfg ts acc c).1 = accLoop ((ts.filter (shouldRun cfg)).map groupDotName) acc ∧
    (lnLoop cfg ts acc c).2 =
      { c with filteredOutCount := c.filteredOutCount + (ts.filter (fun t => !shouldRun cfg t)).length }
  | [], _, _ => by simp [lnLoop, accLoop]
  | t :: rest, acc, c => by
    simp only [lnLoop]
    cases hs : shouldRun cfg t
    · have ih := lnLoop_eq cfg rest acc c.countFilteredOut
      simp only [Bool.false_eq_true, if_false, List.filter_cons, hs, Bool.not_false, if_true,
        List.length_cons]
      refine ⟨ih.1, ?_⟩
      rw [ih.2]
      simp only [Counters.countFilteredOut]
      congr 1; omega
    · simp only [if_true, List.filter_cons, hs, List.map_cons, accLoop, Bool.not_true,
        Bool.false_eq_true, if_false]
      split
      · exact lnLoop_eq cfg rest acc c
      · exact lnLoop_eq cfg rest _ c

theorem accLoop_structure : ∀ (es : List Bytes) (acc : Bytes),
    ∃ ds : List Bytes, ds.Sublist es ∧ accLoop es acc = acc ++ encEntries ds ∧ ds.Nodup ∧
      (∀ d ∈ ds, Text.isInfix acc d = false) ∧ ∀ e ∈ es, Text.isInfix (accLoop es acc) e = true
  | [], acc => ⟨[], List.Sublist.refl _, by simp [accLoop, encEntries], List.nodup_nil, by simp,
      by simp⟩
  | e :: es, acc => by
    simp only [accLoop]
    cases he : Text.isInfix acc e
    · obtain ⟨ds, h1, h2, h3, h4, h5⟩ := accLoop_structure es (acc ++ e ++ [space])
      simp only [Bool.false_eq_true, if_false]
      refine ⟨e :: ds, h1.cons_cons e, ?_, ?_, ?_, ?_⟩
      · rw [h2]
        simp only [encEntries, List.flatMap_cons, List.append_assoc]
      · refine List.nodup_cons.mpr ⟨?_, h3⟩
        intro hm
        have := h4 e hm
        rw [Text.isInfix_self_mid] at this
        cases this
      · intro d hd
        rcases List.mem_cons.mp hd with rfl | hd
        · exact he
        · cases hx : Text.isInfix acc d
          · rfl
          · have := Text.isInfix_mono acc (e ++ [space]) d hx
            rw [← List.append_assoc, h4 d hd] at this
            cases this
      · intro d hd
        rcases List.mem_cons.mp hd with rfl | hd
        · rw [h2]; exact Text.isInfix_mono _ _ _ (Text.isInfix_self_mid acc _ [space])
        · exact h5 d hd
    · obtain ⟨ds, h1, h2, h3, h4, h5⟩ := accLoop_structure es acc
      refine ⟨ds, h1.cons e, h2, h3, h4, ?_⟩
      intro d hd
      rcases List.mem_cons.mp hd with rfl | hd
      · rw [h2]; exact Text.isInfix_mono acc _ _ he
      · exact h5 d hd

end Registry
