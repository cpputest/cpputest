import CppUModel.Proofs.Mock
/-! The scope around a call (C08): a call statement on a `MockSupport`, lazily finished calls, `ignoreOtherCalls`, several scopes,
    what `expectNCalls` builds, the plugin. -/

namespace Mock

theorem runG_false : ∀ (calls : List Call) (es : List Exp) (k : Nat), runG false es k calls = run es k calls
  | [], _, _ => rfl
  | c :: rest, es, k => by
    simp only [runG, run, Bool.false_and, Bool.false_eq_true, if_false]
    cases (callFull es (k + 1) c.name c.segs bufInit).fail with
    | some m => rfl
    | none => exact runG_false rest _ _

theorem endCheck_eq (es : List Exp) :
    (if es.any (fun e => !e.isFulfilled) then some msgUnfulfilled
     else if es.any (fun e => e.outOfOrder) then some msgOutOfOrder else none) = endCheck es := rfl

/-- the scope after `actualCall` has finished the call in flight -/
def Scope.afterFinish (sc : Scope) : Scope := { sc with es := sc.settledEs, last := none }

theorem afterFinish_settled (sc : Scope) : sc.afterFinish.settledEs = sc.settledEs ∧ sc.afterFinish.settledFail = none :=
  ⟨rfl, rfl⟩

theorem checkLast_eq (sc : Scope) :
    sc.checkLast = ({ sc with es := sc.settledEs,
                              last := sc.last.map (fun c => (callCheck { es := sc.es, call := c, fail := none }).call) },
                    sc.settledFail) := by
  obtain ⟨name, es, ao, eo, st, ioc, en, last⟩ := sc
  cases last <;> rfl

theorem Scope.actualCall_eq (sc : Scope) (fn : String) :
    sc.actualCall fn =
      match sc.checkLast.2 with
      | some f => { sc := sc.checkLast.1, fail := some f, ignored := false }
      | none => Scope.startCall { sc.checkLast.1 with last := none } (sc.fullName fn) := by
  unfold Scope.actualCall
  rcases sc.checkLast with ⟨sc1, _ | f⟩ <;> rfl

theorem checkLasts_cons (s : Scope) (rest : List Scope) :
    checkLasts (s :: rest) =
      match s.checkLast.2 with
      | some f => (s.checkLast.1 :: rest, some f)
      | none => (s.checkLast.1 :: (checkLasts rest).1, (checkLasts rest).2) := by
  rw [checkLasts]
  rcases s.checkLast with ⟨s1, _ | f⟩ <;> rfl

theorem checkLast_afterFinish (sc : Scope) : ({ sc.checkLast.1 with last := none } : Scope) = sc.afterFinish := by
  rw [checkLast_eq]; rfl

/-! ### a call statement on a scope -/

theorem startCall_ignored {sc : Scope} {full : String} (hen : sc.enabled = true)
    (hig : (sc.ioc && !(sc.es.any fun e => e.name == full)) = true) :
    sc.startCall full = { sc := sc, fail := none, ignored := true } := by
  unfold Scope.startCall
  rw [if_neg (by simp [hen]), if_pos hig]

theorem startCall_checked {sc : Scope} {full : String} (hen : sc.enabled = true)
    (hig : (sc.ioc && !(sc.es.any fun e => e.name == full)) = false) :
    sc.startCall full =
      { sc := { sc with es := (callStart sc.es (sc.actualOrder + 1) full).es, actualOrder := sc.actualOrder + 1,
                        last := some (callStart sc.es (sc.actualOrder + 1) full).call },
        fail := (callStart sc.es (sc.actualOrder + 1) full).fail, ignored := false } := by
  unfold Scope.startCall
  rw [if_neg (by simp [hen]), if_neg (by simp [hig])]

theorem cs_eta (cs : CS) (h : cs.fail = none) : ({ es := cs.es, call := cs.call, fail := none } : CS) = cs := by
  cases cs; simp_all

theorem segsLoop_eq (buf : List UInt8) : ∀ (segs : List Seg) (sc : Scope) (c : ACall), sc.last = some c →
    segsLoop sc buf segs =
      ({ sc with es := (segsFrom { es := sc.es, call := c, fail := none } buf segs).es,
                 last := some (segsFrom { es := sc.es, call := c, fail := none } buf segs).call },
       (segsFrom { es := sc.es, call := c, fail := none } buf segs).fail)
  | [], sc, c, hl => by
    simp only [segsLoop, segsFrom]
    cases sc; simp_all
  | s :: rest, sc, c, hl => by
    simp only [segsLoop, Scope.seg, hl, segsFrom, Option.isSome_none, Bool.false_eq_true, if_false]
    cases hf : (applySeg { es := sc.es, call := c, fail := none } buf s).fail with
    | some f =>
      have hne := Option.ne_none_iff_exists'.mpr ⟨_, hf⟩
      rw [segsFrom_failed _ _ _ hne, hf]
    | none =>
      simp only
      have ih := segsLoop_eq buf rest
        { sc with es := (applySeg { es := sc.es, call := c, fail := none } buf s).es,
                  last := some (applySeg { es := sc.es, call := c, fail := none } buf s).call }
        (applySeg { es := sc.es, call := c, fail := none } buf s).call rfl
      rw [ih]
      simp only [cs_eta _ hf]

theorem callFull_fail_of_start {es : List Exp} {k : Nat} {n : String} {f : String} (segs : List Seg) (buf : List UInt8)
    (h : (callStart es k n).fail = some f) : (callFull es k n segs buf).fail = some f := by
  rw [callFull_eq, segsFrom_failed _ _ _ (Option.ne_none_iff_exists'.mpr ⟨_, h⟩), callCheck_fail_some _ f h]

/-! ### `checkExpectations` / `expectedCallsLeft` of the global mock cover every scope -/

theorem checkLasts_spec : ∀ (scs : List Scope),
    (checkLasts scs).2 = firstPendingFail scs ∧
    ((checkLasts scs).2 = none → (checkLasts scs).1.flatMap (·.es) = scs.flatMap Scope.settledEs)
  | [] => ⟨rfl, fun _ => rfl⟩
  | s :: rest => by
    obtain ⟨ih1, ih2⟩ := checkLasts_spec rest
    unfold checkLasts firstPendingFail
    rw [checkLast_eq]
    cases hf : s.settledFail with
    | some f => exact ⟨rfl, fun h => by cases h⟩
    | none =>
      cases hr : checkLasts rest with
      | mk rest1 f =>
        rw [hr] at ih1 ih2
        refine ⟨ih1, fun h => ?_⟩
        simp only [List.flatMap_cons, ih2 h]

theorem any_unfulfilled_checkLasts (scs : List Scope) (h : firstPendingFail scs = none) :
    (checkLasts scs).1.any Scope.hasUnfulfilled = (scs.flatMap Scope.settledEs).any (fun e => !e.isFulfilled) := by
  rw [← (checkLasts_spec scs).2 ((checkLasts_spec scs).1.trans h), List.any_flatMap]; rfl

theorem any_outOfOrder_checkLasts (scs : List Scope) (h : firstPendingFail scs = none) :
    (checkLasts scs).1.any Scope.hasOutOfOrder = (scs.flatMap Scope.settledEs).any (fun e => e.outOfOrder) := by
  rw [← (checkLasts_spec scs).2 ((checkLasts_spec scs).1.trans h), List.any_flatMap]; rfl

theorem World.check_global (w : World) :
    (w.check "").2 =
      match (checkLasts (w.glob :: w.subs)).2 with
      | some f => some f
      | none =>
        if (checkLasts (w.glob :: w.subs)).1.any Scope.hasUnfulfilled then some msgUnfulfilled
        else if (checkLasts (w.glob :: w.subs)).1.any Scope.hasOutOfOrder then some msgOutOfOrder else none := by
  have hc : (w.touch "").covered "" = w.glob :: w.subs := by simp [World.touch, World.covered]
  simp only [World.check, hc]
  rcases checkLasts (w.glob :: w.subs) with ⟨scs, _ | f⟩
  · simp only
    split
    · rfl
    · split <;> rfl
  · rfl

theorem World.left_global (w : World) :
    (w.left "").2 = ((checkLasts (w.glob :: w.subs)).2,
      (checkLasts (w.glob :: w.subs)).2.isNone && (checkLasts (w.glob :: w.subs)).1.any Scope.hasUnfulfilled) := by
  have hc : (w.touch "").covered "" = w.glob :: w.subs := by simp [World.touch, World.covered]
  simp only [World.left, hc]
  rcases checkLasts (w.glob :: w.subs) with ⟨scs, _ | f⟩ <;> rfl

theorem check_over_scopes (w : World) :
    (w.check "").2 =
      match firstPendingFail (w.glob :: w.subs) with
      | some f => some f
      | none => endCheck w.allSettledEs := by
  rw [World.check_global, (checkLasts_spec _).1]
  cases hp : firstPendingFail (w.glob :: w.subs) with
  | some f => rfl
  | none =>
    rw [any_unfulfilled_checkLasts _ hp, any_outOfOrder_checkLasts _ hp]
    rfl

theorem check_settled (sc : Scope) :
    (World.check { glob := sc, subs := [] } "").2 =
      match sc.settledFail with
      | some f => some f
      | none => endCheck sc.settledEs := by
  rw [check_over_scopes]
  simp only [firstPendingFail, World.allSettledEs, List.flatMap_cons, List.flatMap_nil, List.append_nil]
  cases sc.settledFail <;> rfl

/-! ### lazily finished calls -/

theorem callCheck_idem (cs : CS) : callCheck (callCheck cs) = callCheck cs :=
  callCheck_of_checked _ (callCheck_checked cs)

/-- a scope whose call in flight is `Z.call` on the list `Z.es` settles to what `callCheck Z` gives -/
theorem settled_of_last (sc : Scope) (Z : CS) (hZ : Z.fail = none) (k : Nat) :
    ({ sc with es := Z.es, actualOrder := k, last := some Z.call } : Scope).settledEs = (callCheck Z).es ∧
    ({ sc with es := Z.es, actualOrder := k, last := some Z.call } : Scope).settledFail = (callCheck Z).fail := by
  simp only [Scope.settledEs, Scope.settledFail, cs_eta _ hZ, and_self]

/-- The induction is over the statements with the scope general: whatever call is in flight, `actualCall` first
    settles it (`Scope.actualCall_eq`), so each statement starts from `sc.afterFinish`, and the scope it leaves (call
    finished at once, or left in flight) has the settled list `callFull` computes. -/
theorem lazyVerdict_eq : ∀ (stmts : List Stmt) (sc : Scope), sc.name = "" → sc.enabled = true →
    sc.lazyVerdict stmts =
      match sc.settledFail with
      | some f => some f
      | none => runG sc.ioc sc.settledEs sc.actualOrder (stmts.map (·.call))
  | [], sc, _, _ => by
    simp only [Scope.lazyVerdict, Scope.lazyRun, List.map_nil, runG]
    exact check_settled sc
  | s :: rest, sc, hname, hen => by
    have hfull : sc.fullName s.call.name = s.call.name := by simp [Scope.fullName, hname]
    have hact : sc.actualCall s.call.name =
        match sc.settledFail with
        | some f => { sc := sc.checkLast.1, fail := some f, ignored := false }
        | none => Scope.startCall sc.afterFinish s.call.name := by
      rw [Scope.actualCall_eq, checkLast_afterFinish, hfull, checkLast_eq]
    cases hsf : sc.settledFail with
    | some f =>
      simp only [Scope.lazyVerdict, Scope.lazyRun, hact, hsf]
    | none =>
      simp only [Scope.lazyVerdict, Scope.lazyRun, hact, hsf, List.map_cons, runG]
      have henA : sc.afterFinish.enabled = true := hen
      by_cases hig : (sc.ioc && !(sc.settledEs.any fun e => e.name == s.call.name)) = true
      · -- the call is ignored
        rw [startCall_ignored henA hig, if_pos hig]
        simp only [if_true]
        have ih := lazyVerdict_eq rest sc.afterFinish hname hen
        simp only [Scope.lazyVerdict] at ih
        rw [ih]
        rfl
      · -- a checked call
        rw [startCall_checked henA (Bool.eq_false_iff.mpr hig), if_neg hig]
        simp only [show sc.afterFinish.es = sc.settledEs from rfl, show sc.afterFinish.actualOrder = sc.actualOrder from rfl]
        cases hw : (callStart sc.settledEs (sc.actualOrder + 1) s.call.name).fail with
        | some f =>
          rw [callFull_fail_of_start s.call.segs bufInit hw]
        | none =>
          simp only [Bool.false_eq_true, if_false]
          rw [segsLoop_eq bufInit s.call.segs _ _ rfl, callFull_eq]
          simp only [cs_eta _ hw]
          generalize segsFrom (callStart sc.settledEs (sc.actualOrder + 1) s.call.name) bufInit s.call.segs = X
          cases hs : X.fail with
          | some f =>
            rw [callCheck_fail_some _ f hs]
          | none =>
            -- whether the call is finished now or left in flight, the scope settles to `callCheck X`
            have key : ∀ Z : CS, Z.fail = none → callCheck Z = callCheck X →
                Scope.lazyVerdict { sc.afterFinish with es := Z.es, actualOrder := sc.actualOrder + 1, last := some Z.call } rest =
                match (callCheck X).fail with
                | some m => some m
                | none => runG sc.ioc (callCheck X).es (sc.actualOrder + 1) (rest.map (·.call)) := fun Z hZ hZX => by
              refine (lazyVerdict_eq rest _ (by exact hname) (by exact hen)).trans ?_
              rw [(settled_of_last _ Z hZ _).1, (settled_of_last _ Z hZ _).2, hZX]
              rfl
            cases hnow : s.now with
            | false =>
              simp only [Bool.false_eq_true, if_false]
              exact key X hs rfl
            | true =>
              simp only [if_true, Scope.checkLast, cs_eta _ hs]
              cases hcc : (callCheck X).fail with
              | some f => rfl
              | none =>
                have := key (callCheck X) hcc (callCheck_idem X)
                rw [hcc] at this
                exact this

/-! ### `ignoreOtherCalls`: the function names of the expectation list never change -/

def namesOf (es : List Exp) : List String := es.map (·.name)

theorem names_map (f : Exp → Exp) (hf : ∀ e, (f e).name = e.name) (l : List Exp) : namesOf (l.map f) = namesOf l := by
  simp [namesOf, List.map_map, Function.comp_def, hf]

theorem names_modifyFirst (p : Exp → Bool) (f : Exp → Exp) (hf : ∀ e, (f e).name = e.name) (l : List Exp) :
    namesOf (modifyFirst p f l) = namesOf l :=
  map_modifyFirst_absorb (fun y _ _ => hf y)

theorem reset_name (e : Exp) : e.reset.name = e.name := rfl

theorem callWasMade_name (e : Exp) (k : Nat) : (e.callWasMade k).name = e.name := rfl

theorem namesOf_norm (l : List Exp) : namesOf (l.map Exp.norm) = namesOf l := by
  simp [namesOf, List.map_map, Function.comp_def, name_norm]

theorem resetCands_names (es : List Exp) : namesOf (resetCands es) = namesOf es :=
  names_map _ (fun e => by split <;> rfl) _

theorem callCheck_names (cs : CS) : namesOf (callCheck cs).es = namesOf cs.es := by
  rcases callCheck_shape cs with ⟨_, e⟩ | ⟨_, _, e, h⟩ | ⟨_, e⟩ <;> rw [e]
  · rcases h with rfl | rfl | rfl
    · exact names_map _ (fun e => by simp only [finishE]; split <;> split <;> rfl) _
    · exact resetCands_names _
    · exact (resetCands_names _).trans (names_modifyFirst isM (finishLateE cs.call.order) (fun _ => rfl) _)
  · rw [failCall_es]

theorem callFull_names (es : List Exp) (k : Nat) (n : String) (segs : List Seg) (buf : List UInt8) :
    namesOf (callFull es k n segs buf).es = namesOf es := by
  rw [callFull_eq, callCheck_names]
  exact static_list namesOf namesOf_norm (pre_sameMeta es k n segs buf).norm

theorem any_name_congr {l1 l2 : List Exp} (h : namesOf l1 = namesOf l2) (n : String) :
    l1.any (fun e => e.name == n) = l2.any (fun e => e.name == n) := by
  have h1 : ∀ l : List Exp, l.any (fun e => e.name == n) = (namesOf l).any (fun m => m == n) := by
    intro l; simp [namesOf, List.any_map, Function.comp_def]
  rw [h1 l1, h1 l2, h]

theorem knownCalls_congr {l1 l2 : List Exp} (h : namesOf l1 = namesOf l2) (calls : List Call) :
    knownCalls l1 calls = knownCalls l2 calls := by
  unfold knownCalls
  congr 1
  funext c
  exact any_name_congr h c.name

theorem runG_true_eq : ∀ (calls : List Call) (es : List Exp) (k : Nat),
    runG true es k calls = run es k (knownCalls es calls)
  | [], _, _ => rfl
  | c :: rest, es, k => by
    simp only [runG, Bool.true_and]
    cases hk : es.any (fun e => e.name == c.name) with
    | false =>
      have : knownCalls es (c :: rest) = knownCalls es rest := by simp [knownCalls, hk]
      simp only [Bool.not_false, if_true, this]
      exact runG_true_eq rest es k
    | true =>
      have : knownCalls es (c :: rest) = c :: knownCalls es rest := by simp [knownCalls, hk]
      simp only [Bool.not_true, Bool.false_eq_true, if_false, this, run]
      cases hf : (callFull es (k + 1) c.name c.segs bufInit).fail with
      | some m => rfl
      | none =>
        rw [runG_true_eq rest _ (k + 1), knownCalls_congr (callFull_names es (k + 1) c.name c.segs bufInit) rest]

theorem lazyVerdict_fresh (sc : Scope) (stmts : List Stmt) (hname : sc.name = "") (hen : sc.enabled = true)
    (hlast : sc.last = none) :
    sc.lazyVerdict stmts =
      run sc.es sc.actualOrder (if sc.ioc then knownCalls sc.es (stmts.map (·.call)) else stmts.map (·.call)) := by
  rw [lazyVerdict_eq stmts sc hname hen]
  simp only [Scope.settledFail, Scope.settledEs, hlast]
  cases sc.ioc with
  | false => exact runG_false _ _ _
  | true => exact runG_true_eq _ _ _

/-! ### what `expectNCalls` builds satisfies the hypotheses about flags and order windows -/

theorem new_clean (name : String) (n lo hi : Nat) : (Exp.new name n lo hi).clean = true := rfl

theorem addSeg_clean (e : Exp) (s : ESeg) (h : e.clean = true) : (e.addSeg s).clean = true := by
  cases s <;> simp_all [Exp.clean, Exp.addSeg, List.all_append]

theorem foldl_addSeg_clean (segs : List ESeg) : ∀ (e : Exp), e.clean = true → (segs.foldl Exp.addSeg e).clean = true := by
  induction segs with
  | nil => intro e h; exact h
  | cons s segs ih => intro e h; exact ih _ (addSeg_clean e s h)

/-- the modifiers of an expectation touch neither its counters nor its order window -/
theorem foldl_addSeg_order (segs : List ESeg) : ∀ (e : Exp),
    ((segs.foldl Exp.addSeg e).lo, (segs.foldl Exp.addSeg e).hi, (segs.foldl Exp.addSeg e).expected,
      (segs.foldl Exp.addSeg e).actual, (segs.foldl Exp.addSeg e).outOfOrder) = (e.lo, e.hi, e.expected, e.actual, e.outOfOrder) := by
  induction segs with
  | nil => intro e; rfl
  | cons s segs ih => intro e; rw [List.foldl_cons, ih]; cases s <;> rfl

def totalExpected (es : List Exp) : Nat := (es.map (·.expected)).sum

theorem windowsFrom_snoc : ∀ (es : List Exp) (k : Nat) (e : Exp), windowsFrom k es →
    e.lo = k + totalExpected es + 1 → e.hi = k + totalExpected es + e.expected → e.actual = 0 → e.outOfOrder = false →
    windowsFrom k (es ++ [e])
  | [], k, e, _, h1, h2, h3, h4 => by
    simp only [totalExpected, List.map_nil, List.sum_nil, Nat.add_zero] at h1 h2
    exact ⟨h1, h2, h3, h4, trivial⟩
  | a :: es, k, e, hw, h1, h2, h3, h4 => by
    obtain ⟨w1, w2, w3, w4, w5⟩ := hw
    refine ⟨w1, w2, w3, w4, ?_⟩
    apply windowsFrom_snoc es (k + a.expected) e w5
    · simp only [totalExpected, List.map_cons, List.sum_cons] at h1 ⊢; omega
    · simp only [totalExpected, List.map_cons, List.sum_cons] at h2 ⊢; omega
    · exact h3
    · exact h4

theorem pluginPost_world (r : BodyResult) (h : r.w.glob.name = "") : (pluginPost r).2 = World.init := by
  simp [pluginPost, World.clear, World.touch, Scope.clear, World.init, h]

end Mock
