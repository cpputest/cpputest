import CppUModel.Proofs.SimpleStringFmt
import CppUModel.Model.SimpleStringOps
/-!
# Operation scripts keep the allocator pairing invariant
-/
namespace SStr
open CStr Text TextExt

/-! ### stores -/

def owned (st : Store) : List (Nat × Nat) := st.map fun p => (p.2.id, p.2.size)

def labels (st : Store) : List String := st.map (·.1)

theorem has_iff_mem_labels (st : Store) (l : String) : st.has l = true ↔ l ∈ labels st := by
  simp [Store.has, labels]

theorem get?_mem {st : Store} {l : String} {x : Obj} (h : st.get? l = some x) : (l, x) ∈ st := by
  simp only [Store.get?, Option.map_eq_some_iff] at h
  obtain ⟨p, hp, rfl⟩ := h
  have e : p.1 = l := by simpa using List.find?_some hp
  rw [← e]
  exact List.mem_of_find?_eq_some hp

theorem has_of_get {st : Store} {l : String} {x : Obj} (h : st.get? l = some x) : st.has l = true :=
  (has_iff_mem_labels st l).mpr (List.mem_map_of_mem (f := (·.1)) (get?_mem h))

theorem mem_split {st : Store} {l : String} {x : Obj} (hnd : (labels st).Nodup) (h : (l, x) ∈ st) :
    ∃ s1 s2, st = s1 ++ (l, x) :: s2 ∧ l ∉ labels s1 ∧ l ∉ labels s2 := by
  obtain ⟨s1, s2, rfl⟩ := List.append_of_mem h
  simp only [labels, List.map_append, List.map_cons, List.nodup_append, List.nodup_cons] at hnd
  exact ⟨s1, s2, rfl, fun hl => hnd.2.2 l hl l (List.mem_cons_self ..) rfl, hnd.2.1.1⟩

theorem put_split {s1 s2 : Store} {l : String} {x r : Obj} (h1 : l ∉ labels s1) (h2 : l ∉ labels s2) :
    Store.put (s1 ++ (l, x) :: s2) l r = s1 ++ (l, r) :: s2 := by
  have hhas : Store.has (s1 ++ (l, x) :: s2) l = true := by
    rw [has_iff_mem_labels]; simp [labels]
  have hm : ∀ s : Store, l ∉ labels s → s.map (fun p => if p.1 == l then (l, r) else p) = s := fun s hs => by
    refine (List.map_congr_left fun p hp => ?_).trans (List.map_id s)
    have : p.1 ≠ l := fun e => hs (e ▸ List.mem_map_of_mem (f := (·.1)) hp)
    simp [this]
  simp only [Store.put, hhas, if_true, List.map_append, List.map_cons, beq_self_eq_true, hm s1 h1, hm s2 h2]

theorem del_split {s1 s2 : Store} {l : String} {x : Obj} (h1 : l ∉ labels s1) (h2 : l ∉ labels s2) :
    Store.del (s1 ++ (l, x) :: s2) l = s1 ++ s2 := by
  have hm : ∀ s : Store, l ∉ labels s → s.filter (fun p => p.1 != l) = s := fun s hs =>
    List.filter_eq_self.mpr fun p hp => by
      have : p.1 ≠ l := fun e => hs (e ▸ List.mem_map_of_mem (f := (·.1)) hp)
      simpa using this
  simp [Store.del, List.filter_append, hm s1 h1, hm s2 h2]

theorem put_fresh {st : Store} {l : String} (r : Obj) (h : st.has l = false) : st.put l r = st ++ [(l, r)] := by
  simp [Store.put, h]

theorem put_same {st : Store} {l : String} {x : Obj} (hnd : (labels st).Nodup) (h : (l, x) ∈ st) :
    st.put l x = st := by
  obtain ⟨s1, s2, rfl, hn1, hn2⟩ := mem_split hnd h
  exact put_split hn1 hn2

theorem mem_put_of_ne {st : Store} {a b : String} {y : Obj} (r : Obj) (h : (b, y) ∈ st) (hne : b ≠ a) :
    (b, y) ∈ st.put a r := by
  unfold Store.put
  split
  · exact List.mem_map.mpr ⟨(b, y), h, by simp [hne]⟩
  · exact List.mem_append_left _ h

theorem labels_put {st : Store} {a : String} (r : Obj) (ha : st.has a = true) : labels (st.put a r) = labels st := by
  simp only [Store.put, ha, if_true, labels, List.map_map]
  refine List.map_congr_left fun p _ => ?_
  by_cases hp : p.1 = a <;> simp [hp]

/-! ### the invariant of operation scripts -/

def Fits (st : Store) : Prop := ∀ p ∈ st, p.2.size ≤ npos

/-- every live object holds a C string, its recorded size is its buffer's size, labels are
    distinct, and the allocator's outstanding buffers are exactly the objects' buffers under
    their recorded sizes -/
structure Good (st : Store) (w : World) : Prop where
  holds : ∀ p ∈ st, ∃ a, Holds p.2 a
  sized : ∀ p ∈ st, Sized p.2
  fits : Fits st
  nodup : (labels st).Nodup
  owns : Owns w (owned st)

theorem Good.init : Good [] {} :=
  ⟨by simp, by simp, by simp [Fits], by simp [labels], by simpa [owned] using Owns.init⟩

theorem Good.silent {st : Store} {w w' : World} (hg : Good st w) (h : ∀ L, Owns w L → Owns w' L) : Good st w' :=
  ⟨hg.holds, hg.sized, hg.fits, hg.nodup, h _ hg.owns⟩

theorem Good.holds_of_get {st : Store} {w : World} (hg : Good st w) {l : String} {x : Obj} (h : st.get? l = some x) :
    HasStr x := hg.holds _ (get?_mem h)

theorem Good.sized_of_get {st : Store} {w : World} (hg : Good st w) {l : String} {x : Obj} (h : st.get? l = some x) :
    Sized x := hg.sized _ (get?_mem h)

theorem Owns.emit_out {w : World} {L} (h : Owns w L) (s : String) :
    Owns { w with log := w.log ++ [.out s] } L :=
  h.log_other (fun _ => rfl) rfl rfl

@[simp] theorem out_run (s : String) (w : World) : out s w = .ok ((), { w with log := w.log ++ [.out s] }) := rfl
@[simp] theorem outVal_run (o : Obj) (w : World) :
    outVal o w = .ok ((), { w with log := w.log ++ [.out ("val " ++ Proto.hex (cview o.buf))] }) := rfl

theorem forall_mem_exchange {s1 s2 : Store} {p q : String × Obj} {P : String × Obj → Prop}
    (h : ∀ e ∈ s1 ++ p :: s2, P e) (hq : P q) : ∀ e ∈ s1 ++ q :: s2, P e := by
  intro e he
  rcases List.mem_append.mp he with h1 | h1
  · exact h e (List.mem_append_left _ h1)
  · rcases List.mem_cons.mp h1 with rfl | h2
    · exact hq
    · exact h e (List.mem_append_right _ (List.mem_cons_of_mem _ h2))

theorem owned_split (s1 s2 : Store) (l : String) (x : Obj) :
    (owned (s1 ++ (l, x) :: s2)).Perm ((x.id, x.size) :: (owned s1 ++ owned s2)) := by
  simp only [owned, List.map_append, List.map_cons]
  exact List.perm_middle

theorem put_good {st : Store} {w w1 : World} {l : String} {x r : Obj}
    (hg : Good st w) (hx : st.get? l = some x) (hh : HasStr r) (hsz : Sized r)
    (ho : ∀ L, Owns w ((x.id, x.size) :: L) → Owns w1 ((r.id, r.size) :: L))
    (hfit : Fits (st.put l r)) : Good (st.put l r) w1 := by
  obtain ⟨s1, s2, he, hn1, hn2⟩ := mem_split hg.nodup (get?_mem hx)
  subst he
  rw [put_split hn1 hn2] at hfit ⊢
  refine ⟨forall_mem_exchange hg.holds hh, forall_mem_exchange hg.sized hsz, hfit, ?_, ?_⟩
  · simpa [labels] using hg.nodup
  · exact (ho _ (hg.owns.perm (owned_split ..))).perm (owned_split ..).symm

theorem del_good {st : Store} {w w1 : World} {l : String} {x : Obj}
    (hg : Good st w) (hx : st.get? l = some x)
    (ho : ∀ L, Owns w ((x.id, x.size) :: L) → Owns w1 L) : Good (st.del l) w1 := by
  obtain ⟨s1, s2, he, hn1, hn2⟩ := mem_split hg.nodup (get?_mem hx)
  subst he
  have hsub : ∀ e ∈ s1 ++ s2, e ∈ s1 ++ (l, x) :: s2 := fun e he =>
    (List.mem_append.mp he).elim (List.mem_append_left _) fun h => List.mem_append_right _ (List.mem_cons_of_mem _ h)
  rw [del_split hn1 hn2]
  refine ⟨fun e he => hg.holds e (hsub e he), fun e he => hg.sized e (hsub e he), fun e he => hg.fits e (hsub e he),
    ?_, ?_⟩
  · have hnd := hg.nodup
    simp only [labels, List.map_append, List.map_cons, List.nodup_append, List.nodup_cons] at hnd ⊢
    exact ⟨hnd.1, hnd.2.1.2, fun a ha b hb => hnd.2.2 a ha b (List.mem_cons_of_mem _ hb)⟩
  · simpa [owned] using ho _ (hg.owns.perm (owned_split ..))

/-! ### computations that leave the allocator alone: `Eff m [] (fun _ => []) R` -/

theorem eff_out (s : String) : Eff (out s) [] (fun _ => []) (fun _ => True) :=
  fun w a w' h => by cases h; exact ⟨trivial, fun _ hL => hL.emit_out s⟩

theorem dtorAllRev_total : ∀ (items : List Obj) (w : World), ∃ w', dtorAllRev items w = .ok ((), w')
  | [], w => ⟨w, rfl⟩
  | o :: rest, w => by
    obtain ⟨w1, h1⟩ := dtorAllRev_total rest w
    exact ⟨w1.free o.id o.size, by simp only [dtorAllRev, bind_run, h1, dtor_run]⟩

theorem dtorAllRev_eff : ∀ items : List Obj, Eff (dtorAllRev items) (ownedObjs items) (fun _ => []) (fun _ => True)
  | [] => eff_unit
  | o :: rest =>
    Eff.seq' (own o) (dtorAllRev_eff rest) fun _ _ => Eff.bind' (eff_dtor o) fun _ _ => eff_unit

theorem delAll_eff : ∀ xs : List (String × Obj), Eff (delAll xs) (owned xs) (fun _ => []) (fun _ => True)
  | [] => eff_unit
  | p :: rest => Eff.bind (F := owned rest) (eff_dtor p.2) fun _ _ => delAll_eff rest

theorem outTokens_eff : ∀ (items : List Obj) (i : Nat), Eff (outTokens items i) [] (fun _ => []) (fun _ => True)
  | [], _ => eff_unit
  | _ :: rest, i => Eff.bind' (eff_out _) fun _ _ => outTokens_eff rest (i + 1)

/-! ### operations that keep the invariant -/

/-- run from a good state `(st, w)`, every successful outcome of `m` within `size_t` is a good state -/
def Keeps (st : Store) (w : World) (m : M Store) : Prop :=
  Good st w → ∀ st' w', m w = .ok (st', w') → Fits st' → Good st' w'

theorem keeps_bad {st : Store} {w : World} : Keeps st w bad := by
  intro _ st' w' h; simp [bad] at h

theorem Keeps.get {st : Store} {w : World} {a : String} {f : Obj → M Store}
    (h : ∀ x, st.get? a = some x → Keeps st w (f x)) :
    Keeps st w (match st.get? a with | some x => f x | none => bad) := by
  cases hx : st.get? a with
  | none => exact keeps_bad
  | some x => exact h x hx

theorem Keeps.get2 {st : Store} {w : World} {a b : String} {f : Obj → Obj → M Store}
    (h : ∀ x y, st.get? a = some x → st.get? b = some y → Keeps st w (f x y)) :
    Keeps st w (match st.get? a, st.get? b with | some x, some y => f x y | _, _ => bad) := by
  cases hx : st.get? a with
  | none => exact keeps_bad
  | some x =>
    cases hy : st.get? b with
    | none => exact keeps_bad
    | some y => exact h x y hx hy

theorem keeps_pure {st : Store} {w : World} : Keeps st w (pure st) := by
  intro hg st' w' h _
  cases h
  exact hg

theorem keeps_of_eff {st : Store} {w : World} {m : M Store} (h : Eff m [] (fun _ => []) (· = st)) : Keeps st w m :=
  fun hg st' w' hm _ => by
    obtain ⟨rfl, ho⟩ := h w st' w' hm
    exact hg.silent ho

theorem keeps_query {st : Store} {w : World} {m : M Unit} {R : Unit → Prop} (hm : Eff m [] (fun _ => []) R) :
    Keeps st w (do m; pure st) :=
  keeps_of_eff (Eff.bind' hm fun _ _ => eff_ret (post := fun _ => []) (R := (· = st)) rfl)

theorem keeps_report {α} {st : Store} {w : World} (e : Except Err α) (f : α → M Unit)
    (hf : ∀ a, Eff (f a) [] (fun _ => []) (fun _ => True)) : Keeps st w (do let r ← liftE e; f r; pure st) :=
  keeps_of_eff (Eff.bind' (eff_liftE e) fun a _ => Eff.bind' (hf a) fun _ _ =>
    eff_ret (post := fun _ => []) (R := (· = st)) rfl)

/-- object `l` is created by `m` (the label must be free) and printed -/
theorem keeps_create {st : Store} {w : World} {l : String} {m : M Obj}
    (hm : Eff m [] own WF) : Keeps st w (create st l m) := by
  intro hg st' w' hs hfit
  simp only [create] at hs
  by_cases hh : st.has l = true
  · simp [hh, bad] at hs
  · have hh' : st.has l = false := Bool.eq_false_iff.mpr hh
    simp only [hh', Bool.false_eq_true, if_false] at hs
    obtain ⟨r, w1, hr, hs⟩ := bind_ok_inv hs
    obtain ⟨⟨hp, hsz⟩, ho⟩ := hm w r w1 hr
    simp only [bind_run, outVal_run, pure_run, put_fresh r hh'] at hs
    cases hs
    have hall : ∀ {P : String × Obj → Prop}, (∀ p ∈ st, P p) → P (l, r) → ∀ p ∈ st ++ [(l, r)], P p :=
      fun h1 h2 p hp' => (List.mem_append.mp hp').elim (h1 p) fun h => by simp at h; exact h ▸ h2
    refine ⟨hall hg.holds hp, hall hg.sized hsz, hfit, ?_, ?_⟩
    · simp only [labels, List.map_append, List.map_cons, List.map_nil, List.nodup_append]
      refine ⟨hg.nodup, by simp, fun a ha b hb hab => ?_⟩
      simp at hb; subst hb; subst hab
      exact hh ((has_iff_mem_labels st _).mpr ha)
    · refine ((ho _ hg.owns).emit_out _).perm ?_
      simp only [owned, List.map_append, List.map_cons, List.map_nil]
      exact (List.perm_append_singleton _ _).symm

/-- object `l` (currently `x`) gets its new buffer from `m` and is printed -/
theorem keeps_put {st : Store} {w : World} {l : String} {x : Obj} {m : M Obj} (hx : st.get? l = some x)
    (hm : Eff m (own x) own WF) : Keeps st w (do let r ← m; outVal r; pure (st.put l r)) := by
  intro hg st' w' hs hfit
  obtain ⟨r, w1, hr, hs⟩ := bind_ok_inv hs
  obtain ⟨⟨hh, hsz⟩, ho⟩ := hm w r w1 hr
  simp only [bind_run, outVal_run, pure_run] at hs
  cases hs
  exact (put_good hg hx hh hsz ho hfit).silent fun L hL => hL.emit_out _

/-! ### operations in partial-correctness form -/

/-- `replace(to, with)` has three outcomes (unchanged, a new buffer, the empty string); its pairing is proved with
    its value in `replaceStr_replaces` and read off here -/
theorem replaceStr_eff {self : Obj} (hself : HasStr self) (hsz : Sized self) (to : Buf) (tp : Nat) (wb : Buf) (wp : Nat) :
    Eff (replaceStr self to tp wb wp) (own self) own WF := by
  intro w r w' h
  obtain ⟨a, ha⟩ := hself
  cases hl : StrLen to tp with
  | error e => simp [replaceStr, size_ok ha, hl] at h
  | ok n =>
    cases hl2 : StrLen wb wp with
    | error e => simp [replaceStr, size_ok ha, hl, hl2] at h
    | ok n2 =>
      obtain ⟨pat, hpat, _⟩ := StrLen_inv hl
      obtain ⟨rep, hrep, _⟩ := StrLen_inv hl2
      obtain ⟨r0, w0, h0, hh, hs, ho⟩ := replaceStr_replaces ha hsz hpat hrep w
      cases h0.symm.trans h
      exact ⟨⟨⟨_, hh⟩, hs⟩, ho⟩

/-- `replace(char, char)` for ANY replacement byte (a NUL shortens the string): in place -/
theorem replaceChar_any {self : Obj} {a : Bytes} (h : Holds self a) (to w : UInt8) :
    ∃ r, replaceChar self to w = .ok r ∧ Holds r (cut (Text.replaceByte a to w)) ∧ r.id = self.id ∧
      r.size = self.size ∧ r.buf.length = self.buf.length := by
  obtain ⟨b, h1, h2, post, h3⟩ := replaceChar_ok h to w
  refine ⟨_, h1, ?_, rfl, rfl, h2⟩
  rw [h3]; exact cat_cut _ _

theorem replaceChar_eff {self : Obj} (hself : HasStr self) (hsz : Sized self) (to c : UInt8) :
    Eff (liftE (replaceChar self to c)) (own self) own WF := by
  intro w r w' h
  obtain ⟨a, ha⟩ := hself
  obtain ⟨r0, hr, hh, hid, hs, hlen⟩ := replaceChar_any ha to c
  rw [hr] at h
  cases h
  exact ⟨⟨⟨_, hh⟩, by rw [Sized] at hsz ⊢; omega⟩, fun L hL => by rw [own, hid, hs]; exact hL⟩

/-- `padStringsToSameLength` leaves the longer of the two objects as it is and gives the other a new, padded buffer -/
theorem padStringsToSameLength_cases {str1 str2 : Obj} {a b : Bytes} (h1 : Holds str1 a) (h2 : Holds str2 b)
    (c : UInt8) (w : World) :
    (a.length > b.length ∧ ∃ r w', padStringsToSameLength str1 str2 c w = .ok ((str1, r), w') ∧
        Holds r (TextExt.padLeft (a.length - b.length) c b) ∧ Sized r ∧
        ∀ L, Owns w ((str2.id, str2.size) :: L) → Owns w' ((r.id, r.size) :: L)) ∨
    (¬ a.length > b.length ∧ ∃ r w', padStringsToSameLength str1 str2 c w = .ok ((r, str2), w') ∧
        Holds r (TextExt.padLeft (b.length - a.length) c a) ∧ Sized r ∧
        ∀ L, Owns w ((str1.id, str1.size) :: L) → Owns w' ((r.id, r.size) :: L)) := by
  simp only [padStringsToSameLength, bind_run, size_ok h1, size_ok h2, liftE_ok]
  by_cases hgt : a.length > b.length
  · refine Or.inl ⟨hgt, ?_⟩
    simp only [hgt, if_true, bind_run]
    obtain ⟨r, w', hr, hh⟩ := padFirst_replaces h2 (a.length - b.length) c w
    exact ⟨r, w', by simp only [hr, pure_run], hh⟩
  · refine Or.inr ⟨hgt, ?_⟩
    simp only [hgt, if_false, bind_run]
    obtain ⟨r, w', hr, hh⟩ := padFirst_replaces h1 (b.length - a.length) c w
    exact ⟨r, w', by simp only [hr, pure_run], hh⟩

theorem runFmt_eff {st : Store} : ∀ f : Fmt, Eff (runFmt st f) [] own WF
  | .plain => stringFromFormat_eff
  | .vplain => vStringFromFormat_eff
  | .cstr h => ctorCStr_eff h 0
  | .orNull h => stringFromOrNull_eff h
  | .printableOrNull h => printableStringFromOrNull_eff h
  | .copyOf a => by
    simp only [runFmt]
    cases hx : st.get? a with
    | none => intro w r w' h; simp at h
    | some o => exact ctorCopy_eff _
  | .pointer => stringFromPointer_eff
  | .hexSC neg => hexStringFromSignedChar_eff neg
  | .brackets => eff_with_temp stringFromFormat_eff (fun o _ => brackets_eff o)
  | .bracketsSC neg => eff_with_temp (hexStringFromSignedChar_eff neg) (fun o _ => brackets_eff o)
  | .bracketsStr a => by
    simp only [runFmt]
    cases hx : st.get? a with
    | none => intro w r w' h; simp at h
    | some o => exact eff_with_temp (ctorCopy_eff _) (fun o _ => brackets_eff o)
  | .binary n => stringFromBinary_eff n
  | .binaryOrNull isNull n => stringFromBinaryOrNull_eff isNull n
  | .binarySize n => stringFromBinaryWithSize_eff false n
  | .binarySizeOrNull isNull n => stringFromBinaryWithSizeOrNull_eff isNull n
  | .masked v m k => stringFromMaskedBits_eff v m k

/-! ### SimpleStringCollection -/

def CollGood (col : Coll) : Prop :=
  (∀ o ∈ col.items, HasStr o ∧ Sized o) ∧ HasStr col.empty ∧ Sized col.empty

def collOwned (col : Coll) : List (Nat × Nat) := (col.empty.id, col.empty.size) :: ownedObjs col.items

structure Shape (n : Nat) (e : Obj) (c : Coll) : Prop where
  empty : c.empty = e
  length : c.items.length = n
  wf : ∀ o ∈ c.items, WF o

theorem ctorEmptyN_eff : ∀ n, Eff (ctorEmptyN n) [] ownedObjs (fun items => items.length = n ∧ ∀ o ∈ items, WF o)
  | 0 => eff_ret (a := ([] : List Obj)) (post := ownedObjs) ⟨rfl, by simp⟩
  | n + 1 =>
    Eff.bind' (ctorCStr_eff emptyLit 0) fun o ho =>
      Eff.seq' (own o) (ctorEmptyN_eff n) fun rest hr =>
        eff_ret (a := o :: rest) (post := ownedObjs) (R := fun items => items.length = n + 1 ∧ ∀ o ∈ items, WF o)
          ⟨by simp [hr.1], fun x hx => (List.mem_cons.mp hx).elim (· ▸ ho) (hr.2 x)⟩

theorem collAllocate_items_eff (col : Coll) (n : Nat) :
    Eff (collAllocate col n) (ownedObjs col.items) (fun c => ownedObjs c.items) (Shape n col.empty) :=
  Eff.bind' (dtorAllRev_eff col.items) fun _ _ =>
    Eff.bind' (ctorEmptyN_eff n) fun items hi => eff_ret (a := (⟨items, col.empty⟩ : Coll))
      (post := fun c => ownedObjs c.items) (R := Shape n col.empty) ⟨rfl, hi.1, hi.2⟩

theorem ownedObjs_split {items : List Obj} {i : Nat} {o : Obj} (h : items[i]? = some o) (o' : Obj) :
    (ownedObjs items).Perm ((o.id, o.size) :: ownedObjs (items.take i ++ items.drop (i + 1))) ∧
    (ownedObjs (items.set i o')).Perm ((o'.id, o'.size) :: ownedObjs (items.take i ++ items.drop (i + 1))) := by
  obtain ⟨hi, e1⟩ := ListLemmas.eq_take_cons_drop h
  have e2 : items.set i o' = items.take i ++ o' :: items.drop (i + 1) := by
    rw [List.set_eq_take_append_cons_drop, if_pos hi]
  constructor
  · conv => lhs; rw [e1]
    simp only [ownedObjs, List.map_append, List.map_cons]
    exact List.perm_middle
  · rw [e2]
    simp only [ownedObjs, List.map_append, List.map_cons]
    exact List.perm_middle

theorem collAssign_items_eff {n i : Nat} {e : Obj} {col : Coll} (hc : Shape n e col) (hi : i < n) {value : Obj}
    (hv : HasStr value) :
    Eff (collAssign col i value) (ownedObjs col.items) (fun c => ownedObjs c.items) (Shape n e) := by
  obtain ⟨o, ho⟩ : ∃ o, col.items[i]? = some o := ⟨col.items[i]'(hc.length ▸ hi), List.getElem?_eq_getElem _⟩
  simp only [collAssign, ho]
  refine (Eff.bind (F := ownedObjs (col.items.take i ++ col.items.drop (i + 1))) (assign_eff o hv) fun o' ho' =>
    (eff_ret (a := (⟨col.items.set i o', col.empty⟩ : Coll)) (post := fun c => ownedObjs c.items)
      ⟨hc.empty, by simp [hc.length], fun x hx => ?_⟩).perm (ownedObjs_split ho o').2.symm).perm (ownedObjs_split ho o).1
  rcases List.mem_or_eq_of_mem_set hx with h1 | h1
  · exact hc.wf x h1
  · exact h1 ▸ ho'

/-- what exchanges the elements and leaves `empty_` alone keeps the collection well-formed and paired -/
theorem Eff.coll {col : Coll} (hc : CollGood col) {m : M Coll} {n : Nat}
    (h : Eff m (ownedObjs col.items) (fun c => ownedObjs c.items) (Shape n col.empty)) :
    Eff m (collOwned col) collOwned CollGood := by
  intro w c w' hm
  obtain ⟨hs, ho⟩ := h w c w' hm
  refine ⟨⟨hs.wf, hs.empty ▸ hc.2⟩, fun L hL => ?_⟩
  have g := ho _ (hL.perm (List.perm_middle (l₁ := ownedObjs col.items)).symm)
  rw [collOwned, hs.empty]
  exact g.perm List.perm_middle

theorem collAllocate_eff {col : Coll} (hc : CollGood col) (n : Nat) :
    Eff (collAllocate col n) (collOwned col) collOwned CollGood :=
  Eff.coll hc (collAllocate_items_eff col n)

theorem collAssign_eff {col : Coll} (hc : CollGood col) (i : Nat) {value : Obj} {v : Bytes} (hv : Holds value v) :
    Eff (collAssign col i value) (collOwned col) collOwned CollGood := by
  cases hi : col.items[i]? with
  | some o =>
    exact Eff.coll hc (collAssign_items_eff ⟨rfl, rfl, hc.1⟩ (List.getElem?_eq_some_iff.mp hi).1 ⟨v, hv⟩)
  | none =>
    simp only [collAssign, hi]
    exact Eff.bind (F := collOwned col) (ctorCStr_eff _ _) fun t ht =>
      Eff.seq (own t) (ownedObjs col.items) (assign_eff col.empty ht.1) fun e _ =>
        Eff.bind (F := own e ++ ownedObjs col.items) (eff_dtor t) fun _ _ =>
          Eff.bind (F := ownedObjs col.items) (assign_eff e ⟨v, hv⟩) fun e' he' =>
            eff_ret (a := (⟨col.items, e'⟩ : Coll)) (post := collOwned) ⟨hc.1, he'⟩

theorem collGet_eff {col : Coll} (hc : CollGood col) (i : Nat) :
    Eff (collGet col i) (collOwned col) (fun r => collOwned r.1) (fun r => CollGood r.1) := by
  unfold collGet
  split
  · exact eff_ret (post := fun r : Coll × Obj => collOwned r.1) hc
  · exact Eff.bind (F := collOwned col) (ctorCStr_eff _ _) fun t ht =>
      Eff.seq (own t) (ownedObjs col.items) (assign_eff col.empty ht.1) fun e he =>
        Eff.bind (F := own e ++ ownedObjs col.items) (eff_dtor t) fun _ _ =>
          eff_ret (a := ((⟨col.items, e⟩ : Coll), e)) (post := fun r => collOwned r.1) ⟨hc.1, he⟩

theorem runColl_eff {st : Store} {w0 : World} (hg : Good st w0) : ∀ (acts : List CollAct) (col : Coll),
    CollGood col → Eff (runColl st acts col) (collOwned col) collOwned CollGood
  | [], _, hc => eff_ret hc
  | .alloc n :: rest, _, hc => Eff.bind' (collAllocate_eff hc n) fun c hc' => runColl_eff hg rest c hc'
  | .set i a :: rest, col, hc => by
    simp only [runColl]
    cases hx : st.get? a with
    | none => intro w c w' h; simp at h
    | some x =>
      obtain ⟨v, hv⟩ := hg.holds_of_get hx
      exact Eff.bind' (collAssign_eff hc i hv) fun c hc' => runColl_eff hg rest c hc'
  | .get i :: rest, _, hc => Eff.bind' (collGet_eff hc i) fun r hr =>
      Eff.bind (F := collOwned r.1) (eff_out _) fun _ _ => runColl_eff hg rest r.1 hr
  | .size :: rest, col, hc => Eff.bind (F := collOwned col) (eff_out _) fun _ _ => runColl_eff hg rest col hc

theorem collCtor_eff : Eff collCtor [] collOwned CollGood :=
  Eff.bind' (ctorCStr_eff emptyLit 0) fun e he =>
    eff_ret (a := (⟨[], e⟩ : Coll)) (post := collOwned) (R := CollGood) ⟨by simp, he⟩

theorem collDtor_eff (c : Coll) : Eff (collDtor c) (collOwned c) (fun _ => []) (fun _ => True) :=
  Eff.seq' (own c.empty) (dtorAllRev_eff c.items) fun _ _ => Eff.bind' (eff_dtor c.empty) fun _ _ => eff_unit

theorem coll_op_keeps {st : Store} {w : World} (acts : List CollAct) :
    Keeps st w (do let col ← collCtor; let col ← runColl st acts col; collDtor col; pure st) := fun hg =>
  keeps_of_eff (Eff.bind' collCtor_eff fun c0 h0 =>
    Eff.bind' (runColl_eff hg acts c0 h0) fun c1 _ =>
      Eff.bind' (collDtor_eff c1) fun _ _ => eff_ret (post := fun _ => []) (R := (· = st)) rfl) hg

/-! ### `split`: the elements of the collection are exchanged, `empty_` is not touched -/

theorem splitStoreToken_eff {n i : Nat} {e : Obj} {col : Coll} (hc : Shape n e col) (hi : i < n) (self : Obj)
    (prev amount : Nat) :
    Eff (splitStoreToken self prev amount col i) (ownedObjs col.items) (fun c => ownedObjs c.items) (Shape n e) :=
  Eff.bind (F := ownedObjs col.items) (ctorCStr_eff _ _) fun tmp ht =>
    Eff.bind (F := own tmp ++ ownedObjs col.items) (subString_eff tmp 0 amount) fun sub hs =>
      Eff.seq' (own sub ++ own tmp) (collAssign_items_eff hc hi hs.1) fun c hc' =>
        Eff.bind (F := own tmp ++ ownedObjs c.items) (eff_dtor sub) fun _ _ =>
          Eff.bind (F := ownedObjs c.items) (eff_dtor tmp) fun _ _ =>
            eff_ret (post := fun c : Coll => ownedObjs c.items) hc'

theorem splitStoreRest_eff {n i : Nat} {e : Obj} {col : Coll} (hc : Shape n e col) (hi : i < n) (self : Obj)
    (str : Nat) :
    Eff (splitStoreRest self str col i) (ownedObjs col.items) (fun c => ownedObjs c.items) (Shape n e) :=
  Eff.bind (F := ownedObjs col.items) (ctorCStr_eff _ _) fun tmp ht =>
    Eff.seq' (own tmp) (collAssign_items_eff hc hi ht.1) fun c hc' =>
      Eff.bind (F := ownedObjs c.items) (eff_dtor tmp) fun _ _ => eff_ret (post := fun c : Coll => ownedObjs c.items) hc'

theorem splitFill_eff {n : Nat} {e : Obj} (self : Obj) (d : Buf) (dl : Nat) : ∀ (k i str : Nat) (col : Coll),
    Shape n e col → i + k ≤ n →
    Eff (splitFill self d dl k i str col) (ownedObjs col.items) (fun r => ownedObjs r.1.items) (fun r => Shape n e r.1)
  | 0, _, str, col, hc, _ => eff_ret (a := (col, str)) (post := fun r => ownedObjs r.1.items) hc
  | k + 1, i, str, col, hc, hik =>
    Eff.bind (F := ownedObjs col.items) (eff_liftE _) fun f _ => by
      cases f with
      | none => intro w r w' h; simp at h
      | some found =>
        exact Eff.bind' (splitStoreToken_eff hc (Nat.lt_of_lt_of_le (Nat.lt_add_of_pos_right (Nat.succ_pos k)) hik) self str _)
          fun c hc' => splitFill_eff self d dl k (i + 1) _ c hc' (by omega)

theorem split_eff (self delim : Obj) (col : Coll) :
    Eff (split self delim col) (ownedObjs col.items) (fun c => ownedObjs c.items)
      (fun c => c.empty = col.empty ∧ ∀ o ∈ c.items, WF o) :=
  Eff.bind (eff_liftE _) fun ds _ => Eff.bind (eff_liftE _) fun sc _ =>
    Eff.bind (eff_liftE _) fun c _ => Eff.bind (eff_liftE _) fun ew _ =>
      Eff.bind' (collAllocate_items_eff col _) fun col' hc =>
        Eff.bind' (splitFill_eff self _ _ sc.num 0 0 col' hc (by omega)) fun r hr => by
          split
          · next hx =>
            rw [if_pos hx] at hr
            exact (splitStoreRest_eff hr (by omega) self r.2).imp fun c h => ⟨h.empty, h.wf⟩
          · exact eff_ret (post := fun c : Coll => ownedObjs c.items)
              (R := fun c => c.empty = col.empty ∧ ∀ o ∈ c.items, WF o) ⟨hr.empty, hr.wf⟩

/-- the whole `split` operation of the scripts (collection constructed, filled, read past its end,
    destroyed) leaves nothing outstanding, whatever the operands are -/
theorem split_op_eff (x y : Obj) :
    Eff (do
      let col ← collCtor
      let col ← split x y col
      outTokens col.items 0
      out s!"ntok {col.items.length}"
      let r ← collGet col col.items.length
      out ("oobtok " ++ Proto.hex (cview r.2.buf))
      collDtor r.1 : M Unit) [] (fun _ => []) (fun _ => True) :=
  Eff.bind' collCtor_eff fun c0 h0 =>
    Eff.seq' (own c0.empty) (split_eff x y c0) fun c1 h1 =>
      (Eff.bind (F := collOwned c1) (outTokens_eff c1.items 0) fun _ _ =>
        Eff.bind (F := collOwned c1) (eff_out _) fun _ _ =>
          Eff.bind' (collGet_eff ⟨h1.2, h1.1 ▸ h0.2⟩ _) fun r _ =>
            Eff.bind (F := collOwned r.1) (eff_out _) fun _ _ => collDtor_eff r.1).perm
        (by rw [collOwned, h1.1]; exact .refl _)

theorem step_keeps (st : Store) (w : World) : ∀ op : Op, Keeps st w (step st op)
  | .junk b => fun hg _ _ hs _ => by
    cases hs
    exact hg.silent fun L hL => hL.congr rfl rfl
  | .new l h => keeps_create (ctorCStr_eff h 0)
  | .newnull l => keeps_create ctorNull_eff
  | .rep l h k => keeps_create (ctorRepeat_eff h 0 k)
  | .copy l a => Keeps.get fun x hx hg => keeps_create (ctorCopy_eff _) hg
  | .assign l a => Keeps.get2 fun x y hx hy hg => by
    obtain ⟨s, hys⟩ := hg.holds_of_get hy
    by_cases hla : (l == a) = true
    · simp only [hla, if_true]
      exact keeps_query (eff_out _) hg
    · simp only [hla, Bool.false_eq_true, if_false]
      exact keeps_put hx (assign_eff x ⟨s, hys⟩) hg
  | .plus l a b => Keeps.get2 fun x y hx hy hg =>
    keeps_create (plus_eff x y) hg
  | .pluseq l a => Keeps.get2 fun x y hx _ hg => keeps_put hx (appendC_eff (hg.holds_of_get hx) y.buf 0) hg
  | .pluseqc l h => Keeps.get fun x hx hg => keeps_put hx (appendC_eff (hg.holds_of_get hx) h 0) hg
  | .del l => Keeps.get fun x hx hg _ _ hs _ => by
    simp only [bind_run, dtor_run, pure_run] at hs
    cases hs
    exact del_good hg hx fun L hL => hL.free_head
  | .delall => fun hg _ _ hs _ => by
    obtain ⟨u, w1, h1, hs⟩ := bind_ok_inv hs
    have h3 := (delAll_eff _ w u w1 h1).2 [] (by
      rw [List.append_nil]; exact hg.owns.perm ((List.mergeSort_perm st _).symm.map _))
    cases hs
    exact ⟨by simp, by simp, by simp [Fits], by simp [labels], by simpa [owned] using h3⟩
  | .eq a b | .ne a b | .contains a b | .starts a b | .ends a b | .count a b =>
    Keeps.get2 fun _ _ _ _ => keeps_query (Eff.bind' (eff_liftE _) fun _ _ => eff_out _)
  | .eqnc a b => Keeps.get2 fun x y hx hy hg =>
    keeps_query (Eff.bind' (equalsNoCase_eff (hg.holds_of_get hx) (hg.holds_of_get hy)) fun _ _ => eff_out _) hg
  | .containsnc a b => Keeps.get2 fun x y hx hy hg =>
    keeps_query (Eff.bind' (containsNoCase_eff (hg.holds_of_get hx) (hg.holds_of_get hy)) fun _ _ => eff_out _) hg
  | .find a c | .findfrom a p c | .at a p | .size a | .isempty a | .copybuf a n | .copybufnull a n =>
    Keeps.get fun _ _ => keeps_report _ _ fun _ => eff_out _
  | .cstr a => Keeps.get fun _ _ => keeps_query (eff_out _)
  | .substr l a p n => Keeps.get fun x _ => keeps_create (subString_eff x p n)
  | .substr1 l a p => Keeps.get fun x _ => keeps_create (subString_eff x p npos)
  | .fromtill l a c1 c2 => Keeps.get fun x _ => keeps_create (subStringFromTill_eff x c1 c2)
  | .lower l a => Keeps.get fun x hx hg => keeps_create (lowerCase_eff (hg.holds_of_get hx)) hg
  | .printable l a => Keeps.get fun x _ => keeps_create (printable_eff x)
  | .split a d => Keeps.get2 fun x y _ _ => keeps_query (split_op_eff x y)
  | .replc a c1 c2 => Keeps.get fun x hx hg =>
    keeps_put hx (replaceChar_eff (hg.holds_of_get hx) (hg.sized_of_get hx) c1 c2) hg
  | .repl a h1 h2 => Keeps.get fun x hx hg =>
    keeps_put hx (replaceStr_eff (hg.holds_of_get hx) (hg.sized_of_get hx) h1 0 h2 0) hg
  | .pad a b c => Keeps.get2 fun x y hx hy hg st' w' hs hfit => by
    obtain ⟨s, hxs⟩ := hg.holds_of_get hx
    obtain ⟨t, hyt⟩ := hg.holds_of_get hy
    have twice : ∀ {s : Store} {w1 : World} {s1 s2 : String}, Good s w1 →
        Good s { w1 with log := w1.log ++ [.out s1] ++ [.out s2] } := fun h =>
      (h.silent fun L hL => hL.emit_out _).silent fun L hL => hL.emit_out _
    by_cases hab : (a == b) = true
    · simp only [hab, if_true] at hs
      obtain ⟨r, w1, hr, hh, hsz, ho⟩ := padFirst_replaces hxs 0 c w
      simp only [bind_run, hr, outVal_run, pure_run] at hs
      cases hs
      exact twice (put_good hg hx ⟨_, hh⟩ hsz ho hfit)
    · simp only [hab, Bool.false_eq_true, if_false] at hs
      have hab' : a ≠ b := by simpa using hab
      rcases padStringsToSameLength_cases hxs hyt c w with ⟨_, r, w1, hr, hh, hsz, ho⟩ | ⟨_, r, w1, hr, hh, hsz, ho⟩
      · simp only [bind_run, hr, outVal_run, pure_run] at hs
        cases hs
        rw [put_same hg.nodup (get?_mem hx)] at hfit ⊢
        exact twice (put_good hg hy ⟨_, hh⟩ hsz ho hfit)
      · simp only [bind_run, hr, outVal_run, pure_run] at hs
        cases hs
        have hnd1 : (labels (st.put a r)).Nodup := labels_put r (has_of_get hx) ▸ hg.nodup
        rw [put_same hnd1 (mem_put_of_ne r (get?_mem hy) hab'.symm)] at hfit ⊢
        exact twice (put_good hg hx ⟨_, hh⟩ hsz ho hfit)
  | .strlen h | .strcmp h1 h2 | .strncmp h1 h2 n | .strstr h1 h2 | .memcmp h1 h2 n | .atoi h | .atou h =>
    keeps_report _ _ fun _ => eff_out _
  | .strncpy none s n => keeps_query (eff_out _)
  | .strncpy (some d) s n => keeps_report _ _ fun _ => eff_out _
  | .tolower c => keeps_query (eff_out _)
  | .fmt l f => keeps_create (runFmt_eff f)
  | .coll acts => coll_op_keeps acts
  | .selfassignc l => Keeps.get fun x hx hg => by
    obtain ⟨v, hv⟩ := hg.holds_of_get hx
    intro st' w' hs hfit
    simp only [bind_run, ctorCStr_ok hv, assign_ok x (holds_mkObj hv.nulFree), dtor_run, outVal_run, pure_run] at hs
    cases hs
    refine (put_good hg hx (hasStr_mk _ hv.nulFree) (sized_mkObj _ _) (fun L hL => ?_) hfit).silent
      fun L hL => hL.emit_out _
    exact (((hL.alloc (v.length + 1)).free_mid [_]).alloc (v.length + 1)).free_mid [_]
  | .selfrepl l h => Keeps.get fun x hx hg =>
    keeps_put hx (replaceStr_eff (hg.holds_of_get hx) (hg.sized_of_get hx) x.buf 0 h 0) hg
  | .selfreplw l h => Keeps.get fun x hx hg =>
    keeps_put hx (replaceStr_eff (hg.holds_of_get hx) (hg.sized_of_get hx) h 0 x.buf 0) hg
  | .skip => keeps_pure

/-! ### whole histories -/

/-- a successful execution of a script (any operations, any `vsnprintf` answers), every
    intermediate store within `size_t` -/
inductive Run : Store → World → List Op → Store → World → Prop
  | nil (st : Store) (w : World) : Run st w [] st w
  | cons {st : Store} {w : World} {op : Op} {ops : List Op} {st1 : Store} {w1 : World} {st2 : Store} {w2 : World}
      (vs : List VsnRes) :                      -- what `vsnprintf` will answer during this operation
      step st op { w with vsn := vs } = .ok (st1, w1) → Fits st1 →
      Run st1 w1 ops st2 w2 → Run st w (op :: ops) st2 w2

theorem Good.setVsn {st : Store} {w : World} (hg : Good st w) (vs : List VsnRes) : Good st { w with vsn := vs } :=
  hg.silent fun L hL => hL.congr rfl rfl

theorem run_good {st st' : Store} {w w' : World} {ops : List Op} (hr : Run st w ops st' w') (hg : Good st w) :
    Good st' w' := by
  induction hr with
  | nil => exact hg
  | cons vs hs hfit _ ih => exact ih (step_keeps _ _ _ (hg.setVsn vs) _ _ hs hfit)

/-- a script evaluated with no `vsnprintf` answers, every store within `size_t` -/
def runAll : Store → World → List Op → Option (Store × World)
  | st, w, [] => some (st, w)
  | st, w, op :: ops =>
    match step st op { w with vsn := [] } with
    | .ok (st1, w1) => if st1.all (fun p => p.2.size ≤ npos) then runAll st1 w1 ops else none
    | .error _ => none

theorem run_of_runAll : ∀ (ops : List Op) (st : Store) (w : World) {st' : Store} {w' : World},
    runAll st w ops = some (st', w') → Run st w ops st' w'
  | [], st, w, _, _, h => by cases h; exact Run.nil _ _
  | op :: ops, st, w, _, _, h => by
    simp only [runAll] at h
    cases hs : step st op { w with vsn := [] } with
    | error e => simp [hs] at h
    | ok p =>
      obtain ⟨st1, w1⟩ := p
      simp only [hs] at h
      split at h
      · next hf =>
        exact Run.cons [] hs (fun p hp => by simpa using List.all_eq_true.mp hf p hp) (run_of_runAll ops st1 w1 h)
      · cases h

theorem run_append {st st1 st2 : Store} {w w1 w2 : World} {ops1 ops2 : List Op}
    (h1 : Run st w ops1 st1 w1) (h2 : Run st1 w1 ops2 st2 w2) : Run st w (ops1 ++ ops2) st2 w2 := by
  induction h1 with
  | nil => exact h2
  | cons vs hs hfit _ ih => exact Run.cons vs hs hfit (ih h2)

end SStr
