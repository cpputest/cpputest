import CppUModel.Proofs.SimpleString
/-!
# The formatted-construction family in partial-correctness form

`PC m`: IF the model computation `m` succeeds — in any world, whatever `vsnprintf` answered — its
result is a well-formed object (its buffer holds a C string, recorded size = buffer size) that
owns exactly one new outstanding buffer, and every other buffer requested on the way has been
released with its requested size.  No hypothesis on the environment: a `vsnprintf` answer that
breaks the libc contract makes the model fail (`Err.env` / `Err.oob`), which makes `PC` vacuous
for that run.  `Eff m [] own WF` (the ownership triples of `Proofs/SimpleString.lean`) implies `PC m` (`Eff.pc`); the
family is proved in that form, every member a term over the triples of its parts.
-/
namespace SStr
open CStr

def PC (m : M Obj) : Prop :=
  ∀ w r w', m w = .ok (r, w') → HasStr r ∧ Sized r ∧ ∀ L, Owns w L → Owns w' ((r.id, r.size) :: L)

theorem Eff.pc {m : M Obj} (h : Eff m [] own WF) : PC m :=
  fun w r w' hm => ⟨(h w r w' hm).1.1, (h w r w' hm).1.2, (h w r w' hm).2⟩

theorem pc_plus {x y : Obj} (hx : HasStr x) (hy : HasStr y) : PC (plus x y) := (plus_eff x y).pc

theorem nullLit_at : CAt nullLit 0 Gen.Str.nullText := ⟨by decide, [], rfl⟩

theorem eff_getJunk : Eff getJunk [] (fun _ => []) (fun _ => True) :=
  fun w a w' h => by cases h; exact ⟨trivial, fun _ hL => hL⟩

theorem eff_vsnprintf (buf : Buf) (size : Nat) : Eff (vsnprintf buf size) [] (fun _ => []) (fun _ => True) := by
  intro w a w' h
  unfold vsnprintf at h
  split at h
  · cases h
  · split at h
    · cases h; exact ⟨trivial, fun _ hL => hL.log_other (fun _ => rfl) rfl rfl⟩
    · cases h

theorem assign_from_temp {rs tmp : Obj} (ht : HasStr tmp) :
    Eff (do let res ← assign rs tmp; dtor tmp; pure res) (own tmp ++ own rs) own WF :=
  Eff.seq' (own tmp) (assign_eff rs ht) fun res hres =>
    Eff.bind (F := own res) (eff_dtor tmp) fun _ _ => eff_ret (post := own) hres

theorem vStringFromFormat_eff : Eff vStringFromFormat [] own WF :=
  Eff.bind' (ctorCStr_eff emptyLit 0) fun rs _ =>
    Eff.bind (F := own rs) eff_getJunk fun _ _ =>
      Eff.bind (F := own rs) (eff_vsnprintf _ _) fun r _ =>
        Eff.ite
          (Eff.bind (F := own rs) (ctorCStr_eff _ 0) fun _ ht => assign_from_temp ht.1)
          (Eff.bind (F := own rs) (eff_alloc _) fun nb _ =>
            Eff.bind (F := [(nb.id, r.1.ret + 1)] ++ own rs) (eff_vsnprintf _ _) fun _ _ =>
              Eff.bind (F := [(nb.id, r.1.ret + 1)] ++ own rs) (ctorCStr_eff _ 0) fun tmp ht =>
                Eff.seq (own tmp ++ [(nb.id, r.1.ret + 1)]) [] (assign_eff rs ht.1) fun res hres =>
                  Eff.bind (F := [(nb.id, r.1.ret + 1)] ++ (own res ++ [])) (eff_dtor tmp) fun _ _ =>
                    Eff.bind (F := own res ++ []) (eff_dealloc _ _) fun _ _ => eff_ret (post := own) hres)

theorem stringFromFormat_eff : Eff stringFromFormat [] own WF :=
  Eff.bind' (ctorCStr_eff emptyLit 0) fun rs _ =>
    Eff.bind (F := own rs) vStringFromFormat_eff fun _ ht => assign_from_temp ht.1

theorem hexStringFromSignedChar_eff (neg : Bool) : Eff (hexStringFromSignedChar neg) [] own WF :=
  Eff.bind' stringFromFormat_eff fun result hr =>
    Eff.ite
      (Eff.bind (F := own result) (eff_liftE _) fun _ _ =>
        Eff.bind (F := own result) (subString_eff _ _ _) fun _ ht => assign_from_temp ht.1)
      (eff_ret (post := own) hr)

theorem brackets_eff (hexString : Obj) : Eff (bracketsFormattedHexString hexString) [] own WF :=
  Eff.bind' (ctorCStr_eff _ 0) fun c _ =>
    Eff.bind (F := own c) (ctorCStr_eff _ 0) fun a _ =>
      Eff.bind (F := own a ++ own c) (plus_eff a hexString) fun t1 _ =>
        Eff.bind (F := own t1 ++ (own a ++ own c)) (plus_eff t1 c) fun t2 h2 =>
          Eff.seq (own t2) (own a ++ own c) (eff_dtor t1) fun _ _ =>
            Eff.seq (own t2) (own c) (eff_dtor a) fun _ _ =>
              Eff.seq' (own t2) (eff_dtor c) fun _ _ => eff_ret (post := own) h2

theorem eff_with_temp {mk : M Obj} {use : Obj → M Obj} (hmk : Eff mk [] own WF)
    (huse : ∀ o, HasStr o → Eff (use o) [] own WF) :
    Eff (do let h ← mk; let r ← use h; dtor h; pure r) [] own WF :=
  Eff.bind' hmk fun h hh =>
    Eff.bind (F := own h) (huse h hh.1) fun r hr => Eff.after_dtor h (eff_ret hr)

theorem stringFromPointer_eff : Eff stringFromPointer [] own WF :=
  Eff.bind' stringFromFormat_eff fun h hh =>
    Eff.bind (F := own h) (ctorCStr_eff _ 0) fun x hx =>
      Eff.bind (F := own x ++ own h) (plus_eff x h) fun r hr =>
        (Eff.after_dtor x (Eff.after_dtor h (eff_ret (post := own) hr))).perm (.cons _ (.swap ..))

theorem binaryLoop_eff : ∀ (k : Nat) (result : Obj), WF result → Eff (binaryLoop k result) (own result) own WF
  | 0, _, hr => eff_ret hr
  | k + 1, result, hr =>
    Eff.bind (F := own result) stringFromFormat_eff fun f _ =>
      (Eff.bind (F := own f) (appendC_eff hr.1 f.buf 0) fun r hr' =>
        Eff.after_dtor f (binaryLoop_eff k r hr')).perm (.swap ..)

theorem stringFromBinary_eff (n : Nat) : Eff (stringFromBinary n) [] own WF :=
  Eff.bind' (ctorCStr_eff emptyLit 0) fun r0 h0 =>
    Eff.bind' (binaryLoop_eff n r0 h0) fun r1 h1 =>
      Eff.bind (F := own r1) (eff_liftE _) fun sz _ =>
        Eff.bind (F := own r1) (subString_eff _ _ _) fun _ ht => assign_from_temp ht.1

theorem stringFromBinaryOrNull_eff (isNull : Bool) (n : Nat) : Eff (stringFromBinaryOrNull isNull n) [] own WF :=
  Eff.ite (ctorCStr_eff nullLit 0) (stringFromBinary_eff n)

theorem stringFromBinaryWithSize_eff (isNull : Bool) (n : Nat) : Eff (stringFromBinaryWithSize isNull n) [] own WF :=
  Eff.bind' stringFromFormat_eff fun r1 h1 =>
    Eff.bind (F := own r1) (stringFromBinaryOrNull_eff _ _) fun b hb =>
      (Eff.bind (F := own b) (appendC_eff h1.1 b.buf 0) fun r3 h3 =>
        Eff.after_dtor b (Eff.ite (appendC_eff h3.1 _ 0) (eff_ret h3))).perm (.swap ..)

theorem stringFromBinaryWithSizeOrNull_eff (isNull : Bool) (n : Nat) :
    Eff (stringFromBinaryWithSizeOrNull isNull n) [] own WF :=
  Eff.ite (ctorCStr_eff nullLit 0) (stringFromBinaryWithSize_eff false n)

theorem maskedBitsLoop_eff (B : Nat) : ∀ (k i value mask : Nat) (result : Obj), WF result →
    Eff (maskedBitsLoop B k i value mask result) (own result) own WF
  | 0, _, _, _, _, hr => eff_ret hr
  | k + 1, _, _, _, _, hr =>
    Eff.bind' (appendC_eff hr.1 _ 0) fun _ h1 =>
      Eff.bind' (Eff.ite (appendC_eff h1.1 _ 0) (eff_ret (post := own) h1)) fun r2 h2 =>
        maskedBitsLoop_eff B k _ _ _ r2 h2

theorem stringFromMaskedBits_eff (v m k : Nat) : Eff (stringFromMaskedBits v m k) [] own WF :=
  Eff.bind' (ctorCStr_eff emptyLit 0) fun r h => maskedBitsLoop_eff _ _ 0 v m r h

theorem stringFromOrNull_eff (h : Option Buf) : Eff (stringFromOrNull h) [] own WF := by
  cases h <;> exact ctorCStr_eff _ _

theorem printableLoop_eff (src : Buf) : ∀ (k i j : Nat) (rb : Buf),
    Eff (printableLoop src k i j rb) [] (fun _ => []) (fun r => r.1.length = rb.length)
  | 0, _, j, rb => eff_ret (a := (rb, j)) (post := fun _ => []) rfl
  | k + 1, i, j, rb =>
    Eff.bind' (eff_liftE _) fun c _ =>
      Eff.ite
        (Eff.bind' (eff_liftE _) fun rb' h' =>
          (printableLoop_eff src k _ _ rb').imp fun _ hr => hr.trans (StrNCpy_length _ _ _ _ _ _ h'))
        (Eff.ite
          (Eff.bind' stringFromFormat_eff fun f _ =>
            Eff.bind (F := own f) (eff_liftE _) fun rb' h' =>
              Eff.after_dtor f (keep := []) ((printableLoop_eff src k _ _ rb').imp fun _ hr =>
                hr.trans (StrNCpy_length _ _ _ _ _ _ h')))
          (Eff.bind' (eff_liftE _) fun rb' h' =>
            (printableLoop_eff src k _ _ rb').imp fun _ hr => hr.trans (wr_length h')))

theorem setInternalBufferToNewBuffer_eff (old : Obj) (n : Nat) :
    Eff (setInternalBufferToNewBuffer (some old) n) (own old) own (fun r => r.size = n ∧ r.buf.length = n) :=
  Eff.bind' (eff_dealloc old.id old.size) fun _ _ =>
    Eff.bind' (eff_alloc n) fun k hk =>
      Eff.bind (F := [(k.id, n)]) (eff_liftE _) fun b hb =>
        eff_ret (a := (⟨k.id, b, n⟩ : Obj)) (post := own) ⟨rfl, by rw [wr_length hb, hk]⟩

theorem printable_eff (self : Obj) : Eff (printable self) [] own WF :=
  Eff.bind' (ctorCStr_eff emptyLit 0) fun r0 _ =>
    Eff.bind (F := own r0) (eff_liftE _) fun ps _ =>
      Eff.bind' (setInternalBufferToNewBuffer_eff r0 (ps + 1)) fun res hres =>
        Eff.bind (F := own res) (eff_liftE _) fun _ _ =>
          Eff.bind (F := own res) (printableLoop_eff self.buf _ 0 0 res.buf) fun r hr =>
            Eff.bind (F := own res) (eff_liftE _) fun b hb =>
              eff_ret (post := own)
                ⟨hasStr_of_zero (j := r.2) (by rw [(wr_inv hb).2]; simp [(wr_inv hb).1]),
                 by rw [Sized]; show res.size = b.length; rw [wr_length hb, hr, hres.2, hres.1]⟩

theorem printableStringFromOrNull_eff (h : Option Buf) : Eff (printableStringFromOrNull h) [] own WF := by
  cases h with
  | none => exact ctorCStr_eff _ _
  | some b => exact eff_with_temp (ctorCStr_eff b 0) (fun o _ => printable_eff o)

theorem ellipsis_at : CAt (Gen.Str.binaryEllipsis ++ [0]) 0 [32, 46, 46, 46] := ⟨by decide, [], rfl⟩

end SStr
