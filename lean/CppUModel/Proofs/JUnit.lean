import CppUModel.Model.JUnit
import CppUModel.Spec.JUnit
import CppUModel.Proofs.Digits
import CppUModel.Proofs.ListLemmas
/-!
The chain of one-byte `replace` calls of `encodeXmlText` is one per-byte map (side condition `tableOk`: no replacement text
contains a later pattern), that map is the XML reference encoding, and the readers of `Spec/JUnit.lean` undo it byte by byte.
-/
namespace JUnit
open Text (Bytes)
open OutEv

/-- `replaceAll` with the one-byte pattern `p`, seen at one byte -/
def replaceOne (p : UInt8) (rep : Bytes) (c : UInt8) : Bytes := if c = p then rep else [c]

theorem replaceAllAux_single (p : UInt8) (rep : Bytes) : ∀ (a : Bytes) (n : Nat), a.length < n →
    Text.replaceAllAux n a [p] rep = a.flatMap (replaceOne p rep)
  | _, 0, h => by omega
  | [], n + 1, _ => by simp [Text.replaceAllAux]
  | x :: t, n + 1, h => by
    have ih := replaceAllAux_single p rep t n (by simp at h; omega)
    simp only [Text.replaceAllAux, List.flatMap_cons, replaceOne]
    by_cases hx : x = p
    · subst hx
      simp [List.isPrefixOf, ih]
    · have : ¬ p = x := fun e => hx e.symm
      simp [List.isPrefixOf, hx, this, ih]

theorem replaceAll_single (a : Bytes) (p : UInt8) (rep : Bytes) :
    Text.replaceAll a [p] rep = a.flatMap (replaceOne p rep) := by
  simp [Text.replaceAll, replaceAllAux_single p rep a (a.length + 1) (by omega)]

def encByteOf (table : List (Bytes × Bytes)) (c : UInt8) : Bytes :=
  match table.find? (fun e => e.1 == [c]) with
  | some e => e.2
  | none => [c]

theorem encByteOf_nil (c : UInt8) : encByteOf [] c = [c] := rfl

theorem encByteOf_cons (p : UInt8) (r : Bytes) (rest : List (Bytes × Bytes)) (c : UInt8) :
    encByteOf (([p], r) :: rest) c = if c = p then r else encByteOf rest c := by
  unfold encByteOf
  by_cases h : c = p
  · simp [h]
  · have : ¬ p = c := fun e => h e.symm
    simp [h, this]

def encByte (c : UInt8) : Bytes := encByteOf Gen.EscapeTables.xmlReplaces c

def laterFree (r : Bytes) (rest : List (Bytes × Bytes)) : Bool :=
  rest.all fun e => r.all fun b => e.1 != [b]

/-- side condition: every pattern is one byte, and no replacement text contains a LATER pattern -/
def tableOk : List (Bytes × Bytes) → Bool
  | [] => true
  | (p, r) :: rest => p.length == 1 && laterFree r rest && tableOk rest

theorem encByteOf_of_laterFree (rest : List (Bytes × Bytes)) (r : Bytes) (h : laterFree r rest = true) :
    ∀ b ∈ r, encByteOf rest b = [b] := by
  intro b hb
  unfold encByteOf
  have : rest.find? (fun e => e.1 == [b]) = none := by
    rw [List.find?_eq_none]
    intro e he
    simp only [laterFree, List.all_eq_true] at h
    have := h e he b hb
    simpa using this
  rw [this]

theorem replaceSeq_eq_map : ∀ (table : List (Bytes × Bytes)), tableOk table = true →
    ∀ s, replaceSeq table s = s.flatMap (encByteOf table)
  | [], _, s => (ListLemmas.flatMap_self_of_forall s _ (fun _ _ => rfl)).symm
  | (p, r) :: rest, hok, s => by
    simp only [tableOk, Bool.and_eq_true, beq_iff_eq] at hok
    obtain ⟨⟨hp, hfree⟩, hrest⟩ := hok
    obtain ⟨q, rfl⟩ : ∃ q, p = [q] := by
      match p, hp with
      | [q], _ => exact ⟨q, rfl⟩
    rw [replaceSeq, replaceSeq_eq_map rest hrest, replaceAll_single, List.flatMap_assoc]
    congr 1
    funext c
    rw [encByteOf_cons, replaceOne]
    split
    · exact ListLemmas.flatMap_self_of_forall r _ (encByteOf_of_laterFree rest r hfree)
    · exact List.flatMap_singleton ..

theorem xml_table_ok : tableOk Gen.EscapeTables.xmlReplaces = true := by decide

theorem encByte_eq_ref (c : UInt8) : encByte c = encByteRef c := by
  unfold encByte Gen.EscapeTables.xmlReplaces
  simp only [encByteOf_cons, encByteOf_nil]
  rfl

theorem encodeXmlText_eq_map (s : Bytes) : encodeXmlText s = s.flatMap encByte :=
  replaceSeq_eq_map _ xml_table_ok s

theorem encodeXmlText_eq_ref (s : Bytes) : encodeXmlText s = encodeRef s := by
  rw [encodeXmlText_eq_map]
  congr 1
  funext c
  exact encByte_eq_ref c

theorem encodeRef_append (a b : Bytes) : encodeRef (a ++ b) = encodeRef a ++ encodeRef b := by
  simp [encodeRef]

theorem encodeRef_cons (c : UInt8) (s : Bytes) : encodeRef (c :: s) = encByteRef c ++ encodeRef s := by
  simp [encodeRef]

theorem encodeRef_nil : encodeRef [] = [] := rfl

/-- a reference body none of the readers stops in: no `;`, `"`, `<`, `&` -/
def refBody (body : Bytes) : Prop := ∀ b ∈ body, b ≠ 59 ∧ b ≠ 34 ∧ b ≠ 60 ∧ b ≠ 38

instance (b : Bytes) : Decidable (refBody b) := by unfold refBody; infer_instance

/-- the bytes with XML meaning, which the encoding replaces by references -/
def special : List UInt8 := [38, 34, 60, 62, 13, 10]

theorem not_mem_special {c : UInt8} : c ∉ special ↔ c ≠ 38 ∧ c ≠ 34 ∧ c ≠ 60 ∧ c ≠ 62 ∧ c ≠ 13 ∧ c ≠ 10 := by
  simp [special]

/-- an encoded byte is one of the emitted references `&body;`, whose body stands for the byte, or the byte itself
    when it has no XML meaning -/
theorem encByteRef_shape (c : UInt8) :
    (c ∈ special ∧ encByteRef c ∈ emittedRefs ∧
      ∃ body, encByteRef c = 38 :: (body ++ [59]) ∧ refBody body ∧ refValue body = some c) ∨
    (c ∉ special ∧ encByteRef c = [c]) := by
  by_cases h : c ∈ special
  · refine .inl ⟨h, ?_⟩
    simp only [special, List.mem_cons, List.not_mem_nil, or_false] at h
    rcases h with rfl | rfl | rfl | rfl | rfl | rfl
    · exact ⟨by decide, [97, 109, 112], by decide, by decide, by decide⟩
    · exact ⟨by decide, [113, 117, 111, 116], by decide, by decide, by decide⟩
    · exact ⟨by decide, [108, 116], by decide, by decide, by decide⟩
    · exact ⟨by decide, [103, 116], by decide, by decide, by decide⟩
    · exact ⟨by decide, [35, 49, 51], by decide, by decide, by decide⟩
    · exact ⟨by decide, [35, 49, 48], by decide, by decide, by decide⟩
  · exact .inr ⟨h, by simp [encByteRef, not_mem_special.mp h]⟩

/-- Inside a reference (`pre`: what has been read of its body, reversed) the reader reads on to the `;` and delivers the
    byte the body stands for; likewise `scanAttr_ref`, `scanText_ref`. -/
theorem decodeAux_ref (rest : Bytes) (v : UInt8) (body pre : Bytes) (hb : refBody body)
    (hv : refValue (pre.reverse ++ body) = some v) :
    decodeAux (some pre) (body ++ 59 :: rest) = v :: decodeAux none rest := by
  rw [ListLemmas.scan_push (fun pre s => decodeAux (some pre) s) (· ≠ 59) (fun b acc r h => by simp [decodeAux, h]) body pre _
    fun b h => (hb b h).1]
  simp [decodeAux, hv]

theorem decodeAux_encByteRef (c : UInt8) (rest : Bytes) :
    decodeAux none (encByteRef c ++ rest) = c :: decodeAux none rest := by
  rcases encByteRef_shape c with ⟨_, _, body, e, hb, hv⟩ | ⟨h, e⟩
  · rw [e]; simp [decodeAux, decodeAux_ref rest c body [] hb hv]
  · rw [e]; simp [decodeAux, (not_mem_special.mp h).1]

theorem decodeAux_encodeRef (s rest : Bytes) :
    decodeAux none (encodeRef s ++ rest) = s ++ decodeAux none rest := by
  rw [encodeRef, ListLemmas.flatMap_scan encByteRef (decodeAux none) List.cons decodeAux_encByteRef]
  simp

theorem safeAux_emitted (rest : Bytes) : ∀ r ∈ emittedRefs, safeAux 0 (r ++ rest) = safeAux 0 rest := by
  simp [emittedRefs, safeAux, startsWithAny, lit, List.isPrefixOf]

theorem safeAux_encByteRef (c : UInt8) (rest : Bytes) :
    safeAux 0 (encByteRef c ++ rest) = safeAux 0 rest := by
  rcases encByteRef_shape c with ⟨_, hm, _⟩ | ⟨h, e⟩
  · exact safeAux_emitted rest _ hm
  · obtain ⟨h38, h34, h60, h62, h13, h10⟩ := not_mem_special.mp h
    rw [e]; simp [safeAux, h38, h34, h60, h62, h13, h10]

theorem safeAux_encodeRef (s rest : Bytes) : safeAux 0 (encodeRef s ++ rest) = safeAux 0 rest :=
  ListLemmas.flatMap_scan_acc encByteRef (fun x _ => safeAux 0 x) (fun c rest _ => safeAux_encByteRef c rest) s rest []

theorem scanAttr_ref (rest acc : Bytes) (v : UInt8) (body pre : Bytes) (hb : refBody body)
    (hv : refValue (pre.reverse ++ body) = some v) :
    scanAttr (some pre) (body ++ 59 :: rest) acc = scanAttr none rest (v :: acc) := by
  rw [ListLemmas.scan_push (fun pre s => scanAttr (some pre) s acc) (fun b => b ≠ 59 ∧ b ≠ 34 ∧ b ≠ 60 ∧ b ≠ 38)
    (fun b acc r ⟨h1, h2, h3, h4⟩ => by simp [scanAttr, h1, h2, h3, h4]) body pre _ hb]
  simp [scanAttr, hv]

theorem scanAttr_encByteRef (c : UInt8) (rest acc : Bytes) :
    scanAttr none (encByteRef c ++ rest) acc = scanAttr none rest (c :: acc) := by
  rcases encByteRef_shape c with ⟨_, _, body, e, hb, hv⟩ | ⟨h, e⟩
  · rw [e]; simp [scanAttr, scanAttr_ref rest acc c body [] hb hv]
  · obtain ⟨h38, h34, h60, -⟩ := not_mem_special.mp h
    rw [e]; simp [scanAttr, h38, h34, h60]

theorem scanAttr_encodeRef (v rest acc : Bytes) :
    scanAttr none (encodeRef v ++ 34 :: rest) acc = some (acc.reverse ++ v, rest) := by
  rw [encodeRef, ListLemmas.flatMap_scan_acc encByteRef (scanAttr none) scanAttr_encByteRef]
  simp [scanAttr]

theorem scanText_ref (rest acc : Bytes) (v : UInt8) (body pre : Bytes) (hb : refBody body)
    (hv : refValue (pre.reverse ++ body) = some v) :
    scanText (some pre) (body ++ 59 :: rest) acc = scanText none rest (v :: acc) := by
  rw [ListLemmas.scan_push (fun pre s => scanText (some pre) s acc) (fun b => b ≠ 59 ∧ b ≠ 34 ∧ b ≠ 60 ∧ b ≠ 38)
    (fun b acc r ⟨h1, _, h3, h4⟩ => by simp [scanText, h1, h3, h4]) body pre _ hb]
  simp [scanText, hv]

theorem scanText_encByteRef (c : UInt8) (rest acc : Bytes) :
    scanText none (encByteRef c ++ rest) acc = scanText none rest (c :: acc) := by
  rcases encByteRef_shape c with ⟨_, _, body, e, hb, hv⟩ | ⟨h, e⟩
  · rw [e]; simp [scanText, scanText_ref rest acc c body [] hb hv]
  · obtain ⟨h38, -, h60, -⟩ := not_mem_special.mp h
    rw [e]; simp [scanText, h38, h60]

/-- where element text ends: at the end of the input or before a tag -/
def textEnd (rest : Bytes) : Prop := rest = [] ∨ ∃ r, rest = 60 :: r

theorem scanText_textEnd {rest : Bytes} (h : textEnd rest) (acc : Bytes) : scanText none rest acc = some (acc.reverse, rest) := by
  rcases h with rfl | ⟨r, rfl⟩ <;> simp [scanText]

theorem scanText_encodeRef (v : Bytes) {rest : Bytes} (h : textEnd rest) (acc : Bytes) :
    scanText none (encodeRef v ++ rest) acc = some (acc.reverse ++ v, rest) := by
  rw [encodeRef, ListLemmas.flatMap_scan_acc encByteRef (scanText none) scanText_encByteRef, scanText_textEnd h]
  simp

def plain (s : Bytes) : Prop := ∀ c ∈ s, c ≠ 38 ∧ c ≠ 34 ∧ c ≠ 60 ∧ c ≠ 62 ∧ c ≠ 13 ∧ c ≠ 10

instance (s : Bytes) : Decidable (plain s) := by unfold plain; infer_instance

theorem encodeRef_plain (s : Bytes) (h : plain s) : encodeRef s = s :=
  ListLemmas.flatMap_self_of_forall s _ fun c hc => (encByteRef_shape c).elim (fun hn => absurd hn.1 (not_mem_special.mpr (h c hc))) (·.2)

theorem digit_plain (n : Nat) : plain [digit n] := digit_forall _ (by decide) n

theorem plain_append {a b : Bytes} (ha : plain a) (hb : plain b) : plain (a ++ b) := by
  intro c hc
  rcases List.mem_append.mp hc with h | h
  · exact ha c h
  · exact hb c h

theorem plain_cons {c : UInt8} {s : Bytes} (hc : plain [c]) (hs : plain s) : plain (c :: s) :=
  plain_append (a := [c]) hc hs

theorem dec_plain (n : Nat) : plain (dec n) := dec_forall _ (by decide) n

theorem fmtInt_plain (z : Int) : plain (fmtInt z) := by
  unfold fmtInt
  split
  · exact plain_cons (by decide) (dec_plain _)
  · exact dec_plain _

end JUnit
