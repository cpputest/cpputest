import CppUModel.Model.Diagnostics
import CppUModel.Spec.Diagnostics
import CppUModel.Proofs.TextLemmas
/-! What the definitions of `Model/Diagnostics.lean` compute, in the forms the C14 theorems use.  `Buf.add` is known through three
equations and acts on a buffer like concatenation of the texts added, so every operation of the report builder is one `add` of a
named text between two changes of the limit; `MemBuf` refines `Buf` store by store (`MemBuf.wf_store`); the scans return the first
difference of `Spec/Diagnostics.lean` (`firstDiffBy_spec`); a failure message is `u ++ butWas E A ++ rest` (`shows_in`). -/
namespace Diag
open Fmt Gen.Diag DiagSpec

/-! ## the abstract buffer -/

theorem Buf.ext {a b : Buf} (hf : a.filled = b.filled) (hl : a.limit = b.limit) (ht : a.text = b.text) : a = b := by
  cases a; cases b; cases hf; cases hl; cases ht; rfl

theorem Buf.add_of_full (b : Buf) (s : Bytes) (h : b.filled ≥ b.limit) : b.add s = b := if_pos h

theorem Buf.add_limit (b : Buf) (s : Bytes) : (b.add s).limit = b.limit := by
  unfold Buf.add; split <;> rfl

theorem Buf.add_text (b : Buf) (s : Bytes) : (b.add s).text = b.text ++ s.take (b.limit - b.filled) := by
  unfold Buf.add
  split
  · rename_i h
    rw [Nat.sub_eq_zero_of_le h, List.take_zero, List.append_nil]
  · rfl

/-- the fill position both `add`s compute below the limit: an advance by the number of bytes that fit -/
theorem fill_advance (s : Bytes) (f L : Nat) (h : ¬ f ≥ L) :
    (if f + s.length > L then L else f + s.length) = f + (s.take (L - f)).length := by
  rw [List.length_take]; split <;> omega

theorem Buf.add_filled (b : Buf) (s : Bytes) :
    (b.add s).filled = b.filled + (s.take (b.limit - b.filled)).length := by
  unfold Buf.add
  split
  · rename_i h
    rw [Nat.sub_eq_zero_of_le h, List.take_zero]; rfl
  · rename_i h
    exact fill_advance s b.filled b.limit h

theorem Buf.add_nil (b : Buf) : b.add [] = b :=
  Buf.ext (by rw [Buf.add_filled, List.take_nil]; rfl) (Buf.add_limit b [])
    (by rw [Buf.add_text, List.take_nil, List.append_nil])

theorem Buf.add_add (b : Buf) (s1 s2 : Bytes) : (b.add s1).add s2 = b.add (s1 ++ s2) := by
  -- the room left after the first `add` is the room `take` leaves for the second part of `s1 ++ s2`
  have hroom : b.limit - (b.add s1).filled = b.limit - b.filled - s1.length := by
    rw [Buf.add_filled, List.length_take]; omega
  apply Buf.ext
  · rw [Buf.add_filled, Buf.add_limit, hroom, Buf.add_filled, Buf.add_filled, List.take_append, List.length_append,
      Nat.add_assoc]
  · simp only [Buf.add_limit]
  · simp only [Buf.add_text, Buf.add_limit, hroom, List.take_append, List.append_assoc]

theorem Buf.foldl_add (pieces : List Bytes) (b : Buf) : pieces.foldl Buf.add b = b.add pieces.flatten := by
  induction pieces generalizing b with
  | nil => exact (Buf.add_nil b).symm
  | cons p ps ih => rw [List.foldl_cons, List.flatten_cons, ih, Buf.add_add]

/-- the complete text of the hex dump of `content` -/
def dumpText (content : Bytes) : Bytes := (dumpPieces content.length 0 content).flatten

theorem Buf.addMemoryDump_eq (b : Buf) (content : Bytes) : b.addMemoryDump content = b.add (dumpText content) := by
  unfold Buf.addMemoryDump dumpText; rw [Buf.foldl_add]

-- Stated for a variable limit: with `listLimitArg` in its place, `rfl` would first try `b.setWriteLimit _ =?= b` and
-- evaluate the limit.
theorem Buf.setWriteLimit_filled (b : Buf) (n : Nat) : (b.setWriteLimit n).filled = b.filled := rfl

theorem Buf.setWriteLimit_text (b : Buf) (n : Nat) : (b.setWriteLimit n).text = b.text := rfl

/-- invariant of the fixed buffer -/
def Buf.WF (b : Buf) : Prop := b.filled ≤ cap ∧ b.limit ≤ cap ∧ b.text.length = b.filled

theorem Buf.WF.filled_le {b : Buf} (h : b.WF) : b.filled ≤ cap := h.1
theorem Buf.WF.limit_le {b : Buf} (h : b.WF) : b.limit ≤ cap := h.2.1
theorem Buf.WF.length {b : Buf} (h : b.WF) : b.text.length = b.filled := h.2.2

theorem Buf.wf_init : Buf.init.WF := by simp [Buf.WF, Buf.init]

theorem Buf.wf_clear (b : Buf) (h : b.WF) : b.clear.WF := by
  simp [Buf.WF, Buf.clear, h.limit_le]

theorem limit_clamped (n : Nat) : (if n > cap then cap else n) ≤ cap := by
  split <;> omega

theorem Buf.wf_setWriteLimit (b : Buf) (n : Nat) (h : b.WF) : (b.setWriteLimit n).WF :=
  ⟨h.filled_le, limit_clamped n, h.length⟩

theorem Buf.wf_resetWriteLimit (b : Buf) (h : b.WF) : b.resetWriteLimit.WF :=
  ⟨h.filled_le, Nat.le_refl _, h.length⟩

theorem Buf.wf_add (b : Buf) (s : Bytes) (h : b.WF) : (b.add s).WF := by
  have hf := h.filled_le
  have hl := h.limit_le
  refine ⟨?_, ?_, ?_⟩
  · rw [Buf.add_filled, List.length_take]; omega
  · rw [Buf.add_limit]; exact hl
  · rw [Buf.add_text, Buf.add_filled, List.length_append, h.length]

theorem Buf.wf_addMemoryDump (b : Buf) (c : Bytes) (h : b.WF) : (b.addMemoryDump c).WF := by
  rw [Buf.addMemoryDump_eq]; exact Buf.wf_add _ _ h

theorem Buf.wf_step (b : Buf) (op : BOp) (h : b.WF) : (b.step op).WF := by
  cases op with
  | add s => exact Buf.wf_add b s h
  | setLimit n => exact Buf.wf_setWriteLimit b n h
  | resetLimit => exact Buf.wf_resetWriteLimit b h
  | clear => exact Buf.wf_clear b h

/-! ## the report: listing, footer, misuse messages -/

/-- complete text of one report entry -/
def entryText (l : Leak) : Bytes := leakText l ++ dumpText l.content

/-- what the listing phase tries to append when `k` leaks were already reported -/
def listingFrom (k : Nat) (leaks : List Leak) : Bytes :=
  (if k = 0 ∧ leaks ≠ [] then headerText else []) ++ leaks.flatMap entryText

/-- the complete, untruncated listing: header and every entry -/
def fullListing (leaks : List Leak) : Bytes := headerText ++ leaks.flatMap entryText

theorem listingFrom_nil (k : Nat) : listingFrom k [] = [] := by
  simp [listingFrom]

theorem listingFrom_zero_cons (l : Leak) (ls : List Leak) : listingFrom 0 (l :: ls) = fullListing (l :: ls) := by
  simp [listingFrom, fullListing]

theorem fullListing_length_ge (l : Leak) (ls : List Leak) :
    headerText.length + l.file.length ≤ (fullListing (l :: ls)).length := by
  simp only [fullListing, List.flatMap_cons, entryText, leakText, leakFmt, render, renderOne, List.length_append]
  omega

def anyMalloc (leaks : List Leak) : Bool := leaks.any (fun l => l.allocName == mallocName)

theorem reportLeak_buf (o : OutBuf) (l : Leak) :
    (o.reportLeak l).buf = o.buf.add ((if o.total = 0 then headerText else []) ++ entryText l) := by
  simp only [OutBuf.reportLeak, Buf.addMemoryDump_eq, entryText]
  split
  · rw [Buf.add_add, Buf.add_add]
  · rw [Buf.add_add]; simp

theorem foldl_reportLeak (leaks : List Leak) : ∀ (o : OutBuf),
    (leaks.foldl OutBuf.reportLeak o).buf = o.buf.add (listingFrom o.total leaks)
    ∧ (leaks.foldl OutBuf.reportLeak o).total = o.total + leaks.length
    ∧ (leaks.foldl OutBuf.reportLeak o).mallocWarn = (o.mallocWarn || anyMalloc leaks) := by
  induction leaks with
  | nil => intro o; simp [listingFrom, Buf.add_nil, anyMalloc]
  | cons l ls ih =>
    intro o
    obtain ⟨h1, h2, h3⟩ := ih (o.reportLeak l)
    simp only [List.foldl_cons]
    refine ⟨?_, ?_, ?_⟩
    · rw [h1, reportLeak_buf, Buf.add_add]
      congr 1
      have ht : (o.reportLeak l).total = o.total + 1 := rfl
      simp [listingFrom, ht, List.append_assoc]
    · rw [h2]; simp [OutBuf.reportLeak]; omega
    · rw [h3]; simp [OutBuf.reportLeak, anyMalloc, Bool.or_assoc]

/-- what a report without leaks says -/
def noLeaksText : Bytes := render noLeaksFmt []

/-- what `stopMemoryLeakReporting` appends behind a listing: the too-many notice when the listing reached the
    limit, the total, the malloc note when a `malloc` leak was seen -/
def stopText (reached : Bool) (total : Nat) (warn : Bool) : Bytes :=
  (if reached then tooMuchText else []) ++ footerLine total ++ (if warn then mallocWarningText else [])

theorem stopTail_eq (b : Buf) (total : Nat) (warn : Bool) :
    stopTail b total warn = b.resetWriteLimit.add (stopText b.reached total warn) := by
  unfold stopTail stopFooter stopText
  cases b.reached <;> cases warn <;> simp [Buf.add_add]

theorem stop_buf (o : OutBuf) :
    o.stop.buf = if o.total = 0 then o.buf.add noLeaksText
                 else o.buf.resetWriteLimit.add (stopText o.buf.reached o.total o.mallocWarn) := by
  unfold OutBuf.stop
  split
  · rfl
  · exact stopTail_eq _ _ _

/-- a report is: lower the limit, try to append the listing, then what `stop` appends -/
theorem report_buf (o : OutBuf) (leaks : List Leak) :
    (o.report leaks).buf =
      if leaks = [] then (o.buf.setWriteLimit listLimitArg).add noLeaksText
      else ((o.buf.setWriteLimit listLimitArg).add (fullListing leaks)).resetWriteLimit.add
             (stopText ((o.buf.setWriteLimit listLimitArg).add (fullListing leaks)).reached leaks.length (anyMalloc leaks)) := by
  obtain ⟨h1, h2, h3⟩ := foldl_reportLeak leaks o.start
  have ht0 : o.start.total = 0 := rfl
  rw [OutBuf.report, stop_buf, h1, h2, h3, ht0, Nat.zero_add]
  cases leaks with
  | nil => rw [if_pos List.length_nil, if_pos rfl, listingFrom_nil, Buf.add_nil]; rfl
  | cons l ls =>
    rw [List.length_cons, if_neg (Nat.succ_ne_zero _), if_neg (List.cons_ne_nil l ls), listingFrom_zero_cons]
    rfl

/-- the complete text one misuse report tries to append -/
def misuseText (m : Misuse) : Bytes :=
  m.message ++ allocLocationText m.allocFile m.allocLine m.allocSize m.allocName
  ++ deallocLocationText m.freeFile m.freeLine m.freeName

theorem reportFailure_buf (o : OutBuf) (m : Misuse) : (o.reportFailure m).buf = o.buf.add (misuseText m) := by
  simp only [OutBuf.reportFailure, misuseText, Buf.add_add, List.append_assoc]

/-- the `SimpleStringBuffer` calls one `MemoryLeakOutputStringBuffer` operation makes -/
def Op.bops (o : OutBuf) : Op → List BOp
  | .clear => [.clear]
  | .start => [.setLimit listLimitArg]
  | .leak l => (if o.total = 0 then [.add headerText] else []) ++ [.add (leakText l)]
               ++ (dumpPieces l.content.length 0 l.content).map .add
  | .stop =>
    if o.total = 0 then [.add noLeaksText]
    else [.resetLimit] ++ (if o.buf.reached then [.add tooMuchText] else []) ++ [.add (footerLine o.total)]
         ++ (if o.mallocWarn then [.add mallocWarningText] else [])
  | .misuse m => [.add m.message, .add (allocLocationText m.allocFile m.allocLine m.allocSize m.allocName),
                  .add (deallocLocationText m.freeFile m.freeLine m.freeName)]

/-! ## the real array -/

theorem wrAt_eq (m : Bytes) (off : Nat) (bs : Bytes) (h : off + bs.length ≤ m.length) :
    wrAt m off bs = m.take off ++ (bs ++ m.drop (off + bs.length)) := by
  unfold wrAt
  rw [List.take_of_length_le (show bs.length ≤ m.length - off by omega), List.append_assoc]

theorem wrAt_length (m : Bytes) (off : Nat) (bs : Bytes) (h : off + bs.length ≤ m.length) :
    (wrAt m off bs).length = m.length := by
  rw [wrAt_eq m off bs h]
  simp only [List.length_append, List.length_drop, List.length_take_of_le (Nat.le_of_add_right_le h)]
  omega

theorem wrAt_take (m : Bytes) (off : Nat) (bs : Bytes) (j : Nat) (h : off + bs.length ≤ m.length) (hj : j ≤ bs.length) :
    (wrAt m off bs).take (off + j) = m.take off ++ bs.take j := by
  rw [wrAt_eq m off bs h, List.take_append, List.length_take_of_le (Nat.le_of_add_right_le h), Nat.add_sub_cancel_left,
    List.take_append_of_le_length hj, List.take_of_length_le (by rw [List.length_take]; omega)]

theorem wrAt_get (m : Bytes) (off : Nat) (bs : Bytes) (j : Nat) (h : off + bs.length ≤ m.length) (hj : j < bs.length) :
    (wrAt m off bs)[off + j]? = bs[j]? := by
  rw [wrAt_eq m off bs h, List.getElem?_append_right (by rw [List.length_take]; omega),
    List.length_take_of_le (Nat.le_of_add_right_le h), Nat.add_sub_cancel_left, List.getElem?_append_left hj]

theorem wrAt_drop (m : Bytes) (off : Nat) (bs : Bytes) (n : Nat) (h : off + bs.length ≤ m.length) (hn : off + bs.length ≤ n) :
    (wrAt m off bs).drop n = m.drop n := by
  rw [wrAt_eq m off bs h, List.drop_append, List.length_take_of_le (Nat.le_of_add_right_le h), List.drop_append, List.drop_drop,
    List.drop_of_length_le (by rw [List.length_take]; omega), List.drop_of_length_le (l := bs) (by omega), List.nil_append,
    List.nil_append]
  congr 1; omega

/-- invariant of the real array: positions inside, terminated at the fill position, the canary
    behind the array untouched, no store outside the array so far -/
def MemBuf.WF (b : MemBuf) : Prop :=
  b.filled ≤ cap ∧ b.limit ≤ cap ∧ b.mem.length = bufferLen + canaryLen ∧ b.mem[b.filled]? = some 0
  ∧ b.mem.drop bufferLen = canary ∧ b.overrun = false

theorem MemBuf.WF.filled_le {b : MemBuf} (h : b.WF) : b.filled ≤ cap := h.1
theorem MemBuf.WF.limit_le {b : MemBuf} (h : b.WF) : b.limit ≤ cap := h.2.1
theorem MemBuf.WF.length {b : MemBuf} (h : b.WF) : b.mem.length = bufferLen + canaryLen := h.2.2.1
theorem MemBuf.WF.terminated {b : MemBuf} (h : b.WF) : b.mem[b.filled]? = some 0 := h.2.2.2.1
theorem MemBuf.WF.canary {b : MemBuf} (h : b.WF) : b.mem.drop bufferLen = canary := h.2.2.2.2.1
theorem MemBuf.WF.noOverrun {b : MemBuf} (h : b.WF) : b.overrun = false := h.2.2.2.2.2

theorem MemBuf.WF.of_limit {b : MemBuf} (h : b.WF) {L : Nat} (hL : L ≤ cap) : MemBuf.WF { b with limit := L } :=
  ⟨h.filled_le, hL, h.length, h.terminated, h.canary, h.noOverrun⟩

theorem MemBuf.WF.safe {b : MemBuf} (h : b.WF) :
    b.mem[b.filled]? = some 0 ∧ b.filled < bufferLen ∧ b.mem.drop bufferLen = Diag.canary ∧ b.overrun = false :=
  ⟨h.terminated, Nat.lt_of_le_of_lt h.filled_le (by decide), h.canary, h.noOverrun⟩

/-- the abstract buffer a real one stands for -/
def MemBuf.abs (b : MemBuf) : Buf := { filled := b.filled, limit := b.limit, text := b.mem.take b.filled }

theorem cap_eq : cap = 4095 := by decide

theorem cap_succ : cap + 1 = bufferLen := by decide

/-- Every store of the buffer class has this shape: a text `t` and its terminator written at `off`, ending at or
    below position `cap`.  It leaves the array terminated at `off + |t|` and the canary alone, and the visible text
    is what stood before `off` followed by `t`. -/
theorem MemBuf.wf_store (m : Bytes) (off lim : Nat) (t : Bytes) (hl : lim ≤ cap) (hm : m.length = bufferLen + canaryLen)
    (hc : m.drop bufferLen = canary) (ht : off + t.length ≤ cap) :
    MemBuf.WF { filled := off + t.length, limit := lim, mem := wrAt m off (t ++ [0]), overrun := false }
    ∧ MemBuf.abs { filled := off + t.length, limit := lim, mem := wrAt m off (t ++ [0]), overrun := false }
        = { filled := off + t.length, limit := lim, text := m.take off ++ t } := by
  have hcs := cap_succ
  have hlen : (t ++ [0]).length = t.length + 1 := List.length_append
  have hfit : off + (t ++ [0]).length ≤ m.length := by omega
  refine ⟨⟨ht, hl, ?_, ?_, ?_, rfl⟩, ?_⟩
  · exact (wrAt_length _ _ _ hfit).trans hm
  · exact (wrAt_get _ _ _ _ hfit (by omega)).trans (by simp)
  · exact (wrAt_drop _ _ _ _ hfit (by omega)).trans hc
  · simp only [MemBuf.abs, wrAt_take _ _ _ _ hfit (Nat.le_of_lt (Nat.lt_of_lt_of_eq (Nat.lt_succ_self _) hlen.symm)),
      List.take_left']

theorem MemBuf.add_refines (b : MemBuf) (s : Bytes) (h : b.WF) : (b.add s).WF ∧ (b.add s).abs = b.abs.add s := by
  have hl := h.limit_le
  by_cases hge : b.filled ≥ b.limit
  · rw [show b.add s = b from if_pos hge, Buf.add_of_full b.abs s hge]
    exact ⟨h, rfl⟩
  · -- `vsnprintf` gets room for the part of `s` below the limit and the terminator
    have hlen : (s.take (b.limit - b.filled)).length = min (b.limit - b.filled) s.length := List.length_take
    have hcs := cap_succ
    have hadd : b.add s = { filled := b.filled + (s.take (b.limit - b.filled)).length, limit := b.limit,
                            mem := wrAt b.mem b.filled (s.take (b.limit - b.filled) ++ [0]), overrun := false } := by
      have hf := fill_advance s b.filled b.limit hge
      have ho : decide (b.filled + (s.take (b.limit - b.filled)).length + 1 > bufferLen) = false := by
        rw [hlen, decide_eq_false_iff_not]; omega
      simp only [MemBuf.add, if_neg hge, vsnprintfAt, Nat.add_sub_cancel, Nat.add_one_ne_zero, if_false, hf, ho, h.noOverrun,
        Bool.or_false]
    rw [hadd]
    refine (MemBuf.wf_store b.mem b.filled b.limit _ hl h.length h.canary (by rw [hlen]; omega)).imp_right fun habs => ?_
    rw [habs]
    symm
    apply Buf.ext
    · exact Buf.add_filled b.abs s
    · exact Buf.add_limit b.abs s
    · exact Buf.add_text b.abs s

theorem MemBuf.clear_refines (b : MemBuf) (h : b.WF) : b.clear.WF ∧ b.clear.abs = b.abs.clear := by
  have := MemBuf.wf_store b.mem 0 b.limit [] h.limit_le h.length h.canary (Nat.zero_le _)
  rw [← h.noOverrun] at this
  exact this

theorem MemBuf.step_refines (b : MemBuf) (op : BOp) (h : b.WF) : (b.step op).WF ∧ (b.step op).abs = b.abs.step op := by
  cases op with
  | add s => exact MemBuf.add_refines b s h
  | clear => exact MemBuf.clear_refines b h
  | setLimit n => exact ⟨h.of_limit (limit_clamped n), rfl⟩
  | resetLimit => exact ⟨h.of_limit (Nat.le_refl _), rfl⟩

theorem MemBuf.init_wf (g : Bytes) : (MemBuf.init g).WF ∧ (MemBuf.init g).abs = Buf.init :=
  MemBuf.wf_store _ 0 cap [] (Nat.le_refl _) (by simp [canary])
    (by rw [List.drop_append, List.drop_of_length_le (by simp)]; simp) (Nat.zero_le _)

theorem mem_run_refines (ops : List BOp) (mb : MemBuf) (h : mb.WF) :
    (ops.foldl MemBuf.step mb).WF ∧ (ops.foldl MemBuf.step mb).abs = ops.foldl Buf.step mb.abs :=
  List.foldl_rel (f := MemBuf.step) (g := Buf.step) (r := fun mb b => mb.WF ∧ mb.abs = b) ⟨h, rfl⟩
    (fun op _ mb _ ⟨hw, ha⟩ => ha ▸ MemBuf.step_refines mb op hw)

/-! ## bytes: decimal and hex digits, printable forms -/

theorem decAux_length_le : ∀ (f n : Nat) (acc : Bytes) (k : Nat), 1 ≤ k → n < 10 ^ k →
    (decAux f n acc).length ≤ acc.length + k := by
  intro f
  induction f with
  | zero => intro n acc k _ _; simp [decAux]
  | succ f ih =>
    intro n acc k hk hn
    unfold decAux
    split
    · simp; omega
    · rename_i h10
      have hk2 : 2 ≤ k := by
        rcases Nat.lt_or_ge k 2 with h | h
        · have : k = 1 := by omega
          subst this; simp at hn; omega
        · exact h
      have hdiv : n / 10 < 10 ^ (k - 1) := by
        have : 10 ^ k = 10 ^ (k - 1) * 10 := by
          rw [← Nat.pow_succ]; congr 1; omega
        rw [this] at hn
        exact Nat.div_lt_of_lt_mul (by rw [Nat.mul_comm]; exact hn)
      have := ih (n / 10) (digit n :: acc) (k - 1) (by omega) hdiv
      simp at this ⊢; omega

theorem decNat_length_le (n k : Nat) (hk : 1 ≤ k) (hn : n < 10 ^ k) : (decNat n).length ≤ k := by
  have := decAux_length_le (n + 1) n [] k hk hn
  simpa [decNat] using this

-- One byte at a time `printableStep` and `printableByte` are finite tables: the two facts about them are evaluated on the 256 bytes.

theorem printableStep_eq : ∀ c : UInt8, printableStep c = printableByte c :=
  Text.forall_uint8 _ (by decide +kernel)

theorem printable_eq (a : Bytes) : printable a = DiagSpec.printable a := by
  unfold printable DiagSpec.printable
  congr 1; funext c; exact printableStep_eq c

theorem printableByte_nulFree : ∀ c : UInt8, c ≠ 0 → NulFree (printableByte c) :=
  Text.forall_uint8 _ (by decide +kernel)

theorem printable_nulFree (a : Bytes) (h : NulFree a) : NulFree (printable a) := by
  intro x hx
  rw [printable_eq, DiagSpec.printable, List.mem_flatMap] at hx
  obtain ⟨c, hc, hxc⟩ := hx
  exact printableByte_nulFree c (h c hc) x hxc

/-- `%02X` of a byte value: its two hex digits -/
theorem padLeft_hexUpper_byte (n : Nat) (h : n < 256) : padLeft 2 48 (hexUpper n) = [hexDigitU (n / 16), hexDigitU n] := by
  unfold hexUpper
  by_cases h16 : n < 16
  · have h0 : hexDigitU (n / 16) = 48 := by rw [Nat.div_eq_of_lt h16]; rfl
    simp [hexAux, h16, padLeft, h0]
  · obtain ⟨m, rfl⟩ : ∃ m, n = m + 1 := ⟨n - 1, by omega⟩
    have : (m + 1) / 16 < 16 := by omega
    simp [hexAux, h16, this, padLeft]

theorem hexByte_eq (b : UInt8) : render [.X02, .lit [32]] [.nat b.toNat] = [hexDigitU (b.toNat / 16), hexDigitU b.toNat, 32] := by
  simp [render, renderOne, padLeft_hexUpper_byte b.toNat (UInt8.toNat_lt b)]

theorem binFlat_length (bs : Bytes) :
    (bs.flatMap fun b => render [.X02, .lit [32]] [.nat b.toNat]).length = 3 * bs.length := by
  induction bs with
  | nil => rfl
  | cons b bs ih =>
    rw [List.flatMap_cons, List.length_append, ih, hexByte_eq b]
    simp only [List.length_cons, List.length_nil]; omega

theorem binFlat_eq (b : UInt8) (bs : Bytes) :
    ((b :: bs).flatMap fun b => render [.X02, .lit [32]] [.nat b.toNat]) = DiagSpec.hexDump (b :: bs) ++ [32] := by
  induction bs generalizing b with
  | nil => simp [hexByte_eq b, DiagSpec.hexDump]
  | cons c cs ih =>
    rw [List.flatMap_cons, ih c, hexByte_eq b]
    simp [DiagSpec.hexDump]

theorem stringFromBinary_length (bs : Bytes) : (stringFromBinary bs).length = 3 * bs.length - 1 := by
  unfold stringFromBinary Text.subString
  split
  · rename_i h; rw [binFlat_length] at h; simp at h; simp [h]
  · simp only [List.drop_zero, List.length_take, binFlat_length]; omega

theorem toLower_eq_lowerByte : toLower = Text.lowerByte := rfl

theorem toLower_nz (x : UInt8) (hx : x ≠ 0) : toLower x ≠ toLower 0 := Text.lowerByte_ne_zero x hx

/-! ## the first difference and the scans that compute it -/

theorem firstDiff_eq_by (a e : Bytes) : firstDiff a e = firstDiffBy id a e := by
  induction a generalizing e with
  | nil => cases e <;> simp [firstDiff, firstDiffBy]
  | cons x xs ih => cases e with
    | nil => simp [firstDiff, firstDiffBy]
    | cons y ys => simp [firstDiff, firstDiffBy, ih]

theorem firstDiffBy_spec (f : UInt8 → UInt8) (a e : Bytes) :
    (∀ j, j < firstDiffBy f a e → (a[j]?).map f = (e[j]?).map f)
    ∧ firstDiffBy f a e ≤ a.length ∧ firstDiffBy f a e ≤ e.length
    ∧ (a.map f ≠ e.map f → (a[firstDiffBy f a e]?).map f ≠ (e[firstDiffBy f a e]?).map f) := by
  induction a generalizing e with
  | nil => cases e <;> simp [firstDiffBy]
  | cons x xs ih =>
    cases e with
    | nil => simp [firstDiffBy]
    | cons y ys =>
      obtain ⟨h1, h2, h3, h4⟩ := ih ys
      by_cases hxy : f x = f y
      · simp only [firstDiffBy, if_pos hxy]
        refine ⟨fun j hj => ?_, by simp; omega, by simp; omega, fun h => ?_⟩
        · cases j with
          | zero => simp [hxy]
          | succ j => simpa using h1 j (by omega)
        · simpa using h4 (by intro hh; apply h; simp [hxy, hh])
      · simp [firstDiffBy, hxy]

theorem firstDiffBy_le_left (f : UInt8 → UInt8) (a e : Bytes) : firstDiffBy f a e ≤ a.length := (firstDiffBy_spec f a e).2.1

theorem firstDiffBin_eq_by (n : Nat) (a e : Bytes) : firstDiffBin n a e = firstDiffBy id (a.take n) (e.take n) := by
  induction n generalizing a e with
  | zero => simp [firstDiffBin, firstDiffBy]
  | succ n ih => cases a <;> cases e <;> simp [firstDiffBin, firstDiffBy, ih]

theorem rd_at (p r : Bytes) (x : UInt8) : rd (p ++ x :: r) p.length = .ok x := by
  simp [rd]

theorem scan_step (f : UInt8 → UInt8) (p q xs ys : Bytes) (x y : UInt8) (k : Nat) (hpq : p.length = q.length) :
    scan f (k + 1) (p ++ x :: xs) (q ++ y :: ys) p.length =
      if f x = f y ∧ x ≠ 0 then scan f k (p ++ [x] ++ xs) (q ++ [y] ++ ys) (p ++ [x]).length else .ok p.length := by
  have h2 : rd (q ++ y :: ys) p.length = .ok y := hpq ▸ rd_at q ys y
  simp only [scan, rd_at p xs x, h2, List.append_assoc, List.singleton_append, List.length_append, List.length_singleton]

theorem scan_spec (f : UInt8 → UInt8) (hf : ∀ x, x ≠ 0 → f x ≠ f 0) :
    ∀ (a e p q : Bytes) (fuel : Nat), p.length = q.length → NulFree a → a.length < fuel →
      scan f fuel (p ++ a ++ [0]) (q ++ e ++ [0]) p.length = .ok (p.length + firstDiffBy f a e) := by
  intro a
  induction a with
  | nil =>
    intro e p q fuel hpq _ hfuel
    obtain ⟨k, rfl⟩ : ∃ k, fuel = k + 1 := ⟨fuel - 1, by simp at hfuel; omega⟩
    cases e <;> simp [scan_step f p q _ _ _ _ k hpq, firstDiffBy]
  | cons x xs ih =>
    intro e p q fuel hpq hnf hfuel
    obtain ⟨k, rfl⟩ : ∃ k, fuel = k + 1 := ⟨fuel - 1, by simp at hfuel; omega⟩
    have hx : x ≠ 0 := hnf x (by simp)
    cases e with
    | nil => simp [scan_step f p q _ _ _ _ k hpq, firstDiffBy, hf x hx]
    | cons y ys =>
      simp only [List.append_assoc, List.cons_append]
      rw [scan_step f p q _ _ x y k hpq]
      by_cases hxy : f x = f y
      · rw [if_pos ⟨hxy, hx⟩, ← List.append_assoc, ← List.append_assoc (q ++ [y]),
          ih ys (p ++ [x]) (q ++ [y]) k (by simp [hpq]) (fun z hz => hnf z (by simp [hz])) (by simp at hfuel; omega)]
        simp [firstDiffBy, hxy]; omega
      · simp [firstDiffBy, hxy]

theorem scanBin_step (p q xs ys : Bytes) (x y : UInt8) (k n : Nat) (hpq : p.length = q.length) :
    scanBin (k + 1) (p.length + (n + 1)) (p ++ x :: xs) (q ++ y :: ys) p.length =
      if x = y then scanBin k ((p ++ [x]).length + n) (p ++ [x] ++ xs) (q ++ [y] ++ ys) (p ++ [x]).length
      else .ok p.length := by
  have h2 : rd (q ++ y :: ys) p.length = .ok y := hpq ▸ rd_at q ys y
  have hlt : p.length < p.length + (n + 1) := by omega
  simp only [scanBin, rd_at p xs x, h2, hlt, if_true, List.append_assoc, List.singleton_append, List.length_append,
    List.length_singleton, Nat.add_assoc, Nat.add_comm 1 n]

theorem scanBin_spec : ∀ (n : Nat) (a e p q : Bytes) (fuel : Nat), p.length = q.length → n ≤ a.length → n ≤ e.length → n < fuel →
    scanBin fuel (p.length + n) (p ++ a) (q ++ e) p.length = .ok (p.length + firstDiffBin n a e) := by
  intro n
  induction n with
  | zero =>
    intro a e p q fuel _ _ _ hfuel
    obtain ⟨k, rfl⟩ : ∃ k, fuel = k + 1 := ⟨fuel - 1, by omega⟩
    simp [scanBin, firstDiffBin]
  | succ n ih =>
    intro a e p q fuel hpq ha he hfuel
    obtain ⟨k, rfl⟩ : ∃ k, fuel = k + 1 := ⟨fuel - 1, by omega⟩
    cases a with
    | nil => simp at ha
    | cons x xs =>
      cases e with
      | nil => simp at he
      | cons y ys =>
        rw [scanBin_step p q xs ys x y k n hpq]
        by_cases hxy : x = y
        · rw [if_pos hxy, ih xs ys (p ++ [x]) (q ++ [y]) k (by simp [hpq]) (by simp at ha; omega) (by simp at he; omega) (by omega)]
          simp [firstDiffBin, hxy]; omega
        · simp [firstDiffBin, hxy]

theorem stringScans_spec (f : UInt8 → UInt8) (hf : ∀ x, x ≠ 0 → f x ≠ f 0) (e a : Bytes) (ha : NulFree a) :
    stringScans f e a = .ok (firstDiffBy f a e, firstDiffBy f (printable a) (printable e)) := by
  have h1 := scan_spec f hf a e [] [] (a.length + 1) rfl ha (by omega)
  have h2 := scan_spec f hf (printable a) (printable e) [] [] ((printable a).length + 1) rfl (printable_nulFree a ha) (by omega)
  simp only [List.nil_append, List.length_nil, Nat.zero_add] at h1 h2
  unfold stringScans cstr
  rw [h1, h2]

/-! ## the texts of the failure messages -/

/-- an operand as the messages show it: between `<` and `>` -/
def angle (r : Bytes) : Bytes := [60] ++ r ++ [62]

theorem butWas_eq (e a : Bytes) :
    butWas e a = [101, 120, 112, 101, 99, 116, 101, 100, 32] ++ angle e ++ [10, 9, 98, 117, 116, 32, 119, 97, 115, 32, 32] ++ angle a := by
  simp [butWas, butWasFmt, render, renderOne, angle]

theorem butWas_shows (e a : Bytes) : angle e <:+: butWas e a ∧ angle a <:+: butWas e a := by
  rw [butWas_eq]
  exact ⟨List.infix_append_of_infix_left (List.infix_append _ _ _), (List.suffix_append _ _).isInfix⟩

theorem shows_in (u rest E A : Bytes) : angle E <:+: u ++ butWas E A ++ rest ∧ angle A <:+: u ++ butWas E A ++ rest :=
  ⟨(butWas_shows E A).1.trans (List.infix_append u _ rest), (butWas_shows E A).2.trans (List.infix_append u _ rest)⟩

/-- stated apart from `shows_in`: `u ++ butWas E A ++ []` is not `u ++ butWas E A` by unfolding, and the users of both
    close by unification with the builder's definition -/
theorem shows_in' (u E A : Bytes) : angle E <:+: u ++ butWas E A ∧ angle A <:+: u ++ butWas E A :=
  ⟨(butWas_shows E A).1.trans (List.suffix_append u _).isInfix, (butWas_shows E A).2.trans (List.suffix_append u _).isInfix⟩

theorem prefix_of_shape {msg u b rest : Bytes} (h : msg = u ++ b ++ rest) : u <+: msg :=
  h ▸ List.append_assoc u b rest ▸ List.prefix_append _ _

theorem contains_eq (e a text : Bytes) :
    containsFailure e a text = userText text ++ [97, 99, 116, 117, 97, 108, 32] ++ angle (printable a)
      ++ [10, 9, 100, 105, 100, 32, 110, 111, 116, 32, 99, 111, 110, 116, 97, 105, 110, 32, 32] ++ angle (printable e) := by
  simp [containsFailure, containsFmt, render, renderOne, angle]

theorem pad_keeps (s1 s2 : Bytes) :
    (∃ sp, (padStringsToSameLength s1 s2).1 = sp ++ s1) ∧ (∃ sp, (padStringsToSameLength s1 s2).2 = sp ++ s2) := by
  unfold padStringsToSameLength
  split
  · exact ⟨⟨[], rfl⟩, ⟨_, rfl⟩⟩
  · exact ⟨⟨_, rfl⟩, ⟨[], rfl⟩⟩

theorem integers_show_both (eDec aDec eHex aHex text : Bytes) :
    (eDec ++ [32] ++ bracketsHex eHex ++ [62]) <:+: integersEqual eDec aDec eHex aHex text
    ∧ (aDec ++ [32] ++ bracketsHex aHex ++ [62]) <:+: integersEqual eDec aDec eHex aHex text := by
  obtain ⟨⟨spa, ha⟩, ⟨spe, he⟩⟩ := pad_keeps aDec eDec
  have key (sp d h : Bytes) : d ++ [32] ++ bracketsHex h ++ [62] <:+: angle (sp ++ d ++ [32] ++ bracketsHex h) :=
    ⟨[60] ++ sp, [], by simp [angle]⟩
  unfold integersEqual
  rw [ha, he]
  exact ⟨(key spe eDec eHex).trans (shows_in' _ _ _).1, (key spa aDec aHex).trans (shows_in' _ _ _).2⟩

theorem diffAtPos_eq (actual : Bytes) (offset reported : Nat) :
    diffAtPos actual offset reported =
      [10, 9] ++ differentString reported ++ Text.subString (paddedActual actual) offset window ++ [62, 10, 9]
      ++ repeatStr markerPadByte ((differentString reported).length + halfWindow) ++ [94] := by
  simp [diffAtPos, diffLead, diffLine1Fmt, diffLine2Fmt, render, renderOne]

theorem differentString_eq (k : Nat) :
    differentString k = [100, 105, 102, 102, 101, 114, 101, 110, 99, 101, 32, 115, 116, 97, 114, 116, 115, 32, 97, 116, 32, 112, 111, 115, 105, 116, 105, 111, 110, 32]
      ++ decNat k ++ [32, 97, 116, 58, 32, 60] := by
  simp only [differentString, differenceFmt, render, renderOne, List.append_assoc, List.append_nil]

theorem paddedActual_length (x : Bytes) : (paddedActual x).length = x.length + window := by
  have : (repeatStr padByte halfWindow).length = halfWindow ∧ halfWindow + halfWindow = window := by decide
  simp only [paddedActual, List.length_append, this.1]; omega

theorem stringEqualFailureBy_of_scans (f : UInt8 → UInt8) (e a text : Bytes) (p q : Nat)
    (h : stringScans f e a = .ok (p, q)) :
    stringEqualFailureBy f (some e) (some a) text =
      .ok (userText text ++ butWas (DiagSpec.printable e) (DiagSpec.printable a) ++ diffAtPos (DiagSpec.printable a) q p) := by
  simp only [stringEqualFailureBy, stringDiffPart, h, printable_eq]

theorem stringEqualFailureBy_ok (f : UInt8 → UInt8) (e a : Option Bytes) (text msg : Bytes)
    (h : stringEqualFailureBy f e a text = .ok msg) :
    ∃ rest, msg = userText text ++ butWas (printableOrNull e) (printableOrNull a) ++ rest := by
  unfold stringEqualFailureBy at h
  split at h
  · split at h
    · exact absurd h (by simp)
    · injection h with h; exact ⟨_, h.symm⟩
  · injection h with h; exact ⟨[], by rw [← h, List.append_nil]⟩

theorem checkEqualFailure_eq (e a text : Bytes) :
    checkEqualFailure e a text = stringEqualFailureBy id (some e) (some a) text := rfl

/-! ## reads of the leaked blocks -/

theorem dumpPiecesRd_spec (size : Nat) (mem : Bytes) (h : size ≤ mem.length) :
    ∀ (fuel pos : Nat), dumpPiecesRd fuel size mem pos = .ok (dumpPieces fuel pos ((mem.take size).drop pos)) := by
  intro fuel
  induction fuel with
  | zero => intro pos; rfl
  | succ fuel ih =>
    intro pos
    unfold dumpPiecesRd dumpPieces
    have hT : (mem.take size).length = size := by rw [List.length_take]; omega
    have hr : ((mem.take size).drop pos).length = size - pos := by rw [List.length_drop, hT]
    by_cases hp : pos < size
    · have hne : ((mem.take size).drop pos).isEmpty = false := by
        rw [← Bool.not_eq_true, List.isEmpty_iff_length_eq_zero, hr]; omega
      have hrange : readRange mem pos (min (size - pos) dumpLineBytes) = .ok (((mem.take size).drop pos).take dumpLineBytes) := by
        rw [readRange, if_pos (by omega), List.drop_take, List.take_take, Nat.min_comm]
      have hlen : (((mem.take size).drop pos).take dumpLineBytes).length = min (size - pos) dumpLineBytes := by
        rw [List.length_take, hr, Nat.min_comm]
      have hdrop : ((mem.take size).drop pos).drop dumpLineBytes = (mem.take size).drop (pos + min (size - pos) dumpLineBytes) := by
        rw [List.drop_drop]
        rcases Nat.le_total dumpLineBytes (size - pos) with hc | hc
        · rw [Nat.min_eq_right hc]
        · rw [Nat.min_eq_left hc, List.drop_of_length_le (by omega), List.drop_of_length_le (by omega)]
      simp only [hp, if_true, hrange, hne, hlen, ih, hdrop]
      rfl
    · have he : ((mem.take size).drop pos).isEmpty = true := by
        rw [List.isEmpty_iff_length_eq_zero, hr]; omega
      simp [hp, he]

/-- the abstract leak a readable table entry stands for -/
def LeakRef.toLeak (l : LeakRef) : Leak :=
  { number := l.number, size := l.size, file := l.file, line := l.line, allocName := l.allocName, ptr := l.ptr,
    content := l.readable.take l.size }

/-- the caller-side contract of `report()`: every block in the table is still allocated with at
    least `size_` readable bytes -/
def LeakRef.Live (l : LeakRef) : Prop := ∃ b, l.block = some b ∧ l.size ≤ b.length

theorem reportLeakRd_spec (o : OutBuf) (l : LeakRef) (h : l.Live) : o.reportLeakRd l = .ok (o.reportLeak l.toLeak) := by
  obtain ⟨b, hb, hs⟩ := h
  have hr : l.readable = b := by simp [LeakRef.readable, hb]
  have hlen : (b.take l.size).length = l.size := by rw [List.length_take]; omega
  unfold OutBuf.reportLeakRd
  rw [hr, dumpPiecesRd_spec l.size b hs l.size 0]
  simp only [OutBuf.reportLeak, Buf.addMemoryDump, LeakRef.toLeak, hr, hlen, List.drop_zero, leakText]

theorem reportLeaksRd_spec (leaks : List LeakRef) : ∀ (o : OutBuf), (∀ l ∈ leaks, l.Live) →
    reportLeaksRd o leaks = .ok ((leaks.map LeakRef.toLeak).foldl OutBuf.reportLeak o) := by
  induction leaks with
  | nil => intro o _; rfl
  | cons l ls ih =>
    intro o h
    unfold reportLeaksRd
    rw [reportLeakRd_spec o l (h l (by simp))]
    exact ih _ (fun x hx => h x (by simp [hx]))

end Diag
