import CppUModel.Proofs.ListLemmas
import CppUModel.Proofs.TeamCity
import CppUModel.Model.TeamCitySeparate
/-!
The message list of a run of the registry loop, piece by piece (group start, the block of one test, group end), for the
balance automaton and for "failures name the open test".  The balance lemma is about `sepLoop`, i.e. for any choice of the
blocks: `testEvs` gives the ordinary run (`loop_eq_sepLoop`), an interleaving chosen by the scheduler a `-p` run
(`Interleave`, at the end); "failures name the open test" is proved on the ordinary `loop`, through `OutEv.loop_pieces`.
-/
namespace TeamCity
open Text (Bytes)
open OutEv

def msgsFrom (s : St) (evs : List Ev) : List Msg := (foldEvents msgStep s evs).2
def stAfter (s : St) (evs : List Ev) : St := (foldEvents msgStep s evs).1

theorem msgsFrom_nil (s : St) : msgsFrom s [] = [] := rfl
theorem stAfter_nil (s : St) : stAfter s [] = s := rfl

theorem msgsFrom_cons (s : St) (e : Ev) (es : List Ev) :
    msgsFrom s (e :: es) = msgsOf s e ++ msgsFrom (step s e).1 es := rfl
theorem stAfter_cons (s : St) (e : Ev) (es : List Ev) :
    stAfter s (e :: es) = stAfter (step s e).1 es := rfl

theorem msgsFrom_append (s : St) (a b : List Ev) :
    msgsFrom s (a ++ b) = msgsFrom s a ++ msgsFrom (stAfter s a) b := by
  simp [msgsFrom, stAfter, foldEvents_append]

theorem stAfter_append (s : St) (a b : List Ev) :
    stAfter s (a ++ b) = stAfter (stAfter s a) b := by
  simp [stAfter, foldEvents_append]

theorem balRun_append (a b : List Msg) : ∀ p,
    balRun p (a ++ b) = (balRun p a).bind fun p' => balRun p' b :=
  ListLemmas.optRun_append (step := balStep) (fun _ => rfl) (fun p m _ => by rw [balRun]; cases balStep p m <;> rfl) a b

def runB (p : Phase) (s : St) (evs : List Ev) : Option Phase := balRun p (msgsFrom s evs)

theorem runB_append (p : Phase) (s : St) (a b : List Ev) :
    runB p s (a ++ b) = (runB p s a).bind fun p' => runB p' (stAfter s a) b := by
  simp [runB, msgsFrom_append, balRun_append]

theorem runB_nil (p : Phase) (s : St) : runB p s [] = some p := rfl

/-- what a running test sends between its start and its end: text (prints, the -vv progress trace)
    and failures that carry the test's name -/
def okEv (t : TestInfo) : Ev → Prop
  | .print _ => True
  | .veryVerbose _ => True
  | .failure f => f.testName = t.name
  | _ => False

def InnerOK (t : TestInfo) (l : List Ev) : Prop := ∀ e ∈ l, okEv t e

theorem InnerOK_testInner (t : TestInfo) (acts : List Act) : InnerOK t (testInner t acts) := fun e he => by
  rcases mem_testInner he with ht | ⟨_, _, _, _, rfl⟩ | ⟨_, rfl, hf⟩
  · obtain ⟨_, rfl⟩ := trace_vv ht
    trivial
  · trivial
  · exact hf

/-- what the events of a running test become: text, and failures naming the test -/
def innerMsg (n : Bytes) : Msg → Prop
  | .text _ => True
  | .testFailed n' _ _ => n' = n
  | _ => False

theorem okEv_step (t : TestInfo) (s : St) (e : Ev) (he : okEv t e) :
    (step s e).1 = s ∧ ∀ m ∈ msgsOf s e, innerMsg t.name m := by
  cases e with
  | print x => exact ⟨rfl, by simp [msgsOf, innerMsg]⟩
  | veryVerbose x =>
    refine ⟨rfl, ?_⟩
    simp only [msgsOf]
    split <;> simp [innerMsg]
  | failure f =>
    have hf : f.testName = t.name := he
    exact ⟨rfl, by simp [msgsOf, innerMsg, hf]⟩
  | _ => exact he.elim

theorem inner_msgs (t : TestInfo) : ∀ (l : List Ev) (s : St), InnerOK t l →
    stAfter s l = s ∧ ∀ m ∈ msgsFrom s l, innerMsg t.name m
  | [], _, _ => ⟨rfl, fun _ h => nomatch h⟩
  | e :: es, s, h => by
    obtain ⟨hs, hm⟩ := okEv_step t s e (h e (List.mem_cons_self ..))
    obtain ⟨ihs, ihm⟩ := inner_msgs t es s (fun x hx => h x (List.mem_cons_of_mem _ hx))
    rw [stAfter_cons, msgsFrom_cons, hs]
    exact ⟨ihs, List.forall_mem_append.2 ⟨hm, ihm⟩⟩

theorem inner_not_flagged (t : TestInfo) (l : List Ev) (s : St) (x : Bytes) (h : InnerOK t l) :
    Msg.testIgnored x ∉ msgsFrom s l :=
  fun hmem => (inner_msgs t l s h).2 _ hmem

theorem balRun_inner (g n : Bytes) : ∀ ms : List Msg, (∀ m ∈ ms, innerMsg n m) →
    balRun (.inTest g n) ms = some (.inTest g n)
  | [], _ => rfl
  | m :: ms, h => by
    have hm := h m (List.mem_cons_self ..)
    have ih := balRun_inner g n ms (fun x hx => h x (List.mem_cons_of_mem _ hx))
    cases m with
    | text _ => exact ih
    | testFailed n' _ _ =>
      cases (hm : n' = n)
      simpa only [balRun, balStep, if_true] using ih
    | _ => exact hm.elim

/-- The description of a test's block — started, events that keep it open (in a `-p` run whatever arrives while the parent
    waits), ended, then what arrives late: its messages, and the writer's state after it.  An ignored test's block has nothing
    in the middle and says `testIgnored` at its start. -/
theorem block_msgs (t : TestInfo) (mid : List Ev) (hm : InnerOK t mid) (ms c : Nat) (late : List Ev) (s : St) :
    msgsFrom s (sepTestEvs t mid ms c late) =
      msgsOf s (.testStarted t) ++ (msgsFrom { s with currTest := some t.name } mid ++
        (.testFinished t.name ms :: msgsFrom { s with currTest := some t.name } late)) ∧
    stAfter s (sepTestEvs t mid ms c late) = stAfter { s with currTest := some t.name } late := by
  have hs : (step s (.testStarted t)).1 = { s with currTest := some t.name } := by rw [step_eq_hand]; rfl
  have hin := (inner_msgs t mid { s with currTest := some t.name } hm).1
  constructor
  · rw [sepTestEvs, msgsFrom_cons, hs, msgsFrom_append, hin, msgsFrom_cons, step_eq_hand]; rfl
  · rw [sepTestEvs, stAfter_cons, hs, stAfter_append, hin, stAfter_cons, step_eq_hand]; rfl

theorem block_keeps_suite (t : TestInfo) (mid : List Ev) (hm : InnerOK t mid) (ms c : Nat) (s : St) (g : Bytes) :
    runB (.inSuite g) s (sepTestEvs t mid ms c []) = some (.inSuite g) ∧
      stAfter s (sepTestEvs t mid ms c []) = { s with currTest := some t.name } := by
  obtain ⟨hmsgs, hst⟩ := block_msgs t mid hm ms c [] s
  have hstart : balRun (.inSuite g) (msgsOf s (.testStarted t)) = some (.inTest g t.name) := by
    cases hw : t.willRun <;> simp [msgsOf, hw, balRun, balStep]
  refine ⟨?_, hst⟩
  rw [runB, hmsgs, balRun_append, hstart, Option.bind_some, balRun_append,
    balRun_inner g t.name _ (inner_msgs t mid _ hm).2, Option.bind_some]
  simp [msgsFrom_nil, balRun, balStep]

theorem testEvs_block (sc : Script) (r : R) :
    ∃ mid ms c, InnerOK sc.info mid ∧ testEvs sc r = sepTestEvs sc.info mid ms c [] :=
  ⟨_, _, _, fun e he => InnerOK_testInner _ _ e (mem_testMid he), testEvs_eq sc r⟩

theorem testEvs_run (sc : Script) (r : R) (h : sc.info.willRun = true) : testEvs sc r =
    sepTestEvs sc.info (testInner sc.info sc.acts) (actTicks sc.acts) (r.checks + actChecks sc.acts) [] := by
  simp only [testEvs_eq, testMid, h, if_true]
  rfl

/-- events that leave an open suite open, from any state of the writer in which that suite is the current group, and leave
    the current group alone -/
def KeepsSuite (evs : List Ev) : Prop :=
  ∀ (s : St) (g : Bytes), s.currGroup = g → runB (.inSuite g) s evs = some (.inSuite g) ∧ (stAfter s evs).currGroup = g

theorem KeepsSuite.nil : KeepsSuite [] := fun _ _ hg => ⟨rfl, hg⟩

theorem KeepsSuite.block (t : TestInfo) (mid : List Ev) (hm : InnerOK t mid) (ms c : Nat) :
    KeepsSuite (sepTestEvs t mid ms c []) := fun s g hg =>
  have hb := block_keeps_suite t mid hm ms c s g
  ⟨hb.1, (congrArg St.currGroup hb.2).trans hg⟩

theorem test_keeps_suite (sc : Script) (r : R) : KeepsSuite (testEvs sc r) := by
  obtain ⟨mid, ms, c, hm, h⟩ := testEvs_block sc r
  rw [h]
  exact .block sc.info mid hm ms c

/-- The registry loop is balanced as soon as every selected test's block of events keeps its suite open; `blk` is `testEvs` in
    an ordinary run and the scheduler's choice in a `-p` run.  Invariant: at a group start (`gs`) nothing is open; inside a
    group its suite is open, is the writer's current group, and the next test belongs to it. -/
theorem sepLoop_balanced (blk : Script → R → List Ev) (flt : Option Filter)
    (hblk : ∀ t r, KeepsSuite (blk t r)) :
    ∀ (tests : List Script) (gs : Bool) (g0 : Nat) (r : R) (s : St), (∀ t ∈ tests, t.info.group ≠ []) →
    (gs = false → ∃ t rest, tests = t :: rest ∧ t.info.group = s.currGroup) →
    runB (if gs then .idle else .inSuite s.currGroup) s (sepLoop blk flt gs g0 r tests) = some .idle
  | [], gs, g0, r, s, _, inv => by
    cases gs
    · obtain ⟨_, _, h, _⟩ := inv rfl
      cases h
    · simp [sepLoop, runB, msgsFrom_cons, msgsFrom_nil, msgsOf, balRun, balStep]
  | t :: rest, gs, g0, r, s, hne, inv => by
    have hne' : ∀ x ∈ rest, x.info.group ≠ [] := fun x hx => hne x (List.mem_cons_of_mem _ hx)
    have hstart : runB (if gs then .idle else .inSuite s.currGroup) s (startEvs gs t) = some (.inSuite t.info.group) ∧
        (stAfter s (startEvs gs t)).currGroup = t.info.group := by
      cases gs
      · obtain ⟨_, _, h, hg⟩ := inv rfl
        cases h
        simp [startEvs, runB_nil, stAfter_nil, hg]
      · simp [startEvs, runB, msgsFrom_cons, msgsFrom_nil, stAfter_cons, stAfter_nil, msgsOf, step_eq_hand, stepHand, balRun, balStep]
    have hbody := (show KeepsSuite (if shouldRun flt t.info then blk t (countTest r) else []) by
      split
      · exact hblk _ _
      · exact .nil) _ _ hstart.2
    simp only [sepLoop]
    rw [List.append_assoc, List.append_assoc, runB_append, hstart.1, Option.bind_some, runB_append, hbody.1, Option.bind_some,
      runB_append]
    generalize stAfter (stAfter s (startEvs gs t)) (if shouldRun flt t.info then blk t (countTest r) else []) = s2 at hbody ⊢
    have hcg : s2.currGroup = t.info.group := hbody.2
    unfold endEvs
    cases he : endOfGroup t rest
    · -- the group goes on: the next test is in it
      simp only [Bool.false_eq_true, if_false, runB_nil, stAfter_nil, Option.bind_some]
      rw [← hcg]
      refine sepLoop_balanced blk flt hblk rest false _ _ s2 hne' (fun _ => ?_)
      cases rest with
      | nil => simp [endOfGroup] at he
      | cons n rest' =>
        simp only [endOfGroup, bne_eq_false_iff_eq] at he
        exact ⟨n, rest', rfl, by rw [hcg]; exact he.symm⟩
    · -- the group ends here: its name is not empty, so the suite is closed
      have h1 : runB (.inSuite t.info.group) s2 [Ev.groupEnded ((bodyR flt t r).clock - if gs = true then r.clock else g0)] =
          some .idle := by
        simp [runB, msgsFrom_cons, msgsFrom_nil, msgsOf, balRun, balStep, hcg, hne t (List.mem_cons_self ..)]
      simp only [if_true, h1, Option.bind_some]
      exact sepLoop_balanced blk flt hblk rest true _ _ _ hne' (fun h => nomatch h)

theorem loop_eq_sepLoop (flt : Option Filter) : ∀ (tests : List Script) (gs : Bool) (g0 : Nat) (r : R),
    loop flt gs g0 r tests = sepLoop testEvs flt gs g0 r tests
  | [], _, _, _ => rfl
  | t :: rest, gs, g0, r => by simp only [loop, sepLoop, bodyEvs, loop_eq_sepLoop flt rest]

/-- a whole run from any state of the writer (`currGroup_` and `currtest_` of an earlier run are never cleared) -/
theorem sepRunAll_balanced (blk : Script → R → List Ev) (flt : Option Filter)
    (hblk : ∀ t r, KeepsSuite (blk t r))
    (tests : List Script) (hne : ∀ t ∈ tests, t.info.group ≠ []) (s : St) :
    runB .idle s (sepRunAll blk flt tests) = some .idle :=
  sepLoop_balanced blk flt hblk tests true 0 {} s hne (fun h => nomatch h)

theorem runAll_balanced (flt : Option Filter) (tests : List Script) (hne : ∀ t ∈ tests, t.info.group ≠ []) (s : St) :
    runB .idle s (runAll flt tests) = some .idle := by
  rw [runAll, loop_eq_sepLoop]
  exact sepRunAll_balanced testEvs flt test_keeps_suite tests hne s

theorem balanced_of_runB {vv : Bool} {evs : List Ev} (h : runB .idle { veryVerbose := vv } evs = some .idle) :
    balanced (messagesV vv evs) = true := by
  show (balRun .idle (msgsFrom { veryVerbose := vv } evs) == some .idle) = true
  rw [show balRun .idle (msgsFrom { veryVerbose := vv } evs) = some .idle from h]
  rfl

theorem runB_testRun (p : Phase) (s : St) (i n : Nat) (evs : List Ev) : runB p s (.testRun i n :: evs) = runB p s evs := by
  show balRun p (msgsOf s (.testRun i n) ++ msgsFrom (step s (.testRun i n)).1 evs) = _
  simp only [msgsOf]
  split <;> cases p <;> rfl

theorem idle_append {a b : List Ev} (ha : ∀ s, runB .idle s a = some .idle) (hb : ∀ s, runB .idle s b = some .idle) (s : St) :
    runB .idle s (a ++ b) = some .idle := by
  rw [runB_append, ha, Option.bind_some, hb]

theorem runRepeated_balanced (flt : Option Filter) (tests : List Script) (hne : ∀ t ∈ tests, t.info.group ≠ []) (n : Nat) :
    ∀ s, runB .idle s (runRepeated n flt tests) = some .idle :=
  ListLemmas.flatMap_pieces (P := fun evs => ∀ s, runB .idle s evs = some .idle) (fun _ => rfl) idle_append _ _
    fun i _ s => (runB_testRun .idle s (i + 1) n _).trans (runAll_balanced flt tests hne s)

def openAfter : Option Bytes → List Msg → Option Bytes
  | cur, [] => cur
  | _, .testStarted t :: ms => openAfter (some t) ms
  | _, .testFinished _ _ :: ms => openAfter none ms
  | cur, _ :: ms => openAfter cur ms

theorem failuresInOpenTest_append (a b : List Msg) : ∀ cur,
    failuresInOpenTest cur (a ++ b) = (failuresInOpenTest cur a && failuresInOpenTest (openAfter cur a) b) := by
  induction a with
  | nil => intro cur; simp [failuresInOpenTest, openAfter]
  | cons m a ih =>
    cases m <;> simp [failuresInOpenTest, openAfter, ih, Bool.and_assoc]

theorem failures_inner (n : Bytes) : ∀ ms : List Msg, (∀ m ∈ ms, innerMsg n m) →
    failuresInOpenTest (some n) ms = true ∧ openAfter (some n) ms = some n
  | [], _ => ⟨rfl, rfl⟩
  | m :: ms, h => by
    have hm := h m (List.mem_cons_self ..)
    have ih := failures_inner n ms (fun x hx => h x (List.mem_cons_of_mem _ hx))
    cases m with
    | text _ => exact ih
    | testFailed n' _ _ =>
      cases (hm : n' = n)
      simpa [failuresInOpenTest, openAfter] using ih
    | _ => exact hm.elim

theorem inner_failures_open (t : TestInfo) (l : List Ev) (s : St) (h : InnerOK t l) :
    failuresInOpenTest (some t.name) (msgsFrom s l) = true ∧ openAfter (some t.name) (msgsFrom s l) = some t.name :=
  failures_inner t.name _ (inner_msgs t l s h).2

theorem block_failures_open (t : TestInfo) (mid : List Ev) (hm : InnerOK t mid) (ms c : Nat) (s : St)
    (cur : Option Bytes) : failuresInOpenTest cur (msgsFrom s (sepTestEvs t mid ms c [])) = true := by
  have ha := (inner_failures_open t mid { s with currTest := some t.name } hm).1
  rw [(block_msgs t mid hm ms c [] s).1, failuresInOpenTest_append, failuresInOpenTest_append]
  cases hw : t.willRun <;> simp [msgsOf, hw, failuresInOpenTest, openAfter, ha, msgsFrom_nil]

theorem test_failures_open (sc : Script) (r : R) (s : St) (cur : Option Bytes) :
    failuresInOpenTest cur (msgsFrom s (testEvs sc r)) = true := by
  obtain ⟨mid, ms, c, hm, h⟩ := testEvs_block sc r
  rw [h]
  exact block_failures_open sc.info mid hm ms c s cur

theorem failures_open_append {a b : List Ev} (ha : ∀ s cur, failuresInOpenTest cur (msgsFrom s a) = true)
    (hb : ∀ s cur, failuresInOpenTest cur (msgsFrom s b) = true) (s : St) (cur : Option Bytes) :
    failuresInOpenTest cur (msgsFrom s (a ++ b)) = true := by
  rw [msgsFrom_append, failuresInOpenTest_append, ha, hb]
  rfl

theorem loop_failures_open (flt : Option Filter) (tests : List Script) (gs : Bool) (g0 : Nat) (r : R) :
    ∀ (s : St) (cur : Option Bytes), failuresInOpenTest cur (msgsFrom s (loop flt gs g0 r tests)) = true := by
  refine loop_pieces (P := fun evs => ∀ s cur, failuresInOpenTest cur (msgsFrom s evs) = true) failures_open_append
    (fun _ _ => rfl) ?_ ?_ ?_ flt tests (fun t _ r => test_failures_open t r) gs g0 r
  · intro t s cur
    simp [msgsFrom_cons, msgsFrom_nil, msgsOf, failuresInOpenTest]
  · intro ms s cur
    by_cases h : s.currGroup = [] <;> simp [msgsFrom_cons, msgsFrom_nil, msgsOf, h, failuresInOpenTest]
  · intro sm s cur
    simp [msgsFrom_cons, msgsFrom_nil, msgsOf, failuresInOpenTest]

theorem runAll_failures_open (flt : Option Filter) (tests : List Script) :
    ∀ (s : St) (cur : Option Bytes), failuresInOpenTest cur (msgsFrom s (runAll flt tests)) = true :=
  failures_open_append (a := [.testsStarted]) (fun _ _ => rfl) (loop_failures_open flt tests true 0 {})

theorem runRepeated_failures_open (flt : Option Filter) (tests : List Script) (n : Nat) :
    ∀ (s : St) (cur : Option Bytes), failuresInOpenTest cur (msgsFrom s (runRepeated n flt tests)) = true :=
  ListLemmas.flatMap_pieces (P := fun evs => ∀ s cur, failuresInOpenTest cur (msgsFrom s evs) = true) (fun _ _ => rfl)
    failures_open_append _ _ fun i _ => failures_open_append (a := [.testRun (i + 1) n])
      (fun s cur => by simp only [msgsFrom_cons, msgsFrom_nil, msgsOf]; split <;> rfl) (runAll_failures_open flt tests)

theorem Interleave.mem {α : Type} {a b c : List α} (h : Interleave a b c) : ∀ x ∈ c, x ∈ a ∨ x ∈ b := by
  induction h with
  | nil => intro x hx; cases hx
  | left y _ ih =>
    intro x hx
    rcases List.mem_cons.mp hx with rfl | hx
    · exact .inl (List.mem_cons_self ..)
    · exact (ih x hx).imp (List.mem_cons_of_mem _) id
  | right y _ ih =>
    intro x hx
    rcases List.mem_cons.mp hx with rfl | hx
    · exact .inr (List.mem_cons_self ..)
    · exact (ih x hx).imp id (List.mem_cons_of_mem _)

theorem Interleave.length {α : Type} {a b c : List α} (h : Interleave a b c) : c.length = a.length + b.length := by
  induction h with
  | nil => rfl
  | left y _ ih => simp [ih]; omega
  | right y _ ih => simp [ih]; omega

theorem Interleave.prepend_left {α : Type} (p : List α) {a b c : List α} (h : Interleave a b c) :
    Interleave (p ++ a) b (p ++ c) := by
  induction p with
  | nil => exact h
  | cons x p ih => exact Interleave.left x ih

theorem Interleave.prepend_right {α : Type} (p : List α) {a b c : List α} (h : Interleave a b c) :
    Interleave a (p ++ b) (p ++ c) := by
  induction p with
  | nil => exact h
  | cons x p ih => exact Interleave.right x ih

theorem Interleave.all_left {α : Type} : ∀ (a : List α), Interleave a [] a
  | [] => Interleave.nil
  | x :: a => Interleave.left x (Interleave.all_left a)

theorem InnerOK_parentEvs (t : TestInfo) (r : SepProc.LoopResult) : InnerOK t (parentEvs t r) := by
  intro e he
  simp only [parentEvs, List.mem_map] at he
  obtain ⟨f, _, rfl⟩ := he
  exact msgFailure_testName t _

theorem InnerOK_interleave {t : TestInfo} {a b c : List Ev} (h : Interleave a b c) (ha : InnerOK t a) (hb : InnerOK t b) :
    InnerOK t c := by
  intro e he
  rcases h.mem e he with h | h
  · exact ha e h
  · exact hb e h

theorem msgs_interleave (t : TestInfo) (s : St) {a b c : List Ev} (h : Interleave a b c) :
    InnerOK t a → InnerOK t b → Interleave (msgsFrom s a) (msgsFrom s b) (msgsFrom s c) := by
  induction h with
  | nil => intro _ _; exact Interleave.nil
  | left x _ ih =>
    intro ha hb
    have hx := (okEv_step t s x (ha x (List.mem_cons_self ..))).1
    rw [msgsFrom_cons, msgsFrom_cons, hx]
    exact Interleave.prepend_left _ (ih (fun y hy => ha y (List.mem_cons_of_mem _ hy)) hb)
  | right y _ ih =>
    intro ha hb
    have hy := (okEv_step t s y (hb y (List.mem_cons_self ..))).1
    rw [msgsFrom_cons, msgsFrom_cons, hy]
    exact Interleave.prepend_right _ (ih ha (fun z hz => hb z (List.mem_cons_of_mem _ hz)))

theorem WaitingRun.keeps (w : WaitingRun) (t : Script) (r : R) : KeepsSuite (w.blk t r) := by
  cases hw : t.info.willRun
  · rw [w.ign t r hw]; exact test_keeps_suite t r
  · rw [w.run t r hw]
    exact .block _ _ (InnerOK_interleave (w.inter t r) (InnerOK_testInner _ _) (InnerOK_parentEvs _ _)) _ _

end TeamCity
