import CppUModel.Model.LeakDetector
import CppUModel.Proofs.AllocLayout
/-!
Helper lemmas of the composition theorems `Props/C05x.lean`: the byte-layout model of the tracked allocation
paths `Model/AllocLayout.lean` (C05, `size_t` = `BitVec 64`, regenerated size expressions) against the table model
`Model/LeakDetector.lean` (C04/C06, sizes = `Nat` with explicit `wrap64`).
-/
namespace Compose.Alloc
open AllocLayout

/-! ## the size arithmetic of the two models (default build: corruption check compiled in) -/

theorem align_toNat (x : W) : (align defaultCfg x).toNat = LeakDetector.alignedSize x.toNat := by
  have hx := x.isLt
  simp only [align, defaultCfg, if_true, Gen.AllocLayout.calculateVoidPointerAlignedSizeCheck,
    LeakDetector.alignedSize, LeakDetector.wrap64, Gen.LeakDetector.pointerBytes,
    BitVec.toNat_add, BitVec.toNat_sub, BitVec.toNat_umod, BitVec.toNat_ofNat, Nat.reducePow, Nat.reduceMod]
  omega

theorem swci_toNat_eq (size : W) : (swci defaultCfg size).toNat = LeakDetector.sizeWithCorruptionInfo size.toNat := by
  unfold swci Gen.AllocLayout.sizeOfMemoryWithCorruptionInfo LeakDetector.sizeWithCorruptionInfo
  rw [align_toNat]
  congr 1

theorem allocReq_toNat_eq (sep : Bool) (size : W) :
    (allocReq defaultCfg sep size).toNat = LeakDetector.requestSize size.toNat sep := by
  cases sep
  · simp only [allocReq, Bool.false_eq_true, if_false, Gen.AllocLayout.allocRequestInline, LeakDetector.requestSize,
      BitVec.toNat_add, swci_toNat_eq]
    rfl
  · simp only [allocReq, if_true, Gen.AllocLayout.allocRequestSeparate, LeakDetector.requestSize, swci_toNat_eq]

theorem rejectsAlloc_eq (size : W) : rejectsAlloc defaultCfg size = LeakDetector.sizeOverflows size.toNat := by
  simp only [rejectsAlloc, Gen.AllocLayout.allocOverflowGuard, LeakDetector.sizeOverflows, BitVec.ult,
    BitVec.toNat_add, swci_toNat_eq]
  rfl

theorem forcedSep_default (sep0 : Bool) : forcedSep defaultCfg sep0 = sep0 := by simp [forcedSep, defaultCfg]

/-! ## what the layout model's operations do to its record list -/

/-- the operation ran to its end and returned a pointer or NULL -/
def Completed : Outcome → Prop
  | .ptr _ => True
  | .null => True
  | _ => False

instance (o : Outcome) : Decidable (Completed o) :=
  match o with
  | .ptr _ => isTrue trivial
  | .null => isTrue trivial
  | .badAlloc => isFalse (fun h => h)
  | .testFail => isFalse (fun h => h)
  | .ub _ => isFalse (fun h => h)

theorem account_spec (c : Cfg) (img : NodeImage) (s : State) (fam : Nat) (size : W) (sep : Bool) (id : Nat) (a2 : Ans)
    (evs : List Ev) (hc : Completed (account c img s fam size sep id a2 evs).2.2) :
    (sep = true → a2.isNull = false) ∧
    (∃ nid, (account c img s fam size sep id a2 evs).1.tracked = ⟨id, size, fam, sep, nid, s.seq⟩ :: s.tracked) ∧
    (account c img s fam size sep id a2 evs).1.seq = s.seq + 1 ∧
    (account c img s fam size sep id a2 evs).2.2 = .ptr id := by
  rcases account_cases c img s fam size sep id a2 evs with ⟨m', h, hn⟩ | ⟨s', w, h, _⟩ | ⟨h, _⟩ <;>
    rw [h] at hc ⊢
  · exact ⟨hn, ⟨_, rfl⟩, rfl, rfl⟩
  · exact hc.elim
  · exact hc.elim

theorem allocMemory_spec (c : Cfg) (img : NodeImage) (s : State) (fam : Nat) (size : W) (sep0 : Bool) (a1 a2 : Ans)
    (hc : Completed (allocMemory c img s fam size sep0 a1 a2).2.2) :
    (AllocStops c size (forcedSep c sep0) a1 a2 →
      (allocMemory c img s fam size sep0 a1 a2).1.tracked = s.tracked ∧
      (allocMemory c img s fam size sep0 a1 a2).1.seq = s.seq ∧
      (allocMemory c img s fam size sep0 a1 a2).2.2 = .null) ∧
    (¬ AllocStops c size (forcedSep c sep0) a1 a2 →
      a1.isNull = false ∧ (forcedSep c sep0 = true → a2.isNull = false) ∧
      (∃ nid, (allocMemory c img s fam size sep0 a1 a2).1.tracked =
        ⟨a1.id, size, fam, forcedSep c sep0, nid, s.seq⟩ :: s.tracked) ∧
      (allocMemory c img s fam size sep0 a1 a2).1.seq = s.seq + 1 ∧
      (allocMemory c img s fam size sep0 a1 a2).2.2 = .ptr a1.id) := by
  refine ⟨fun hst => ?_, fun hst => ?_⟩
  · obtain ⟨evs, o, he, ho⟩ := allocMemory_stops c img s fam size sep0 a1 a2 hst
    rw [he] at hc ⊢
    rcases ho with rfl | ⟨rfl, _⟩
    · exact ⟨rfl, rfl, rfl⟩
    · exact hc.elim
  · obtain ⟨id, bytes, rfl, _, he⟩ := allocMemory_goes c img s fam size sep0 _ a2 hst
    rw [he] at hc ⊢
    exact ⟨rfl, account_spec c img _ fam size _ id a2 _ hc⟩

theorem deallocMemory_table (c : Cfg) (s : State) (fam : Nat) (ptr : Option Nat) (sep0 : Bool) :
    (deallocMemory c s fam ptr sep0).1.seq = s.seq ∧
    (deallocMemory c s fam ptr sep0).1.tracked =
      match ptr with | none => s.tracked | some id => s.tracked.eraseP (·.id == id) := by
  rcases deallocMemory_cases c s fam ptr sep0 with
    ⟨rfl, he⟩ | ⟨id, rfl, hrem, he⟩ | ⟨id, r, rest, m1, evs, rfl, hrem, ⟨_, he⟩ | ⟨_, he⟩⟩ <;> rw [he]
  · exact ⟨rfl, rfl⟩
  · exact ⟨rfl, (List.eraseP_of_forall_not fun a ha => by simpa using removeRec_none_not_mem _ _ hrem a ha).symm⟩
  all_goals exact ⟨rfl, (removeRec_some hrem).2⟩

theorem retrack_spec (c : Cfg) (img : NodeImage) (s : State) (old : Rec) (sep : Bool) (a2 : Ans) (evs : List Ev)
    (hc : Completed (retrack c img s old sep a2 evs).2.2) :
    (sep = true → a2.isNull = false) ∧
    (∃ k, (retrack c img s old sep a2 evs).1.tracked = { old with sep := sep, nodeId := k } :: s.tracked) ∧
    (retrack c img s old sep a2 evs).1.seq = s.seq ∧ (retrack c img s old sep a2 evs).2.2 = .null := by
  rcases retrack_cases c img s old sep a2 evs with ⟨m', evs', h, hn⟩ | ⟨evs', o, h, ho⟩ <;> rw [h] at hc ⊢
  · exact ⟨hn, ⟨_, rfl⟩, rfl, rfl⟩
  · rcases ho with rfl | ho
    · exact hc.elim
    · cases o with
      | ub w => exact hc.elim
      | _ => cases ho

theorem reallocRest_moved_spec (c : Cfg) (img : NodeImage) (s : State) (fam : Nat) (old : Option Rec) (size : W) (sep : Bool)
    (nid : Nat) (nb : List UInt8) (a2 : Ans) (evs : List Ev)
    (hc : Completed (reallocRest c img s fam old size sep (.moved nid nb) a2 evs).2.2) :
    (sep = true → a2.isNull = false) ∧
    (∃ k, (reallocRest c img s fam old size sep (.moved nid nb) a2 evs).1.tracked = ⟨nid, size, fam, sep, k, s.seq⟩ :: s.tracked) ∧
    (reallocRest c img s fam old size sep (.moved nid nb) a2 evs).1.seq = s.seq + 1 ∧
    (reallocRest c img s fam old size sep (.moved nid nb) a2 evs).2.2 = .ptr nid := by
  cases old with
  | none => exact account_spec c img { s with mem := ⟨nid, nb⟩ :: s.mem } fam size sep nid a2 _ hc
  | some o => exact account_spec c img { s with mem := ⟨nid, nb⟩ :: dropBlock s.mem o.id } fam size sep nid a2 _ hc

end Compose.Alloc
