import CppUModel.Proofs.Diagnostics
import CppUModel.Model.DiagnosticsCode
import CppUModel.Proofs.BitVecLemmas
/-! The machine arithmetic of the regenerated `SimpleStringBuffer` members (`Gen/DiagnosticsBuffer.lean`) and of the regenerated scan
conditions (`Gen/DiagnosticsFailure.lean`) in numbers: comparisons of `size_t` values, the constants as the code computes them, and
what the regenerated `add` does to the two counters for every `int` that `vsnprintf` may return. -/
namespace Diag
open Gen.Diag
open Gen.DiagBuf

/-- `SIMPLE_STRING_BUFFER_LEN-1` as the code computes it (`int` arithmetic, converted to `size_t`) -/
theorem capBV : (((BitVec.ofNat 32 bufferLen) - (1#32)).signExtend 64) = BitVec.ofNat 64 cap := by decide

theorem one_ext : ((1#32).signExtend 64) = 1#64 := by decide

theorem gen_add_limit (st : St) (count : BitVec 32) : (Gen.DiagBuf.add st count).1.limit = st.limit := by
  unfold Gen.DiagBuf.add; split <;> rfl

theorem gen_add_effects (st : St) (count : BitVec 32) :
    (Gen.DiagBuf.add st count).2 =
      if BitVec.ule st.limit st.filled then [] else [Eff.vsnprintf st.filled (st.limit - st.filled + 1#64)] := by
  unfold Gen.DiagBuf.add; rw [one_ext]; split <;> rfl

theorem sext_pos (count : BitVec 32) (h : 0 < count.toInt) : (count.signExtend 64).toNat = count.toNat ∧ count.toNat < 2 ^ 31 := by
  have hmsb : count.msb = false := by
    rcases hm : count.msb with _ | _
    · rfl
    · have := BitVec.toInt_neg_of_msb_true hm; omega
  have hlt : count.toNat < 2 ^ 31 := by
    have := BitVec.msb_eq_decide count; simp [hmsb] at this; omega
  rw [BitVec.signExtend_eq_setWidth_of_msb_false hmsb, BitVec.toNat_setWidth]
  exact ⟨Nat.mod_eq_of_lt (by omega), hlt⟩

theorem gen_add_filled (st : St) (count : BitVec 32) (hf : st.filled.toNat < 2 ^ 63) :
    (Gen.DiagBuf.add st count).1.filled.toNat =
      if st.limit.toNat ≤ st.filled.toNat then st.filled.toNat
      else min (st.filled.toNat + (if 0 < count.toInt then count.toNat else 0)) st.limit.toNat := by
  unfold Gen.DiagBuf.add
  simp only [BitVec.ule, BitVec.ult, BitVec.slt_eq_decide, decide_eq_true_eq, BitVec.toInt_zero]
  split
  · rfl
  · by_cases hpos : 0 < count.toInt
    · obtain ⟨he, hlt⟩ := sext_pos count hpos
      have hadd : (st.filled + count.signExtend 64).toNat = st.filled.toNat + count.toNat := by
        rw [BitVec.toNat_add, he]; omega
      simp only [if_pos hpos, hadd]
      split <;> omega
    · simp only [if_neg hpos]
      split <;> omega

/-- a string-scan condition as clang types it — both bytes (after `f`) promoted to `int` and compared, the byte of
    the scanned string compared with NUL — on model bytes -/
theorem promoted_cond (f : UInt8 → UInt8) (x y : UInt8) :
    (((f x).toBitVec.signExtend 32 == (f y).toBitVec.signExtend 32) && (x.toBitVec.signExtend 32 != (0#8).signExtend 32))
      = decide (f x = f y ∧ x ≠ 0) := by
  rw [BitVecLemmas.signExtend_bne (by omega)]
  show (_ && x.toBitVec != (0 : UInt8).toBitVec) = _
  simp only [bne, Bool.beq_eq_decide_eq, BitVecLemmas.signExtend_eq_iff (show 8 ≤ 32 by omega), UInt8.toBitVec_inj,
    Bool.decide_and, decide_not, ne_eq]

end Diag
