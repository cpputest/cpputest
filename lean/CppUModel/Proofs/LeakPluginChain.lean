import CppUModel.Proofs.LeakPlugin
import CppUModel.Spec.LeakPluginChain
/-!
The leak plugin in a chain of plugins: the regenerated chain walk is reduced to lists of commands, a plugin action is a
step that follows the history inside the window and outside it (where it also counts the failures it adds), and the run
under a chain is an instance of the window of `LeakPlugin.lean`.
-/
namespace LeakPlugin
open Hist Gen.LeakCode Gen.LeakChain

/-! ### the chain walk, as regenerated -/

theorem chainPre_cons {π σ : Type} (en : π → Bool) (act : π → σ → σ) (p : π) (rest : List π) (s : σ) :
    chainPre en act (p :: rest) s = chainPre en act rest (if en p then act p s else s) := by
  cases h : en p <;> simp [chainPre, preOrder, guardAct, preGuarded, h]

theorem chainPost_cons {π σ : Type} (en : π → Bool) (act : π → σ → σ) (p : π) (rest : List π) (s : σ) :
    chainPost en act (p :: rest) s = (if en p then act p (chainPost en act rest s) else chainPost en act rest s) := by
  cases h : en p <;> simp [chainPost, postOrder, guardAct, postGuarded, h]

theorem chainPre_append {π σ : Type} (en : π → Bool) (act : π → σ → σ) : ∀ (a b : List π) (s : σ),
    chainPre en act (a ++ b) s = chainPre en act b (chainPre en act a s)
  | [], _, _ => rfl
  | p :: a, b, s => by
    rw [List.cons_append, chainPre_cons, chainPre_cons]; exact chainPre_append en act a b _

theorem chainPost_append {π σ : Type} (en : π → Bool) (act : π → σ → σ) : ∀ (a b : List π) (s : σ),
    chainPost en act (a ++ b) s = chainPost en act a (chainPost en act b s)
  | [], _, _ => rfl
  | p :: a, b, s => by
    rw [List.cons_append, chainPost_cons, chainPost_cons, chainPost_append en act a b s]

/-- the regenerated `installPlugin` links at the head, so installing a list of plugins reverses it -/
theorem foldl_install {π : Type} : ∀ (l acc : List π), l.foldl installPlugin acc = l.reverse ++ acc
  | [], _ => rfl
  | p :: l, acc => by
    rw [List.foldl_cons, foldl_install l, List.reverse_cons, List.append_assoc]; rfl

theorem runAct_append (w : World) (a b : List Cmd) : runAct w (a ++ b) = runAct (runAct w a) b := by
  simp [runAct, List.foldl_append]

theorem chainPre_others : ∀ (l : List Other) (w : World),
    chainPre Plug.enabled plugPre (l.map .other) w = runAct w (preCmds l)
  | [], _ => rfl
  | o :: l, w => by
    rw [List.map_cons, chainPre_cons, chainPre_others l]
    simp only [preCmds, List.flatMap_cons, Plug.enabled, plugPre]
    by_cases he : o.enabled = true <;> simp [he, runAct]

theorem chainPost_others : ∀ (l : List Other) (w : World),
    chainPost Plug.enabled plugPost (l.map .other) w = runAct w (postCmds l)
  | [], _ => rfl
  | o :: l, w => by
    rw [List.map_cons, chainPost_cons, chainPost_others l]
    simp only [postCmds, List.reverse_cons, List.flatMap_append, List.flatMap_cons, List.flatMap_nil,
      List.append_nil, Plug.enabled, plugPost]
    by_cases he : o.enabled = true <;> simp [he, runAct]

/-! ### plugin actions -/

theorem execAct_fail (w : World) : execAct w .fail = { w with failures := w.failures + 1 } := rfl

theorem execAct_eq_execMem (w : World) {c : Cmd} (hc : c ≠ .fail) : execAct w c = execMem w c := by
  cases c <;> first | rfl | exact absurd rfl hc

theorem hAct_eq_hMem (h : HState) {c : Cmd} (hc : c ≠ .fail) : hAct h c = hMem h c := by
  cases c <;> first | rfl | exact absurd rfl hc

theorem follows_execAct (c : Cmd) : Follows (fun w => execAct w c) (fun h => hAct h c) := by
  by_cases hc : c = .fail
  · subst hc
    exact .of_det_eq (fun _ => ⟨rfl, rfl, rfl, rfl⟩)
      fun s => { s with fails := by simp only [execAct_fail, hAct, s.fails]; omega }
  · rw [funext (execAct_eq_execMem · hc), funext (hAct_eq_hMem · hc)]
    exact follows_execMem c

theorem follows_runAct (cs : List Cmd) : Follows (fun w => runAct w cs) (fun h => hRunAct h cs) :=
  Follows.foldl follows_execAct cs

def failCount (cs : List Cmd) : Nat := (cs.filter (fun c => c == .fail)).length

theorem hOutAct_realloc (live : List Nat) (id newId size : Nat) :
    hOutAct live (.realloc id newId size) =
      if reallocOk live id newId then hOutside (hOutside live (.free id)) (.alloc newId size) else live :=
  ite_reallocOk live id newId live _

theorem followsOut_execAct (c : Cmd) :
    FollowsOut (fun w => execAct w c) (fun l => hOutAct l c) (if c == .fail then 1 else 0) := by
  cases c with
  | alloc id size => exact followsOut_doAlloc id size
  | free id => exact followsOut_doFree id
  | realloc id newId size => rw [funext (hOutAct_realloc · id newId size)]; exact followsOut_doRealloc id newId size
  | reallocFail id size => simp only [execAct, execMem, execCmd_reallocFail]; exact FollowsOut.id
  | envSeq n => exact followsOut_bump n
  | expectLeaks n => exact FollowsOut.id
  | ignoreLeaks => exact FollowsOut.id
  | fail =>
    exact fun _ => ⟨fun hc => { hc with }, rfl, Nat.le_refl _, rfl, rfl, ⟨rfl, rfl, rfl, rfl, rfl⟩⟩

theorem followsOut_runAct (cs : List Cmd) : FollowsOut (fun w => runAct w cs) (fun l => liveOut l cs) (failCount cs) :=
  FollowsOut.foldl followsOut_execAct cs

theorem failures_le_execAct (w : World) (c : Cmd) : w.failures ≤ (execAct w c).failures :=
  (followsOut_execAct c w).fails ▸ Nat.le_add_right _ _

/-! ### the unfolded run under a chain with one enabled leak plugin -/

def atLeakPre (w : World) (t : ChainSpec) : World := runAct (atStart w t.obj.test) (preCmds t.outer)

def atInnerEnd (w : World) (t : ChainSpec) : World :=
  runAct (runMem (runBody (runMem (runAct (preTestAction (atLeakPre w t)) (preCmds t.inner)) t.obj.ctor) t.obj.test)
    t.obj.dtor) (postCmds t.inner)

theorem runTestChain_eq (w : World) (t : ChainSpec) :
    runTestChain w t.toTest = runAct (postTestAction (atInnerEnd w t)) (postCmds t.outer) := by
  simp only [runTestChain, runOneTestChain, runOneTestOrder, List.foldl_cons, List.foldl_nil, rstepChain,
    ChainSpec.toTest, chainPre_append, chainPost_append, chainPre_cons, chainPost_cons, chainPre_others,
    chainPost_others, Plug.enabled, plugPre, plugPost, if_true]
  rfl

theorem follows_chain (t : ChainSpec) :
    Follows
      (fun w => runAct (runMem (runBody (runMem (runAct w (preCmds t.inner)) t.obj.ctor) t.obj.test) t.obj.dtor)
        (postCmds t.inner))
      (fun h => hRunAct (hRunMem (throughPhases (hRunMem (hRunAct h (preCmds t.inner)) t.obj.ctor) t.obj.test)
        t.obj.dtor) (postCmds t.inner)) :=
  ((follows_runAct _).comp (follows_obj t.obj)).comp (follows_runAct _)

theorem stepOut_atLeakPre (w : World) (t : ChainSpec) :
    StepOut (clearObs w) (atLeakPre w t) (liveAtLeakPre w.liveIds t) (failCount (preCmds t.outer)) :=
  Nat.zero_add (failCount _) ▸
    ((followsOut_runOutside t.obj.test.before).comp (followsOut_runAct (preCmds t.outer))) (clearObs w)

theorem closes_runTestChain {w : World} (hc : Clean w) (t : ChainSpec) :
    Closes w (atLeakPre w t) (atEndChain w.liveIds t)
      (atInnerEnd w t).det.stamped
      (failCount (preCmds t.outer) + failCount (postCmds t.outer)) (liveAfterChain w.liveIds t)
      (runTestChain w t.toTest) :=
  runTestChain_eq w t ▸
    ((stepOut_atLeakPre w t).closes hc (follows_chain t)).out (followsOut_runAct (postCmds t.outer))

end LeakPlugin
