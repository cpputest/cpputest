import CppUModel.Model.PluginsTable
/-! The regenerated code of the pointer table, run on the array-level state, against the list-level model (C17):
closed forms of the regenerated functions under the state invariant `WF`, and how they act on `absT`. -/
namespace Plugins
open Gen.Plugins Gen.PluginCode

/-- the state invariant of `TestPlugin.cpp`: the index is inside `0 .. MAX_SET` and no access has left the array -/
def WF (t : Tab) : Prop := 0 ≤ t.idx ∧ t.idx ≤ (maxSet : Int) ∧ t.oob = false

theorem WF.reset {t : Tab} (h : WF t) (m : Loc → Val) : WF { t with mem := m, idx := 0 } :=
  ⟨Int.le_refl 0, Int.natCast_nonneg _, h.2.2⟩

theorem entries_congr (t t' : Tab) : ∀ (n : Nat),
    (∀ k, k < n → t'.orig k = t.orig k ∧ t'.origValue k = t.origValue k) → entries t' n = entries t n
  | 0, _ => rfl
  | n + 1, h => by
    rw [entries, entries, (h n (Nat.lt_succ_self n)).1, (h n (Nat.lt_succ_self n)).2,
      entries_congr t t' n fun k hk => h k (Nat.lt_succ_of_lt hk)]

theorem entries_length (t : Tab) : ∀ n, (entries t n).length = n
  | 0 => rfl
  | n + 1 => by simp [entries, entries_length t n]

theorem absT_length (t : Tab) : (absT t).table.length = t.idx.toNat := entries_length t _

theorem absT_mem (t : Tab) (m : Loc → Val) : absT { t with mem := m } = { absT t with mem := m } :=
  congrArg (Store.mk m) (entries_congr t _ _ fun _ _ => ⟨rfl, rfl⟩)

theorem entries_record (t : Tab) (k : Nat) (l : Loc) (x : Val) (i : Int) :
    entries { t with origValue := fupd t.origValue k x, orig := fupd t.orig k l, idx := i } (k + 1) =
      (l, x) :: entries t k := by
  rw [entries, entries_congr t _ k fun j hj => by simp [fupd, Nat.ne_of_lt hj]]
  simp [fupd]

theorem absT_record (t : Tab) (l : Loc) (h0 : 0 ≤ t.idx) :
    absT { t with origValue := fupd t.origValue t.idx.toNat (t.mem l), orig := fupd t.orig t.idx.toNat l,
                  idx := t.idx + 1 } = ⟨t.mem, (l, t.mem l) :: (absT t).table⟩ := by
  have e : (t.idx + 1).toNat = t.idx.toNat + 1 := Int.toNat_add_nat h0 1
  rw [absT, e, entries_record]
  rfl

/-! ### `CppUTestStore` and `UT_PTR_SET` as regenerated

The guard of the regenerated `CppUTestStore` compares with the literal the header gives for `MAX_SET`; the
list-level model compares with `maxSet`, regenerated from the same header. -/

theorem storeCode_eq : storeCode = [
    .simple (.failIf ⟨.ge, .idx, .lit maxSet⟩),
    .simple (.setOrigValue .idx (.deref .param)),
    .simple (.setOrig .idx .param),
    .simple (.setIdx (.add .idx (.lit 1)))] := rfl

theorem storeA_full (t : Tab) (l : Loc) (h : (maxSet : Int) ≤ t.idx) : storeA t l = .failed t := by
  simp [storeA, storeCode_eq, exec, execT, execS, evalC, evalI, h]

theorem storeA_room (t : Tab) (l : Loc) (h0 : 0 ≤ t.idx) (h : t.idx < (maxSet : Int)) :
    storeA t l = .ok { t with origValue := fupd t.origValue t.idx.toNat (t.mem l),
                              orig := fupd t.orig t.idx.toNat l, idx := t.idx + 1 } := by
  have hb : inB setlistLen t.idx = true := by
    rw [inB, decide_eq_true h0, decide_eq_true (show t.idx < (setlistLen : Int) from h)]
    rfl
  simp [storeA, storeCode_eq, exec, execT, execS, evalC, evalI, evalV, evalP, envFor, Int.not_le.mpr h, hb]

/-- a step of the code from `t` with outcome `o` and the list-level step with result `x` agree: both refuse and the
    state is left alone, or both go on to states that correspond, the invariant kept -/
def Sim (o : Out) (t : Tab) (x : Option Store) : Prop :=
  (o = .failed t ∧ x = none) ∨ ∃ t', o = .ok t' ∧ x = some (absT t') ∧ WF t'

theorem storeA_sim (t : Tab) (l : Loc) (h : WF t) : Sim (storeA t l) t (store (absT t) l) := by
  obtain ⟨h0, h1, h2⟩ := h
  rcases Int.lt_or_le t.idx maxSet with hlt | hfull
  · refine .inr ⟨_, storeA_room t l h0 hlt, ?_, Int.le_add_one h0, Int.add_one_le_iff.mpr hlt, h2⟩
    rw [store, if_neg (Nat.not_le.mpr (absT_length t ▸ (Int.toNat_lt h0).mpr hlt)), absT_record t l h0]
    rfl
  · refine .inl ⟨storeA_full t l hfull, ?_⟩
    rw [store, if_pos (absT_length t ▸ (Int.le_toNat h0).mpr hfull)]

theorem refines_of_sim {o : Out} {t : Tab} {x : Option Store} (h : Sim o t x) :
    (o.isFailed = true → x = none ∧ o.tab = t) ∧ (o.isFailed = false → x = some (absT o.tab) ∧ WF o.tab) := by
  rcases h with ⟨rfl, e⟩ | ⟨t', rfl, e, hw⟩
  · exact ⟨fun _ => ⟨e, rfl⟩, nofun⟩
  · exact ⟨nofun, fun _ => ⟨e, hw⟩⟩

theorem ptrSetA_sim (t : Tab) (l : Loc) (v : Val) (h : WF t) : Sim (ptrSetA t l v) t (ptrSet (absT t) l v) := by
  have he : ptrSetA t l v = match storeA t l with
      | .ok t' => .ok { t' with mem := update t'.mem l v }
      | .failed t' => .failed t' := rfl
  rw [he, ptrSet]
  rcases storeA_sim t l h with ⟨e1, e2⟩ | ⟨t', e1, e2, hw⟩
  · rw [e1, e2]
    exact .inl ⟨rfl, rfl⟩
  · rw [e1, e2]
    exact .inr ⟨_, rfl, congrArg some (absT_mem t' _).symm, hw⟩

/-! ### `postTestAction` and the constructor as regenerated -/

/-- the loop of `postTestAction` with the body the source has: `n` iterations from `n - 1` down undo the
    first `n` entries, the most recent first -/
theorem execDown_restore (env : Env) : ∀ (n : Nat) (t : Tab), n ≤ env.len →
    execDown env [.storeThrough (.origAt .loopVar) (.origValueAt .loopVar)] n ((n : Int) - 1) t =
      .ok { t with mem := restore (entries t n) t.mem }
  | 0, t, _ => by simp [execDown, entries, restore]
  | n + 1, t, h => by
    have hb : inB env.len (n : Int) = true := by simp [inB]; omega
    have e1 : ((n + 1 : Nat) : Int) - 1 = (n : Int) := by omega
    rw [e1]
    simp only [execDown, execSs, execS, evalP, evalV, evalI, hb, if_true, Int.toNat_natCast]
    rw [execDown_restore env n _ (by omega)]
    simp only [entries, restore]
    rw [entries_congr t { t with mem := update t.mem (t.orig n) (t.origValue n) } n (fun _ _ => ⟨rfl, rfl⟩)]

theorem postA_eq (t : Tab) (h0 : 0 ≤ t.idx) (h1 : t.idx ≤ (maxSet : Int)) :
    postA t = { t with mem := restore (entries t t.idx.toNat) t.mem, idx := 0 } := by
  have hloop := execDown_restore (envFor 0) t.idx.toNat t (Int.toNat_le.mpr h1)
  rw [Int.toNat_of_nonneg h0] at hloop
  have e2 : (t.idx - 1 - 0 + 1).toNat = t.idx.toNat := by rw [Int.sub_zero, Int.sub_add_cancel]
  simp only [postA, postCode, exec, execT, evalI, e2, hloop, execS, Out.tab]

theorem constructA_eq (t : Tab) : constructA t = { t with idx := 0 } := rfl

theorem postA_wf {t : Tab} (h : WF t) : WF (postA t) := by
  rw [postA_eq t h.1 h.2.1]
  exact h.reset _

theorem postA_undoes {r t : Tab} (hw : WF r) (hempty : t.idx = 0)
    (hinv : restore (absT r).table (absT r).mem = restore (absT t).table (absT t).mem) :
    (∀ l, (postA r).mem l = t.mem l) ∧ (postA r).idx = 0 ∧ (postA r).oob = false := by
  rw [postA_eq r hw.1 hw.2.1]
  rw [absT, absT, hempty] at hinv
  exact ⟨congrFun hinv, rfl, hw.2.2⟩

/-! ### bodies and phases on the regenerated code -/

/-- an array-level result of a body and a list-level one that tell the same, the invariant holding at the end -/
structure Refines (r : BodyResultA) (r' : BodyResult) : Prop where
  store : absT r.tab = r'.store
  failed : r.failed = r'.failed
  overflow : r.overflow = r'.overflow
  done : r.done = r'.done
  wf : WF r.tab

theorem runBodyA_refines : ∀ (body : List Stmt) (t : Tab) (n : Nat), WF t →
    Refines (runBodyA t n body) (runBody (absT t) n body) := by
  intro body
  induction body with
  | nil => exact fun _ _ h => ⟨rfl, rfl, rfl, rfl, h⟩
  | cons st rest ih =>
    intro t n h
    cases st with
    | stop => exact ⟨rfl, rfl, rfl, rfl, h⟩
    | set l v =>
      rw [runBodyA, runBody]
      rcases ptrSetA_sim t l v h with ⟨e1, e2⟩ | ⟨t', e1, e2, hw⟩ <;> rw [e1, e2]
      · exact ⟨rfl, rfl, rfl, rfl, h⟩
      · exact ih t' (n + 1) hw

theorem andThen_refines {r : BodyResultA} {r' : BodyResult} (h : Refines r r') (next : List Stmt) :
    Refines (r.andThen next) (r'.andThen next) := by
  have b := runBodyA_refines next r.tab r.done h.wf
  rw [BodyResult.andThen, ← h.store, ← h.failed, ← h.overflow, ← h.done]
  exact ⟨b.store, congrArg (r.failed || ·) b.failed, congrArg (r.overflow || ·) b.overflow, b.done, b.wf⟩

theorem runPhasesA_refines (t : Tab) (p : Phases) (h : WF t) : Refines (runPhasesA t p) (runPhases (absT t) p) := by
  have h0 := runBodyA_refines p.setup t 0 h
  unfold runPhasesA runPhases
  rw [h0.failed]
  split
  · exact andThen_refines h0 _
  · exact andThen_refines (andThen_refines h0 _) _

theorem runTestA_wf (active : Bool) {t : Tab} (body : List Stmt) (h : WF t) : WF (runTestA active t body) := by
  rw [runTestA]
  split
  · exact postA_wf (runBodyA_refines body t 0 h).wf
  · exact (runBodyA_refines body t 0 h).wf

end Plugins
