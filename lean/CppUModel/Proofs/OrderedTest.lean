import CppUModel.Proofs.Registry
import CppUModel.Model.OrderedTest
/-!
Lemmas for the `TEST_ORDERED` installer: insertion into a linked list, linking an existing shell
into the registry, insertion by level on lists, and the invariant "registry list = plain tests ++
ordered chain, chain sorted by level".
-/
namespace Registry
open Text (Bytes)

/-! ## the regenerated decisions of OrderedTest.cpp -/

theorem gen_orderedBeforeHead (a b : Int) : Gen.Registry.orderedBeforeHead a b = decide (a < b) := rfl
theorem gen_orderedStopBefore (a b : Int) : Gen.Registry.orderedStopBefore a b = decide (a > b) := rfl
theorem gen_orderedAddAtFront (a b : Option Nat) :
    Gen.Registry.orderedAddAtFront (a == none) (b == a) = true ↔ (a = none ∨ b = a) := by
  simp [Gen.Registry.orderedAddAtFront]

/-! ## inserting into a linked list -/

theorem Linked.next_of_mid {nx : Next} {h : Option Nat} (a : List Nat) (cur : Nat) (b : List Nat)
    (hl : Linked nx h (a ++ cur :: b)) : nx cur = b.head? := by
  induction a generalizing h with
  | nil => cases hl with | cons hl' => exact hl'.head_eq
  | cons x a ih => cases hl with | cons hl' => exact ih hl'

/-- THE insertion step: `i->next = cur->next; cur->next = i` turns `a ++ cur :: b` into
    `a ++ cur :: i :: b` -/
theorem Linked.insert {nx : Next} {h : Option Nat} (a b : List Nat) (cur i : Nat)
    (hl : Linked nx h (a ++ cur :: b)) (hnd : (a ++ cur :: b).Nodup) (hi : i ∉ a ++ cur :: b) :
    Linked (setNext (setNext nx i (nx cur)) cur (some i)) h (a ++ cur :: i :: b) := by
  induction a generalizing h with
  | nil =>
    cases hl with
    | cons hl' =>
      have hic : i ≠ cur := fun e => hi (by simp [e])
      apply Linked.cons
      rw [setNext_self]
      apply Linked.cons
      rw [setNext_of_ne _ _ hic, setNext_self]
      exact (hl'.setNext_of_not_mem i _ (fun m => hi (by simp [m]))).setNext_of_not_mem cur _
        (List.nodup_cons.mp hnd).1
  | cons x a ih =>
    cases hl with
    | cons hl' =>
      have hnd' := List.nodup_cons.mp hnd
      have hxc : x ≠ cur := fun e => hnd'.1 (by simp [e])
      have hxi : x ≠ i := fun e => hi (by simp [e])
      apply Linked.cons
      rw [setNext_of_ne _ _ hxc, setNext_of_ne _ _ hxi]
      exact ih hl' hnd'.2 (fun m => hi (List.mem_cons_of_mem _ m))

theorem setNext_congr {nx ox : Next} {x c : Nat} (v : Option Nat) (h : c ≠ x → nx c = ox c) :
    setNext nx x v c = setNext ox x v c := by
  simp only [setNext]
  split
  · rfl
  · exact h ‹_›

theorem setNext_comm (nx : Next) (x y : Nat) (u v : Option Nat) (h : x ≠ y) :
    setNext (setNext nx x u) y v = setNext (setNext nx y v) x u := by
  funext k
  simp only [setNext]
  by_cases h1 : k = y
  · by_cases h2 : k = x
    · exact absurd (h2.symm.trans h1) h
    · simp [h1]
      intro e; exact absurd e.symm h
  · simp [h1]

/-! ## linking one more existing shell into the registry's list -/

theorem wf_of_linked_insert {r r' : Reg} (hw : r.WF) {i : Nat} {l : List Nat}
    (hobjs : r'.objs = r.objs) (hl : Linked r'.next r'.head l) (hp : l.Perm (i :: r.order))
    (hi : i ∉ r.order) (hib : i < r.objs.size) : r'.WF ∧ r'.order = l := by
  refine wf_of_linked r' l hl (hp.nodup_iff.mpr (List.nodup_cons.mpr ⟨hi, hw.nodup⟩)) ?_
    (hobjs ▸ hw.ids)
  intro k hk
  rw [hobjs]
  rcases List.mem_cons.mp (hp.subset hk) with rfl | hk
  · exact hib
  · exact hw.bound k hk

/-- `TestRegistry::addTest(test)` for an existing shell that is not in the list -/
theorem wf_linkFront {r : Reg} (hw : r.WF) {i : Nat} (hi : i ∉ r.order) (hib : i < r.objs.size) :
    (r.linkFront i).WF ∧ (r.linkFront i).order = i :: r.order :=
  wf_of_linked_insert hw rfl (hw.linked.push hi) (List.Perm.refl _) hi hib

/-- `test->addTest(cur->getNext()); cur->addTest(test)` for an existing shell that is not in the list -/
theorem wf_insertAfter {r : Reg} (hw : r.WF) {a b : List Nat} {cur i : Nat}
    (hord : r.order = a ++ cur :: b) (hi : i ∉ r.order) (hib : i < r.objs.size) :
    ({ r with next := setNext (setNext r.next i (r.next cur)) cur (some i) } : Reg).WF ∧
    ({ r with next := setNext (setNext r.next i (r.next cur)) cur (some i) } : Reg).order =
      a ++ cur :: i :: b := by
  have hp : (a ++ cur :: i :: b).Perm (i :: (a ++ cur :: b)) := by
    simpa using List.perm_middle (a := i) (l₁ := a ++ [cur]) (l₂ := b)
  exact wf_of_linked_insert hw rfl
    (Linked.insert a b cur i (hord ▸ hw.linked) (hord ▸ hw.nodup) (hord ▸ hi)) (hord ▸ hp) hi hib

/-! ## `getTestWithNext` on ids -/

theorem prevId_none : ∀ l : List Nat, prevId none l = l.getLast?
  | [] => rfl
  | [x] => by simp [prevId]
  | x :: y :: l => by
    simp only [prevId, List.getLast?_cons_cons]
    simpa using prevId_none (y :: l)

/-- nobody's successor: the head of the list, or a shell that is not in the list -/
theorem prevId_not_in_tail (i : Nat) : ∀ l : List Nat, i ∉ l.drop 1 → prevId (some i) l = none
  | [], _ => rfl
  | [x], _ => by simp [prevId]
  | x :: y :: l, h => by
    simp only [List.drop_succ_cons, List.drop_zero, List.mem_cons, not_or] at h
    have hne : ¬ (some i = some y) := fun e => h.1 (Option.some.inj e)
    simp only [prevId, hne, if_false]
    exact prevId_not_in_tail i (y :: l) (by simpa using h.2)

theorem prevId_some_mid (p x : Nat) (b : List Nat) : ∀ a : List Nat, (a ++ p :: x :: b).Nodup →
    prevId (some x) (a ++ p :: x :: b) = some p
  | [], _ => by simp [prevId]
  | [y], h => by
    have hne : ¬ x = p := fun e => by simp [e] at h
    simp [prevId, hne]
  | y :: z :: a, h => by
    have h' := List.nodup_cons.mp h
    have hz : ¬ some x = some z := fun e => by
      have := (List.nodup_cons.mp h'.2).1
      simp [← Option.some.inj e] at this
    simp only [List.cons_append, prevId, hz, if_false]
    exact prevId_some_mid p x b (z :: a) h'.2

theorem prevId_eq_getTestWithNext (target : Option Nat) : ∀ ts : List Test,
    prevId target (ts.map (·.id)) = getTestWithNext target ts
  | [] => rfl
  | [t] => by simp [prevId, getTestWithNext]
  | t :: n :: rest => by
    have ih := prevId_eq_getTestWithNext target (n :: rest)
    simp only [List.map_cons] at ih ⊢
    simp only [prevId, getTestWithNext]
    rw [ih]

/-- the predecessor of the head of `b` in `a ++ p :: b` is `p`; with `b` empty the query is
    `getTestWithNext(NULL)`, which stops at the last shell -/
theorem prevId_head? (a : List Nat) (p : Nat) (b : List Nat) (hnd : (a ++ p :: b).Nodup) :
    prevId b.head? (a ++ p :: b) = some p := by
  cases b with
  | nil => simp [prevId_none]
  | cons x t => exact prevId_some_mid p x t a hnd

/-! ## the specification of an ordered insertion, on lists -/

/-- the new shell goes behind every ordered shell whose level is not larger -/
def insLvl (level : Nat → Int) (lvl : Int) (i : Nat) (chain : List Nat) : List Nat :=
  chain.takeWhile (fun c => decide (level c ≤ lvl)) ++ i :: chain.dropWhile (fun c => decide (level c ≤ lvl))

theorem insLvl_cons_le {level : Nat → Int} {lvl : Int} (i : Nat) {c : Nat} (chain : List Nat)
    (h : level c ≤ lvl) : insLvl level lvl i (c :: chain) = c :: insLvl level lvl i chain := by
  simp [insLvl, List.takeWhile, List.dropWhile, h]

theorem insLvl_cons_gt {level : Nat → Int} {lvl : Int} (i : Nat) {c : Nat} (chain : List Nat)
    (h : ¬ level c ≤ lvl) : insLvl level lvl i (c :: chain) = i :: c :: chain := by
  simp [insLvl, List.takeWhile, List.dropWhile, h]

theorem insLvl_perm (level : Nat → Int) (lvl : Int) (i : Nat) (chain : List Nat) :
    (insLvl level lvl i chain).Perm (i :: chain) :=
  List.perm_middle.trans (by rw [List.takeWhile_append_dropWhile])

theorem insLvl_congr (l1 l2 : Nat → Int) (lvl : Int) (i : Nat) : ∀ chain : List Nat,
    (∀ c ∈ chain, l1 c = l2 c) → insLvl l1 lvl i chain = insLvl l2 lvl i chain
  | [], _ => rfl
  | c :: chain, h => by
    have hc := h c (by simp)
    by_cases hle : l2 c ≤ lvl
    · rw [insLvl_cons_le i chain hle, insLvl_cons_le i chain (hc ▸ hle),
        insLvl_congr l1 l2 lvl i chain (fun x hx => h x (by simp [hx]))]
    · rw [insLvl_cons_gt i chain hle, insLvl_cons_gt i chain (hc ▸ hle)]

theorem levelSorted_trans (u : Nat → Int) (a b c : Nat)
    (h1 : u a < u b ∨ (u a = u b ∧ a < b)) (h2 : u b < u c ∨ (u b = u c ∧ b < c)) :
    u a < u c ∨ (u a = u c ∧ a < c) := by omega

/-- Inserting by level keeps a transitive relation true of all pairs when the new shell is
    related to the shells it goes behind and to the shells of larger level (it stops in front of
    the first of them; transitivity gives the rest). -/
theorem insLvl_pairwise {R : Nat → Nat → Prop} (hT : ∀ a b c, R a b → R b c → R a c)
    (level : Nat → Int) (lvl : Int) (i : Nat) : ∀ chain : List Nat, chain.Pairwise R →
    (∀ c ∈ chain, level c ≤ lvl → R c i) → (∀ c ∈ chain, lvl < level c → R i c) →
    (insLvl level lvl i chain).Pairwise R
  | [], _, _, _ => by simp [insLvl]
  | c :: chain, hs, hle, hgt => by
    have hs' := List.pairwise_cons.mp hs
    by_cases hc : level c ≤ lvl
    · rw [insLvl_cons_le i chain hc]
      refine List.pairwise_cons.mpr ⟨?_, insLvl_pairwise hT level lvl i chain hs'.2
        (fun x hx => hle x (List.mem_cons_of_mem _ hx)) (fun x hx => hgt x (List.mem_cons_of_mem _ hx))⟩
      intro b hb
      rcases List.mem_cons.mp ((insLvl_perm level lvl i chain).subset hb) with rfl | hb
      · exact hle c (List.mem_cons_self ..) hc
      · exact hs'.1 b hb
    · rw [insLvl_cons_gt i chain hc]
      have hic : R i c := hgt c (List.mem_cons_self ..) (by omega)
      refine List.pairwise_cons.mpr ⟨?_, hs⟩
      intro b hb
      rcases List.mem_cons.mp hb with rfl | hb
      · exact hic
      · exact hT _ _ _ hic (hs'.1 b hb)

theorem linkOrdered_keeps (o : OReg) (i : Nat) :
    (o.linkOrdered i).level = o.level ∧ (o.linkOrdered i).reg.objs = o.reg.objs := by
  have hh : (o.addOrderedTestToHead i).level = o.level ∧ (o.addOrderedTestToHead i).reg.objs = o.reg.objs := by
    refine ⟨rfl, ?_⟩
    simp only [OReg.addOrderedTestToHead]; split
    · rfl
    · split <;> rfl
  have hl : ∀ f cur, (o.insertLoop i f cur).level = o.level ∧ (o.insertLoop i f cur).reg.objs = o.reg.objs := by
    intro f
    induction f with
    | zero => exact fun _ => ⟨rfl, rfl⟩
    | succ f ih =>
      intro cur; rw [OReg.insertLoop]
      split
      · split
        · exact ⟨rfl, rfl⟩
        · exact ih _
      · exact ⟨rfl, rfl⟩
  unfold OReg.linkOrdered
  split
  · exact hh
  · split
    · exact hh
    · exact hl _ _

/-! ## the invariant -/

/-- registry list = `pre` (plain / ignored shells, newest first) ++ `chain` (the ordered shells);
    the chain is the `_nextOrderedTest` list, on which `next_` and `_nextOrderedTest` agree, and
    it is sorted by level -/
structure OInv (o : OReg) (pre chain : List Nat) : Prop where
  wf     : o.reg.WF
  order  : o.reg.order = pre ++ chain
  olink  : Linked o.onext o.ohead chain
  agree  : ∀ c ∈ chain, o.reg.next c = o.onext c
  sorted : chain.Pairwise (fun a b => o.level a ≤ o.level b)

theorem oinv_empty : OInv {} [] [] :=
  { wf := wf_empty.1, order := wf_empty.2, olink := Linked.nil,
    agree := by simp, sorted := List.Pairwise.nil }

theorem oinv_addTest {o : OReg} {pre chain : List Nat} (h : OInv o pre chain) (g n : Bytes) (ig : Bool)
    (file : Bytes) (line : Nat) : OInv (o.addTest g n ig file line) (o.reg.objs.size :: pre) chain := by
  have hw := wf_addTest h.wf g n ig file line
  refine { wf := hw.1, order := by simp [OReg.addTest, hw.2, h.order], olink := h.olink, agree := ?_,
           sorted := h.sorted }
  intro c hc
  have hcb : c < o.reg.objs.size := h.wf.bound c (by rw [h.order]; simp [hc])
  have : c ≠ o.reg.objs.size := by omega
  simp only [OReg.addTest, Reg.addTest, setNext, this, if_false]
  exact h.agree c hc

theorem oinv_linkAfter {o : OReg} {pre a b : List Nat} {cur i : Nat}
    (h : OInv o pre (a ++ cur :: b)) (hi : i ∉ o.reg.order) (hib : i < o.reg.objs.size)
    (hs : (a ++ cur :: i :: b).Pairwise (fun x y => o.level x ≤ o.level y)) :
    OInv (o.linkAfter cur i) pre (a ++ cur :: i :: b) := by
  have hic : i ∉ a ++ cur :: b := fun m => hi (h.order ▸ List.mem_append_right _ m)
  have hndc : (a ++ cur :: b).Nodup := (List.nodup_append.mp (h.order ▸ h.wf.nodup)).2.1
  have hw := wf_insertAfter h.wf (a := pre ++ a) (by rw [h.order, List.append_assoc]) hi hib
  rw [h.agree cur (by simp), List.append_assoc] at hw
  refine { wf := hw.1, order := hw.2, olink := Linked.insert a b cur i h.olink hndc hic, agree := ?_,
           sorted := hs }
  -- both maps get the same two updates
  intro c hc
  exact setNext_congr _ fun e1 => setNext_congr _ fun e2 => h.agree c (by simpa [e1, e2] using hc)

theorem oinv_created {o : OReg} {pre chain : List Nat} (h : OInv o pre chain) (lvl : Int)
    (g n f : Bytes) (line : Nat) :
    OInv (o.created lvl g n f line) pre chain ∧ o.reg.objs.size ∉ pre ++ chain := by
  have hnot : o.reg.objs.size ∉ pre ++ chain := fun hm =>
    Nat.lt_irrefl _ (h.wf.bound _ (h.order ▸ hm))
  have hw := wf_of_linked (o.created lvl g n f line).reg (pre ++ chain) (h.order ▸ h.wf.linked)
    (h.order ▸ h.wf.nodup)
    (by intro k hk
        have := h.wf.bound k (h.order ▸ hk)
        simp only [OReg.created, Reg.newShell, Array.size_push]; omega)
    (ids_push h.wf.ids rfl)
  refine ⟨{ wf := hw.1, order := hw.2, olink := h.olink, agree := h.agree, sorted := ?_ }, hnot⟩
  apply List.Pairwise.imp_of_mem _ h.sorted
  intro a b ha hb hab
  have hai : a ≠ o.reg.objs.size := fun e => hnot (by simp [← e, ha])
  have hbi : b ≠ o.reg.objs.size := fun e => hnot (by simp [← e, hb])
  simpa [OReg.created, hai, hbi] using hab

/-- `addOrderedTestToHead`: the new shell goes in front of the chain, i.e. behind the plain tests -/
theorem oinv_toHead {o : OReg} {pre chain : List Nat} (h : OInv o pre chain) (i : Nat)
    (hi : i ∉ pre ++ chain) (hib : i < o.reg.objs.size)
    (hs : (i :: chain).Pairwise (fun x y => o.level x ≤ o.level y)) :
    OInv (o.addOrderedTestToHead i) pre (i :: chain) := by
  have hio : i ∉ o.reg.order := h.order ▸ hi
  have hic : i ∉ chain := fun m => hi (List.mem_append_right _ m)
  have hnd : (pre ++ chain).Nodup := h.order ▸ h.wf.nodup
  have hlk : Linked o.reg.next o.reg.head (pre ++ chain) := h.order ▸ h.wf.linked
  have hoh : o.ohead = chain.head? := h.olink.head_eq
  rcases List.eq_nil_or_concat pre with rfl | ⟨a, p, rfl⟩
  · -- no plain test in front: `reg->addTest(test)`
    have hrh : o.ohead = o.reg.head := by rw [hoh]; simpa using hlk.head_eq.symm
    have hreg : (o.addOrderedTestToHead i).reg = o.reg.linkFront i := by
      simp only [OReg.addOrderedTestToHead, (gen_orderedAddAtFront _ _).mpr (Or.inr hrh), if_true]
    have hw := wf_linkFront h.wf hio hib
    rw [← hreg] at hw
    refine { wf := hw.1, order := by rw [hw.2, h.order]; rfl, olink := h.olink.push hic, agree := ?_,
             sorted := hs }
    intro c hc
    rw [hreg]
    show setNext o.reg.next i o.reg.head c = setNext o.onext i o.ohead c
    rw [hrh]
    exact setNext_congr _ fun e => h.agree c (by simpa [e] using hc)
  · -- behind the last plain test `p`: `getTestWithNext(head)->addTest(test); test->addTest(head);`
    rw [List.concat_eq_append, List.append_assoc] at hi hnd hlk
    have hord : o.reg.order = a ++ p :: chain := by rw [h.order, List.concat_eq_append, List.append_assoc]; rfl
    have hpi : p ≠ i := fun e => hi (by simp [e])
    have hnp : o.reg.next p = o.ohead := hoh ▸ Linked.next_of_mid a p chain hlk
    have hpc : p ∉ chain := (List.nodup_cons.mp (List.nodup_append.mp hnd).2.1).1
    have hcond : ¬ (o.reg.head = none ∨ o.ohead = o.reg.head) := by
      -- the head is a plain test: it exists and is not in the chain
      obtain ⟨x, hx, hxm⟩ : ∃ x, o.reg.head = some x ∧ x ∈ a ++ [p] := by
        rw [hlk.head_eq]; cases a <;> simp
      rw [hx, hoh]
      rintro (e | e)
      · cases e
      · have := (List.nodup_append.mp (h.order ▸ h.wf.nodup)).2.2 x (by simpa using hxm) x
          (List.mem_of_mem_head? (by rw [e]; rfl))
        exact this rfl
    have hreg : (o.addOrderedTestToHead i).reg =
        { o.reg with next := setNext (setNext o.reg.next i (o.reg.next p)) p (some i) } := by
      have hcond' : Gen.Registry.orderedAddAtFront (o.reg.head == none) (o.ohead == o.reg.head) = false :=
        Bool.eq_false_iff.mpr (fun hb => hcond ((gen_orderedAddAtFront _ _).mp hb))
      have hprev : prevId o.ohead o.reg.order = some p := by
        rw [hord, hoh]; exact prevId_head? a p chain hnd
      simp only [OReg.addOrderedTestToHead, hcond', Bool.false_eq_true, if_false, hprev,
        setNext_comm _ p i _ _ hpi, hnp]
    have hw := wf_insertAfter h.wf hord hio hib
    rw [← hreg] at hw
    refine { wf := hw.1, order := by rw [hw.2, List.concat_eq_append, List.append_assoc]; rfl,
             olink := h.olink.push hic, agree := ?_, sorted := hs }
    intro c hc
    rw [hreg]
    rw [setNext_comm _ i p _ _ hpi.symm, hnp]
    refine setNext_congr _ fun e => ?_
    have hcc : c ∈ chain := by simpa [e] using hc
    rw [setNext_of_ne _ _ (fun e' : c = p => hpc (e' ▸ hcc))]
    exact h.agree c hcc

/-- the loop of `addOrderedTestInOrderNotAtHeadPosition`, from `cur` with the chain `a ++ cur :: b`: the new shell
    is linked into the rest `b` where `insLvl` puts it -/
theorem oinv_insertLoop {o : OReg} {pre : List Nat} {i : Nat} (hi : i ∉ o.reg.order)
    (hib : i < o.reg.objs.size) :
    ∀ (b a : List Nat) (cur f : Nat), OInv o pre (a ++ cur :: b) → b.length < f →
      (a ++ cur :: insLvl o.level (o.level i) i b).Pairwise (fun x y => o.level x ≤ o.level y) →
      OInv (o.insertLoop i f cur) pre (a ++ cur :: insLvl o.level (o.level i) i b)
  | _, _, _, 0, _, hf, _ => by simp at hf
  | [], a, cur, f + 1, h, _, hs => by
    have hn : o.onext cur = none := by simpa using Linked.next_of_mid a cur [] h.olink
    rw [OReg.insertLoop, hn]
    exact oinv_linkAfter h hi hib hs
  | x :: b, a, cur, f + 1, h, hf, hs => by
    have hn : o.onext cur = some x := by simpa using Linked.next_of_mid a cur (x :: b) h.olink
    by_cases hx : o.level x ≤ o.level i
    · rw [insLvl_cons_le i b hx] at hs ⊢
      simp only [OReg.insertLoop, hn, gen_orderedStopBefore, decide_eq_false (Int.not_lt.mpr hx)]
      simpa using oinv_insertLoop hi hib b (a ++ [cur]) x f (by simpa using h) (by simpa using hf)
        (by simpa using hs)
    · rw [insLvl_cons_gt i b hx] at hs ⊢
      simp only [OReg.insertLoop, hn, gen_orderedStopBefore, decide_eq_true (Int.not_le.mp hx)]
      exact oinv_linkAfter h hi hib hs

theorem oinv_linkOrdered {o : OReg} {pre chain : List Nat} (h : OInv o pre chain) (i : Nat)
    (hi : i ∉ pre ++ chain) (hib : i < o.reg.objs.size) :
    OInv (o.linkOrdered i) pre (insLvl o.level (o.level i) i chain) := by
  have hsorted : (insLvl o.level (o.level i) i chain).Pairwise (fun a b => o.level a ≤ o.level b) :=
    insLvl_pairwise (R := fun a b => o.level a ≤ o.level b) (fun _ _ _ => Int.le_trans) o.level
      (o.level i) i chain h.sorted
      (fun _ _ hle => hle) (fun _ _ hlt => Int.le_of_lt hlt)
  -- the two ways the installer links
  have hcase : (o.linkOrdered i = o.addOrderedTestToHead i ∧
        insLvl o.level (o.level i) i chain = i :: chain) ∨
      ∃ hd t, chain = hd :: t ∧ o.level hd ≤ o.level i ∧
        o.linkOrdered i = o.insertLoop i o.reg.objs.size hd := by
    have hl := h.olink
    cases hoh : o.ohead with
    | none =>
      rw [hoh] at hl; cases hl
      exact Or.inl ⟨by simp only [OReg.linkOrdered, hoh], rfl⟩
    | some hd =>
      rw [hoh] at hl
      cases hl with
      | @cons _ t _ =>
        by_cases hlt : o.level i < o.level hd
        · exact Or.inl ⟨by simp only [OReg.linkOrdered, hoh, gen_orderedBeforeHead, hlt, decide_true, if_true],
            insLvl_cons_gt i t (Int.not_le.mpr hlt)⟩
        · exact Or.inr ⟨hd, t, rfl, Int.not_lt.mp hlt, by simp only [OReg.linkOrdered, hoh,
            gen_orderedBeforeHead, hlt, decide_false, Bool.false_eq_true, if_false]⟩
  rcases hcase with ⟨heq, hins⟩ | ⟨hd, t, rfl, hle, hlo⟩
  · rw [hins] at hsorted ⊢
    rw [heq]
    exact oinv_toHead h i hi hib hsorted
  · have hlen : t.length < o.reg.objs.size := by
      have := h.wf.order_length_le
      rw [h.order] at this
      simp at this
      omega
    rw [insLvl_cons_le i t hle] at hsorted ⊢
    rw [hlo]
    exact oinv_insertLoop (h.order ▸ hi) hib t [] hd _ h hlen hsorted

theorem oinv_install {o : OReg} {pre chain : List Nat} (h : OInv o pre chain) (lvl : Int)
    (g n f : Bytes) (line : Nat) :
    OInv (o.install lvl g n f line) pre (insLvl o.level lvl o.reg.objs.size chain) ∧
    (o.install lvl g n f line).reg.objs.size = o.reg.objs.size + 1 ∧
    (o.install lvl g n f line).level = (fun k => if k = o.reg.objs.size then lvl else o.level k) := by
  obtain ⟨h1, hnot⟩ := oinv_created h lvl g n f line
  have hsz : (o.created lvl g n f line).reg.objs.size = o.reg.objs.size + 1 := by
    simp [OReg.created, Reg.newShell]
  have k1 := oinv_linkOrdered h1 o.reg.objs.size hnot (by omega)
  obtain ⟨k2, k3⟩ := linkOrdered_keeps (o.created lvl g n f line) o.reg.objs.size
  -- on the chain the levels are the old ones, and the new shell's level is `lvl`
  have hins : insLvl (o.created lvl g n f line).level
      ((o.created lvl g n f line).level o.reg.objs.size) o.reg.objs.size chain =
      insLvl o.level lvl o.reg.objs.size chain := by
    rw [show (o.created lvl g n f line).level o.reg.objs.size = lvl by simp [OReg.created]]
    apply insLvl_congr
    intro c hc
    have : c ≠ o.reg.objs.size := fun e => hnot (by simp [← e, hc])
    simp [OReg.created, this]
  rw [hins] at k1
  exact ⟨k1, (congrArg Array.size k3).trans hsz, k2⟩

end Registry
