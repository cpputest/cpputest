import CppUModel.Proofs.Mock
/-! Output parameters, full statement (C08): the caller's buffers with the consumed expectation's
    bytes copied over their beginning — nothing else is ever written. -/
namespace Mock

/-! ### what the copy reads -/

theorem copyOne_norm (e : Exp) (b : String × List UInt8) : copyOne e.norm b = copyOne e b := by
  simp only [copyOne, Exp.norm, Exp.reset, find_unpassO]
  cases e.outs.find? (fun p => p.name == b.1) <;> rfl

theorem copyOutputs_norm (e : Exp) (bufs : List (String × List UInt8)) : copyOutputs e.norm bufs = copyOutputs e bufs := by
  unfold copyOutputs
  apply List.map_congr_left
  intro b _
  exact copyOne_norm e b

theorem copyOutputs_static {a b : Exp} (h : a.norm = b.norm) (bufs : List (String × List UInt8)) :
    copyOutputs a bufs = copyOutputs b bufs :=
  static_eq (fun e => copyOutputs e bufs) (fun e => copyOutputs_norm e bufs) h

theorem copyOne_fst (e : Exp) (b : String × List UInt8) : (copyOne e b).1 = b.1 := by
  unfold copyOne
  split <;> rfl

theorem copyOutputs_names (e : Exp) (bufs : List (String × List UInt8)) : (copyOutputs e bufs).map (·.1) = bufs.map (·.1) := by
  simp [copyOutputs, List.map_map, Function.comp_def, copyOne_fst]

/-- the registered output buffers are those of the steps made so far, and while an expectation
    is the match the buffers hold a copy of its output bytes -/
structure BufOK (pre : List Seg) (cs : CS) : Prop where
  regs : cs.call.bufs.map (·.1) = outNames pre
  copied : ∀ x ∈ cs.es, x.isMatch = true → ∃ b0, cs.call.bufs = copyOutputs x b0 ∧ b0.map (·.1) = outNames pre

/-! ### the buffers during a call -/

/-- the registered output buffers as the caller handed them in -/
def regs (buf : List UInt8) (pre : List Seg) : List (String × List UInt8) := (outNames pre).map (fun n => (n, buf))

theorem regs_snoc (buf : List UInt8) (pre : List Seg) (s : Seg) :
    regs buf (pre ++ [s]) = regs buf pre ++ (match s with | .out n => [(n, buf)] | _ => []) := by
  rw [regs, outNames_snoc, List.map_append]
  cases s <;> rfl

theorem regs_names (buf : List UInt8) (pre : List Seg) : (regs buf pre).map (·.1) = outNames pre := by
  simp [regs, List.map_map, Function.comp_def]

/-- while no expectation is the match the buffers are untouched; while one is, they are the
    untouched buffers with its bytes copied in -/
structure BufExact (R : List (String × List UInt8)) (cs : CS) : Prop where
  nom : anyMatch cs.es = false → cs.call.bufs = R
  mat : ∀ x ∈ cs.es, x.isMatch = true → cs.call.bufs = copyOutputs x R

theorem complete_bufExact {R : List (String × List UInt8)} {cs : CS} (hb : cs.call.bufs = R)
    (hnom : ∀ x ∈ cs.es, x.isMatch = false) (hplain : ∀ x ∈ cs.es, x.iop = false) : BufExact R (complete cs) := by
  unfold complete
  cases hfind : cs.es.find? isMF with
  | some e =>
    obtain ⟨l1, l2, hl, _, _, hmod⟩ := find_decomp hfind
    simp only [hmod]
    refine ⟨fun h => ?_, ?_⟩
    · rw [anyMatch_of_pos (by rfl : e.take.isMatch = true)] at h; cases h
    · intro y hy hym
      simp only [List.mem_append, List.mem_cons] at hy
      rcases hy with hy | rfl | hy
      · rw [hnom y (by rw [hl]; simp [hy])] at hym; cases hym
      · rw [hb]; rfl
      · rw [hnom y (by rw [hl]; simp [hy])] at hym; cases hym
  | none =>
    have : cs.es.find? isM = none := by
      rw [ListLemmas.find?_congr (fun a ha => isM_eq_isMF (hplain a ha)), hfind]
    simp only [this]
    exact ⟨fun _ => hb, fun y hy hym => by rw [hnom y hy] at hym; cases hym⟩

/-- when the call is going to be fulfilled, no expectation is the match before one of the call's parameters: a
    complete expectation would be of the wanted one's class (which still lacks the parameter) or in conflict with it -/
theorem no_match_before_param {c : Call} {es : List Exp} {pre rest : List Seg} {s : Seg} {cs : CS}
    (hsegs : c.segs = pre ++ s :: rest) (h : InFlight c es pre cs) (hun : UnambiguousI es) (hwfe : ∀ e ∈ es, WFExp e)
    (hW : es.any (wants c) = true)
    (hfresh : Fresh pre s) : anyMatch cs.es = false := by
  obtain ⟨f, hf, hfw⟩ := List.any_eq_true.mp hW
  rw [h.es, anyMatch_view]
  refine List.any_eq_false.mpr (fun y hy hmf => ?_)
  obtain ⟨x, hx, rfl⟩ := List.mem_map.mp hy
  obtain ⟨xa, xc, xv, xi⟩ := isMF_inFlight_iff.mp hmf
  obtain ⟨fa, fc⟩ := Bool.and_eq_true_iff.mp (alive_compat_of_wants (pre := pre) hfw hsegs)
  have hs := hun.sameClass_of_compat hwfe hx hf ((name_of_alive xa).trans (name_of_alive fa).symm) xc fc xv
  have h1 := hfresh f (by rw [← sameClass_iop hs]; exact xi) (by rw [covered_eq_of_sameClass pre (sameClass_symm hs)]; exact xv)
  rw [compatSeg_of_wants hfw (by rw [hsegs]; simp)] at h1; cases h1

theorem pruneThen_bufExact {f : Exp → Exp} {msg : String} {cs : CS} {R : List (String × List UInt8)}
    (hs : cs.call.state ≠ .failed) (hb : cs.call.bufs = R) (hnom : ∀ x ∈ cs.es, (f x).isMatch = false)
    (hn : ∀ x, (f x).norm = x.norm) (hpl : Plain cs.es) (hf : (pruneThen f msg cs).fail = none) :
    BufExact R (pruneThen f msg cs) := by
  unfold pruneThen at hf ⊢
  split
  · exact complete_bufExact hb (fun y hy => by obtain ⟨x, hx, rfl⟩ := List.mem_map.mp hy; exact hnom x hx)
      ((static_list_iff Plain plain_map_norm (map_map_norm _ hn _)).mpr hpl)
  · next hc =>
    rw [if_neg hc] at hf
    exact absurd hf (failCall_ne_none_of_state _ _ hs)

theorem checkParam_bufExact {s : Seg} {msg : String} {cs : CS} {R : List (String × List UInt8)}
    (hs : cs.call.state ≠ .failed) (hpl : Plain cs.es) (hb : cs.call.bufs = R)
    (hf : (checkParam cs (fun e => compatSeg e s) (passOf s) msg).fail = none) :
    BufExact R (checkParam cs (fun e => compatSeg e s) (passOf s) msg) := by
  rw [checkParam_eq s msg hs] at hf ⊢
  exact pruneThen_bufExact (by simp) hb (fun x _ => paramE_isMatch s x) (paramE_norm s) hpl hf

theorem onObject_bufExact {o : Nat} {cs : CS} {R : List (String × List UInt8)}
    (hs : cs.call.state ≠ .failed) (hpl : Plain cs.es) (hb : BufExact R cs) (hf : (onObject cs o).fail = none) :
    BufExact R (onObject cs o) := by
  rw [onObject_eq o hs] at hf ⊢
  cases hm : anyMatch cs.es with
  | true =>
    simp only [if_true]
    refine ⟨fun h => ?_, ?_⟩
    · rw [anyMatch_map_objE, hm] at h; cases h
    · intro y hy hym
      obtain ⟨x, hx, rfl⟩ := List.mem_map.mp hy
      rw [objE_isMatch] at hym
      rw [copyOutputs_static (objE_norm o x)]
      exact hb.mat x hx hym
  | false =>
    rw [hm] at hf
    exact pruneThen_bufExact hs (hb.nom hm)
      (fun x hx => by rw [objE_isMatch]; exact (anyMatch_false_iff _).mp hm x hx) (objE_norm o) hpl hf

theorem withName_bufExact {c : Call} {es : List Exp} (k : Nat) (hplain : Plain es) (buf : List UInt8)
    (hf : (callStart es k c.name).fail = none) :
    BufExact (regs buf []) (callStart es k c.name) := by
  rw [withName_eq] at hf ⊢
  exact pruneThen_bufExact (by simp) rfl (fun _ _ => rfl) (initE_norm c.name) hplain hf

theorem segsFrom_bufExact {c : Call} {es : List Exp} (buf : List UInt8) (hwf : WFCall c)
    (hpe : Plain es) (hun : UnambiguousI es) (hwfe : ∀ e ∈ es, WFExp e) (hW : es.any (wants c) = true) :
    ∀ (rest pre : List Seg) (cs : CS), c.segs = pre ++ rest → InFlight c es pre cs → BufExact (regs buf pre) cs →
      BufExact (regs buf c.segs) (segsFrom cs buf rest)
  | [], pre, cs, hsegs, _, hb => by
    have : c.segs = pre := by simpa using hsegs
    rw [this]; exact hb
  | s :: rest, pre, cs, hsegs, h, hb => by
    have hpl : Plain cs.es := (static_list_iff Plain plain_map_norm (by rw [h.es, view_norm])).mpr hpe
    have hnext := applySeg_view buf hun hwfe hwf hsegs h
    obtain ⟨f, hf, hfw⟩ := List.any_eq_true.mp hW
    rw [if_pos (List.any_eq_true.mpr ⟨f, hf, alive_compat_of_wants (rest := rest) hfw (by simp [hsegs])⟩)] at hnext
    simp only [segsFrom, h.nofail, Option.isSome_none, Bool.false_eq_true, if_false]
    refine segsFrom_bufExact buf hwf hpe hun hwfe hW rest (pre ++ [s]) _ (by simp [hsegs]) hnext ?_
    cases s with
    | inp n v =>
      have hnom := no_match_before_param hsegs h hun hwfe hW (fresh_param hsegs hwf rfl)
      exact checkParam_bufExact (s := .inp n v) h.state_ne_failed hpl (by rw [regs_snoc, List.append_nil]; exact hb.nom hnom) hnext.nofail
    | out n =>
      have hnom := no_match_before_param hsegs h hun hwfe hW (fresh_param hsegs hwf rfl)
      exact checkParam_bufExact (s := .out n) (cs := { cs with call := { cs.call with bufs := cs.call.bufs ++ [(n, buf)] } })
        h.state_ne_failed hpl (by rw [regs_snoc, hb.nom hnom]) hnext.nofail
    | obj o =>
      rw [regs_snoc, List.append_nil]
      exact onObject_bufExact h.state_ne_failed hpl hb hnext.nofail

theorem callFull_outputs_full {es : List Exp} {c : Call} (k : Nat) (buf : List UInt8)
    (hclean : Clean es) (hplain : Plain es) (hun : Unambiguous es) (hwfe : ∀ e ∈ es, WFExp e) (hwf : WFCall c)
    (hok : (callFull es k c.name c.segs buf).fail = none) :
    ∃ x, es.find? (wants c) = some x ∧
      (callFull es k c.name c.segs buf).call.bufs = copyOutputs x ((outNames c.segs).map (fun n => (n, buf))) := by
  have hunI := unambiguousI_of_plain hplain hwfe hun
  have hW := (callFull_fail_none_iff k buf ⟨hclean, hunI, hwfe⟩ hwf).mp hok
  obtain ⟨x, l1, l2, hl, hxw, hl1, _⟩ := decomp_of_any hW
  refine ⟨x, by rw [hl]; exact List.find?_eq_some_iff_append.mpr ⟨hxw, l1, l2, rfl, by simpa using hl1⟩, ?_⟩
  have h0 := withName_view (c := c) k hclean
  rw [if_pos (any_alive_of_wants hW)] at h0
  have hbuf := segsFrom_bufExact buf hwf hplain hunI hwfe hW c.segs [] _ (by simp) h0 (withName_bufExact k hplain buf h0.nofail)
  -- the first wanted expectation was taken during the steps, and the buffers hold its bytes
  have hes := (steps_inFlight k buf hclean hunI hwfe hwf hW).es.trans
    (hl ▸ view_of_first_wanted hl1 hxw (hplain x (by rw [hl]; simp)))
  rw [callFull_eq, callCheck_bufs, hbuf.mat (inFlight c c.segs x).take (by rw [hes]; simp) rfl]
  exact copyOutputs_static ((norm_take _).trans (inFlight_norm c c.segs x)) _

theorem callFull_outputs {es : List Exp} {c : Call} (k : Nat) (buf : List UInt8)
    (hclean : Clean es) (hplain : Plain es) (hun : Unambiguous es) (hwfe : ∀ e ∈ es, WFExp e) (hwf : WFCall c)
    (hok : (callFull es k c.name c.segs buf).fail = none) :
    ∃ x b0, es.find? (wants c) = some x ∧ (callFull es k c.name c.segs buf).call.bufs = copyOutputs x b0 ∧
      b0.map (·.1) = outNames c.segs := by
  obtain ⟨x, hx, hb⟩ := callFull_outputs_full k buf hclean hplain hun hwfe hwf hok
  exact ⟨x, _, hx, hb, regs_names buf c.segs⟩

end Mock
