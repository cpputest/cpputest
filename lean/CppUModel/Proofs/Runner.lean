import CppUModel.Spec.Runner
import CppUModel.Proofs.ListLemmas
/-!
The operational runner model (`Model/Runner.lean`) in closed form, level by level: a phase, `Utest::run`, the plugin
actions, one test (up to here the event list itself is given, `core evs = trace`), then test mode, registry loop,
repetitions and the whole run, and the exception that leaves the run in rethrow mode.  The outcome records that the
property statements of `Props/C01.lean` are written with are defined here, each before the theorem that establishes it.
-/
namespace Runner

/-! ## projections distribute

Each projection is a `filterMap` (`Spec/Runner.lean`); its three facts are stated under its name so that `simp` finds them
by the head symbol. -/

@[simp] theorem failuresOf_nil : failuresOf [] = [] := rfl
@[simp] theorem failuresOf_append (a b : List Ev) : failuresOf (a ++ b) = failuresOf a ++ failuresOf b := by
  simp [failuresOf, List.filterMap_append]
@[simp] theorem failuresOf_cons (e : Ev) (l : List Ev) :
    failuresOf (e :: l) = (Ev.failure? e).toList ++ failuresOf l :=
  ListLemmas.filterMap_cons_toList _ e l

@[simp] theorem recordsOf_nil : recordsOf [] = [] := rfl
@[simp] theorem recordsOf_append (a b : List Ev) : recordsOf (a ++ b) = recordsOf a ++ recordsOf b := by
  simp [recordsOf, List.filterMap_append]
@[simp] theorem recordsOf_cons (e : Ev) (l : List Ev) :
    recordsOf (e :: l) = (Ev.record? e).toList ++ recordsOf l :=
  ListLemmas.filterMap_cons_toList _ e l

@[simp] theorem marksIn_nil : marksIn [] = [] := rfl
@[simp] theorem marksIn_append (a b : List Ev) : marksIn (a ++ b) = marksIn a ++ marksIn b := by
  simp [marksIn, List.filterMap_append]
@[simp] theorem marksIn_cons (e : Ev) (l : List Ev) :
    marksIn (e :: l) = (Ev.mark? e).toList ++ marksIn l :=
  ListLemmas.filterMap_cons_toList _ e l

@[simp] theorem entersOf_nil : entersOf [] = [] := rfl
@[simp] theorem entersOf_append (a b : List Ev) : entersOf (a ++ b) = entersOf a ++ entersOf b := by
  simp [entersOf, List.filterMap_append]
@[simp] theorem entersOf_cons (e : Ev) (l : List Ev) :
    entersOf (e :: l) = (Ev.enter? e).toList ++ entersOf l :=
  ListLemmas.filterMap_cons_toList _ e l

@[simp] theorem summariesOf_nil : summariesOf [] = [] := rfl
@[simp] theorem summariesOf_append (a b : List Ev) : summariesOf (a ++ b) = summariesOf a ++ summariesOf b := by
  simp [summariesOf, List.filterMap_append]
@[simp] theorem summariesOf_cons (e : Ev) (l : List Ev) :
    summariesOf (e :: l) = (Ev.summary? e).toList ++ summariesOf l :=
  ListLemmas.filterMap_cons_toList _ e l

@[simp] theorem endedOf_nil : endedOf [] = [] := rfl
@[simp] theorem endedOf_append (a b : List Ev) : endedOf (a ++ b) = endedOf a ++ endedOf b := by
  simp [endedOf, List.filterMap_append]
@[simp] theorem endedOf_cons (e : Ev) (l : List Ev) :
    endedOf (e :: l) = (Ev.ended? e).toList ++ endedOf l :=
  ListLemmas.filterMap_cons_toList _ e l

@[simp] theorem plainToksOf_nil : plainToksOf [] = [] := rfl
@[simp] theorem plainToksOf_append (a b : List Ev) : plainToksOf (a ++ b) = plainToksOf a ++ plainToksOf b := by
  simp [plainToksOf, List.filterMap_append]
@[simp] theorem plainToksOf_cons (e : Ev) (l : List Ev) :
    plainToksOf (e :: l) = (Ev.tok? e).toList ++ plainToksOf l :=
  ListLemmas.filterMap_cons_toList _ e l

@[simp] theorem clocksOf_nil : clocksOf [] = [] := rfl
@[simp] theorem clocksOf_append (a b : List Ev) : clocksOf (a ++ b) = clocksOf a ++ clocksOf b := by
  simp [clocksOf, List.filterMap_append]
@[simp] theorem clocksOf_cons (e : Ev) (l : List Ev) :
    clocksOf (e :: l) = (Ev.clock? e).toList ++ clocksOf l :=
  ListLemmas.filterMap_cons_toList _ e l

theorem outcome_fails (k : CheckKind) (pass : Bool) : (k.outcome pass).fails = k.failsWhen pass := by
  cases k <;> cases pass <;> decide +kernel

/-- the count of C03's model on the harness' operands is the documented rule: every check counts one, except a
    `CHECK_COMPARE` that holds, which counts none (for all operands: `Asserts.assert_family_counts_one`,
    `Asserts.integer_macros_count_one`, `Asserts.compare_pass_counts_zero` of Props/C03.lean); here the 31 kinds are run -/
theorem outcome_counted (k : CheckKind) (pass : Bool) : (k.outcome pass).counted = k.countsWhen pass := by
  cases k <;> cases pass <;> rfl

/-! ## one phase -/

/-- the failing checks among the executed statements (exceptions are recorded by the catch clauses) -/
def Stmt.checkFailure (cfg : Cfg) (t : Test) : Stmt → Option FailRec
  | .failCpp loc msg => some (mkRec cfg t loc msg)
  | .failC loc msg => some (mkRec cfg t loc msg)
  | .check k pass loc msg => if k.failsWhen pass then some (mkRec cfg t loc msg) else none
  | _ => none

def checkFailures (cfg : Cfg) (t : Test) (p : List Stmt) : List FailRec :=
  (executed cfg.exceptions p).filterMap (Stmt.checkFailure cfg t)

def exitOf (exc : Bool) : List Stmt → Exit
  | [] => .normal
  | .failCpp _ _ :: _ => if exc then .exc .failed else .longjmp
  | .failC _ _ :: _ => .longjmp
  | .exitTest :: _ => if exc then .exc .failed else .longjmp
  | .exitTestC :: _ => .longjmp
  | .throwStd :: rest => if exc then .exc .std else exitOf exc rest
  | .throwOther :: rest => if exc then .exc .other else exitOf exc rest
  | .mark _ :: rest => exitOf exc rest
  | .checkPass :: rest => exitOf exc rest
  | .check k pass _ _ :: rest =>
    if k.failsWhen pass then (if k.isC then .longjmp else if exc then .exc .failed else .longjmp)
    else exitOf exc rest

/-- the record the catch clauses add for an escaping exception -/
def excRecs (cfg : Cfg) (t : Test) : Exit → List FailRec
  | .exc .std => [mkRecAtTest cfg t cfg.stdExcMsg]
  | .exc .other => [mkRecAtTest cfg t cfg.otherExcMsg]
  | _ => []

@[simp] theorem term_mark (exc : Bool) (n : Nat) : (Stmt.mark n).terminates exc = false := rfl
@[simp] theorem term_checkPass (exc : Bool) : Stmt.checkPass.terminates exc = false := rfl
@[simp] theorem term_failCpp (exc : Bool) (l : Loc) (m : String) : (Stmt.failCpp l m).terminates exc = true := rfl
@[simp] theorem term_failC (exc : Bool) (l : Loc) (m : String) : (Stmt.failC l m).terminates exc = true := rfl
@[simp] theorem term_exitTest (exc : Bool) : Stmt.exitTest.terminates exc = true := rfl
@[simp] theorem term_exitTestC (exc : Bool) : Stmt.exitTestC.terminates exc = true := rfl
@[simp] theorem term_check (exc : Bool) (k : CheckKind) (pass : Bool) (l : Loc) (m : String) :
    (Stmt.check k pass l m).terminates exc = k.failsWhen pass := rfl
@[simp] theorem term_throwStd (exc : Bool) : Stmt.throwStd.terminates exc = exc := rfl
@[simp] theorem term_throwOther (exc : Bool) : Stmt.throwOther.terminates exc = exc := rfl

@[simp] theorem executed_nil (exc : Bool) : executed exc [] = [] := rfl
@[simp] theorem executed_cons (exc : Bool) (s : Stmt) (rest : List Stmt) :
    executed exc (s :: rest) = if s.terminates exc then [s] else s :: executed exc rest := rfl

@[simp] theorem completes_nil (exc : Bool) : completes exc [] = true := rfl
theorem completes_cons (exc : Bool) (x : Stmt) (a : List Stmt) :
    completes exc (x :: a) = (!x.terminates exc && completes exc a) := by simp [completes]
theorem completes_append (exc : Bool) (a b : List Stmt) : completes exc (a ++ b) = (completes exc a && completes exc b) := by
  simp [completes, Bool.not_or]
theorem completes_of_forall {exc : Bool} {p : List Stmt} (h : ∀ x ∈ p, x.terminates exc = false) : completes exc p = true := by
  simpa [completes] using h

/-- how a statement that ends its phase leaves it -/
def Stmt.exit (exc : Bool) : Stmt → Exit
  | .failC _ _ => .longjmp
  | .exitTestC => .longjmp
  | .throwStd => .exc .std
  | .throwOther => .exc .other
  | .check k _ _ _ => if k.isC then .longjmp else if exc then .exc .failed else .longjmp
  | _ => if exc then .exc .failed else .longjmp

theorem exitOf_cons (exc : Bool) (s : Stmt) (rest : List Stmt) :
    exitOf exc (s :: rest) = if s.terminates exc then s.exit exc else exitOf exc rest := by
  cases s <;> cases exc <;> simp [exitOf, Stmt.exit]

theorem executed_append (exc : Bool) : ∀ (a b : List Stmt),
    executed exc (a ++ b) = if completes exc a then a ++ executed exc b else executed exc a
  | [], b => by simp
  | x :: a, b => by
    have ih := executed_append exc a b
    cases hx : x.terminates exc <;> cases hc : completes exc a <;> simp [hx, hc, ih, completes_cons]

theorem exitOf_append (exc : Bool) : ∀ (a b : List Stmt),
    exitOf exc (a ++ b) = if completes exc a then exitOf exc b else exitOf exc a
  | [], b => by simp
  | x :: a, b => by
    have ih := exitOf_append exc a b
    cases hx : x.terminates exc <;> cases hc : completes exc a <;> simp [hx, hc, ih, completes_cons, exitOf_cons]

theorem executed_append_of_terminates {exc : Bool} {s : Stmt} (hs : s.terminates exc = true) (post pre : List Stmt) :
    executed exc (pre ++ s :: post) = executed exc (pre ++ [s]) := by
  simp [executed_append, hs]

theorem exitOf_append_of_terminates {exc : Bool} {s : Stmt} (hs : s.terminates exc = true) (post pre : List Stmt) :
    exitOf exc (pre ++ s :: post) = exitOf exc (pre ++ [s]) := by
  simp [exitOf_append, exitOf_cons, hs]

theorem executed_eq_self {exc : Bool} {p : List Stmt} (h : ∀ x ∈ p, x.terminates exc = false) : executed exc p = p := by
  simpa [completes_of_forall h] using executed_append exc p []

theorem Stmt.exit_ne_normal (exc : Bool) (s : Stmt) : s.exit exc ≠ .normal := by
  cases s <;> cases exc <;> simp [Stmt.exit] <;> split <;> simp

def Stmt.ev (cfg : Cfg) (t : Test) (ph : Phase) (d : Int) : Stmt → Option Ev
  | .mark n => some (.mark ph n d)
  | s => (s.checkFailure cfg t).map .failure

theorem runStmts_eq (cfg : Cfg) (t : Test) (ph : Phase) (d : Int) :
    ∀ (p : List Stmt) (res : Result) (hf : Bool),
      runStmts cfg t ph d res hf p =
        ⟨{ res with checkCount := res.checkCount + checksOf (executed cfg.exceptions p),
                    failureCount := res.failureCount + (checkFailures cfg t p).length },
         hf || !(checkFailures cfg t p).isEmpty,
         (executed cfg.exceptions p).filterMap (Stmt.ev cfg t ph d),
         exitOf cfg.exceptions p⟩
  | [], res, hf => by simp [runStmts, checksOf, checkFailures, exitOf]
  | s :: rest, res, hf => by
    have ih := runStmts_eq cfg t ph d rest
    simp only [checkFailures, checksOf] at ih ⊢
    cases hexc : cfg.exceptions <;> simp only [hexc] at ih <;>
    (cases s with
      | check k pass loc msg =>
        cases hfw : k.failsWhen pass <;>
          simp [runStmts, Stmt.ev, Stmt.checkFailure, Stmt.checkCount, exitOf, normalTerminator, ih, hexc,
            Result.countChecks, Result.countFailure, outcome_fails, outcome_counted, hfw,
            Nat.add_assoc]
      | _ =>
        simp [runStmts, PhaseOut.cons, Stmt.ev, Stmt.checkFailure, Stmt.checkCount, exitOf, normalTerminator, ih, hexc,
          List.filterMap_cons, Result.countCheck, Result.countFailure, Nat.add_assoc])

theorem Stmt.ev_mark? (cfg : Cfg) (t : Test) (ph : Phase) (d : Int) (s : Stmt) :
    (s.ev cfg t ph d).bind Ev.mark? = s.markNo.map (fun n => (ph, n)) := by
  cases s <;> simp [Stmt.ev, Stmt.checkFailure, Stmt.markNo, Ev.mark?]

theorem Stmt.ev_failure? (cfg : Cfg) (t : Test) (ph : Phase) (d : Int) (s : Stmt) :
    (s.ev cfg t ph d).bind Ev.failure? = s.checkFailure cfg t ∧
    (s.ev cfg t ph d).bind Ev.record? = s.checkFailure cfg t := by
  cases s with
  | check k pass loc msg => cases h : k.failsWhen pass <;> simp [Stmt.ev, Stmt.checkFailure, Ev.failure?, Ev.record?, h]
  | _ => simp [Stmt.ev, Stmt.checkFailure, Ev.failure?, Ev.record?]

theorem Stmt.ev_inert (cfg : Cfg) (t : Test) (ph : Phase) (d : Int) (s : Stmt) :
    (s.ev cfg t ph d).bind Ev.enter? = none ∧ (s.ev cfg t ph d).bind Ev.summary? = none ∧
    (s.ev cfg t ph d).bind Ev.ended? = none ∧ (s.ev cfg t ph d).bind Ev.tok? = none := by
  cases s <;> simp [Stmt.ev, Stmt.checkFailure, Ev.enter?, Ev.summary?, Ev.ended?, Ev.tok?]

theorem runStmts_marks (cfg : Cfg) (t : Test) (ph : Phase) (d : Int) (p : List Stmt) (res : Result) (hf : Bool) :
    marksIn (runStmts cfg t ph d res hf p).evs = (marksOf (executed cfg.exceptions p)).map (fun n => (ph, n)) := by
  simp only [runStmts_eq, marksIn, marksOf, List.filterMap_filterMap, List.map_filterMap, Stmt.ev_mark?]

theorem runStmts_failures (cfg : Cfg) (t : Test) (ph : Phase) (d : Int) (p : List Stmt) (res : Result) (hf : Bool) :
    failuresOf (runStmts cfg t ph d res hf p).evs = checkFailures cfg t p := by
  simp only [runStmts_eq, failuresOf, checkFailures, List.filterMap_filterMap, Stmt.ev_failure?]

theorem runStmts_exit (cfg : Cfg) (t : Test) (ph : Phase) (d : Int) (p : List Stmt) (res : Result) (hf : Bool) :
    (runStmts cfg t ph d res hf p).exit = exitOf cfg.exceptions p :=
  congrArg PhaseOut.exit (runStmts_eq cfg t ph d p res hf)

theorem runStmts_res (cfg : Cfg) (t : Test) (ph : Phase) (d : Int) (p : List Stmt) (res : Result) (hf : Bool) :
    (runStmts cfg t ph d res hf p).res =
      { res with checkCount := res.checkCount + checksOf (executed cfg.exceptions p),
                 failureCount := res.failureCount + (checkFailures cfg t p).length } :=
  congrArg PhaseOut.res (runStmts_eq cfg t ph d p res hf)

theorem runStmts_hasFailed (cfg : Cfg) (t : Test) (ph : Phase) (d : Int) (p : List Stmt) (res : Result) (hf : Bool) :
    (runStmts cfg t ph d res hf p).hasFailed = (hf || !(checkFailures cfg t p).isEmpty) :=
  congrArg PhaseOut.hasFailed (runStmts_eq cfg t ph d p res hf)

theorem exitOf_normal_iff (exc : Bool) : ∀ (p : List Stmt), exitOf exc p = .normal ↔ completes exc p = true
  | [] => by simp [exitOf]
  | s :: rest => by
    have ih := exitOf_normal_iff exc rest
    cases h : s.terminates exc <;> simp [exitOf_cons, completes_cons, h, ih, Stmt.exit_ne_normal]

/-- the record the property demands of a statement is that of its failing check, or — when it ends the
    phase with a std / foreign exception — the one the catch clause adds -/
theorem Stmt.failure_eq (cfg : Cfg) (t : Test) (s : Stmt) :
    (s.failure cfg t).toList = (s.checkFailure cfg t).toList ++
      (if s.terminates cfg.exceptions then excRecs cfg t (s.exit cfg.exceptions) else []) := by
  cases hexc : cfg.exceptions <;>
  (cases s with
    | check k pass loc msg =>
      cases hfw : k.failsWhen pass <;> cases hc : k.isC <;>
        simp [Stmt.failure, Stmt.checkFailure, Stmt.exit, excRecs, hfw, hc]
    | _ => simp [Stmt.failure, Stmt.checkFailure, Stmt.exit, excRecs, hexc])

theorem phaseFailures_eq (cfg : Cfg) (t : Test) : ∀ (p : List Stmt),
    phaseFailures cfg t p = checkFailures cfg t p ++ excRecs cfg t (exitOf cfg.exceptions p)
  | [] => by simp [phaseFailures, checkFailures, exitOf, excRecs]
  | s :: rest => by
    have ih := phaseFailures_eq cfg t rest
    have hs := Stmt.failure_eq cfg t s
    simp only [phaseFailures, checkFailures, executed, exitOf_cons] at ih ⊢
    cases h : s.terminates cfg.exceptions <;> simp only [h] at hs ⊢
    · simp [ListLemmas.filterMap_cons_toList, hs, ih]
    · simpa [ListLemmas.filterMap_cons_toList] using hs

/-! ## PlatformSpecificSetJmp around one phase -/

/-- the phase as `Utest::run` runs it when `jmp_buf_index = st.depth` (the user code sees depth + 1) -/
def phaseOut (cfg : Cfg) (t : Test) (ph : Phase) (st : TSt) : PhaseOut :=
  runStmts cfg t ph (st.depth + 1) st.res st.hasFailed (stmtsOf t ph)

def phaseEvs (cfg : Cfg) (t : Test) (ph : Phase) (st : TSt) : List Ev :=
  .enter ph (st.depth + 1) :: (phaseOut cfg t ph st).evs

def stAfter (cfg : Cfg) (t : Test) (ph : Phase) (st : TSt) : TSt :=
  ⟨(phaseOut cfg t ph st).res, (phaseOut cfg t ph st).hasFailed, st.depth, st.current⟩

/-- what a phase leaves in the event list when `jmp_buf_index = d` around it, apart from the very verbose strings -/
def phaseTrace (cfg : Cfg) (t : Test) (d : Int) (ph : Phase) : List Ev :=
  .enter ph (d + 1) :: ((executed cfg.exceptions (stmtsOf t ph)).filterMap (Stmt.ev cfg t ph (d + 1)) ++
    (excRecs cfg t (exitOf cfg.exceptions (stmtsOf t ph))).map .failure)

theorem phaseEvs_trace (cfg : Cfg) (t : Test) (ph : Phase) (st : TSt) :
    phaseEvs cfg t ph st ++ (excRecs cfg t (phaseOut cfg t ph st).exit).map Ev.failure = phaseTrace cfg t st.depth ph := by
  simp only [phaseEvs, phaseOut, runStmts_eq, phaseTrace, List.cons_append]

theorem setJmp_phase (cfg : Cfg) (t : Test) (ph : Phase) (st : TSt) (h : inBuf st.depth = true) :
    setJmp st (phaseFn cfg t ph) =
      .ok (match (phaseOut cfg t ph st).exit with
        | .normal => ⟨stAfter cfg t ph st, phaseEvs cfg t ph st, true, none⟩
        | .longjmp => ⟨stAfter cfg t ph st, phaseEvs cfg t ph st, false, none⟩
        | .exc k => ⟨{ stAfter cfg t ph st with depth := st.depth + 1 }, phaseEvs cfg t ph st, false, some k⟩) := by
  unfold setJmp
  simp only [h, Bool.not_true, Bool.false_eq_true, if_false, phaseFn]
  simp only [setJmpAfter, phaseOut, stAfter, phaseEvs, TSt.dec]
  cases hx : (runStmts cfg t ph (st.depth + 1) st.res st.hasFailed (stmtsOf t ph)).exit with
  | normal => simp
  | longjmp => simp [h]
  | exc k => simp

theorem setJmp_normal {st : TSt} {fn : TSt → Except Stop Frame} {fr : Frame} (h : inBuf st.depth = true)
    (hfn : fn { st with depth := st.depth + 1 } = .ok fr) (hx : fr.exit = .normal) :
    setJmp st fn = .ok ⟨fr.st.dec, fr.evs, true, none⟩ := by
  simp [setJmp, h, hfn, setJmpAfter, hx]

/-! ## plain strings and clock readings carry no structured event -/

def Ev.quiet : Ev → Bool
  | .tok _ => true
  | .clock _ => true
  | _ => false

/-- every projection the property speaks of, except `plainToksOf` and `clocksOf`, is a projection of the core -/
def core (l : List Ev) : List Ev := l.filter (fun e => !e.quiet)

@[simp] theorem core_append (a b : List Ev) : core (a ++ b) = core a ++ core b := List.filter_append ..
@[simp] theorem core_flatMap {α} (g : α → List Ev) (l : List α) : core (l.flatMap g) = l.flatMap (fun a => core (g a)) :=
  List.filter_flatMap

/-- for the projections of the property both side conditions hold by computation, hence the default arguments -/
theorem proj_of_core {α} {f : Ev → Option α} {l c : List Ev} (h : core l = c)
    (ht : ∀ s, f (.tok s) = none := by intros; rfl) (hc : ∀ v, f (.clock v) = none := by intros; rfl) :
    l.filterMap f = c.filterMap f := by
  subst h
  rw [core, List.filterMap_filter]
  congr 1; funext e
  cases e <;> simp [Ev.quiet, ht, hc]

/-! a list of plain strings and clock readings only (`core l = []`) is invisible to every projection except `plainToksOf`
and `clocksOf` -/

@[simp] theorem failuresOf_quiet {l : List Ev} (h : core l = []) : failuresOf l = [] := proj_of_core h
@[simp] theorem recordsOf_quiet {l : List Ev} (h : core l = []) : recordsOf l = [] := proj_of_core h
@[simp] theorem marksIn_quiet {l : List Ev} (h : core l = []) : marksIn l = [] := proj_of_core h
@[simp] theorem entersOf_quiet {l : List Ev} (h : core l = []) : entersOf l = [] := proj_of_core h
@[simp] theorem summariesOf_quiet {l : List Ev} (h : core l = []) : summariesOf l = [] := proj_of_core h
@[simp] theorem endedOf_quiet {l : List Ev} (h : core l = []) : endedOf l = [] := proj_of_core h

@[simp] theorem core_vv (cfg : Cfg) (s : String) : core (vv cfg s) = [] := by
  unfold vv; split <;> rfl
@[simp] theorem core_vvU (cfg : Cfg) (s : String) : core (vvU cfg s) = [] := by
  unfold vvU; split <;> rfl
/-! ## Utest::run in closed form -/

/-! ### the state after user code -/

def Result.bump (r : Result) (checks fails : Nat) : Result :=
  { r with checkCount := r.checkCount + checks, failureCount := r.failureCount + fails }

@[simp] theorem bump_bump (r : Result) (a b c d : Nat) : (r.bump a b).bump c d = r.bump (a + c) (b + d) := by
  simp [Result.bump, Nat.add_assoc]
@[simp] theorem bump_zero (r : Result) : r.bump 0 0 = r := by simp [Result.bump]

def TSt.bumped (st : TSt) (checks : Nat) (recs : List FailRec) : TSt :=
  ⟨st.res.bump checks recs.length, st.hasFailed || !recs.isEmpty, st.depth, st.current⟩

@[simp] theorem TSt.bumped_depth (st : TSt) (n : Nat) (r : List FailRec) : (st.bumped n r).depth = st.depth := rfl
@[simp] theorem TSt.bumped_current (st : TSt) (n : Nat) (r : List FailRec) : (st.bumped n r).current = st.current := rfl
@[simp] theorem TSt.bumped_bumped (st : TSt) (a b : Nat) (r r' : List FailRec) :
    (st.bumped a r).bumped b r' = st.bumped (a + b) (r ++ r') := by
  simp [TSt.bumped, Bool.or_assoc, ListLemmas.isEmpty_append, Bool.not_and]

/-- rethrow mode does not matter for this way of leaving a phase -/
def QuietExit (cfg : Cfg) (e : Exit) : Prop := cfg.rethrow = false ∨ (e ≠ .exc .std ∧ e ≠ .exc .other)

/-- no phase of the test lets a std / foreign exception out, or rethrow mode is off -/
def QuietTest (cfg : Cfg) (t : Test) : Prop :=
  cfg.rethrow = false ∨ ∀ ph, exitOf cfg.exceptions (stmtsOf t ph) ≠ .exc .std ∧ exitOf cfg.exceptions (stmtsOf t ph) ≠ .exc .other

/-- what the catch clauses do to the state (index already restored) -/
def caught (st : TSt) : Exit → TSt
  | .exc .std => shellAddFailure st
  | .exc .other => shellAddFailure st
  | _ => st

/-- the "after" print of a phase: skipped when an exception leaves the SetJmp call -/
def vvTail (cfg : Cfg) (ph : Phase) : Exit → List Ev
  | .exc _ => []
  | _ => vvU cfg (vvAfter ph)

@[simp] theorem core_vvTail (cfg : Cfg) (ph : Phase) (e : Exit) : core (vvTail cfg ph e) = [] := by
  unfold vvTail; split
  · rfl
  · exact core_vvU cfg _

/-- one phase with its `try`/`catch`: state after it, everything it printed -/
def phaseStep (cfg : Cfg) (t : Test) (ph : Phase) (st : TSt) : Acc :=
  ⟨caught (stAfter cfg t ph st) (phaseOut cfg t ph st).exit,
   vvU cfg (vvBefore ph) ++ (phaseEvs cfg t ph st ++ (excRecs cfg t (phaseOut cfg t ph st).exit).map Ev.failure)
     ++ vvTail cfg ph (phaseOut cfg t ph st).exit⟩

@[simp] theorem phaseStep_st (cfg : Cfg) (t : Test) (ph : Phase) (st : TSt) :
    (phaseStep cfg t ph st).st =
      st.bumped (checksOf (executed cfg.exceptions (stmtsOf t ph))) (phaseFailures cfg t (stmtsOf t ph)) := by
  have h := runStmts_eq cfg t ph (st.depth + 1) (stmtsOf t ph) st.res st.hasFailed
  simp only [phaseStep, stAfter, phaseOut, h, phaseFailures_eq, TSt.bumped, List.length_append]
  cases exitOf cfg.exceptions (stmtsOf t ph) with
  | normal => simp [caught, excRecs, Result.bump]
  | longjmp => simp [caught, excRecs, Result.bump]
  | exc k => cases k <;> simp [caught, excRecs, Result.bump, shellAddFailure, Result.countFailure, Nat.add_assoc]

theorem phaseOut_exit (cfg : Cfg) (t : Test) (ph : Phase) (st : TSt) :
    (phaseOut cfg t ph st).exit = exitOf cfg.exceptions (stmtsOf t ph) := by
  simp only [phaseOut, runStmts_exit]

theorem setup_normal_iff (cfg : Cfg) (t : Test) (st : TSt) :
    (phaseOut cfg t .setup st).exit = .normal ↔ completes cfg.exceptions t.setup = true := by
  simp only [phaseOut, runStmts_exit, stmtsOf]
  exact exitOf_normal_iff cfg.exceptions t.setup

theorem quietTest_exit {cfg : Cfg} {t : Test} (hq : QuietTest cfg t) (ph : Phase) :
    QuietExit cfg (exitOf cfg.exceptions (stmtsOf t ph)) :=
  hq.imp_right (· ph)

/-- how the two conditions of `QuietExit` are used: an exception that is recorded and swallowed -/
theorem QuietExit.rethrow_off {cfg : Cfg} {k : ExcKind} (hq : QuietExit cfg (.exc k)) (hk : k = .std ∨ k = .other) :
    cfg.rethrow = false := by
  rcases hq with h | h
  · exact h
  · rcases hk with rfl | rfl
    · exact absurd rfl h.1
    · exact absurd rfl h.2

/-- one phase inside its `try`: the "before" print, `PlatformSpecificSetJmp` of the phase, then the "after" print or the
    catch clause. Both try blocks of `Utest::run` are made of it -/
def tryPhase (cfg : Cfg) (t : Test) (ph : Phase) (st : TSt) (before : List Ev) : Except Stop Acc :=
  match setJmp st (phaseFn cfg t ph) with
  | .error f => .error f
  | .ok j => afterTry cfg t j (before ++ vvU cfg (vvBefore ph)) (vvU cfg (vvAfter ph))

theorem try_phase (cfg : Cfg) (t : Test) (ph : Phase) (st : TSt) (before : List Ev)
    (hq : QuietExit cfg (exitOf cfg.exceptions (stmtsOf t ph))) (h : inBuf st.depth = true) :
    tryPhase cfg t ph st before = .ok ⟨(phaseStep cfg t ph st).st, before ++ (phaseStep cfg t ph st).evs⟩ := by
  rw [← phaseOut_exit cfg t ph st] at hq
  rw [tryPhase, setJmp_phase cfg t ph st h]
  simp only [phaseStep]
  cases hx : (phaseOut cfg t ph st).exit with
  | normal => simp [afterTry, caught, excRecs, vvTail]
  | longjmp => simp [afterTry, caught, excRecs, vvTail]
  | exc k =>
    rw [hx] at hq
    cases k with
    | failed => simp [afterTry, catchClauses, caught, excRecs, vvTail, restoreJumpBuffer, TSt.dec, stAfter]
    | std =>
      simp [afterTry, catchClauses, caught, excRecs, vvTail, hq.rethrow_off (.inl rfl), restoreJumpBuffer, shellAddFailure,
        TSt.dec, stAfter]
    | other =>
      simp [afterTry, catchClauses, caught, excRecs, vvTail, hq.rethrow_off (.inr rfl), restoreJumpBuffer, shellAddFailure,
        TSt.dec, stAfter]

/-- rethrow mode: the catch clause records the exception, restores the index and throws on -/
theorem try_phase_throws (cfg : Cfg) (t : Test) (ph : Phase) (st : TSt) (before : List Ev) (k : ExcKind)
    (hr : cfg.rethrow = true) (hx : exitOf cfg.exceptions (stmtsOf t ph) = .exc k) (hk : k = .std ∨ k = .other)
    (h : inBuf st.depth = true) :
    tryPhase cfg t ph st before =
      .error (.propagated ⟨k, before ++ (vvU cfg (vvBefore ph) ++ phaseTrace cfg t st.depth ph), st.depth, st.current⟩) := by
  rw [← phaseOut_exit cfg t ph st] at hx
  rw [tryPhase, setJmp_phase cfg t ph st h]
  simp only [← phaseEvs_trace, hx]
  rcases hk with rfl | rfl <;>
    simp [afterTry, catchClauses, excRecs, hr, restoreJumpBuffer, shellAddFailure, TSt.dec, stAfter]

theorem tryBlock1_eq (cfg : Cfg) (t : Test) (st : TSt) (h : inBuf st.depth = true) :
    tryBlock1 cfg t st =
      match tryPhase cfg t .setup st [] with
      | .error f => .error f
      | .ok a => if exitOf cfg.exceptions (stmtsOf t .setup) = .normal then tryPhase cfg t .body a.st a.evs else .ok a := by
  rw [tryBlock1, tryPhase, setJmp_phase cfg t .setup st h, ← phaseOut_exit cfg t .setup st]
  cases (phaseOut cfg t .setup st).exit with
  | normal => rfl
  | longjmp => simp [afterTry, bodyIfSetupReturned]
  | exc k => simp only [afterTry, List.nil_append]; cases catchClauses cfg t _ _ k <;> simp

theorem exitOf_noexc (p : List Stmt) (k : ExcKind) : exitOf false p ≠ .exc k := by
  induction p with
  | nil => simp [exitOf]
  | cons s rest ih =>
    rw [exitOf_cons]
    split
    next h =>
      cases s with
      | check k pass loc msg => simp only [Stmt.exit]; split <;> simp
      | _ => simp [Stmt.exit] at h ⊢
    · exact ih

theorem vvU_eq (cfg : Cfg) (s : String) : vvU cfg s = if cfg.exceptions then vv cfg s else [] := by
  cases h : cfg.exceptions <;> simp [vvU, vv, h]

theorem setJmp_esc_noexc {cfg : Cfg} {t : Test} {ph : Phase} {st : TSt} {j : JmpOut} (hx : cfg.exceptions = false)
    (hj : setJmp st (phaseFn cfg t ph) = .ok j) : j.esc = none := by
  unfold setJmp at hj
  split at hj
  · cases hj
  · simp only [phaseFn, setJmpAfter] at hj
    split at hj
    · cases hj; rfl
    · split at hj
      · cases hj
      · split at hj <;> cases hj; rfl
    · rename_i k hk
      rw [runStmts_exit, hx] at hk
      exact absurd hk (exitOf_noexc _ k)

/-- teardown without exception support is the second `try` block: no exception passes the SetJmp call, so its catch
    clauses are never visited, and `vvU` prints nothing -/
theorem teardownNoExc_eq (cfg : Cfg) (t : Test) (a : Acc) (hx : cfg.exceptions = false) :
    teardownNoExc cfg t a = tryBlock2 cfg t a := by
  unfold teardownNoExc tryBlock2
  cases hj : setJmp a.st (phaseFn cfg t .teardown) with
  | error f => rfl
  | ok j => simp [noEsc, afterTry, setJmp_esc_noexc hx hj, vvU_eq, hx]

def afterBody (cfg : Cfg) (t : Test) (st : TSt) : Acc :=
  if (phaseOut cfg t .setup st).exit = .normal then
    ⟨(phaseStep cfg t .body (phaseStep cfg t .setup st).st).st,
     (phaseStep cfg t .setup st).evs ++ (phaseStep cfg t .body (phaseStep cfg t .setup st).st).evs⟩
  else phaseStep cfg t .setup st

@[simp] theorem afterBody_depth (cfg : Cfg) (t : Test) (st : TSt) : (afterBody cfg t st).st.depth = st.depth := by
  unfold afterBody; split <;> simp
@[simp] theorem afterBody_current (cfg : Cfg) (t : Test) (st : TSt) : (afterBody cfg t st).st.current = st.current := by
  unfold afterBody; split <;> simp

/-- `Utest::run`: setup; body if setup returned normally; teardown -/
def utestClosed (cfg : Cfg) (t : Test) (st : TSt) : Acc :=
  ⟨(phaseStep cfg t .teardown (afterBody cfg t st).st).st,
   (afterBody cfg t st).evs ++ (phaseStep cfg t .teardown (afterBody cfg t st).st).evs⟩

theorem tryBlock1_closed (cfg : Cfg) (t : Test) (st : TSt)
    (hs : QuietExit cfg (exitOf cfg.exceptions t.setup)) (hb : completes cfg.exceptions t.setup = true → QuietExit cfg (exitOf cfg.exceptions t.body))
    (h : inBuf st.depth = true) :
    tryBlock1 cfg t st = .ok (afterBody cfg t st) := by
  rw [tryBlock1_eq cfg t st h, try_phase cfg t .setup st [] hs h, afterBody, phaseOut_exit]
  by_cases hx : exitOf cfg.exceptions (stmtsOf t .setup) = .normal
  · simp only [hx, if_true, List.nil_append]
    exact try_phase cfg t .body _ _ (hb ((exitOf_normal_iff _ _).mp hx)) (by simpa using h)
  · simp only [hx, if_false, List.nil_append]

theorem utestRunExc_closed (cfg : Cfg) (t : Test) (st : TSt)
    (hq : QuietTest cfg t) (h : inBuf st.depth = true) :
    utestRunExc cfg t st = .ok (utestClosed cfg t st) := by
  unfold utestRunExc
  rw [tryBlock1_closed cfg t st (quietTest_exit hq .setup) (fun _ => quietTest_exit hq .body) h]
  exact try_phase cfg t .teardown _ _ (quietTest_exit hq .teardown) (by simpa using h)

/-- `Utest::run` without exception support is the variant with exceptions, in which then no phase throws -/
theorem utestRunNoExc_eq (cfg : Cfg) (t : Test) (st : TSt) (hx : cfg.exceptions = false) :
    utestRunNoExc cfg t st = utestRunExc cfg t st := by
  unfold utestRunNoExc utestRunExc tryBlock1
  cases h1 : setJmp st (phaseFn cfg t .setup) with
  | error f => rfl
  | ok j1 =>
    simp only [bodyNoExc, setJmp_esc_noexc hx h1, afterTry, vvU_eq, hx, Bool.false_eq_true, if_false, bodyIfSetupReturned, List.nil_append,
      List.append_nil, teardownNoExc_eq cfg t _ hx]
    cases j1.ret with
    | false => rfl
    | true =>
      cases h2 : setJmp j1.st (phaseFn cfg t .body) with
      | error f => rfl
      | ok j2 => simp [noEsc, setJmp_esc_noexc hx h2]

theorem utestRun_closed (cfg : Cfg) (t : Test) (st : TSt)
    (hq : QuietTest cfg t) (h : inBuf st.depth = true) :
    utestRun cfg t st = .ok (utestClosed cfg t st) := by
  unfold utestRun
  cases hx : cfg.exceptions with
  | true => simp [utestRunExc_closed cfg t st hq h]
  | false => simp [utestRunNoExc_eq cfg t st hx, utestRunExc_closed cfg t st hq h]

/-! ## what one test does, read off the closed form -/

theorem phaseStep_evs (cfg : Cfg) (t : Test) (ph : Phase) (st : TSt) :
    (phaseStep cfg t ph st).evs =
      vvU cfg (vvBefore ph) ++ phaseTrace cfg t st.depth ph ++ vvTail cfg ph (phaseOut cfg t ph st).exit := by
  rw [phaseStep, phaseEvs_trace]

theorem Stmt.ev_structured (cfg : Cfg) (t : Test) (ph : Phase) (d : Int) (s : Stmt) : ∀ e ∈ s.ev cfg t ph d, e.quiet = false := by
  have h : ∀ o : Option FailRec, ∀ e ∈ o.map Ev.failure, e.quiet = false := by
    rintro (_ | r) e he <;> cases he
    rfl
  cases s with
  | mark n => intro e he; cases he; rfl
  | _ => simp only [Stmt.ev]; exact h _

@[simp] theorem core_phaseTrace (cfg : Cfg) (t : Test) (d : Int) (ph : Phase) : core (phaseTrace cfg t d ph) = phaseTrace cfg t d ph := by
  rw [core, List.filter_eq_self]
  intro e he
  simp only [phaseTrace, List.mem_cons, List.mem_append, List.mem_filterMap, List.mem_map] at he
  rcases he with rfl | ⟨s, -, hs⟩ | ⟨r, -, rfl⟩
  · rfl
  · simp [Stmt.ev_structured cfg t ph (d + 1) s e hs]
  · rfl

@[simp] theorem core_phaseStep (cfg : Cfg) (t : Test) (ph : Phase) (st : TSt) :
    core (phaseStep cfg t ph st).evs = phaseTrace cfg t st.depth ph := by
  simp [phaseStep_evs]

@[simp] theorem core_utestClosed (cfg : Cfg) (t : Test) (st : TSt) :
    core (utestClosed cfg t st).evs = (phasesRun cfg t).flatMap (phaseTrace cfg t st.depth) := by
  simp only [utestClosed, afterBody, phasesRun, setup_normal_iff]
  cases completes cfg.exceptions t.setup <;> simp

/-! ### the projections of a phase's trace: the one place where events are classified -/

theorem phaseTrace_proj {α} (f : Ev → Option α) (cfg : Cfg) (t : Test) (d : Int) (ph : Phase) :
    (phaseTrace cfg t d ph).filterMap f = (f (.enter ph (d + 1))).toList ++
      ((executed cfg.exceptions (stmtsOf t ph)).filterMap (fun s => (s.ev cfg t ph (d + 1)).bind f) ++
       (excRecs cfg t (exitOf cfg.exceptions (stmtsOf t ph))).filterMap (fun r => f (.failure r))) := by
  simp only [phaseTrace, ListLemmas.filterMap_cons_toList, List.filterMap_append, List.filterMap_filterMap,
    List.filterMap_map, Function.comp_def]

theorem phaseTrace_enters (cfg : Cfg) (t : Test) (d : Int) (ph : Phase) :
    (phaseTrace cfg t d ph).filterMap Ev.enter? = [ph] := by
  simp [phaseTrace_proj, Stmt.ev_inert, Ev.enter?]

theorem phaseTrace_marks (cfg : Cfg) (t : Test) (d : Int) (ph : Phase) :
    (phaseTrace cfg t d ph).filterMap Ev.mark? = (marksOf (executed cfg.exceptions (stmtsOf t ph))).map (fun n => (ph, n)) := by
  simp [marksOf, phaseTrace_proj, Stmt.ev_mark?, Ev.mark?, List.map_filterMap]

theorem phaseTrace_failures (cfg : Cfg) (t : Test) (d : Int) (ph : Phase) :
    (phaseTrace cfg t d ph).filterMap Ev.failure? = phaseFailures cfg t (stmtsOf t ph) ∧
    (phaseTrace cfg t d ph).filterMap Ev.record? = phaseFailures cfg t (stmtsOf t ph) := by
  simp [phaseTrace_proj, Stmt.ev_failure?, Ev.failure?, Ev.record?, phaseFailures_eq, checkFailures]

theorem phaseTrace_other (cfg : Cfg) (t : Test) (d : Int) (ph : Phase) :
    (phaseTrace cfg t d ph).filterMap Ev.summary? = [] ∧ (phaseTrace cfg t d ph).filterMap Ev.ended? = [] ∧
    (phaseTrace cfg t d ph).filterMap Ev.tok? = [] := by
  simp [phaseTrace_proj, Stmt.ev_inert, Ev.summary?, Ev.ended?, Ev.tok?]

/-- projections of the phases `l`, one after the other: `l` is `phasesRun` for a test that returns, `phasesUpTo` for one
    that an exception leaves -/
theorem phases_enters (cfg : Cfg) (t : Test) (d : Int) (l : List Phase) :
    (l.flatMap (phaseTrace cfg t d)).filterMap Ev.enter? = l := by
  simp [List.filterMap_flatMap, phaseTrace_enters]

theorem phases_other (cfg : Cfg) (t : Test) (d : Int) (l : List Phase) :
    (l.flatMap (phaseTrace cfg t d)).filterMap Ev.summary? = [] ∧ (l.flatMap (phaseTrace cfg t d)).filterMap Ev.ended? = [] := by
  simp [List.filterMap_flatMap, phaseTrace_other, ListLemmas.flatMap_const_nil]

theorem phases_marks (cfg : Cfg) (t : Test) (d : Int) (l : List Phase) :
    (l.flatMap (phaseTrace cfg t d)).filterMap Ev.mark? =
      l.flatMap (fun q => (marksOf (executed cfg.exceptions (stmtsOf t q))).map (fun n => (q, n))) := by
  simp [List.filterMap_flatMap, phaseTrace_marks]

theorem phases_failures (cfg : Cfg) (t : Test) (d : Int) (l : List Phase) :
    (l.flatMap (phaseTrace cfg t d)).filterMap Ev.failure? = l.flatMap (fun q => phaseFailures cfg t (stmtsOf t q)) := by
  simp [List.filterMap_flatMap, phaseTrace_failures]

theorem utestClosed_st (cfg : Cfg) (t : Test) (st : TSt) :
    (utestClosed cfg t st).st = st.bumped (testChecks cfg t) (testPhaseFailures cfg t) := by
  simp only [utestClosed, afterBody, testChecks, testPhaseFailures, phasesRun, setup_normal_iff]
  cases completes cfg.exceptions t.setup <;> simp [Nat.add_assoc]

@[simp] theorem utestClosed_depth (cfg : Cfg) (t : Test) (st : TSt) : (utestClosed cfg t st).st.depth = st.depth := by
  rw [utestClosed_st]; rfl
@[simp] theorem utestClosed_current (cfg : Cfg) (t : Test) (st : TSt) : (utestClosed cfg t st).st.current = st.current := by
  rw [utestClosed_st]; rfl

/-! ## plugins -/

theorem postFailures_cons (cfg : Cfg) (t : Test) (p : Plugin) (rest : List Plugin) :
    postFailures cfg (p :: rest) t =
      postFailures cfg rest t ++ (if p.enabled then pluginErrs cfg t p.post else []) := by
  simp only [postFailures, List.reverse_cons, List.filter_append, List.flatMap_append]
  cases h : p.enabled <;> simp [h]

/-- what the action of one enabled plugin leaves in the event list at `jmp_buf_index = d`: its notification, then one
    failure record per error that applies to the test -/
def plugEvs (cfg : Cfg) (t : Test) (post : Bool) (d : Int) (name : String) (errs : List PErr) : List Ev :=
  .plug name post d :: (pluginErrs cfg t errs).map .failure

/-- the events of `runAllPreTestAction`: the enabled plugins in chain order -/
def preTrace (cfg : Cfg) (plugins : List Plugin) (t : Test) (d : Int) : List Ev :=
  (plugins.filter (·.enabled)).flatMap (fun p => plugEvs cfg t false d p.name p.pre)

/-- the events of `runAllPostTestAction`: the enabled plugins, last of the chain first -/
def postTrace (cfg : Cfg) (plugins : List Plugin) (t : Test) (d : Int) : List Ev :=
  (plugins.reverse.filter (·.enabled)).flatMap (fun p => plugEvs cfg t true d p.name p.post)

theorem reportErrs_eq (cfg : Cfg) (t : Test) : ∀ (errs : List PErr) (st : TSt),
    reportErrs cfg t errs st =
      ⟨{ st with res := st.res.bump 0 (pluginErrs cfg t errs).length }, (pluginErrs cfg t errs).map .failure⟩
  | [], st => by simp [reportErrs, pluginErrs]
  | e :: rest, st => by
    unfold reportErrs
    cases h : e.applies t <;> simp [reportErrs_eq cfg t rest, pluginErrs, h, Result.bump, Result.countFailure]
    omega

theorem runAllPre_eq (cfg : Cfg) (t : Test) : ∀ (ps : List Plugin) (st : TSt),
    runAllPre cfg t ps st =
      ⟨{ st with res := st.res.bump 0 (preFailures cfg ps t).length }, preTrace cfg ps t st.depth⟩
  | [], st => by simp [runAllPre, preFailures, preTrace]
  | p :: rest, st => by
    unfold runAllPre
    cases h : p.enabled <;>
      simp [runAllPre_eq cfg t rest, reportErrs_eq, preFailures, preTrace, plugEvs, h]

theorem runAllPost_eq (cfg : Cfg) (t : Test) : ∀ (ps : List Plugin) (st : TSt),
    runAllPost cfg t ps st =
      ⟨{ st with res := st.res.bump 0 (postFailures cfg ps t).length }, postTrace cfg ps t st.depth⟩
  | [], st => by simp [runAllPost, postFailures, postTrace]
  | p :: rest, st => by
    unfold runAllPost
    rw [postFailures_cons]
    cases h : p.enabled <;>
      simp [runAllPost_eq cfg t rest, reportErrs_eq, postTrace, plugEvs, h, List.filter_append]

theorem plugEvs_proj {α} (f : Ev → Option α) (cfg : Cfg) (t : Test) (post : Bool) (d : Int) (name : String)
    (errs : List PErr) :
    (plugEvs cfg t post d name errs).filterMap f =
      (f (.plug name post d)).toList ++ (pluginErrs cfg t errs).filterMap (fun r => f (.failure r)) := by
  simp only [plugEvs, ListLemmas.filterMap_cons_toList, List.filterMap_map, Function.comp_def]

theorem walk_proj {α} (f : Ev → Option α) (cfg : Cfg) (t : Test) (post : Bool) (d : Int) (errs : Plugin → List PErr)
    (ps : List Plugin) :
    (ps.flatMap fun p => plugEvs cfg t post d p.name (errs p)).filterMap f =
      ps.flatMap fun p => (f (.plug p.name post d)).toList ++ (pluginErrs cfg t (errs p)).filterMap (fun r => f (.failure r)) := by
  simp [List.filterMap_flatMap, plugEvs_proj]

theorem plugEvs_failures (cfg : Cfg) (t : Test) (post : Bool) (d : Int) (name : String) (errs : List PErr) :
    (plugEvs cfg t post d name errs).filterMap Ev.failure? = pluginErrs cfg t errs ∧
    (plugEvs cfg t post d name errs).filterMap Ev.record? = pluginErrs cfg t errs := by
  simp [plugEvs_proj, Ev.failure?, Ev.record?]

theorem plugEvs_other (cfg : Cfg) (t : Test) (post : Bool) (d : Int) (name : String) (errs : List PErr) :
    (plugEvs cfg t post d name errs).filterMap Ev.mark? = [] ∧ (plugEvs cfg t post d name errs).filterMap Ev.enter? = [] ∧
    (plugEvs cfg t post d name errs).filterMap Ev.summary? = [] ∧ (plugEvs cfg t post d name errs).filterMap Ev.ended? = [] ∧
    (plugEvs cfg t post d name errs).filterMap Ev.tok? = [] := by
  simp [plugEvs_proj, Ev.mark?, Ev.enter?, Ev.summary?, Ev.ended?, Ev.tok?]

@[simp] theorem core_plugEvs (cfg : Cfg) (t : Test) (post : Bool) (d : Int) (name : String) (errs : List PErr) :
    core (plugEvs cfg t post d name errs) = plugEvs cfg t post d name errs := by
  rw [core, List.filter_eq_self]
  intro e he
  simp only [plugEvs, List.mem_cons, List.mem_map] at he
  obtain rfl | ⟨r, -, rfl⟩ := he <;> rfl

theorem plain_plugs (cfg : Cfg) (t : Test) (post : Bool) (d : Int) (l : List Plugin) (g : Plugin → List PErr) :
    plainToksOf (l.flatMap (fun p => plugEvs cfg t post d p.name (g p))) = [] := by
  simp [plainToksOf, walk_proj, Ev.tok?]

/-! ## no plain string of the runner can be mistaken for a marker -/

theorem repr_ne_of_nondigit (n : Nat) (s : String) (c : Char) (hc : c ∈ s.toList) (hd : c.isDigit = false) :
    n.repr ≠ s := by
  intro h
  have hm : c ∈ Nat.toDigits 10 n := by rw [← Nat.toList_repr, h]; exact hc
  have := Nat.isDigit_of_mem_toDigits (by decide) (by decide) hm
  rw [hd] at this; exact absurd this (by decide)

theorem repr_ne_ranNothing (n : Nat) : n.repr ≠ "ran nothing, " :=
  repr_ne_of_nondigit n _ 'r' (by decide) (by decide)
theorem repr_ne_marker (n : Nat) : n.repr ≠ failureMarker :=
  repr_ne_of_nondigit n _ 'F' (by decide) (by decide)
theorem repr_ne_ok (n : Nat) : n.repr ≠ "OK (" :=
  repr_ne_of_nondigit n _ 'O' (by decide) (by decide)
theorem repr_ne_errors (n : Nat) : n.repr ≠ "Errors (" :=
  repr_ne_of_nondigit n _ 'E' (by decide) (by decide)
theorem not_marker_iff (a : String) : a ∉ markers ↔ a ≠ failureMarker ∧ a ≠ "OK (" ∧ a ≠ "Errors (" := by
  simp [markers, failureMarker]

theorem repr_not_marker (n : Nat) : toString n ∉ markers :=
  (not_marker_iff _).mpr ⟨repr_ne_marker n, repr_ne_ok n, repr_ne_errors n⟩

/-- no plain console string of the event list is one of the strings the reader keys on -/
def SafePlain (evs : List Ev) : Prop := ∀ s ∈ plainToksOf evs, s ∉ markers

@[simp] theorem safePlain_nil : SafePlain [] := by simp [SafePlain]
@[simp] theorem safePlain_append (a b : List Ev) : SafePlain (a ++ b) ↔ SafePlain a ∧ SafePlain b := by
  simp only [SafePlain, plainToksOf_append, List.forall_mem_append]
theorem safePlain_cons (e : Ev) (l : List Ev) :
    SafePlain (e :: l) ↔ (∀ s, Ev.tok? e = some s → s ∉ markers) ∧ SafePlain l := by
  cases h : Ev.tok? e <;> simp [SafePlain, h]
theorem safePlain_of_nil {evs : List Ev} (h : plainToksOf evs = []) : SafePlain evs := by
  simp [SafePlain, h]

theorem endsParen (a : String) (m : String) (hm : m.toList.getLast? ≠ some ')') : a ++ ")" ≠ m := by
  intro h
  apply hm
  rw [← h]
  simp [String.toList_append]

theorem formattedName_not_marker (cfg : Cfg) (t : Test) : formattedName cfg t ∉ markers := by
  unfold formattedName markers
  simp only [List.mem_cons, List.mem_nil_iff, or_false, not_or]
  exact ⟨endsParen _ _ (by decide), endsParen _ _ (by decide), endsParen _ _ (by decide)⟩

theorem vvBefore_safe (ph : Phase) : vvBefore ph ∉ markers := by cases ph <;> simp [vvBefore, markers]
theorem vvAfter_safe (ph : Phase) : vvAfter ph ∉ markers := by cases ph <;> simp [vvAfter, markers]

/-- the plain strings of `l` are printed with `-vv` only, and none is a marker: what holds of everything one test prints -/
def VVOnly (cfg : Cfg) (l : List Ev) : Prop := ∀ s ∈ plainToksOf l, cfg.veryVerbose = true ∧ s ∉ markers

theorem VVOnly.plain {cfg : Cfg} {l : List Ev} (h : VVOnly cfg l) (hv : cfg.veryVerbose = false) : plainToksOf l = [] :=
  List.eq_nil_iff_forall_not_mem.mpr fun s hs => by simpa [hv] using (h s hs).1
theorem VVOnly.safe {cfg : Cfg} {l : List Ev} (h : VVOnly cfg l) : SafePlain l := fun s hs => (h s hs).2

theorem vvOnly_append {cfg : Cfg} (a b : List Ev) : VVOnly cfg (a ++ b) ↔ VVOnly cfg a ∧ VVOnly cfg b := by
  simp only [VVOnly, plainToksOf_append, List.forall_mem_append]
theorem vvOnly_of_nil {cfg : Cfg} {l : List Ev} (h : plainToksOf l = []) : VVOnly cfg l := by simp [VVOnly, h]

theorem vvOnly_vv (cfg : Cfg) (s : String) (hs : s ∉ markers) : VVOnly cfg (vv cfg s) := by
  unfold vv; split <;> simp [VVOnly, Ev.tok?, *]
theorem vvOnly_vvU (cfg : Cfg) (s : String) (hs : s ∉ markers) : VVOnly cfg (vvU cfg s) := by
  unfold vvU; split
  · rename_i h; simp [VVOnly, Ev.tok?, hs, (Bool.and_eq_true _ _ ▸ h).1]
  · simp [VVOnly]
theorem vvOnly_vvTail (cfg : Cfg) (ph : Phase) (e : Exit) : VVOnly cfg (vvTail cfg ph e) := by
  unfold vvTail; split
  · simp [VVOnly]
  · exact vvOnly_vvU cfg _ (vvAfter_safe ph)

theorem phaseStep_vvOnly (cfg : Cfg) (t : Test) (ph : Phase) (st : TSt) : VVOnly cfg (phaseStep cfg t ph st).evs := by
  simp only [phaseStep_evs, vvOnly_append]
  exact ⟨⟨vvOnly_vvU cfg _ (vvBefore_safe ph), vvOnly_of_nil (phaseTrace_other ..).2.2⟩, vvOnly_vvTail cfg ph _⟩

theorem utestClosed_vvOnly (cfg : Cfg) (t : Test) (st : TSt) : VVOnly cfg (utestClosed cfg t st).evs := by
  simp only [utestClosed, afterBody]
  split <;> simp [vvOnly_append, phaseStep_vvOnly]

/-! ## `runOneTestInCurrentProcess`, as the parent or as the forked child runs it -/

structure ChildOutcome (cfg : Cfg) (plugins : List Plugin) (t : Test) (st : TSt) (fr : Frame) : Prop where
  exit : fr.exit = .normal
  depth : fr.st.depth = st.depth
  res : fr.st.res = st.res.bump (testChecks cfg t) (testFailures cfg plugins t).length
  failures : failuresOf fr.evs = testFailures cfg plugins t
  records : recordsOf fr.evs = testFailures cfg plugins t
  marks : marksIn fr.evs = testMarks cfg t
  enters : entersOf fr.evs = phasesRun cfg t
  summaries : summariesOf fr.evs = []
  ended : endedOf fr.evs = []
  plain : cfg.veryVerbose = false → plainToksOf fr.evs = []
  safe : SafePlain fr.evs

/-- the structured events of a test at `jmp_buf_index = d` from the pre actions through the phases `l`: `phasesRun` for a test
    that returns, `phasesUpTo` for one that an exception leaves -/
def traceUpTo (cfg : Cfg) (plugins : List Plugin) (t : Test) (d : Int) (l : List Phase) : List Ev :=
  preTrace cfg plugins t d ++ l.flatMap (phaseTrace cfg t d)

def testTrace (cfg : Cfg) (plugins : List Plugin) (t : Test) (d : Int) : List Ev :=
  traceUpTo cfg plugins t d (phasesRun cfg t) ++ postTrace cfg plugins t d

theorem traceUpTo_enters (cfg : Cfg) (plugins : List Plugin) (t : Test) (d : Int) (l : List Phase) :
    (traceUpTo cfg plugins t d l).filterMap Ev.enter? = l := by
  simp [traceUpTo, preTrace, walk_proj, phases_enters, Ev.enter?]

theorem traceUpTo_marks (cfg : Cfg) (plugins : List Plugin) (t : Test) (d : Int) (l : List Phase) :
    (traceUpTo cfg plugins t d l).filterMap Ev.mark? =
      l.flatMap (fun q => (marksOf (executed cfg.exceptions (stmtsOf t q))).map (fun n => (q, n))) := by
  simp [traceUpTo, preTrace, walk_proj, phases_marks, Ev.mark?]

theorem traceUpTo_failures (cfg : Cfg) (plugins : List Plugin) (t : Test) (d : Int) (l : List Phase) :
    (traceUpTo cfg plugins t d l).filterMap Ev.failure? =
      preFailures cfg plugins t ++ l.flatMap (fun q => phaseFailures cfg t (stmtsOf t q)) := by
  simp [traceUpTo, preTrace, walk_proj, phases_failures, Ev.failure?, preFailures]

theorem traceUpTo_other (cfg : Cfg) (plugins : List Plugin) (t : Test) (d : Int) (l : List Phase) :
    (traceUpTo cfg plugins t d l).filterMap Ev.summary? = [] ∧ (traceUpTo cfg plugins t d l).filterMap Ev.ended? = [] := by
  simp [traceUpTo, preTrace, walk_proj, phases_other, Ev.summary?, Ev.ended?]

theorem testTrace_failures (cfg : Cfg) (plugins : List Plugin) (t : Test) (d : Int) :
    (testTrace cfg plugins t d).filterMap Ev.failure? = testFailures cfg plugins t ∧
    (testTrace cfg plugins t d).filterMap Ev.record? = testFailures cfg plugins t := by
  simp [testTrace, traceUpTo, preTrace, postTrace, List.filterMap_flatMap, plugEvs_failures, phaseTrace_failures,
    testFailures, preFailures, postFailures, testPhaseFailures]

theorem testTrace_marks (cfg : Cfg) (plugins : List Plugin) (t : Test) (d : Int) :
    (testTrace cfg plugins t d).filterMap Ev.mark? = testMarks cfg t := by
  simp [testTrace, traceUpTo_marks, postTrace, walk_proj, Ev.mark?, testMarks]

theorem testTrace_enters (cfg : Cfg) (plugins : List Plugin) (t : Test) (d : Int) :
    (testTrace cfg plugins t d).filterMap Ev.enter? = phasesRun cfg t := by
  simp [testTrace, traceUpTo_enters, postTrace, walk_proj, Ev.enter?]

theorem testTrace_other (cfg : Cfg) (plugins : List Plugin) (t : Test) (d : Int) :
    (testTrace cfg plugins t d).filterMap Ev.summary? = [] ∧ (testTrace cfg plugins t d).filterMap Ev.ended? = [] := by
  simp [testTrace, traceUpTo_other, postTrace, walk_proj, Ev.summary?, Ev.ended?]

theorem core_afterRun (cfg : Cfg) (plugins : List Plugin) (t : Test) (saved : Option String) (pre : List Ev) (a : Acc) :
    core (afterRun cfg plugins t saved (beforeRun cfg pre) a).evs =
      core pre ++ core a.evs ++ core (runAllPost cfg t plugins { a.st with current := saved }).evs := by
  simp [afterRun, beforeRun]

structure FrameClosed (cfg : Cfg) (plugins : List Plugin) (t : Test) (st : TSt) (fr : Frame) : Prop where
  exit : fr.exit = .normal
  state : fr.st = ⟨st.res.bump (testChecks cfg t) (testFailures cfg plugins t).length,
    st.hasFailed || !(testPhaseFailures cfg t).isEmpty, st.depth, st.current⟩
  core : core fr.evs = testTrace cfg plugins t st.depth
  vv : VVOnly cfg fr.evs

theorem inProcess_eq (cfg : Cfg) (plugins : List Plugin) (t : Test) (st : TSt)
    (hq : QuietTest cfg t) (h : inBuf st.depth = true) :
    ∃ fr, runOneTestInCurrentProcess cfg plugins t st = .ok fr ∧ FrameClosed cfg plugins t st fr := by
  unfold runOneTestInCurrentProcess
  simp only [runAllPre_eq]
  rw [utestRun_closed cfg t _ hq (by simpa using h)]
  refine ⟨_, rfl, ?_⟩
  constructor
  case exit => rfl
  case state => simp [afterRun, runAllPost_eq, utestClosed_st, TSt.bumped, testFailures, Nat.add_assoc]
  case core => simp [core_afterRun, runAllPost_eq, testTrace, traceUpTo, preTrace, postTrace]
  case vv =>
    simp [afterRun, beforeRun, runAllPost_eq, preTrace, postTrace, vvOnly_append, utestClosed_vvOnly, vvOnly_of_nil (plain_plugs ..), vvOnly_vv, markers]

theorem FrameClosed.outcome {cfg : Cfg} {plugins : List Plugin} {t : Test} {st : TSt} {fr : Frame}
    (c : FrameClosed cfg plugins t st fr) : ChildOutcome cfg plugins t st fr :=
  { exit := c.exit, depth := by rw [c.state], res := by rw [c.state], plain := c.vv.plain, safe := c.vv.safe,
    failures := (proj_of_core c.core).trans (testTrace_failures ..).1,
    records := (proj_of_core c.core).trans (testTrace_failures ..).2,
    marks := (proj_of_core c.core).trans (testTrace_marks ..),
    enters := (proj_of_core c.core).trans (testTrace_enters ..),
    summaries := (proj_of_core c.core).trans (testTrace_other ..).1,
    ended := (proj_of_core c.core).trans (testTrace_other ..).2 }

/-- the parent (through `setJmp`) and the forked child both run this -/
theorem inProcess_closed (cfg : Cfg) (plugins : List Plugin) (t : Test) (st : TSt)
    (hq : QuietTest cfg t) (h : inBuf st.depth = true) :
    ∃ fr, runOneTestInCurrentProcess cfg plugins t st = .ok fr ∧ ChildOutcome cfg plugins t st fr :=
  let ⟨fr, hfr, c⟩ := inProcess_eq cfg plugins t st hq h
  ⟨fr, hfr, c.outcome⟩

structure TestOutcome (cfg : Cfg) (plugins : List Plugin) (t : Test) (st : TSt) (j : JmpOut) : Prop where
  esc : j.esc = none
  depth : j.st.depth = st.depth
  current : j.st.current = st.current
  res : j.st.res = (st.res.countRun).bump (testChecks cfg t) (testFailures cfg plugins t).length
  hasFailed : j.st.hasFailed = !(testPhaseFailures cfg t).isEmpty
  failures : failuresOf j.evs = testFailures cfg plugins t
  marks : marksIn j.evs = testMarks cfg t
  enters : entersOf j.evs = phasesRun cfg t
  summaries : summariesOf j.evs = []
  ended : endedOf j.evs = []
  plain : cfg.veryVerbose = false → plainToksOf j.evs = []
  safe : SafePlain j.evs

/-- `runOneTest` is `setJmp` around `runOneTestInCurrentProcess` one level deeper, which returns normally -/
theorem runOneTest_closed (cfg : Cfg) (plugins : List Plugin) (t : Test) (st : TSt)
    (hq : QuietTest cfg t) (h0 : inBuf st.depth = true) (h1 : inBuf (st.depth + 1) = true) :
    ∃ j, runOneTest cfg plugins t st = .ok j ∧ TestOutcome cfg plugins t st j ∧
      recordsOf j.evs = testFailures cfg plugins t ∧ core j.evs = testTrace cfg plugins t (st.depth + 1) := by
  obtain ⟨fr, hfr, c⟩ := inProcess_eq cfg plugins t
    { res := st.res.countRun, hasFailed := false, depth := st.depth + 1, current := st.current } hq h1
  have o := c.outcome
  exact ⟨_, setJmp_normal h0 hfr c.exit,
    { esc := rfl, depth := by simp [TSt.dec, c.state], current := by simp [TSt.dec, c.state], res := by simp [TSt.dec, c.state],
      hasFailed := by simp [TSt.dec, c.state], failures := o.failures, marks := o.marks, enters := o.enters,
      summaries := o.summaries, ended := o.ended, plain := o.plain, safe := o.safe },
    o.records, c.core⟩

/-! ## one test in the mode the command line selected (`-p` or not) -/

/-- what the run records for one `test->runOneTest(...)` in either mode -/
structure ModeOutcome (cfg : Cfg) (plugins : List Plugin) (t : Test) (st : TSt) (j : JmpOut) : Prop where
  esc : j.esc = none
  depth : j.st.depth = st.depth
  current : j.st.current = st.current
  res : j.st.res = (st.res.countRun).bump (testChecksCounted cfg t) (testFailCount cfg plugins t)
  hasFailed : j.st.hasFailed = (!cfg.separate && !(testPhaseFailures cfg t).isEmpty)
  failures : failuresOf j.evs = testFailures cfg plugins t
  records : recordsOf j.evs = testRecords cfg plugins t
  marks : marksIn j.evs = testMarks cfg t
  enters : entersOf j.evs = phasesRun cfg t
  summaries : summariesOf j.evs = []
  ended : endedOf j.evs = []
  plain : cfg.veryVerbose = false → plainToksOf j.evs = []
  safe : SafePlain j.evs

theorem runOneTestMode_closed (cfg : Cfg) (plugins : List Plugin) (t : Test) (st : TSt)
    (hq : QuietTest cfg t) (h0 : inBuf st.depth = true) (h1 : inBuf (st.depth + 1) = true) :
    ∃ j, runOneTestMode cfg plugins t st = .ok j ∧ ModeOutcome cfg plugins t st j := by
  unfold runOneTestMode
  cases hsep : cfg.separate with
  | false =>
    obtain ⟨j, hj, o, hrec, -⟩ := runOneTest_closed cfg plugins t st hq h0 h1
    exact ⟨j, hj,
      { esc := o.esc, depth := o.depth, current := o.current,
        res := by rw [o.res]; simp [testChecksCounted, testFailCount, hsep],
        hasFailed := by rw [o.hasFailed]; simp [hsep],
        failures := o.failures, records := by rw [hrec]; simp [testRecords, hsep],
        marks := o.marks, enters := o.enters, summaries := o.summaries, ended := o.ended,
        plain := o.plain, safe := o.safe }⟩
  | true =>
    obtain ⟨fr, hfr, c⟩ := inProcess_eq cfg plugins t
      { res := st.res.countRun, hasFailed := false, depth := st.depth + 1, current := st.current } hq h1
    have o := c.outcome
    -- the parent sees the child's events and adds ONE record if the child counted a failure, that is if `testFailures`
    -- is not empty; the child's counters are lost
    let X : List Ev := if (testFailures cfg plugins t).isEmpty then [] else [.sepFailure (sepRec cfg t)]
    have hX : failuresOf X = [] ∧ marksIn X = [] ∧ entersOf X = [] ∧ summariesOf X = [] ∧ endedOf X = [] := by
      simp only [X]; split <;> simp [Ev.failure?, Ev.mark?, Ev.enter?, Ev.summary?, Ev.ended?]
    have hXp : plainToksOf X = [] := by simp only [X]; split <;> rfl
    have hfn : separateFn cfg plugins t
        { res := st.res.countRun, hasFailed := false, depth := st.depth + 1, current := st.current } =
        .ok ⟨⟨st.res.countRun.bump 0 X.length, false, st.depth + 1, st.current⟩, fr.evs ++ X, .normal⟩ := by
      simp only [separateFn, hfr, c.state]
      cases hne : testFailures cfg plugins t <;> simp [X, hne, Result.bump, Result.countFailure, sepRec]
    refine ⟨_, setJmp_normal h0 hfn rfl, ?_⟩
    constructor
    case esc => rfl
    case depth => simp [TSt.dec]
    case current => rfl
    case res =>
      simp only [TSt.dec, testChecksCounted, testFailCount, hsep, if_true]
      cases hne : testFailures cfg plugins t <;> simp [X, hne, Result.bump]
    case hasFailed => simp [hsep, TSt.dec]
    case failures => simp [hX, o.failures]
    case records =>
      simp only [recordsOf_append, o.records, testRecords, hsep, Bool.true_and]
      cases hne : testFailures cfg plugins t <;> simp [X, hne, Ev.record?]
    case marks => simp [hX, o.marks]
    case enters => simp [hX, o.enters]
    case summaries => simp [hX, o.summaries]
    case ended => simp [hX, o.ended]
    case plain => intro hv; simp [hXp, o.plain hv]
    case safe => exact (safePlain_append _ _).mpr ⟨o.safe, safePlain_of_nil hXp⟩

/-! ## the loop over the registry -/

@[simp] theorem core_testStartedToks (cfg : Cfg) (t : Test) : core (testStartedToks cfg t) = [] := by
  unfold testStartedToks; split <;> rfl
@[simp] theorem core_testEndedToks (cfg : Cfg) (ind : String) (dots time : Nat) :
    core (testEndedToks cfg ind dots time) = [] := by
  unfold testEndedToks; split
  · rfl
  · split <;> rfl
@[simp] theorem core_testRunToks (a b : Nat) : core (testRunToks a b) = [] := by
  unfold testRunToks; split <;> rfl
@[simp] theorem core_groupStarted (cfg : Cfg) (s : LSt) : core (groupStarted cfg s).evs = [] := by
  unfold groupStarted; split <;> rfl
@[simp] theorem core_groupEnded (cfg : Cfg) (last : Bool) (s : LSt) : core (groupEnded cfg last s).evs = [] := by
  unfold groupEnded; split <;> rfl

theorem testStartedToks_safe (cfg : Cfg) (t : Test) : SafePlain (testStartedToks cfg t) := by
  unfold testStartedToks; split
  · simp [safePlain_cons, Ev.tok?, formattedName_not_marker]
  · simp

theorem testEndedToks_safe (cfg : Cfg) (ind : String) (dots time : Nat) (hi : ind ∉ markers) :
    SafePlain (testEndedToks cfg ind dots time) := by
  unfold testEndedToks
  split
  · simp only [safePlain_cons, Ev.tok?, Option.some.injEq, forall_eq', safePlain_nil, and_true]
    exact ⟨by simp [markers], repr_not_marker time, by simp [markers]⟩
  · split
    · simp only [safePlain_cons, Ev.tok?, Option.some.injEq, forall_eq', safePlain_nil, and_true]
      exact ⟨hi, by simp [markers]⟩
    · simp only [safePlain_cons, Ev.tok?, Option.some.injEq, forall_eq', safePlain_nil, and_true]
      exact hi

theorem testRunToks_safe (a b : Nat) : SafePlain (testRunToks a b) := by
  unfold testRunToks; split
  · simp only [safePlain_cons, Ev.tok?, Option.some.injEq, forall_eq', safePlain_nil, and_true]
    exact ⟨by simp [markers], repr_not_marker a, by simp [markers], repr_not_marker b, by simp [markers]⟩
  · simp

theorem groupStarted_safe (cfg : Cfg) (s : LSt) : SafePlain (groupStarted cfg s).evs := by
  unfold groupStarted; split <;> simp [safePlain_cons, Ev.tok?]

theorem groupEnded_safe (cfg : Cfg) (last : Bool) (s : LSt) : SafePlain (groupEnded cfg last s).evs := by
  unfold groupEnded; split <;> simp [safePlain_cons, Ev.tok?]

/-- the per-test failed flag the property demands: the test ran and one of its phases failed -/
def failedFlag (cfg : Cfg) (t : Test) : Bool :=
  willRun cfg t && (!cfg.separate && !(testPhaseFailures cfg t).isEmpty)

def addTest (cfg : Cfg) (plugins : List Plugin) (r : Result) (t : Test) : Result :=
  if shouldRun cfg t then
    if willRun cfg t then (r.countTest.countRun).bump (testChecksCounted cfg t) (testFailCount cfg plugins t)
    else r.countTest.countIgnored
  else r.countTest.countFilteredOut

structure EntryOutcome (cfg : Cfg) (plugins : List Plugin) (ts : List Test) (s : LSt) (a : LAcc) : Prop where
  depth : a.st.depth = s.depth
  current : a.st.current = s.current
  res : a.st.res = ts.foldl (addTest cfg plugins) s.res
  failures : failuresOf a.evs = (running cfg ts).flatMap (testFailures cfg plugins)
  records : recordsOf a.evs = (running cfg ts).flatMap (testRecords cfg plugins)
  marks : marksIn a.evs = (running cfg ts).flatMap (testMarks cfg)
  enters : entersOf a.evs = (running cfg ts).flatMap (phasesRun cfg)
  summaries : summariesOf a.evs = []
  ended : endedOf a.evs = (selected cfg ts).map (fun t => (s.depth, s.current, failedFlag cfg t))
  dots : cfg.anyVerbose = false → a.st.out.dotCount = s.out.dotCount + (selected cfg ts).length
  plain : cfg.anyVerbose = false →
    plainToksOf a.evs = progressToks ((selected cfg ts).map (indicatorOf cfg)) s.out.dotCount
  safe : SafePlain a.evs

theorem anyVerbose_false {cfg : Cfg} (h : cfg.anyVerbose = false) : cfg.verbose = false ∧ cfg.veryVerbose = false := by
  simpa [Cfg.anyVerbose] using h

theorem runFiltered_closed (cfg : Cfg) (plugins : List Plugin) (t : Test) (s : LSt)
    (hq : QuietTest cfg t) (h0 : inBuf s.depth = true) (h1 : inBuf (s.depth + 1) = true) :
    ∃ a, runFiltered cfg plugins t s = .ok a ∧ EntryOutcome cfg plugins [t] s a := by
  unfold runFiltered
  cases hs : shouldRun cfg t with
  | false =>
    refine ⟨_, rfl, ?_⟩
    constructor <;> simp [addTest, hs, running, selected, progressToks]
  | true =>
    simp only [if_true, runSelected]
    cases hw : willRun cfg t with
    | false =>
      refine ⟨_, rfl, ?_⟩
      constructor
      case safe =>
        simp only [safePlain_append]
        refine ⟨⟨testStartedToks_safe cfg t, ?_⟩, testEndedToks_safe cfg "!" _ _ (by simp [markers])⟩
        simp [safePlain_cons, Ev.tok?]
      case dots => intro hv; simp [dotsAfter, hv, selected, hs]
      case plain =>
        intro hv
        simp [testStartedToks, testEndedToks, hv, Ev.tok?, progressToks, indicatorOf, hw, selected, hs]
        split <;> simp [Ev.tok?]
      -- state, counters and the six projections: only the `ended` event is seen
      all_goals simp [addTest, hs, hw, running, selected, failedFlag,
        Ev.failure?, Ev.mark?, Ev.enter?, Ev.summary?, Ev.ended?, Ev.record?]
    | true =>
      obtain ⟨j, hj, ho⟩ := runOneTestMode_closed cfg plugins t ⟨s.res.countTest, false, s.depth, s.current⟩ hq h0 h1
      rw [hj]
      simp only [ho.esc]
      refine ⟨_, rfl, ?_⟩
      constructor
      case safe =>
        simp only [safePlain_append]
        refine ⟨⟨⟨⟨testStartedToks_safe cfg t, ?_⟩, ho.safe⟩, ?_⟩, testEndedToks_safe cfg "." _ _ (by simp [markers])⟩
        · simp [safePlain_cons, Ev.tok?]
        · simp [safePlain_cons, Ev.tok?]
      case dots => intro hv; simp [dotsAfter, hv, selected, hs]
      case plain =>
        intro hv
        have hp := ho.plain (anyVerbose_false hv).2
        simp [testStartedToks, testEndedToks, hv, Ev.tok?, progressToks, indicatorOf, hw, hp, selected, hs]
        split <;> simp [Ev.tok?]
      -- state, counters and the six projections: those of the test, then the `ended` event
      all_goals simp [addTest, hs, hw, running, selected, failedFlag,
        Ev.failure?, Ev.mark?, Ev.enter?, Ev.summary?, Ev.ended?, Ev.record?,
        ho.depth, ho.current, ho.res, ho.hasFailed, ho.failures, ho.records, ho.marks, ho.enters, ho.summaries, ho.ended]

/-- `currentGroupStarted` / `currentGroupEnded` read the clock and touch nothing but the tick and the loop's flag -/
theorem groupStarted_spec (cfg : Cfg) (s : LSt) :
    ∃ tick gs, (groupStarted cfg s).st = { s with tick := tick, groupStart := gs } ∧
      plainToksOf (groupStarted cfg s).evs = [] := by
  unfold groupStarted; split
  · exact ⟨_, _, rfl, by simp [Ev.tok?]⟩
  · exact ⟨s.tick, s.groupStart, rfl, rfl⟩

theorem groupEnded_spec (cfg : Cfg) (last : Bool) (s : LSt) :
    ∃ tick gs, (groupEnded cfg last s).st = { s with tick := tick, groupStart := gs } ∧
      plainToksOf (groupEnded cfg last s).evs = [] := by
  unfold groupEnded; split
  · exact ⟨_, _, rfl, by simp [Ev.tok?]⟩
  · exact ⟨s.tick, s.groupStart, rfl, rfl⟩

theorem runEntry_closed (cfg : Cfg) (plugins : List Plugin) (t : Test) (last : Bool) (s : LSt)
    (hq : QuietTest cfg t) (h0 : inBuf s.depth = true) (h1 : inBuf (s.depth + 1) = true) :
    ∃ a, runEntry cfg plugins t last s = .ok a ∧ EntryOutcome cfg plugins [t] s a := by
  obtain ⟨_, _, hg, hgp⟩ := groupStarted_spec cfg s
  obtain ⟨a, ha, oa⟩ := runFiltered_closed cfg plugins t (groupStarted cfg s).st hq (by rw [hg]; exact h0) (by rw [hg]; exact h1)
  obtain ⟨_, _, he, hep⟩ := groupEnded_spec cfg last a.st
  unfold runEntry
  rw [ha]
  refine ⟨_, rfl, ?_⟩
  constructor
  case depth => simp [he, oa.depth, hg]
  case current => simp [he, oa.current, hg]
  case res => simp [he, oa.res, hg]
  case failures => simp [oa.failures]
  case records => simp [oa.records]
  case marks => simp [oa.marks]
  case enters => simp [oa.enters]
  case summaries => simp [oa.summaries]
  case ended => simp [oa.ended, hg]
  case dots => intro hv; simp [he, oa.dots hv, hg]
  case plain => intro hv; simp [hgp, hep, oa.plain hv, hg]
  case safe =>
    simp only [safePlain_append]
    exact ⟨⟨groupStarted_safe cfg s, oa.safe⟩, groupEnded_safe cfg last a.st⟩

theorem running_append (cfg : Cfg) (a b : List Test) : running cfg (a ++ b) = running cfg a ++ running cfg b := by
  simp [running, selected]
theorem selected_append (cfg : Cfg) (a b : List Test) : selected cfg (a ++ b) = selected cfg a ++ selected cfg b := by
  simp [selected]
theorem running_cons (cfg : Cfg) (t : Test) (ts : List Test) : running cfg (t :: ts) = running cfg [t] ++ running cfg ts :=
  running_append cfg [t] ts
theorem selected_cons (cfg : Cfg) (t : Test) (ts : List Test) : selected cfg (t :: ts) = selected cfg [t] ++ selected cfg ts :=
  selected_append cfg [t] ts
theorem running_singleton (cfg : Cfg) (t : Test) :
    running cfg [t] = if shouldRun cfg t && willRun cfg t then [t] else [] := by
  cases hs : shouldRun cfg t <;> cases hw : willRun cfg t <;> simp [running, selected, hs, hw]
theorem selected_singleton (cfg : Cfg) (t : Test) : selected cfg [t] = if shouldRun cfg t then [t] else [] := by
  cases hs : shouldRun cfg t <;> simp [selected, hs]

theorem progressToks_append (a b : List String) (d : Nat) :
    progressToks (a ++ b) d = progressToks a d ++ progressToks b (d + a.length) := by
  induction a generalizing d with
  | nil => simp [progressToks]
  | cons x a ih => simp [progressToks, ih, Nat.add_assoc, Nat.add_comm 1]

theorem runTests_closed (cfg : Cfg) (plugins : List Plugin) :
    ∀ (ts : List Test) (s : LSt), (∀ t ∈ ts, QuietTest cfg t) → inBuf s.depth = true → inBuf (s.depth + 1) = true →
      ∃ a, runTests cfg plugins ts s = .ok a ∧ EntryOutcome cfg plugins ts s a
  | [], s, _, _, _ => by
    refine ⟨_, rfl, ?_⟩
    constructor <;> simp [running, selected, progressToks]
  | t :: rest, s, hq, h0, h1 => by
    obtain ⟨a, ha, oa⟩ := runEntry_closed cfg plugins t (endOfGroup t rest) s (hq t (by simp)) h0 h1
    obtain ⟨b, hb, ob⟩ := runTests_closed cfg plugins rest a.st (fun x hx => hq x (by simp [hx]))
      (by rw [oa.depth]; exact h0) (by rw [oa.depth]; exact h1)
    unfold runTests
    rw [ha]; simp only []; rw [hb]
    refine ⟨_, rfl, ?_⟩
    constructor
    case depth => simp [ob.depth, oa.depth]
    case current => simp [ob.current, oa.current]
    case res => simp [ob.res, oa.res]
    case failures => rw [running_cons]; simp [oa.failures, ob.failures]
    case records => rw [running_cons]; simp [oa.records, ob.records]
    case marks => rw [running_cons]; simp [oa.marks, ob.marks]
    case enters => rw [running_cons]; simp [oa.enters, ob.enters]
    case summaries => simp [oa.summaries, ob.summaries]
    case ended => rw [selected_cons]; simp [oa.ended, ob.ended, oa.depth, oa.current]
    case dots => intro hv; rw [selected_cons]; simp [ob.dots hv, oa.dots hv, Nat.add_assoc]
    case plain =>
      intro hv
      rw [selected_cons, List.map_append, progressToks_append]
      simp [oa.plain hv, ob.plain hv, oa.dots hv]
    case safe => simp only [safePlain_append]; exact ⟨oa.safe, ob.safe⟩

theorem selected_length_le (cfg : Cfg) (ts : List Test) : (selected cfg ts).length ≤ ts.length :=
  List.length_filter_le _ _

theorem running_length_le (cfg : Cfg) (ts : List Test) : (running cfg ts).length ≤ (selected cfg ts).length :=
  List.length_filter_le _ _

theorem foldl_addTest (cfg : Cfg) (plugins : List Plugin) : ∀ (ts : List Test) (r : Result),
    ts.foldl (addTest cfg plugins) r =
      { testCount := r.testCount + ts.length,
        runCount := r.runCount + (running cfg ts).length,
        checkCount := r.checkCount + ((running cfg ts).map (testChecksCounted cfg)).sum,
        failureCount := r.failureCount + ((running cfg ts).map (testFailCount cfg plugins)).sum,
        filteredOutCount := r.filteredOutCount + (ts.length - (selected cfg ts).length),
        ignoredCount := r.ignoredCount + ((selected cfg ts).length - (running cfg ts).length) }
  | [], r => by simp [running, selected]
  | t :: rest, r => by
    rw [List.foldl_cons, foldl_addTest cfg plugins rest]
    have h1 := selected_length_le cfg rest
    have h2 := running_length_le cfg rest
    rw [running_cons cfg t rest, selected_cons cfg t rest, running_singleton, selected_singleton]
    cases hs : shouldRun cfg t
    · simp [addTest, hs, Result.countTest, Result.countFilteredOut]
      omega
    · cases hw : willRun cfg t <;>
        simp [addTest, hs, hw, Result.bump, Result.countTest, Result.countRun, Result.countIgnored] <;> omega

theorem foldl_addTest_fresh (cfg : Cfg) (plugins : List Plugin) (ts : List Test) :
    ts.foldl (addTest cfg plugins) {} = expectedCounts cfg plugins ts := by
  rw [foldl_addTest]; simp [expectedCounts]

theorem isFailure_iff (r : Result) : r.isFailure = true ↔ ¬ r.ok := by
  unfold Result.isFailure Gen.Runner.isFailure Result.ok
  simp only [Bool.or_eq_true, bne_iff_ne, beq_iff_eq, ne_eq]
  omega

/-- the verdict `printTestsEnded` prints is the one `TestResult::isFailure` gives (both regenerated) -/
theorem printsFailure_iff (r : Result) : r.printsFailure = true ↔ ¬ r.ok :=
  isFailure_iff r

/-! ## repetitions -/

def flattenRep {α} (k : Nat) (l : List α) : List α := (List.replicate k l).flatten

@[simp] theorem flattenRep_zero {α} (l : List α) : flattenRep 0 l = [] := by simp [flattenRep]
@[simp] theorem flattenRep_one {α} (l : List α) : flattenRep 1 l = l := by simp [flattenRep]
theorem flattenRep_succ {α} (k : Nat) (l : List α) : flattenRep (k + 1) l = l ++ flattenRep k l := by
  simp [flattenRep, List.replicate_succ]
theorem mem_flattenRep {α} {k : Nat} {l : List α} {x : α} (h : x ∈ flattenRep k l) : x ∈ l := by
  simp only [flattenRep, List.mem_flatten, List.mem_replicate] at h
  obtain ⟨_, ⟨_, rfl⟩, h⟩ := h
  exact h

/-- one `TestRegistry::runAllTests(tr)` with fresh counters -/
structure RegistryOutcome (cfg : Cfg) (plugins : List Plugin) (ts : List Test) (s : LSt) (a : LAcc) : Prop where
  depth : a.st.depth = s.depth
  current : a.st.current = s.current
  res : a.st.res = expectedCounts cfg plugins ts
  dots : a.st.out.dotCount = 0
  failures : failuresOf a.evs = expectedFailures cfg plugins ts
  records : recordsOf a.evs = expectedRecords cfg plugins ts
  marks : marksIn a.evs = (running cfg ts).flatMap (testMarks cfg)
  enters : entersOf a.evs = (running cfg ts).flatMap (phasesRun cfg)
  ended : endedOf a.evs = (selected cfg ts).map (fun t => (s.depth, s.current, failedFlag cfg t))
  /-- exactly one summary, with the true counts; its time is the last clock reading of the
      repetition minus the first one (unsigned) -/
  summary : ∃ first last, (clocksOf a.evs).head? = some first ∧ (clocksOf a.evs).getLast? = some last ∧
    summariesOf a.evs = [(expectedCounts cfg plugins ts, elapsed last first)]
  plain : cfg.anyVerbose = false →
    plainToksOf a.evs = progressToks ((selected cfg ts).map (indicatorOf cfg)) s.out.dotCount
  safe : SafePlain a.evs

theorem registryRunAll_closed (cfg : Cfg) (plugins : List Plugin) (ts : List Test) (s : LSt)
    (hres : s.res = {}) (hq : ∀ t ∈ ts, QuietTest cfg t) (h0 : inBuf s.depth = true) (h1 : inBuf (s.depth + 1) = true) :
    ∃ a, registryRunAll cfg plugins ts s = .ok a ∧ RegistryOutcome cfg plugins ts s a := by
  unfold registryRunAll
  obtain ⟨b, hb, ob⟩ := runTests_closed cfg plugins ts { s with tick := s.tick + 1, groupStart := true } hq h0 h1
  rw [hb]
  refine ⟨_, rfl, ?_⟩
  have hr : b.st.res = expectedCounts cfg plugins ts := by
    rw [ob.res]; simp only [hres]; exact foldl_addTest_fresh cfg plugins ts
  constructor
  case depth => simp [ob.depth]
  case current => simp [ob.current]
  case res => simp [hr]
  case dots => rfl
  case failures => simp [ob.failures, expectedFailures, Ev.failure?]
  case records => simp [ob.records, expectedRecords, Ev.record?]
  case marks => simp [ob.marks, Ev.mark?]
  case enters => simp [ob.enters, Ev.enter?]
  case ended => simp [ob.ended, Ev.ended?]
  case summary =>
    refine ⟨readClock cfg s.tick, readClock cfg b.st.tick, ?_, ?_, ?_⟩
    · simp [Ev.clock?]
    · simp only [clocksOf_cons, clocksOf_append, Ev.clock?, Option.toList, List.singleton_append, clocksOf_nil,
        List.append_nil]
      rw [List.getLast?_append]
      simp
    · simp [ob.summaries, Ev.summary?, hr]
  case plain => intro hv; simp [ob.plain hv, Ev.tok?]
  case safe =>
    have h1 : SafePlain [Ev.clock (readClock cfg b.st.tick),
        Ev.summary b.st.res (elapsed (readClock cfg b.st.tick) (readClock cfg s.tick))] := by
      simp [safePlain_cons, Ev.tok?]
    have h2 : SafePlain (b.evs ++ [Ev.clock (readClock cfg b.st.tick),
        Ev.summary b.st.res (elapsed (readClock cfg b.st.tick) (readClock cfg s.tick))]) :=
      (safePlain_append _ _).mpr ⟨ob.safe, h1⟩
    exact (safePlain_cons _ _).mpr ⟨by simp [Ev.tok?], h2⟩

structure RepOutcome (cfg : Cfg) (plugins : List Plugin) (ts : List Test) (k : Nat) (s : RSt) (a : RAcc) : Prop where
  depth : a.st.depth = s.depth
  current : a.st.current = s.current
  reps : a.reps = List.replicate k (expectedCounts cfg plugins ts)
  failedTests : a.st.failedTestCount = s.failedTestCount + k * (expectedCounts cfg plugins ts).failureCount
  failedExecs : a.st.failedExecutionCount =
    s.failedExecutionCount + (if (expectedCounts cfg plugins ts).isFailure then k else 0)
  failures : failuresOf a.evs = flattenRep k (expectedFailures cfg plugins ts)
  records : recordsOf a.evs = flattenRep k (expectedRecords cfg plugins ts)
  marks : marksIn a.evs = flattenRep k ((running cfg ts).flatMap (testMarks cfg))
  enters : entersOf a.evs = flattenRep k ((running cfg ts).flatMap (phasesRun cfg))
  summaries : (summariesOf a.evs).map Prod.fst = List.replicate k (expectedCounts cfg plugins ts)
  ended : endedOf a.evs = flattenRep k ((selected cfg ts).map (fun t => (s.depth, s.current, failedFlag cfg t)))
  safe : SafePlain a.evs

theorem repetition_closed (cfg : Cfg) (plugins : List Plugin) (ts : List Test) (number total : Nat) (s : RSt)
    (hq : ∀ t ∈ ts, QuietTest cfg t) (h0 : inBuf s.depth = true) (h1 : inBuf (s.depth + 1) = true) :
    ∃ a, repetition cfg plugins ts number total s = .ok a ∧ RepOutcome cfg plugins ts 1 s a := by
  unfold repetition
  obtain ⟨b, hb, ob⟩ := registryRunAll_closed cfg plugins ts ⟨{}, s.depth, s.current, s.out, s.tick, true⟩ rfl hq h0 h1
  rw [hb]
  refine ⟨_, rfl, ?_⟩
  obtain ⟨first, last, _, _, hsum⟩ := ob.summary
  constructor
  case depth => simp [ob.depth]
  case current => simp [ob.current]
  case reps => simp [ob.res]
  case failedTests => simp [ob.res]
  case failedExecs => simp only [ob.res]; split <;> simp
  case failures => simp [ob.failures]
  case records => simp [ob.records]
  case marks => simp [ob.marks]
  case enters => simp [ob.enters]
  case summaries => simp [hsum]
  case ended => simp [ob.ended]
  case safe => simp only [safePlain_append]; exact ⟨testRunToks_safe number total, ob.safe⟩

theorem repeatLoop_closed (cfg : Cfg) (plugins : List Plugin) (ts : List Test) (total : Nat)
    (hq : ∀ t ∈ ts, QuietTest cfg t) :
    ∀ (k number : Nat) (s : RSt), inBuf s.depth = true → inBuf (s.depth + 1) = true →
      ∃ a, repeatLoop cfg plugins ts total k number s = .ok a ∧ RepOutcome cfg plugins ts k s a
  | 0, number, s, _, _ => by
    refine ⟨_, rfl, ?_⟩
    constructor <;> simp
  | k + 1, number, s, h0, h1 => by
    obtain ⟨a, ha, oa⟩ := repetition_closed cfg plugins ts number total s hq h0 h1
    obtain ⟨b, hb, ob⟩ := repeatLoop_closed cfg plugins ts total hq k (number + 1) a.st
      (by rw [oa.depth]; exact h0) (by rw [oa.depth]; exact h1)
    unfold repeatLoop
    rw [ha]; simp only []; rw [hb]
    refine ⟨_, rfl, ?_⟩
    constructor
    case depth => simp [ob.depth, oa.depth]
    case current => simp [ob.current, oa.current]
    case reps => simp [ob.reps, oa.reps, List.replicate_succ]
    case failedTests => simp only [ob.failedTests, oa.failedTests, Nat.add_mul]; omega
    case failedExecs => simp only [ob.failedExecs, oa.failedExecs]; split <;> omega
    case failures => simp [ob.failures, oa.failures, flattenRep_succ]
    case records => simp [ob.records, oa.records, flattenRep_succ]
    case marks => simp [ob.marks, oa.marks, flattenRep_succ]
    case enters => simp [ob.enters, oa.enters, flattenRep_succ]
    case summaries => simp [ob.summaries, oa.summaries, List.replicate_succ]
    case ended => simp [ob.ended, oa.ended, flattenRep_succ, oa.depth, oa.current]
    case safe => simp only [safePlain_append]; exact ⟨oa.safe, ob.safe⟩

structure RunOutcome (cfg : Cfg) (plugins : List Plugin) (ts : List Test) (n : Nat) (d : Int) (o : RunOut) : Prop where
  depth : o.depth = d
  current : o.current = none
  reps : o.reps = List.replicate n (expectedCounts cfg plugins ts)
  ret : o.ret = Gen.Runner.returnValue (n * (expectedCounts cfg plugins ts).failureCount)
                  (if (expectedCounts cfg plugins ts).isFailure then n else 0)
  lastEv : o.evs.getLast? = some (.ret o.ret)
  failures : failuresOf o.evs = flattenRep n (expectedFailures cfg plugins ts)
  records : recordsOf o.evs = flattenRep n (expectedRecords cfg plugins ts)
  marks : marksIn o.evs = flattenRep n ((running cfg ts).flatMap (testMarks cfg))
  enters : entersOf o.evs = flattenRep n ((running cfg ts).flatMap (phasesRun cfg))
  summaries : (summariesOf o.evs).map Prod.fst = List.replicate n (expectedCounts cfg plugins ts)
  ended : endedOf o.evs = flattenRep n ((selected cfg ts).map (fun t => (d, none, failedFlag cfg t)))
  safe : SafePlain o.evs

theorem runAllTests_closed (cfg : Cfg) (plugins : List Plugin) (ts : List Test) (n : Nat) (d : Int)
    (hq : ∀ t ∈ ts, QuietTest cfg t) (h0 : inBuf d = true) (h1 : inBuf (d + 1) = true) :
    ∃ o, runAllTests cfg plugins ts n d = .ok o ∧ RunOutcome cfg plugins ts n d o := by
  unfold runAllTests
  obtain ⟨a, ha, oa⟩ := repeatLoop_closed cfg plugins ts n hq n 1 ⟨d, none, {}, 0, 0, 0⟩ h0 h1
  rw [ha]
  refine ⟨_, rfl, ?_⟩
  constructor
  case depth => simp [oa.depth]
  case current => simp [oa.current]
  case reps => simp [oa.reps]
  case ret => simp [runnerReturn, oa.failedTests, oa.failedExecs]
  case lastEv => simp
  case failures => simp [oa.failures, Ev.failure?]
  case records => simp [oa.records, Ev.record?]
  case marks => simp [oa.marks, Ev.mark?]
  case enters => simp [oa.enters, Ev.enter?]
  case summaries => simp [oa.summaries, Ev.summary?]
  case ended => simp [oa.ended, Ev.ended?]
  case safe =>
    rw [safePlain_append]
    exact ⟨oa.safe, by simp [safePlain_cons, Ev.tok?]⟩

/-! ## rethrow mode: the exception leaves the run -/

theorem throwsOut_eq (exc : Bool) : ∀ (p : List Stmt),
    throwsOut exc p = (match exitOf exc p with
      | .exc .std => some .std
      | .exc .other => some .other
      | _ => none)
  | [] => by simp [throwsOut, exitOf]
  | s :: rest => by
    have ih := throwsOut_eq exc rest
    cases exc <;>
    (cases s with
      | check k pass loc msg =>
        cases hfw : k.failsWhen pass
        · simp [throwsOut, exitOf, hfw, ih]
        · cases hc : k.isC <;> simp [throwsOut, exitOf, hfw, hc]
      | _ => simp [throwsOut, exitOf, ih])

theorem exit_of_throwsOut {exc : Bool} {p : List Stmt} {k : ExcKind} (h : throwsOut exc p = some k) :
    exitOf exc p = .exc k ∧ (k = .std ∨ k = .other) := by
  rw [throwsOut_eq] at h
  cases hx : exitOf exc p with
  | normal => simp [hx] at h
  | longjmp => simp [hx] at h
  | exc j => cases j <;> simp [hx] at h <;> subst h <;> simp

theorem quiet_of_not_throwsOut {cfg : Cfg} {p : List Stmt} (h : throwsOut cfg.exceptions p = none) :
    QuietExit cfg (exitOf cfg.exceptions p) := by
  rw [throwsOut_eq] at h
  refine Or.inr ?_
  cases hx : exitOf cfg.exceptions p with
  | normal => simp
  | longjmp => simp
  | exc j => cases j <;> simp [hx] at h ⊢

theorem bind_error {α β} {x : Except Stop α} {e : Stop} (h : x = .error e) (f : α → Except Stop β) :
    (match x with
      | .error s => (.error s : Except Stop β)
      | .ok a => f a) = .error e := by
  subst h; rfl

/-- what the throwing test did before the exception left `Utest::run` -/
structure ThrowOutcome (cfg : Cfg) (t : Test) (ph : Phase) (k : ExcKind) (st : TSt) (p : Propagated) : Prop where
  kind : p.kind = k
  depth : p.depth = st.depth
  current : p.current = st.current
  enters : entersOf p.evs = phasesUpTo cfg t ph
  marks : marksIn p.evs = marksUpTo cfg t ph
  failures : failuresOf p.evs = (phasesUpTo cfg t ph).flatMap (fun q => phaseFailures cfg t (stmtsOf t q))
  summaries : summariesOf p.evs = []
  ended : endedOf p.evs = []

theorem completes_false_of_throws {exc : Bool} {p : List Stmt} {k : ExcKind} (h : throwsOut exc p = some k) :
    completes exc p = false := by
  have hx := (exit_of_throwsOut h).1
  cases hc : completes exc p with
  | false => rfl
  | true => rw [(exitOf_normal_iff exc p).mpr hc] at hx; cases hx

theorem utestRun_thrown (cfg : Cfg) (t : Test) (st : TSt) (ph : Phase) (k : ExcKind)
    (hx : cfg.exceptions = true) (hr : cfg.rethrow = true) (hf : firstThrow cfg t = some (ph, k))
    (h : inBuf st.depth = true) :
    ∃ p, utestRun cfg t st = .error (.propagated p) ∧ p.kind = k ∧ p.depth = st.depth ∧ p.current = st.current ∧
      core p.evs = (phasesUpTo cfg t ph).flatMap (phaseTrace cfg t st.depth) := by
  unfold utestRun utestRunExc
  simp only [hx, if_true]
  unfold firstThrow phasesRun at hf
  -- the first of setup, body (if setup completes), teardown that lets a std / foreign exception out is `ph`
  cases hs : throwsOut cfg.exceptions t.setup with
  | some ks =>
    have hc := completes_false_of_throws hs
    simp [hs, stmtsOf] at hf
    obtain ⟨rfl, rfl⟩ := hf
    obtain ⟨he, hk⟩ := exit_of_throwsOut hs
    rw [tryBlock1_eq cfg t st h, try_phase_throws cfg t .setup st [] ks hr he hk h]
    exact ⟨_, rfl, rfl, rfl, rfl, by simp [phasesUpTo, phasesRun, hc, Phase.idx]⟩
  | none =>
    have hqs := quiet_of_not_throwsOut hs
    -- neither setup nor (if it runs) the body lets an exception out: it is teardown's
    have hteardown : (completes cfg.exceptions t.setup = true → QuietExit cfg (exitOf cfg.exceptions t.body)) →
        (throwsOut cfg.exceptions t.teardown).map (fun k => (Phase.teardown, k)) = some (ph, k) →
        ∃ p, (match tryBlock1 cfg t st with
            | .error f => (.error f : Except Stop Acc)
            | .ok a => tryBlock2 cfg t a) = .error (.propagated p) ∧ p.kind = k ∧ p.depth = st.depth ∧
          p.current = st.current ∧ core p.evs = (phasesUpTo cfg t ph).flatMap (phaseTrace cfg t st.depth) := by
      intro hqb hf
      cases htd : throwsOut cfg.exceptions t.teardown with
      | none => simp [htd] at hf
      | some kt =>
        simp [htd] at hf
        obtain ⟨rfl, rfl⟩ := hf
        obtain ⟨he, hk⟩ := exit_of_throwsOut htd
        rw [tryBlock1_closed cfg t st hqs hqb h]
        refine ⟨_, try_phase_throws cfg t .teardown (afterBody cfg t st).st (afterBody cfg t st).evs kt hr he hk
          (by simpa using h), rfl, by simp, by simp, ?_⟩
        cases hc : completes cfg.exceptions t.setup <;>
          simp [afterBody, setup_normal_iff, phasesUpTo, phasesRun, hc, Phase.idx]
    cases hc : completes cfg.exceptions t.setup with
    | true =>
      cases hb : throwsOut cfg.exceptions t.body with
      | some kb =>
        simp [hs, hb, hc, stmtsOf] at hf
        obtain ⟨rfl, rfl⟩ := hf
        obtain ⟨he, hk⟩ := exit_of_throwsOut hb
        have hn : exitOf cfg.exceptions (stmtsOf t .setup) = .normal := (exitOf_normal_iff _ _).mpr hc
        rw [tryBlock1_eq cfg t st h, try_phase cfg t .setup st [] hqs h]
        simp only [hn, if_true, List.nil_append]
        rw [try_phase_throws cfg t .body _ _ kb hr he hk (by simpa using h)]
        exact ⟨_, rfl, rfl, by simp, by simp, by simp [phasesUpTo, phasesRun, hc, Phase.idx]⟩
      | none =>
        exact hteardown (fun _ => quiet_of_not_throwsOut hb) (by simpa [hs, hb, hc, stmtsOf] using hf)
    | false =>
      exact hteardown (fun hc' => by rw [hc] at hc'; cases hc') (by simpa [hs, hc, stmtsOf] using hf)

theorem utestRun_propagates (cfg : Cfg) (t : Test) (st : TSt) (ph : Phase) (k : ExcKind)
    (hx : cfg.exceptions = true) (hr : cfg.rethrow = true) (hf : firstThrow cfg t = some (ph, k))
    (h : inBuf st.depth = true) :
    ∃ p, utestRun cfg t st = .error (.propagated p) ∧ ThrowOutcome cfg t ph k st p := by
  obtain ⟨p, hp, hk, hd, hcur, hc⟩ := utestRun_thrown cfg t st ph k hx hr hf h
  exact ⟨p, hp,
    { kind := hk, depth := hd, current := hcur,
      enters := (proj_of_core hc).trans (phases_enters ..),
      marks := (proj_of_core hc).trans (phases_marks ..),
      failures := (proj_of_core hc).trans (phases_failures ..),
      summaries := (proj_of_core hc).trans (phases_other ..).1,
      ended := (proj_of_core hc).trans (phases_other ..).2 }⟩

/-- what has been observed when the exception leaves an enclosing level: `pre` ran before it -/
structure LeftOutcome (cfg : Cfg) (plugins : List Plugin) (pre : List Test) (t : Test) (ph : Phase) (k : ExcKind)
    (d : Int) (p : Propagated) : Prop where
  kind : p.kind = k
  depth : p.depth = d + 1                         -- nobody decremented on the way out of runOneTest
  current : p.current = some t.name               -- the saved current test was not put back
  enters : entersOf p.evs = (running cfg pre).flatMap (phasesRun cfg) ++ phasesUpTo cfg t ph
  marks : marksIn p.evs = (running cfg pre).flatMap (testMarks cfg) ++ marksUpTo cfg t ph
  failures : failuresOf p.evs = (running cfg pre).flatMap (testFailures cfg plugins) ++ failuresUpTo cfg plugins t ph
  summaries : summariesOf p.evs = []
  endedCount : (endedOf p.evs).length = (selected cfg pre).length

theorem runOneTest_propagates (cfg : Cfg) (plugins : List Plugin) (t : Test) (st : TSt) (ph : Phase) (k : ExcKind)
    (hx : cfg.exceptions = true) (hr : cfg.rethrow = true) (hf : firstThrow cfg t = some (ph, k))
    (h0 : inBuf st.depth = true) (h1 : inBuf (st.depth + 1) = true) :
    ∃ p, runOneTest cfg plugins t st = .error (.propagated p) ∧ LeftOutcome cfg plugins [] t ph k st.depth p := by
  unfold runOneTest setJmp
  simp only [h0, Bool.not_true, Bool.false_eq_true, if_false, runOneTestInCurrentProcess, runAllPre_eq]
  obtain ⟨q, hq, hk, hd, hcur, hc⟩ := utestRun_thrown cfg t
    { res := (st.res.countRun).bump 0 (preFailures cfg plugins t).length, hasFailed := false, depth := st.depth + 1,
      current := some t.name } ph k hx hr hf h1
  rw [hq]
  have hcore : core (beforeRun cfg (preTrace cfg plugins t (st.depth + 1)) ++ q.evs) =
      traceUpTo cfg plugins t (st.depth + 1) (phasesUpTo cfg t ph) := by
    simp [beforeRun, hc, traceUpTo, preTrace]
  exact ⟨_, rfl,
    { kind := hk, depth := hd, current := hcur,
      enters := (proj_of_core hcore).trans (traceUpTo_enters ..),
      marks := (proj_of_core hcore).trans (traceUpTo_marks ..),
      failures := (proj_of_core hcore).trans (traceUpTo_failures ..),
      summaries := (proj_of_core hcore).trans (traceUpTo_other ..).1,
      endedCount := congrArg List.length ((proj_of_core hcore).trans (traceUpTo_other ..).2) }⟩

theorem runEntry_propagates (cfg : Cfg) (plugins : List Plugin) (t : Test) (last : Bool) (s : LSt) (ph : Phase) (k : ExcKind)
    (hx : cfg.exceptions = true) (hr : cfg.rethrow = true) (hsep : cfg.separate = false) (hs : shouldRun cfg t = true) (hw : willRun cfg t = true)
    (hf : firstThrow cfg t = some (ph, k)) (h0 : inBuf s.depth = true) (h1 : inBuf (s.depth + 1) = true) :
    ∃ p, runEntry cfg plugins t last s = .error (.propagated p) ∧ LeftOutcome cfg plugins [] t ph k s.depth p := by
  obtain ⟨_, _, hg, -⟩ := groupStarted_spec cfg s
  obtain ⟨q, hq, oq⟩ := runOneTest_propagates cfg plugins t
    ⟨(groupStarted cfg s).st.res.countTest, false, (groupStarted cfg s).st.depth, (groupStarted cfg s).st.current⟩ ph k hx hr hf
    (by rw [hg]; exact h0) (by rw [hg]; exact h1)
  unfold runEntry runFiltered runSelected runOneTestMode
  simp only [hs, hw, if_true, hsep, Bool.false_eq_true, if_false]
  rw [hq]
  refine ⟨_, rfl, ?_⟩
  constructor
  case kind => simp [oq.kind]
  case depth => simp [oq.depth, hg]
  case current => simp [oq.current]
  case enters => simpa [Stop.prepend, Ev.enter?] using oq.enters
  case marks => simpa [Stop.prepend, Ev.mark?] using oq.marks
  case failures => simpa [Stop.prepend, Ev.failure?] using oq.failures
  case summaries => simpa [Stop.prepend, Ev.summary?] using oq.summaries
  case endedCount => simpa [Stop.prepend, Ev.ended?] using oq.endedCount

theorem runTests_propagates (cfg : Cfg) (plugins : List Plugin) (t : Test) (post : List Test) (ph : Phase) (k : ExcKind)
    (hx : cfg.exceptions = true) (hr : cfg.rethrow = true) (hsep : cfg.separate = false) (hs : shouldRun cfg t = true) (hw : willRun cfg t = true)
    (hf : firstThrow cfg t = some (ph, k)) :
    ∀ (pre : List Test) (s : LSt), (∀ x ∈ pre, QuietTest cfg x) → inBuf s.depth = true → inBuf (s.depth + 1) = true →
      ∃ p, runTests cfg plugins (pre ++ t :: post) s = .error (.propagated p) ∧ LeftOutcome cfg plugins pre t ph k s.depth p
  | [], s, _, h0, h1 => by
    obtain ⟨q, hq, oq⟩ := runEntry_propagates cfg plugins t (endOfGroup t post) s ph k hx hr hsep hs hw hf h0 h1
    simp only [List.nil_append]
    unfold runTests
    rw [hq]
    exact ⟨_, rfl, oq⟩
  | x :: pre, s, hq, h0, h1 => by
    obtain ⟨a, ha, oa⟩ := runEntry_closed cfg plugins x (endOfGroup x (pre ++ t :: post)) s (hq x (by simp)) h0 h1
    obtain ⟨q, hqq, oq⟩ := runTests_propagates cfg plugins t post ph k hx hr hsep hs hw hf pre a.st
      (fun y hy => hq y (by simp [hy])) (by rw [oa.depth]; exact h0) (by rw [oa.depth]; exact h1)
    simp only [List.cons_append]
    unfold runTests
    rw [ha]; simp only []; rw [hqq]
    refine ⟨_, rfl, ?_⟩
    constructor
    case kind => simp [oq.kind]
    case depth => simp [oq.depth, oa.depth]
    case current => simp [oq.current]
    case enters => rw [running_cons]; simp [oq.enters, oa.enters]
    case marks => rw [running_cons]; simp [oq.marks, oa.marks]
    case failures => rw [running_cons]; simp [oq.failures, oa.failures]
    case summaries => simp [oq.summaries, oa.summaries]
    case endedCount => rw [selected_cons]; simp [oq.endedCount, oa.ended, Nat.add_comm]

theorem runAllTests_propagates (cfg : Cfg) (plugins : List Plugin) (pre : List Test) (t : Test) (post : List Test)
    (ph : Phase) (k : ExcKind) (n : Nat) (d : Int)
    (hx : cfg.exceptions = true) (hr : cfg.rethrow = true) (hsep : cfg.separate = false) (hq : ∀ x ∈ pre, QuietTest cfg x)
    (hs : shouldRun cfg t = true) (hw : willRun cfg t = true) (hf : firstThrow cfg t = some (ph, k)) (hn : 0 < n)
    (h0 : inBuf d = true) (h1 : inBuf (d + 1) = true) :
    ∃ p, runAllTests cfg plugins (pre ++ t :: post) n d = .error (.propagated p) ∧ LeftOutcome cfg plugins pre t ph k d p := by
  obtain ⟨m, rfl⟩ : ∃ m, n = m + 1 := ⟨n - 1, by omega⟩
  obtain ⟨q, hqq, oq⟩ := runTests_propagates cfg plugins t post ph k hx hr hsep hs hw hf pre
    ⟨{}, d, none, {}, 0 + 1, true⟩ hq h0 h1
  unfold runAllTests repeatLoop repetition registryRunAll
  rw [hqq]
  refine ⟨_, rfl, ?_⟩
  constructor
  case kind => simp [oq.kind]
  case depth => simp [oq.depth]
  case current => simp [oq.current]
  case enters => simp [oq.enters, Ev.enter?]
  case marks => simp [oq.marks, Ev.mark?]
  case failures => simp [oq.failures, Ev.failure?]
  case summaries => simp [oq.summaries, Ev.summary?]
  case endedCount => simp [oq.endedCount, Ev.ended?]

end Runner
