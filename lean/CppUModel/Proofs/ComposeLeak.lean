import CppUModel.Proofs.LeakDetector
import CppUModel.Proofs.LeakPlugin
/-!
For `Props/C07x.lean`: the abstract detector of `Model/LeakPlugin.lean` (C07) against the table model
`Model/LeakDetector.lean` (C04/C06).  `R` says that the abstract detector holds the table's records (as a multiset), its
current period and its next allocation number; it is carried over any step of the table from the records the step
leaves and its scalars, so the simulation unfolds no table operation.
-/
namespace Compose.Leak
open LeakDetector

abbrev DPeriod := Gen.LeakDetector.Period
abbrev PPeriod := LeakPlugin.Period

/-- the two regenerated copies of `enum MemLeakPeriod` -/
def toPP : DPeriod → PPeriod
  | .all => .all
  | .disabled => .disabled
  | .enabled => .enabled
  | .checking => .checking

def ofPP : PPeriod → DPeriod
  | .all => .all
  | .disabled => .disabled
  | .enabled => .enabled
  | .checking => .checking

theorem toPP_ofPP (p : PPeriod) : toPP (ofPP p) = p := by cases p <;> rfl
theorem ofPP_toPP (p : DPeriod) : ofPP (toPP p) = p := by cases p <;> rfl

/-- what the abstract detector keeps of a `MemoryLeakDetectorNode` -/
def recOf (n : Node) : LeakPlugin.Rec :=
  { id := n.addr, period := toPP n.period, num := n.number, size := n.size }

/-- The simulation relation: same records (as a multiset: the abstract list is "most recent first",
    the table is ordered by bucket), same current period, same next allocation number; the table
    satisfies its invariant.  The text buffer (`out`) is not table state and is not related. -/
structure R (s : State) (d : LeakPlugin.Detector) : Prop where
  inv : s.Inv
  recs : (s.nodes.map recOf).Perm d.recs
  cur : toPP s.period = d.cur
  seq : s.seq = d.seq

theorem R.congr {s : State} {d d' : LeakPlugin.Detector} (h : R s d) (h1 : d'.recs = d.recs) (h2 : d'.cur = d.cur)
    (h3 : d'.seq = d.seq) : R s d' :=
  { inv := h.inv, recs := by rw [h1]; exact h.recs, cur := by rw [h2]; exact h.cur, seq := by rw [h3]; exact h.seq }

/-! ## reading records off the table -/

theorem map_recOf_filter_ne (L : List Node) (a : Nat) :
    (L.filter (fun n => n.addr != a)).map recOf = (L.map recOf).filter (fun r => r.id != a) := by
  rw [List.filter_map]
  rfl

theorem map_recOf_sepNode (L : List Node) (a : Nat) (sep : Bool) :
    (L.map (atAddr a fun n => { n with sepNode := sep })).map recOf = L.map recOf := by
  rw [List.map_map]
  exact List.map_congr_left fun n _ => by unfold Function.comp atAddr; split <;> rfl

theorem recOf_newNode (s : State) (addr size : Nat) (a : Allocator) (file : String) (line : Nat)
    (sep : Bool) (fill : UInt8) :
    recOf (Spec.newNode (abs s) addr size a file line sep fill) =
      { id := addr, period := toPP s.period, num := s.seq, size := size } := rfl

/-! ## the two regenerated visibility rules agree -/

theorem isInPeriod_agree (np p : DPeriod) :
    Gen.LeakCode.isInPeriod (toPP np) (toPP p) = Gen.LeakDetector.isInPeriod np p := by
  cases np <;> cases p <;> rfl

theorem isInPeriod_recOf (n : Node) (p : PPeriod) :
    Gen.LeakCode.isInPeriod (recOf n).period p = LeakDetector.isInPeriod (ofPP p) n := by
  have := isInPeriod_agree n.period (ofPP p)
  rw [toPP_ofPP] at this
  exact this

theorem recOf_demote (n : Node) : recOf (demote n) = LeakPlugin.Detector.demoteRec (recOf n) := by
  cases n with
  | mk addr size number file line allocator period stage sepNode bytes =>
    cases period <;> rfl

/-! ## observables under `R` -/

theorem R.ids_nonzero {s : State} {d : LeakPlugin.Detector} (h : R s d) : ∀ r ∈ d.recs, r.id ≠ 0 := by
  intro r hr
  obtain ⟨n, hn, rfl⟩ := List.mem_map.mp (h.recs.mem_iff.mpr hr)
  exact h.inv.nonnull n hn

theorem R.isLive_eq {s : State} {d : LeakPlugin.Detector} (h : R s d) (id : Nat) :
    d.isLive id = LeakDetector.isLive s id := by
  rw [Bool.eq_iff_iff]
  unfold LeakPlugin.Detector.isLive LeakDetector.isLive
  simp only [List.any_eq_true, beq_iff_eq]
  constructor
  · rintro ⟨r, hr, rfl⟩
    obtain ⟨n, hn, rfl⟩ := List.mem_map.mp (h.recs.mem_iff.mpr hr)
    exact ⟨n, hn, rfl⟩
  · rintro ⟨n, hn, rfl⟩
    exact ⟨recOf n, h.recs.mem_iff.mp (List.mem_map_of_mem hn), rfl⟩

theorem R.ids_nodup {s : State} {d : LeakPlugin.Detector} (h : R s d) : (d.recs.map (·.id)).Nodup := by
  have hp : ((s.nodes.map recOf).map (·.id)).Perm (d.recs.map (·.id)) := h.recs.map _
  refine hp.nodup_iff.mp ?_
  rw [List.map_map]
  exact h.inv.distinct

/-- The abstract detector `d'` follows a step of the table: it is enough that it holds the records the step leaves
    (`nodesAfter`, read through `recOf`, in any order), the period the step switches to, and the allocation number
    moved on by the allocations that returned memory.  No table operation is unfolded for this. -/
theorem R.step {s : State} {d d' : LeakPlugin.Detector} {k : Nat} (h : R s d) (op : Op) (hf : FreshAddr s op)
    (recs : ((nodesAfter s op).map recOf).Perm d'.recs) (cur : toPP ((periodSwitch op).getD s.period) = d'.cur)
    (hk : successes (step s op).2 = k) (seq : s.seq + k = d'.seq) : R (step s op).1 d' :=
  have ⟨inv, hp, _⟩ := step_nodes h.inv op hf
  have ⟨hs, hc, _⟩ := step_scalars s op
  { inv, recs := (hp.map recOf).trans recs, cur := hc ▸ cur, seq := hs.trans (hk ▸ seq) }

end Compose.Leak

/-! ## table histories that follow the C07 model -/
namespace Compose.C07x
open LeakDetector Compose.Leak
open LeakPlugin (Detector World)

/-- some table history (satisfying the C04 environment hypothesis) leads from `s` to a state related to `d` -/
def Reach (s : State) (d : Detector) : Prop := ∃ ops, FreshAll s ops ∧ R (run s ops).1 d

theorem Reach.refl {s : State} {d : Detector} (h : R s d) : Reach s d := ⟨[], trivial, h⟩

theorem Reach.trans {s : State} {d d' : Detector} (h1 : Reach s d) (h2 : ∀ s', R s' d → Reach s' d') : Reach s d' := by
  obtain ⟨ops1, f1, r1⟩ := h1
  obtain ⟨ops2, f2, r2⟩ := h2 _ r1
  exact ⟨ops1 ++ ops2, freshAll_append _ _ _ f1 f2, by rw [run_append_fst]; exact r2⟩

/-- The real table can follow the model step `f`: whatever `f` (a scripted command, a phase, the plugin's pre
    action, …) does to the abstract detector of the C07 model, some sequence of table operations that meets the
    environment hypothesis of the C04 theorems does to the hash table (`R` before, `R` after). -/
def Reaches (f : World → World) : Prop := ∀ (w : World) {s : State}, R s w.det → Reach s (f w).det

theorem Reaches.of_det_eq {f : World → World} (hd : ∀ w, (f w).det = w.det) : Reaches f :=
  fun w _ h => Reach.refl (hd w ▸ h)

theorem Reaches.comp {f₁ f₂ : World → World} (h₁ : Reaches f₁) (h₂ : Reaches f₂) : Reaches fun w => f₂ (f₁ w) :=
  fun w _ h => (h₁ w h).trans fun _ h' => h₂ _ h'

theorem Reaches.foldl {α : Type} {f : World → α → World} :
    ∀ xs : List α, (∀ x ∈ xs, Reaches fun w => f w x) → Reaches fun w => xs.foldl f w
  | [], _ => Reaches.of_det_eq fun _ => rfl
  | x :: xs, hx =>
    Reaches.comp (hx x (List.mem_cons_self ..)) (Reaches.foldl xs fun y hy => hx y (List.mem_cons_of_mem _ hy))

end Compose.C07x
