import CppUModel.Spec.LeakDetector
import CppUModel.Proofs.ListLemmas
/-! Helper lemmas for the C04 / C06 theorems: the model's loops as list functions, the table as its flat
list of records (what each table operation does to it, that the invariant is kept), the three pointer-chasing loops,
and for every operation the records it leaves (`step_nodes`), of which the finite map, the allocation numbers and the
other models of the detector are images. -/
namespace LeakDetector
open Gen.LeakDetector (Period)

namespace Bucket

theorem retrieveNode_eq_find (b : Bucket) (a : Nat) :
    retrieveNode b a = b.find? (fun n => n.addr == a) := by
  induction b with
  | nil => rfl
  | cons n rest ih =>
    simp only [retrieveNode, List.find?_cons]
    by_cases h : n.addr = a
    · simp [h]
    · have hb : (n.addr == a) = false := by simp [h]
      simp [h, hb, ih]

theorem unlinkNode_eq_eraseP (b : Bucket) (a : Nat) :
    unlinkNode b a = b.eraseP (fun n => n.addr == a) := by
  induction b with
  | nil => rfl
  | cons n rest ih =>
    simp only [unlinkNode, List.eraseP_cons]
    by_cases h : n.addr = a
    · simp [h]
    · have hb : (n.addr == a) = false := by simp [h]
      simp [h, hb, ih]

theorem clear_eq_filter (p : Period) (b : Bucket) :
    clearAllAccounting p b = b.filter (fun n => !isInPeriod p n) := by
  induction b with
  | nil => rfl
  | cons n rest ih =>
    simp only [clearAllAccounting, List.filter_cons]
    by_cases h : isInPeriod p n = true
    · simp [h, ih]
    · simp [h, ih]

theorem getLeakFrom_eq_find (q : Node → Bool) (b : Bucket) : getLeakFrom q b = b.find? q := by
  induction b with
  | nil => rfl
  | cons n rest ih =>
    simp only [getLeakFrom, List.find?_cons]
    by_cases h : q n = true
    · simp [h]
    · simp [h, ih]

theorem getTotalLeaks_eq_countP (p : Period) (b : Bucket) :
    getTotalLeaks p b = b.countP (isInPeriod p) := by
  induction b with
  | nil => rfl
  | cons n rest ih =>
    simp only [getTotalLeaks, List.countP_cons, ih]
    by_cases h : isInPeriod p n = true <;> simp [h] <;> omega

theorem nextOf_prefix (pre l : List Node) (a : Nat) (h1 : ∀ n ∈ pre, n.addr ≠ a) :
    nextOf (pre ++ l) a = nextOf l a := by
  induction pre with
  | nil => rfl
  | cons x xs ih =>
    have hx : x.addr ≠ a := h1 x (by simp)
    simp only [List.cons_append, nextOf, hx, if_false]
    exact ih (fun n hn => h1 n (by simp [hn]))

theorem nextOf_suffix (b post : List Node) (a : Nat) (h : ∃ n ∈ b, n.addr = a) :
    nextOf (b ++ post) a = nextOf b a ++ post := by
  induction b with
  | nil => simp at h
  | cons x xs ih =>
    by_cases hx : x.addr = a
    · simp [nextOf, hx]
    · simp only [List.cons_append, nextOf, hx, if_false]
      apply ih
      obtain ⟨n, hn, hna⟩ := h
      simp only [List.mem_cons] at hn
      rcases hn with rfl | hn
      · exact absurd hna hx
      · exact ⟨n, hn, hna⟩

end Bucket

/-! ## lookup by address in a list of records with pairwise distinct addresses -/

def lookup (L : List Node) (a : Nat) : Option Node := L.find? (fun n => n.addr == a)

theorem lookup_nil (a : Nat) : lookup [] a = none := rfl

theorem lookup_cons (x : Node) (xs : List Node) (a : Nat) :
    lookup (x :: xs) a = if x.addr = a then some x else lookup xs a := by
  unfold lookup
  by_cases h : x.addr = a
  · simp [h]
  · have hb : (x.addr == a) = false := by simp [h]
    simp [hb, h]

theorem lookup_eq_none {L : List Node} {a : Nat} : lookup L a = none ↔ ∀ n ∈ L, n.addr ≠ a := by
  unfold lookup
  simp [List.find?_eq_none]

theorem lookup_some_mem {L : List Node} {a : Nat} {n : Node} (h : lookup L a = some n) : n ∈ L ∧ n.addr = a :=
  ⟨List.mem_of_find?_eq_some h, by simpa using List.find?_some h⟩

theorem lookup_eq_some {L : List Node} (hnd : (L.map (·.addr)).Nodup) {a : Nat} {n : Node} :
    lookup L a = some n ↔ n ∈ L ∧ n.addr = a :=
  ⟨lookup_some_mem, fun ⟨hm, ha⟩ => ha ▸ ListLemmas.find?_key_of_nodup Node.addr hnd hm⟩

theorem lookup_perm {L L' : List Node} (h1 : (L.map (·.addr)).Nodup) (hp : L.Perm L') (a : Nat) :
    lookup L a = lookup L' a := by
  apply Option.ext
  intro n
  rw [lookup_eq_some h1, lookup_eq_some ((hp.map _).nodup_iff.mp h1), hp.mem_iff]

theorem lookup_filter {L : List Node} (hnd : (L.map (·.addr)).Nodup) (q : Node → Bool) (a : Nat) :
    lookup (L.filter q) a = (lookup L a).filter q := by
  apply Option.ext
  intro n
  rw [lookup_eq_some ((List.filter_sublist.map _).nodup hnd), Option.filter_eq_some_iff, lookup_eq_some hnd,
    List.mem_filter]
  exact and_right_comm

theorem lookup_filter_ne (L : List Node) (a0 a : Nat) :
    lookup (L.filter (·.addr != a0)) a = if a = a0 then none else lookup L a :=
  ListLemmas.find?_key_filter_ne Node.addr L a0 a

theorem lookup_map (g : Node → Node) (hg : ∀ n, (g n).addr = n.addr) (L : List Node) (a : Nat) :
    lookup (L.map g) a = (lookup L a).map g := by
  induction L with
  | nil => simp [lookup]
  | cons x xs ih =>
    simp only [List.map_cons, lookup_cons, hg]
    by_cases hxa : x.addr = a
    · simp [hxa]
    · simp [hxa, ih]

/-! ## an update of the record at one address

`Bucket.modifyNode` and `Bucket.unlinkNode` act on the first record with the address; on a list with distinct addresses
they are a `map` and a `filter`, which distribute over `++` and leave a part without that address as it is. -/

def atAddr (a : Nat) (f : Node → Node) (n : Node) : Node := if n.addr = a then f n else n

theorem atAddr_addr {f : Node → Node} (hf : ∀ n, (f n).addr = n.addr) (a : Nat) (n : Node) : (atAddr a f n).addr = n.addr := by
  unfold atAddr; split
  · exact hf n
  · rfl

theorem map_atAddr_absent {a : Nat} (f : Node → Node) {l : List Node} (h : ∀ n ∈ l, n.addr ≠ a) :
    l.map (atAddr a f) = l :=
  (List.map_congr_left fun n hn => if_neg (h n hn)).trans (List.map_id l)

theorem modifyNode_eq_map (f : Node → Node) (a : Nat) :
    ∀ {l : List Node}, (l.map (·.addr)).Nodup → Bucket.modifyNode f l a = l.map (atAddr a f)
  | [], _ => rfl
  | x :: xs, h => by
    rw [List.map_cons, List.nodup_cons] at h
    by_cases hx : x.addr = a
    · rw [Bucket.modifyNode, if_pos hx, List.map_cons, atAddr, if_pos hx,
        map_atAddr_absent f fun n hn e => h.1 (List.mem_map.mpr ⟨n, hn, e.trans hx.symm⟩)]
    · rw [Bucket.modifyNode, if_neg hx, List.map_cons, atAddr, if_neg hx, modifyNode_eq_map f a h.2]

theorem lookup_map_atAddr (f : Node → Node) (hf : ∀ n, (f n).addr = n.addr) (L : List Node) (a0 a : Nat) :
    lookup (L.map (atAddr a0 f)) a = if a = a0 then (lookup L a).map f else lookup L a := by
  rw [lookup_map _ (atAddr_addr hf a0)]
  cases h : lookup L a with
  | none => simp
  | some n => simp only [Option.map, atAddr, (lookup_some_mem h).2, eq_comm]; split <;> rfl

/-! ## a list with distinct addresses, split at one of its records -/

theorem nodup_split_ne {A B : List Node} {n : Node} (hnd : ((A ++ n :: B).map (·.addr)).Nodup) :
    (∀ x ∈ A, x.addr ≠ n.addr) ∧ ∀ x ∈ B, x.addr ≠ n.addr := by
  rw [List.map_append, List.map_cons, List.nodup_append, List.nodup_cons] at hnd
  exact ⟨fun x hx h => hnd.2.2 x.addr (List.mem_map_of_mem hx) n.addr List.mem_cons_self h,
    fun x hx h => hnd.2.1.1 (h ▸ List.mem_map_of_mem hx)⟩

theorem nextOf_split {A B : List Node} {n : Node} (hnd : ((A ++ n :: B).map (·.addr)).Nodup) :
    Bucket.nextOf (A ++ n :: B) n.addr = B := by
  rw [Bucket.nextOf_prefix _ _ _ (nodup_split_ne hnd).1]
  simp [Bucket.nextOf]

theorem filter_split {A B : List Node} {n : Node} (hnd : ((A ++ n :: B).map (·.addr)).Nodup) :
    (A ++ n :: B).filter (·.addr != n.addr) = A ++ B := by
  rw [List.filter_append, List.filter_cons_of_neg (by simp), ListLemmas.filter_key_ne_self Node.addr (nodup_split_ne hnd).1,
    ListLemmas.filter_key_ne_self Node.addr (nodup_split_ne hnd).2]

theorem map_atAddr_split (f : Node → Node) {A B : List Node} {n : Node}
    (hnd : ((A ++ n :: B).map (·.addr)).Nodup) :
    (A ++ n :: B).map (atAddr n.addr f) = A ++ f n :: B := by
  rw [List.map_append, List.map_cons, map_atAddr_absent f (nodup_split_ne hnd).1, map_atAddr_absent f (nodup_split_ne hnd).2,
    atAddr, if_pos rfl]

theorem atAddr_perm (f : Node → Node) {L : List Node} (hnd : (L.map (·.addr)).Nodup) {n : Node} (hn : n ∈ L) :
    (L.map (atAddr n.addr f)).Perm (f n :: L.filter (·.addr != n.addr)) := by
  obtain ⟨A, B, rfl⟩ := List.append_of_mem hn
  rw [map_atAddr_split f hnd, filter_split hnd]
  exact List.perm_middle

theorem lookup_split {A B : List Node} {n : Node} (hnd : ((A ++ n :: B).map (·.addr)).Nodup) :
    lookup (A ++ n :: B) n.addr = some n :=
  (lookup_eq_some hnd).mpr ⟨by simp, rfl⟩

/-! ## the table as a flat list -/
namespace Table

theorem bucket_eq (t : Table) (i : Nat) (h : i < t.buckets.length) : t.bucket i = t.buckets[i] := by
  simp [bucket, List.getD_eq_getElem?_getD, h]

theorem buckets_split (t : Table) (i : Nat) (h : i < t.buckets.length) :
    t.buckets = t.buckets.take i ++ t.buckets[i] :: t.buckets.drop (i + 1) := by
  rw [List.getElem_cons_drop h, List.take_append_drop]

theorem flat_split (t : Table) (i : Nat) (h : i < t.buckets.length) :
    t.flat = (t.buckets.take i).flatten ++ (t.buckets[i] ++ (t.buckets.drop (i + 1)).flatten) :=
  ListLemmas.flatten_split t.buckets i h

theorem flat_setBucket (t : Table) (i : Nat) (b : Bucket) (h : i < t.buckets.length) :
    (t.setBucket i b).flat = (t.buckets.take i).flatten ++ (b ++ (t.buckets.drop (i + 1)).flatten) := by
  unfold flat setBucket
  simp [List.set_eq_take_append_cons_drop, h, List.flatten_append]

theorem Inv.hash_lt_len {t : Table} (inv : t.Inv) (a : Nat) : t.hash a < t.buckets.length := by
  rw [inv.len]
  exact Nat.mod_lt _ inv.pos

theorem Inv.mem_bucket {t : Table} (inv : t.Inv) {i : Nat} (h : i < t.buckets.length) {n : Node}
    (hn : n ∈ t.buckets[i]) : t.hash n.addr = i := inv.placed i h n hn

theorem Inv.pre_ne {t : Table} (inv : t.Inv) (a : Nat) :
    ∀ n ∈ (t.buckets.take (t.hash a)).flatten, n.addr ≠ a := by
  intro n hn h
  obtain ⟨l, hl, hnl⟩ := List.mem_flatten.mp hn
  obtain ⟨j, hj, rfl⟩ := List.mem_take_iff_getElem.mp hl
  have := inv.placed j (by omega) n hnl
  rw [h] at this; omega

theorem Inv.post_ne {t : Table} (inv : t.Inv) (a : Nat) :
    ∀ n ∈ (t.buckets.drop (t.hash a + 1)).flatten, n.addr ≠ a := by
  intro n hn h
  obtain ⟨l, hl, hnl⟩ := List.mem_flatten.mp hn
  obtain ⟨j, hj, rfl⟩ := List.mem_drop_iff_getElem.mp hl
  have := inv.placed (j + (t.hash a + 1)) hj n (by simpa [Nat.add_comm] using hnl)
  rw [h] at this; omega

theorem Inv.retrieve_eq_find {t : Table} (inv : t.Inv) (a : Nat) : t.retrieveNode a = lookup t.flat a := by
  have hl := inv.hash_lt_len a
  have h1 := lookup_eq_none.mpr (inv.pre_ne a)
  have h2 := lookup_eq_none.mpr (inv.post_ne a)
  unfold lookup at *
  rw [flat_split t _ hl, retrieveNode, bucket_eq t _ hl, Bucket.retrieveNode_eq_find, List.find?_append, List.find?_append,
    h1, h2]
  simp

theorem Inv.bucket_nodup {t : Table} (inv : t.Inv) {i : Nat} (h : i < t.buckets.length) :
    (t.buckets[i].map (·.addr)).Nodup := by
  have := inv.distinct
  rw [flat_split t i h, List.map_append, List.map_append] at this
  exact (List.nodup_append.mp (List.nodup_append.mp this).2.1).1

theorem Inv.flat_unlink {t : Table} (inv : t.Inv) (a : Nat) :
    (t.unlinkNode a).flat = t.flat.filter (·.addr != a) := by
  have hl := inv.hash_lt_len a
  rw [unlinkNode, flat_setBucket t _ _ hl, flat_split t _ hl, bucket_eq t _ hl, List.filter_append, List.filter_append,
    ListLemmas.filter_key_ne_self Node.addr (inv.pre_ne a), ListLemmas.filter_key_ne_self Node.addr (inv.post_ne a),
    Bucket.unlinkNode_eq_eraseP, ListLemmas.eraseP_key_eq_filter Node.addr (inv.bucket_nodup hl)]

theorem Inv.flat_add_perm {t : Table} (inv : t.Inv) (n : Node) :
    (t.addNewNode n).flat.Perm (n :: t.flat) := by
  have hl := inv.hash_lt_len n.addr
  rw [addNewNode, flat_setBucket t _ _ hl, bucket_eq t _ hl, flat_split t _ hl]
  simp [Bucket.addNewNode]

theorem flat_clear (t : Table) (p : Period) :
    (t.clearAllAccounting p).flat = t.flat.filter (fun n => !isInPeriod p n) := by
  unfold clearAllAccounting flat
  simp only [List.filter_flatten]
  congr 1
  apply List.map_congr_left
  intro b _
  exact Bucket.clear_eq_filter p b

theorem totalIn_eq (p : Period) (bs : List Bucket) : totalIn p bs = bs.flatten.countP (isInPeriod p) := by
  induction bs with
  | nil => rfl
  | cons b bs ih => simp [totalIn, ih, Bucket.getTotalLeaks_eq_countP, List.countP_append]

theorem total_eq_countP (t : Table) (p : Period) : t.getTotalLeaks p = t.flat.countP (isInPeriod p) :=
  totalIn_eq p t.buckets

theorem firstLeakIn_eq_find (q : Node → Bool) (bs : List Bucket) : firstLeakIn q bs = bs.flatten.find? q := by
  induction bs with
  | nil => rfl
  | cons b bs ih =>
    simp only [firstLeakIn, Bucket.getFirstLeak, Bucket.getLeakFrom_eq_find, List.flatten_cons, List.find?_append]
    cases h : b.find? q with
    | some n => simp
    | none => simp [ih]

theorem getFirstLeak_eq_find (t : Table) (q : Node → Bool) : t.getFirstLeak q = t.flat.find? q :=
  firstLeakIn_eq_find q t.buckets

/-- The successor of a record in the chase is the first match behind it in table order (only its address is used):
    `nextOf` in the record's bucket followed by the later buckets is `nextOf` in the flat list, because the records in
    front of the bucket do not have the address (`pre_ne`) and the bucket holds it. -/
theorem Inv.next_at_split {t : Table} (inv : t.Inv) (q : Node → Bool) {A B : List Node} {m n : Node}
    (hflat : t.flat = A ++ m :: B) (hm : m.addr = n.addr) : t.getNextLeak q n = B.find? q := by
  have hl := inv.hash_lt_len n.addr
  have hnext : Bucket.nextOf t.flat n.addr = B := by
    rw [hflat, ← hm]; exact nextOf_split (hflat ▸ inv.distinct)
  have hb : ∃ x ∈ t.buckets[t.hash n.addr], x.addr = n.addr := by
    have hmf : m ∈ t.flat := by rw [hflat]; simp
    rw [flat_split t _ hl] at hmf
    simp only [List.mem_append] at hmf
    rcases hmf with h | h | h
    · exact absurd hm (inv.pre_ne n.addr m h)
    · exact ⟨m, h, hm⟩
    · exact absurd hm (inv.post_ne n.addr m h)
  rw [← hnext, flat_split t _ hl, Bucket.nextOf_prefix _ _ _ (inv.pre_ne n.addr),
    Bucket.nextOf_suffix _ _ _ hb, List.find?_append]
  simp only [getNextLeak, Bucket.getNextLeak, bucket_eq t _ hl, Bucket.getLeakFrom_eq_find, firstLeakIn_eq_find]
  cases (Bucket.nextOf t.buckets[t.hash n.addr] n.addr).find? q <;> simp

theorem Inv.flat_modify {t : Table} (inv : t.Inv) (f : Node → Node) (a : Nat) :
    (t.modifyNode f a).flat = t.flat.map (atAddr a f) := by
  have hl := inv.hash_lt_len a
  rw [modifyNode, flat_setBucket t _ _ hl, flat_split t _ hl, bucket_eq t _ hl, List.map_append, List.map_append,
    map_atAddr_absent f (inv.pre_ne a), map_atAddr_absent f (inv.post_ne a), modifyNode_eq_map f a (inv.bucket_nodup hl)]

/-! ### the invariant is preserved by every table operation -/

theorem flat_empty (hp : Nat) : (Table.empty hp).flat = [] := by simp [empty, flat]

theorem inv_empty (hp : Nat) (h : 0 < hp) : (Table.empty hp).Inv where
  pos := h
  len := by simp [empty]
  placed := by intro i hi n hn; simp [empty] at hn
  distinct := by simp [flat_empty]
  nonnull := by simp [flat_empty]

theorem Inv.setBucket {t : Table} (inv : t.Inv) (i : Nat) (b' : Bucket) (hi : i < t.buckets.length)
    (hb : ∀ n ∈ b', t.hash n.addr = i) (hz : ∀ n ∈ b', n.addr ≠ 0)
    (hd : ((t.setBucket i b').flat.map (·.addr)).Nodup) : (t.setBucket i b').Inv where
  pos := inv.pos
  len := by simp [Table.setBucket, inv.len]
  placed := by
    intro j hj n hn
    simp only [Table.setBucket, List.length_set] at hj
    simp only [Table.setBucket, List.getElem_set] at hn
    split at hn
    · rename_i h; subst h; exact hb n hn
    · exact inv.placed j hj n hn
  distinct := hd
  nonnull := by
    intro n hn
    rw [flat_setBucket t i b' hi] at hn
    rcases List.mem_append.mp hn with h | h
    · exact inv.nonnull n (by rw [flat_split t i hi]; exact List.mem_append_left _ h)
    · rcases List.mem_append.mp h with h | h
      · exact hz n h
      · exact inv.nonnull n (by rw [flat_split t i hi]; simp [h])

theorem mem_flat_of_mem_bucket {t : Table} {i : Nat} (hi : i < t.buckets.length) {n : Node}
    (hn : n ∈ t.buckets[i]) : n ∈ t.flat := by
  rw [flat_split t i hi]; simp [hn]

theorem Inv.setBucket_sub {t : Table} (inv : t.Inv) (i : Nat) (b' : Bucket) (hi : i < t.buckets.length)
    (hsub : ∀ m ∈ b', ∃ x ∈ t.buckets[i], x.addr = m.addr)
    (hd : ((t.setBucket i b').flat.map (·.addr)).Nodup) : (t.setBucket i b').Inv :=
  inv.setBucket i b' hi
    (fun m hm => have ⟨x, hx, e⟩ := hsub m hm; e ▸ inv.placed _ hi x hx)
    (fun m hm => have ⟨x, hx, e⟩ := hsub m hm; e ▸ inv.nonnull x (mem_flat_of_mem_bucket hi hx)) hd

theorem Inv.add {t : Table} (inv : t.Inv) (n : Node) (hnz : n.addr ≠ 0) (hfresh : ∀ m ∈ t.flat, m.addr ≠ n.addr) :
    (t.addNewNode n).Inv := by
  have hl := inv.hash_lt_len n.addr
  have hmem : ∀ m ∈ (t.bucket (t.hash n.addr)).addNewNode n, m = n ∨ m ∈ t.buckets[t.hash n.addr] := by
    intro m hm
    rw [bucket_eq t _ hl] at hm
    exact List.mem_cons.mp hm
  apply inv.setBucket _ _ hl
  · intro m hm
    rcases hmem m hm with rfl | hm
    · rfl
    · exact inv.placed _ hl m hm
  · intro m hm
    rcases hmem m hm with rfl | hm
    · exact hnz
    · exact inv.nonnull m (mem_flat_of_mem_bucket hl hm)
  · show ((t.addNewNode n).flat.map _).Nodup
    rw [((inv.flat_add_perm n).map (·.addr)).nodup_iff]
    simp only [List.map_cons, List.nodup_cons, List.mem_map, not_exists, not_and]
    exact ⟨fun m hm h => hfresh m hm h, inv.distinct⟩

theorem Inv.unlink {t : Table} (inv : t.Inv) (a : Nat) : (t.unlinkNode a).Inv := by
  have hl := inv.hash_lt_len a
  refine inv.setBucket_sub _ _ hl (fun m hm => ⟨m, ?_, rfl⟩) ?_
  · rw [bucket_eq t _ hl, Bucket.unlinkNode_eq_eraseP] at hm; exact List.mem_of_mem_eraseP hm
  · show ((t.unlinkNode a).flat.map _).Nodup
    rw [inv.flat_unlink]
    exact (List.filter_sublist.map _).nodup inv.distinct

theorem Inv.clear {t : Table} (inv : t.Inv) (p : Period) : (t.clearAllAccounting p).Inv where
  pos := inv.pos
  len := by simp [clearAllAccounting, inv.len]
  placed := by
    intro i hi n hn
    simp only [clearAllAccounting, List.length_map] at hi
    simp only [clearAllAccounting, List.getElem_map, Bucket.clear_eq_filter, List.mem_filter] at hn
    exact inv.placed i hi n hn.1
  distinct := by
    rw [flat_clear]
    exact (List.filter_sublist.map _).nodup inv.distinct
  nonnull := by
    intro n hn
    rw [flat_clear] at hn
    exact inv.nonnull n (List.mem_filter.mp hn).1

theorem Inv.modify {t : Table} (inv : t.Inv) (f : Node → Node) (hf : ∀ n, (f n).addr = n.addr) (a : Nat) :
    (t.modifyNode f a).Inv := by
  have hl := inv.hash_lt_len a
  refine inv.setBucket_sub _ _ hl (fun m hm => ?_) ?_
  · rw [bucket_eq t _ hl, modifyNode_eq_map f a (inv.bucket_nodup hl)] at hm
    obtain ⟨x, hx, rfl⟩ := List.mem_map.mp hm
    exact ⟨x, hx, (atAddr_addr hf a x).symm⟩
  · show ((t.modifyNode f a).flat.map _).Nodup
    rw [inv.flat_modify, List.map_map, show (·.addr) ∘ atAddr a f = (·.addr) from funext (atAddr_addr hf a)]
    exact inv.distinct

end Table

/-! ## the pointer-chasing loops -/

/- The three loops below chase `getFirstLeak` / `getNextLeak` through the table.  Each lemma is an induction on `suf`, the
   part of the table order still to visit: the loop stands at the first match of `suf` (`suf.find? q`), `pre` is what it has
   passed (for the marking and the stage loop: already rewritten), and `fuel` only has to outlast `suf`.  A record that does
   not match is moved from `suf` to `pre` without a loop iteration; at a match the loop runs once and `Table.Inv.next_at_split`,
   the only step that looks at buckets, says that the next record it finds is the first match of the rest. -/
theorem reportLoop_eq {t : Table} (inv : t.Inv) (p : Period) :
    ∀ (suf pre : List Node) (fuel : Nat), t.flat = pre ++ suf → suf.length < fuel →
      reportLoop t p fuel (suf.find? (isInPeriod p)) = suf.filter (isInPeriod p) := by
  intro suf
  induction suf with
  | nil => intro pre fuel _ h; cases fuel <;> rfl
  | cons x xs ih =>
    intro pre fuel hflat hlen
    obtain ⟨fuel, rfl⟩ : ∃ k, fuel = k + 1 := ⟨fuel - 1, by omega⟩
    have hflat' : t.flat = (pre ++ [x]) ++ xs := by rw [hflat]; simp
    by_cases hq : isInPeriod p x = true
    · rw [List.find?_cons_of_pos hq, List.filter_cons_of_pos hq, reportLoop, inv.next_at_split _ hflat rfl,
        ih _ fuel hflat' (by simpa using hlen)]
    · rw [List.find?_cons_of_neg hq, List.filter_cons_of_neg hq]
      exact ih _ _ hflat' (by simp at hlen; omega)

theorem reportedLeaks_eq {s : State} (inv : s.Inv) (p : Period) :
    reportedLeaks s p = s.nodes.filter (isInPeriod p) := by
  unfold reportedLeaks
  rw [Table.getFirstLeak_eq_find]
  exact reportLoop_eq inv p s.table.flat [] _ rfl (by simp [Table.nodeCount, Table.flat])

theorem isInPeriod_eq_doc (p : Period) : isInPeriod p = Spec.inPeriod p := by
  funext n
  unfold isInPeriod Gen.LeakDetector.isInPeriod Spec.inPeriod
  cases p <;> cases n.period <;> decide

theorem isInPeriod_checking (n : Node) : isInPeriod .checking n = true ↔ n.period = .checking := by
  unfold isInPeriod Gen.LeakDetector.isInPeriod
  cases n.period <;> decide

theorem demote_addr (n : Node) : (demote n).addr = n.addr := by
  unfold demote; split <;> rfl

theorem demote_not_checking (n : Node) : isInPeriod .checking (demote n) = false := by
  cases h : isInPeriod .checking (demote n) with
  | false => rfl
  | true =>
    rw [isInPeriod_checking] at h
    unfold demote at h
    split at h
    · simp at h
    · rename_i hc; exact absurd h hc

theorem demote_of_not_checking {n : Node} (h : ¬ isInPeriod .checking n = true) : demote n = n := by
  have hc : ¬ n.period = .checking := fun hc => h ((isInPeriod_checking n).mpr hc)
  simp [demote, hc]

theorem markLoop_eq :
    ∀ (suf : List Node) (t : Table) (pre : List Node) (fuel : Nat), t.Inv → t.flat = pre ++ suf → suf.length < fuel →
      (markLoop fuel t (suf.find? (isInPeriod .checking))).flat = pre ++ suf.map demote ∧
      (markLoop fuel t (suf.find? (isInPeriod .checking))).Inv := by
  intro suf
  induction suf with
  | nil => intro t pre fuel inv hflat _; cases fuel <;> exact ⟨hflat, inv⟩
  | cons x xs ih =>
    intro t pre fuel inv hflat hlen
    obtain ⟨fuel, rfl⟩ : ∃ k, fuel = k + 1 := ⟨fuel - 1, by omega⟩
    by_cases hq : isInPeriod .checking x = true
    · have inv' : (t.modifyNode demote x.addr).Inv := inv.modify demote demote_addr x.addr
      have hflat2 : (t.modifyNode demote x.addr).flat = pre ++ demote x :: xs := by
        rw [inv.flat_modify, hflat, map_atAddr_split demote (hflat ▸ inv.distinct)]
      rw [List.find?_cons_of_pos hq, markLoop, inv'.next_at_split _ hflat2 (demote_addr x)]
      simpa using ih _ (pre ++ [demote x]) fuel inv' (by simpa using hflat2) (by simpa using hlen)
    · rw [List.find?_cons_of_neg hq]
      simpa [demote_of_not_checking hq] using ih t (pre ++ [x]) _ inv (by simpa using hflat) (by simp at hlen; omega)

theorem markChecking_nodes {s : State} (inv : s.Inv) :
    (markChecking s).nodes = s.nodes.map demote ∧ (markChecking s).Inv := by
  unfold markChecking State.nodes State.Inv
  rw [Table.getFirstLeak_eq_find]
  have := markLoop_eq s.table.flat s.table [] (s.table.nodeCount + 1) inv rfl (by simp [Table.nodeCount, Table.flat])
  simpa using this

/-! ## lookups at the level of the detector state -/

theorem retrieve_some_iff {s : State} (inv : s.Inv) {a : Nat} {n : Node} :
    s.table.retrieveNode a = some n ↔ n ∈ s.nodes ∧ n.addr = a := by
  rw [Table.Inv.retrieve_eq_find inv]; exact lookup_eq_some inv.distinct

theorem addr_ne_zero_of_retrieve {s : State} (inv : s.Inv) {a : Nat} {n : Node} (h : s.table.retrieveNode a = some n) : a ≠ 0 := by
  obtain ⟨hm, rfl⟩ := (retrieve_some_iff inv).mp h
  exact inv.nonnull n hm

theorem retrieve_none_iff {s : State} (inv : s.Inv) {a : Nat} :
    s.table.retrieveNode a = none ↔ ∀ n ∈ s.nodes, n.addr ≠ a := by
  rw [Table.Inv.retrieve_eq_find inv]; exact lookup_eq_none

theorem nodes_init (hp : Nat) : (State.init hp).nodes = [] := Table.flat_empty hp

theorem abs_init_map (hp a : Nat) : (abs (State.init hp)).map a = none := by
  show Bucket.retrieveNode ((List.replicate hp []).getD _ []) a = none
  rw [List.getD_eq_getElem?_getD, List.getElem?_replicate]
  split <;> rfl

theorem isLive_iff {s : State} (inv : s.Inv) (a : Nat) : isLive s a = true ↔ ∃ n, s.table.retrieveNode a = some n := by
  unfold isLive
  simp only [List.any_eq_true, beq_iff_eq]
  constructor
  · rintro ⟨n, hn, ha⟩; exact ⟨n, (retrieve_some_iff inv).mpr ⟨hn, ha⟩⟩
  · rintro ⟨n, h⟩; have := (retrieve_some_iff inv).mp h; exact ⟨n, this.1, this.2⟩

theorem isLive_false_iff {s : State} (a : Nat) : isLive s a = false ↔ ∀ n ∈ s.nodes, n.addr ≠ a := by
  unfold isLive
  simp [List.any_eq_false]

theorem dealloc_live {s : State} (inv : s.Inv) {n : Node} (hn : n ∈ s.nodes) (a : Allocator) (file : String)
    (line : Nat) (sep : Bool) :
    dealloc s a n.addr file line sep =
      ({ s with table := s.table.unlinkNode n.addr },
       checkForCorruption s.typeChecking n file line a sep ++ [.ufree a n.addr n.size n.user]) := by
  have hz : n.addr ≠ 0 := inv.nonnull n hn
  have hr : s.table.retrieveNode n.addr = some n := (retrieve_some_iff inv).mpr ⟨hn, rfl⟩
  simp [dealloc, hz, hr]

/-! ## events and scalars of a release -/

theorem successes_append (a b : List Ev) : successes (a ++ b) = successes a + successes b := by
  induction a with
  | nil => simp [successes]
  | cons e es ih => cases e <;> simp [successes, ih] <;> omega

/-- what the check of a release finds wrong with the record of the block: the families first, then the guard bytes -/
def recordVerdict (tc : Bool) (n : Node) (a : Allocator) : Option FailKind :=
  if !matching tc n.allocator a then some .mismatch else if !validGuard n then some .corruption else none

theorem check_eq (tc : Bool) (n : Node) (file : String) (line : Nat) (a : Allocator) (sep : Bool) :
    checkForCorruption tc n file line a sep =
      match recordVerdict tc n a with
      | some k => [failEv k n file line a.actual]
      | none => if sep then [.nfree n.sepNode] else [] := by
  unfold checkForCorruption recordVerdict
  split
  · rfl
  · split <;> rfl

theorem successes_check (tc : Bool) (n : Node) (file : String) (line : Nat) (a : Allocator) (sep : Bool) :
    successes (checkForCorruption tc n file line a sep) = 0 := by
  rw [check_eq]; cases recordVerdict tc n a <;> cases sep <;> rfl

theorem freedBytes_append (e1 e2 : List Ev) : freedBytes (e1 ++ e2) = freedBytes e1 ++ freedBytes e2 := by
  induction e1 with
  | nil => rfl
  | cons e es ihe => cases e <;> simp [freedBytes, ihe]

theorem freedBytes_check (tc : Bool) (n : Node) (file : String) (line : Nat) (a : Allocator) (sep : Bool) :
    freedBytes (checkForCorruption tc n file line a sep) = [] := by
  rw [check_eq]; cases recordVerdict tc n a <;> cases sep <;> rfl

theorem freedBytes_dealloc_live {s : State} (inv : s.Inv) {n : Node} (hn : n ∈ s.nodes) (a : Allocator) (file : String)
    (line : Nat) (sep : Bool) : freedBytes (dealloc s a n.addr file line sep).2 = [(n.addr, n.user)] := by
  rw [dealloc_live inv hn, freedBytes_append, freedBytes_check]; rfl

theorem successes_nodeAlloc (sep : Bool) : successes (nodeAllocEvs sep) = 0 := by
  unfold nodeAllocEvs; split <;> simp [successes]

theorem dealloc_table_only (s : State) (a : Allocator) (addr : Nat) (file : String) (line : Nat) (sep : Bool) :
    (dealloc s a addr file line sep).1 = { s with table := (dealloc s a addr file line sep).1.table } ∧
    successes (dealloc s a addr file line sep).2 = 0 := by
  unfold dealloc
  split
  · exact ⟨rfl, rfl⟩
  · split
    · exact ⟨rfl, rfl⟩
    · exact ⟨rfl, by simp [successes_append, successes_check, successes]⟩

theorem stageLoop_table_only : ∀ (fuel : Nat) (s : State) (cur : Option Node),
    (stageLoop fuel s cur).1 = { s with table := (stageLoop fuel s cur).1.table } ∧ successes (stageLoop fuel s cur).2 = 0
  | 0, _, _ => ⟨rfl, rfl⟩
  | _ + 1, _, none => ⟨rfl, rfl⟩
  | fuel + 1, s, some node => by
    have h1 := dealloc_table_only s node.allocator node.addr stageFile 0 false
    have h2 := stageLoop_table_only fuel (dealloc s node.allocator node.addr stageFile 0 false).1
      (s.table.getNextLeak (isInStage s.stage) node)
    simp only [stageLoop, prependEvs, successes_append, h1.2, h2.2]
    exact ⟨by rw [h2.1, h1.1], trivial⟩

theorem nodes_unlink_eq_filter {s : State} (inv : s.Inv) (addr : Nat) :
    State.nodes { s with table := s.table.unlinkNode addr } = s.nodes.filter (·.addr != addr) :=
  Table.Inv.flat_unlink inv addr

/-- what the stage release does for one block -/
def releaseEvs (typeChecking : Bool) (n : Node) : List Ev :=
  checkForCorruption typeChecking n stageFile 0 n.allocator false ++ [.ufree n.allocator n.addr n.size n.user]

theorem stageLoop_eq :
    ∀ (suf : List Node) (s : State) (pre : List Node) (fuel : Nat), s.Inv → s.nodes = pre ++ suf → suf.length < fuel →
      (stageLoop fuel s (suf.find? (isInStage s.stage))).1.nodes = pre ++ suf.filter (fun n => !isInStage s.stage n) ∧
      (stageLoop fuel s (suf.find? (isInStage s.stage))).1.Inv ∧
      (stageLoop fuel s (suf.find? (isInStage s.stage))).2 =
        (suf.filter (isInStage s.stage)).flatMap (releaseEvs s.typeChecking) := by
  intro suf
  induction suf with
  | nil => intro s pre fuel inv hs _; cases fuel <;> exact ⟨hs, inv, rfl⟩
  | cons x xs ih =>
    intro s pre fuel inv hs hlen
    obtain ⟨fuel, rfl⟩ : ∃ k, fuel = k + 1 := ⟨fuel - 1, by omega⟩
    by_cases hq : isInStage s.stage x = true
    · have hx : x ∈ s.nodes := by rw [hs]; simp
      have hnodes1 : State.nodes { s with table := s.table.unlinkNode x.addr } = pre ++ xs := by
        rw [nodes_unlink_eq_filter inv, hs, filter_split (hs ▸ inv.distinct)]
      rw [List.find?_cons_of_pos hq, stageLoop, dealloc_live inv hx, Table.Inv.next_at_split inv _ hs rfl]
      obtain ⟨r1, r2, r3⟩ := ih { s with table := s.table.unlinkNode x.addr } pre fuel (Table.Inv.unlink inv x.addr)
        hnodes1 (by simpa using hlen)
      exact ⟨by simpa [prependEvs, hq] using r1, r2, by simp [prependEvs, r3, hq, releaseEvs]⟩
    · rw [List.find?_cons_of_neg hq]
      simpa [hq] using ih s (pre ++ [x]) _ inv (by simpa using hs) (by simp at hlen; omega)

theorem freed_of_releases (tc : Bool) (l : List Node) :
    (freedBytes (l.flatMap (releaseEvs tc))).map (·.1) = l.map (·.addr) := by
  induction l with
  | nil => rfl
  | cons n rest ih =>
    simp only [List.flatMap_cons, freedBytes_append, List.map_append, List.map_cons, ih]
    rw [releaseEvs, freedBytes_append, freedBytes_check]
    rfl

theorem deallocStage_spec {s : State} (inv : s.Inv) :
    (deallocStage s).1.nodes = s.nodes.filter (fun n => !isInStage s.stage n) ∧
    (deallocStage s).1.Inv ∧
    (deallocStage s).1 = { s with table := (deallocStage s).1.table } ∧
    (deallocStage s).2 = (s.nodes.filter (isInStage s.stage)).flatMap (releaseEvs s.typeChecking) := by
  have h := stageLoop_eq s.nodes s [] _ inv rfl (show s.nodes.length < s.table.nodeCount + 1 from Nat.lt_succ_self _)
  unfold deallocStage
  rw [Table.getFirstLeak_eq_find]
  exact ⟨h.1, h.2.1, (stageLoop_table_only ..).1, h.2.2⟩

/-! ## every operation: the invariant, the records it leaves, the finite-map specification -/

theorem poison_addr (n : Node) : (poison n).addr = n.addr := rfl

theorem setByte_addr (off : Nat) (b : UInt8) (n : Node) : ({ n with bytes := setByte n.bytes off b } : Node).addr = n.addr := rfl

theorem fresh_of {s : State} {result : Nat} (hz : result ≠ 0) (h : result = 0 ∨ isLive s result = false) :
    ∀ n ∈ s.nodes, n.addr ≠ result := by
  rcases h with h | h
  · exact absurd h hz
  · exact (isLive_false_iff result).mp h

/-! ### what an allocation, a release and a reallocation leave behind -/

theorem mem_unlink {s : State} (inv : s.Inv) {addr : Nat} {m : Node}
    (hm : m ∈ State.nodes { s with table := s.table.unlinkNode addr }) : m ∈ s.nodes ∧ m.addr ≠ addr := by
  rw [nodes_unlink_eq_filter inv] at hm
  simpa using List.mem_filter.mp hm

theorem realloc_null_fresh {s : State} {a : Allocator} {addr size : Nat} {file : String} {line : Nat} {sep : Bool}
    {result : Nat} {fill : UInt8} (hf : FreshAddr s (.realloc a addr size file line sep result fill)) (ha : addr = 0) :
    result = 0 ∨ isLive s result = false := by
  rcases hf with h | h | h
  · exact Or.inl h
  · exact Or.inl (h.trans ha)
  · exact Or.inr h

theorem realloc_fresh {s : State} (inv : s.Inv) {a : Allocator} {addr size : Nat} {file : String} {line : Nat} {sep : Bool}
    {result : Nat} {fill : UInt8} (hf : FreshAddr s (.realloc a addr size file line sep result fill)) (hz : result ≠ 0) :
    ∀ m ∈ State.nodes { s with table := s.table.unlinkNode addr }, m.addr ≠ result := by
  intro m hm
  rcases hf with h | h | h
  · exact absurd h hz
  · rw [h]; exact (mem_unlink inv hm).2
  · exact (isLive_false_iff result).mp h m (mem_unlink inv hm).1

/-- the records an operation leaves, up to their order in the table; the cases are those of `Spec.step` -/
def nodesAfter (s : State) : Op → List Node
  | .alloc a size file line sep result nodeOk fill =>
    if sizeOverflows size = true ∨ result = 0 ∨ (sep = true ∧ nodeOk = false) then s.nodes
    else Spec.newNode (abs s) result size a file line sep fill :: s.nodes
  | .dealloc _ addr _ _ _ => s.nodes.filter (·.addr != addr)
  | .realloc a addr size file line sep result fill =>
    if sizeOverflows size then s.nodes
    else if addr = 0 then
      if result = 0 then s.nodes else Spec.newNode (abs s) result size a file line sep fill :: s.nodes
    else if (abs s).map addr = none then s.nodes
    else if result = 0 then s.nodes.map (atAddr addr fun n => { n with sepNode := sep })
    else Spec.newNode (abs s) result size a file line sep fill :: s.nodes.filter (·.addr != addr)
  | .deallocStage => s.nodes.filter fun n => !isInStage s.stage n
  | .clear p => s.nodes.filter fun n => !isInPeriod p n
  | .markChecking => s.nodes.map demote
  | .invalidate addr => s.nodes.map (atAddr addr poison)
  | .write addr off b => s.nodes.map (atAddr addr fun n => { n with bytes := setByte n.bytes off b })
  | _ => s.nodes

/-- how a step ends: the state of the model, the records it leaves (`nodesAfter`), the specification, the number of
    blocks handed out and the value returned -/
structure StepEnd (s : State) (op : Op) (s' : State) (L : List Node) (m : Spec.State) (k r : Nat) : Prop where
  state : (step s op).1 = s'
  nodes : nodesAfter s op = L
  spec : Spec.step (abs s) op = m
  successes : successes (step s op).2 = k
  ret : (step s op).2.getLast? = some (.ret r)

section Alloc
variable (s : State) (a : Allocator) (size : Nat) (file : String) (line : Nat) (sep : Bool) (result : Nat) (nodeOk : Bool)
  (fill : UInt8)

theorem alloc_refused (h : sizeOverflows size = true ∨ result = 0 ∨ (sep = true ∧ nodeOk = false)) :
    StepEnd s (.alloc a size file line sep result nodeOk fill) s s.nodes (abs s) 0 0 := by
  by_cases ho : sizeOverflows size = true
  · constructor <;> simp [step, alloc, nodesAfter, Spec.step, ho, LeakDetector.successes]
  by_cases hz : result = 0
  · constructor <;> simp [step, alloc, nodesAfter, Spec.step, ho, hz, LeakDetector.successes]
  have hn : sep = true ∧ nodeOk = false := h.resolve_left ho |>.resolve_left hz
  constructor <;> simp [step, alloc, nodesAfter, Spec.step, ho, hz, hn, LeakDetector.successes]

theorem alloc_stored (ho : sizeOverflows size = false) (hz : result ≠ 0) (hn : sep = true → nodeOk = true) :
    StepEnd s (.alloc a size file line sep result nodeOk fill) (storeLeakInformation s result size a file line sep fill)
      (Spec.newNode (abs s) result size a file line sep fill :: s.nodes)
      { abs s with map := (abs s).map.insert (Spec.newNode (abs s) result size a file line sep fill), seq := (abs s).seq + 1 }
      1 result := by
  have hc : ¬ (sep = true ∧ nodeOk = false) := fun ⟨h1, h2⟩ => by rw [hn h1] at h2; cases h2
  have hn' : (sep && !nodeOk) = false := by simpa using hc
  constructor <;> simp [step, alloc, nodesAfter, Spec.step, ho, hz, hc, hn', LeakDetector.successes, successes_append,
    successes_nodeAlloc, ListLemmas.getLast?_cons_concat]

theorem alloc_cases :
    let op := Op.alloc a size file line sep result nodeOk fill
    let nn := Spec.newNode (abs s) result size a file line sep fill
    StepEnd s op s s.nodes (abs s) 0 0 ∨
    (result ≠ 0 ∧ StepEnd s op (storeLeakInformation s result size a file line sep fill) (nn :: s.nodes)
      { abs s with map := (abs s).map.insert nn, seq := (abs s).seq + 1 } 1 result) := by
  intro op nn
  by_cases h : sizeOverflows size = true ∨ result = 0 ∨ (sep = true ∧ nodeOk = false)
  · exact .inl (alloc_refused s a size file line sep result nodeOk fill h)
  · refine .inr ⟨fun hz => h (.inr (.inl hz)), alloc_stored s a size file line sep result nodeOk fill
      (by simpa using fun ho => h (.inl ho)) (fun hz => h (.inr (.inl hz)))
      (fun hs => by cases hk : nodeOk; exact absurd (.inr (.inr ⟨hs, hk⟩)) h; rfl)⟩

end Alloc

section Realloc
variable (s : State) (a : Allocator) (addr size : Nat) (file : String) (line : Nat) (sep : Bool) (result : Nat) (fill : UInt8)

theorem realloc_nothing
    (h : sizeOverflows size = true ∨ (addr = 0 ∧ result = 0) ∨ (addr ≠ 0 ∧ s.table.retrieveNode addr = none)) :
    StepEnd s (.realloc a addr size file line sep result fill) s s.nodes (abs s) 0 0 := by
  by_cases ho : sizeOverflows size = true
  · constructor <;> simp [step, realloc, nodesAfter, Spec.step, ho, LeakDetector.successes]
  rcases h with h | ⟨ha, hz⟩ | ⟨ha, hr⟩
  · exact absurd h ho
  · constructor <;> simp [step, realloc, reallocTail, nodesAfter, Spec.step, ho, ha, hz, LeakDetector.successes]
  · have hm : (abs s).map addr = none := hr
    constructor <;> simp [step, realloc, nodesAfter, Spec.step, ho, ha, hr, hm, LeakDetector.successes, nonAllocatedEv]

theorem realloc_null (ho : sizeOverflows size = false) (ha : addr = 0) (hz : result ≠ 0) :
    StepEnd s (.realloc a addr size file line sep result fill) (storeLeakInformation s result size a file line sep fill)
      (Spec.newNode (abs s) result size a file line sep fill :: s.nodes)
      { abs s with map := (abs s).map.insert (Spec.newNode (abs s) result size a file line sep fill), seq := (abs s).seq + 1 }
      1 result := by
  constructor <;> simp [step, realloc, reallocTail, nodesAfter, Spec.step, ho, ha, hz, LeakDetector.successes, successes_append,
    successes_nodeAlloc, ListLemmas.getLast?_cons_concat]

/-- no memory: the old record is tracked again, under the layout flag of this call -/
theorem realloc_failed {n : Node} (ho : sizeOverflows size = false) (hr : s.table.retrieveNode addr = some n) (ha : addr ≠ 0) :
    StepEnd s (.realloc a addr size file line sep 0 fill)
      { s with table := (s.table.unlinkNode addr).addNewNode { n with sepNode := sep } }
      (s.nodes.map (atAddr addr fun n => { n with sepNode := sep }))
      { abs s with map := (abs s).map.update addr fun n => { n with sepNode := sep } } 0 0 := by
  have hm : (abs s).map addr = some n := hr
  constructor <;> simp [step, realloc, reallocTail, prependEvs, nodesAfter, Spec.step, ho, ha, hr, hm, LeakDetector.successes,
    successes_append, successes_nodeAlloc, successes_check, List.getLast?_append, ListLemmas.getLast?_cons_concat]

/-- the block moved (or was resized in place): the old record goes, a new one is stored -/
theorem realloc_moved {n : Node} (ho : sizeOverflows size = false) (hr : s.table.retrieveNode addr = some n) (ha : addr ≠ 0)
    (hz : result ≠ 0) :
    StepEnd s (.realloc a addr size file line sep result fill)
      (storeLeakInformation { s with table := s.table.unlinkNode addr } result size a file line sep fill)
      (Spec.newNode (abs s) result size a file line sep fill :: s.nodes.filter (·.addr != addr))
      { abs s with map := ((abs s).map.erase addr).insert (Spec.newNode (abs s) result size a file line sep fill),
                   seq := (abs s).seq + 1 } 1 result := by
  have hm : (abs s).map addr = some n := hr
  constructor <;> simp [step, realloc, reallocTail, prependEvs, nodesAfter, Spec.step, ho, ha, hz, hr, hm, LeakDetector.successes,
    successes_append, successes_nodeAlloc, successes_check, List.getLast?_append, ListLemmas.getLast?_cons_concat]

/-- a reallocation ends in one of these four ways; a caller who knows which cites that lemma, one who does not splits here
    and never looks at the cascade of `realloc` -/
theorem realloc_cases :
    let op := Op.realloc a addr size file line sep result fill
    let nn := Spec.newNode (abs s) result size a file line sep fill
    StepEnd s op s s.nodes (abs s) 0 0 ∨
    (addr = 0 ∧ result ≠ 0 ∧ StepEnd s op (storeLeakInformation s result size a file line sep fill) (nn :: s.nodes)
      { abs s with map := (abs s).map.insert nn, seq := (abs s).seq + 1 } 1 result) ∨
    (∃ n, s.table.retrieveNode addr = some n ∧ addr ≠ 0 ∧ result = 0 ∧
      StepEnd s op { s with table := (s.table.unlinkNode addr).addNewNode { n with sepNode := sep } }
        (s.nodes.map (atAddr addr fun n => { n with sepNode := sep }))
        { abs s with map := (abs s).map.update addr fun n => { n with sepNode := sep } } 0 0) ∨
    (∃ n, s.table.retrieveNode addr = some n ∧ addr ≠ 0 ∧ result ≠ 0 ∧
      StepEnd s op (storeLeakInformation { s with table := s.table.unlinkNode addr } result size a file line sep fill)
        (nn :: s.nodes.filter (·.addr != addr))
        { abs s with map := ((abs s).map.erase addr).insert nn, seq := (abs s).seq + 1 } 1 result) := by
  intro op nn
  by_cases ho : sizeOverflows size = true
  · exact .inl (realloc_nothing s a addr size file line sep result fill (.inl ho))
  have ho' : sizeOverflows size = false := by simpa using ho
  by_cases ha : addr = 0
  · by_cases hz : result = 0
    · exact .inl (realloc_nothing s a addr size file line sep result fill (.inr (.inl ⟨ha, hz⟩)))
    · exact .inr (.inl ⟨ha, hz, realloc_null s a addr size file line sep result fill ho' ha hz⟩)
  cases hr : s.table.retrieveNode addr with
  | none => exact .inl (realloc_nothing s a addr size file line sep result fill (.inr (.inr ⟨ha, hr⟩)))
  | some n =>
    by_cases hz : result = 0
    · subst hz; exact .inr (.inr (.inl ⟨n, rfl, ha, rfl, realloc_failed s a addr size file line sep fill ho' hr ha⟩))
    · exact .inr (.inr (.inr ⟨n, rfl, ha, hz, realloc_moved s a addr size file line sep result fill ho' hr ha hz⟩))

end Realloc

/-- the one walk through the table model; the finite map, the allocation numbers and the other models of the detector
    are read off the record list -/
theorem step_nodes {s : State} (inv : s.Inv) (op : Op) (hf : FreshAddr s op) :
    (step s op).1.Inv ∧ (step s op).1.nodes.Perm (nodesAfter s op) ∧
      ∃ m, Spec.step (abs s) op = { abs (step s op).1 with map := m } := by
  cases op with
  | alloc a size file line sep result nodeOk fill =>
    rcases alloc_cases s a size file line sep result nodeOk fill with h | ⟨hz, h⟩ <;> rw [h.state, h.nodes, h.spec]
    · exact ⟨inv, .rfl, _, rfl⟩
    · exact ⟨Table.Inv.add inv _ hz (fresh_of hz hf), Table.Inv.flat_add_perm inv _, _, rfl⟩
  | dealloc a addr file line sep =>
    simp only [step, nodesAfter, dealloc, Spec.step]
    by_cases hz : addr = 0
    · rw [if_pos hz, if_pos hz]
      exact ⟨inv, .of_eq (ListLemmas.filter_key_ne_self Node.addr (hz ▸ inv.nonnull)).symm, _, rfl⟩
    · rw [if_neg hz, if_neg hz]
      cases hr : s.table.retrieveNode addr with
      | none => exact ⟨inv, .of_eq (ListLemmas.filter_key_ne_self Node.addr ((retrieve_none_iff inv).mp hr)).symm, _, rfl⟩
      | some n => exact ⟨Table.Inv.unlink inv addr, .of_eq (nodes_unlink_eq_filter inv addr), _, rfl⟩
  | realloc a addr size file line sep result fill =>
    have inv1 : State.Inv { s with table := s.table.unlinkNode addr } := Table.Inv.unlink inv addr
    rcases realloc_cases s a addr size file line sep result fill with
      h | ⟨ha, hz, h⟩ | ⟨n, hr, ha, -, h⟩ | ⟨n, hr, -, hz, h⟩ <;> rw [h.state, h.nodes, h.spec]
    · exact ⟨inv, .rfl, _, rfl⟩
    · exact ⟨Table.Inv.add inv _ hz (fresh_of hz (realloc_null_fresh hf ha)), Table.Inv.flat_add_perm inv _, _, rfl⟩
    · have hn := (retrieve_some_iff inv).mp hr
      refine ⟨Table.Inv.add inv1 { n with sepNode := sep } (hn.2 ▸ ha) (fun m hm => hn.2 ▸ (mem_unlink inv hm).2),
        (Table.Inv.flat_add_perm inv1 _).trans ?_, _, rfl⟩
      show (_ :: State.nodes { s with table := s.table.unlinkNode addr }).Perm _
      rw [nodes_unlink_eq_filter inv, ← hn.2]
      exact (atAddr_perm (fun n => { n with sepNode := sep }) inv.distinct hn.1).symm
    · rw [← nodes_unlink_eq_filter inv addr]
      exact ⟨Table.Inv.add inv1 _ hz (realloc_fresh inv hf hz), Table.Inv.flat_add_perm inv1 _, _, rfl⟩
  | deallocStage =>
    obtain ⟨h1, h2, h3, _⟩ := deallocStage_spec inv
    refine ⟨h2, .of_eq h1, (Spec.step (abs s) .deallocStage).map, ?_⟩
    simp only [step]; rw [h3]; rfl
  | clear p => exact ⟨Table.Inv.clear inv p, .of_eq (Table.flat_clear _ p), _, rfl⟩
  | markChecking => exact ⟨(markChecking_nodes inv).2, .of_eq (markChecking_nodes inv).1, _, rfl⟩
  | invalidate addr =>
    simp only [step, nodesAfter, invalidateMemory]
    cases hr : s.table.retrieveNode addr with
    | some n => exact ⟨Table.Inv.modify inv poison poison_addr addr, .of_eq (Table.Inv.flat_modify inv poison addr), _, rfl⟩
    | none => exact ⟨inv, .of_eq (map_atAddr_absent _ ((retrieve_none_iff inv).mp hr)).symm, _, rfl⟩
  | write addr off b =>
    exact ⟨Table.Inv.modify inv _ (setByte_addr off b) addr, .of_eq (Table.Inv.flat_modify inv _ addr), _, rfl⟩
  | _ => exact ⟨inv, .rfl, _, rfl⟩

theorem step_inv {s : State} (inv : s.Inv) (op : Op) (hf : FreshAddr s op) : (step s op).1.Inv :=
  (step_nodes inv op hf).1

/-- `lookup` carries `cons`, `filter` and `map` of the record list to `insert`, `erase` / `filter` and `update` /
    `mapVals` of the finite map -/
theorem lookup_nodesAfter {s : State} (inv : s.Inv) (op : Op) :
    lookup (nodesAfter s op) = (Spec.step (abs s) op).map := by
  have hl : lookup s.nodes = (abs s).map := funext fun a => (Table.Inv.retrieve_eq_find inv a).symm
  have hnd : (s.nodes.map (·.addr)).Nodup := inv.distinct
  have hnew : ∀ (L : List Node) (m : Spec.Map) (n : Node), lookup L = m → lookup (n :: L) = m.insert n := fun L m n h =>
    funext fun x => by rw [lookup_cons, h]; simp only [Spec.Map.insert, eq_comm]
  cases op with
  | alloc a size file line sep result nodeOk fill =>
    simp only [nodesAfter, Spec.step]
    split
    · exact hl
    · exact hnew _ _ _ hl
  | dealloc a addr file line sep =>
    simp only [nodesAfter, Spec.step]
    split
    · rename_i hz; rw [ListLemmas.filter_key_ne_self Node.addr (hz ▸ inv.nonnull)]; exact hl
    · exact funext fun x => by rw [lookup_filter_ne, hl]; rfl
  | realloc a addr size file line sep result fill =>
    rcases realloc_cases s a addr size file line sep result fill with
      h | ⟨-, -, h⟩ | ⟨_, -, -, -, h⟩ | ⟨_, -, -, -, h⟩ <;> rw [h.nodes, h.spec]
    · exact hl
    · exact hnew _ _ _ hl
    · exact funext fun x => by rw [lookup_map_atAddr (fun n => { n with sepNode := sep }) (fun _ => rfl), hl]; rfl
    · exact hnew _ _ _ (funext fun x => by rw [lookup_filter_ne, hl]; rfl)
  | deallocStage => funext x; rw [nodesAfter, lookup_filter hnd, hl]; rfl
  | clear p => funext x; rw [nodesAfter, lookup_filter hnd, hl, isInPeriod_eq_doc]; rfl
  | markChecking => funext x; rw [nodesAfter, lookup_map demote demote_addr, hl]; rfl
  | invalidate addr => funext x; rw [nodesAfter, lookup_map_atAddr _ poison_addr, hl]; rfl
  | write addr off b => funext x; rw [nodesAfter, lookup_map_atAddr _ (setByte_addr off b), hl]; rfl
  | _ => exact hl

theorem step_abs {s : State} (inv : s.Inv) (op : Op) (hf : FreshAddr s op) :
    abs (step s op).1 = Spec.step (abs s) op := by
  obtain ⟨inv', hp, m, hm⟩ := step_nodes inv op hf
  have : (abs (step s op).1).map = m := by
    rw [show m = (Spec.step (abs s) op).map from (congrArg Spec.State.map hm).symm, ← lookup_nodesAfter inv]
    exact funext fun a => (Table.Inv.retrieve_eq_find inv' a).trans (lookup_perm inv'.distinct hp a)
  rw [hm, ← this]

/-! ## sequence number, period switches, stage counter, allocation numbers -/

theorem step_scalars (s : State) (op : Op) :
    (step s op).1.seq = s.seq + successes (step s op).2 ∧
    (step s op).1.period = (periodSwitch op).getD s.period ∧
    (step s op).1.stage = match op with
      | .incStage => s.stage + 1
      | .decStage => s.stage - 1
      | _ => s.stage := by
  cases op with
  | alloc a size file line sep result nodeOk fill =>
    rcases alloc_cases s a size file line sep result nodeOk fill with h | ⟨-, h⟩ <;>
      rw [h.state, h.successes] <;> exact ⟨rfl, rfl, rfl⟩
  | dealloc a addr file line sep =>
    obtain ⟨h, h0⟩ := dealloc_table_only s a addr file line sep
    simp only [step]; rw [h, h0]; exact ⟨rfl, rfl, rfl⟩
  | realloc a addr size file line sep result fill =>
    rcases realloc_cases s a addr size file line sep result fill with h | ⟨-, -, h⟩ | ⟨_, -, -, -, h⟩ | ⟨_, -, -, -, h⟩ <;>
      rw [h.state, h.successes] <;> exact ⟨rfl, rfl, rfl⟩
  | deallocStage =>
    obtain ⟨h, h0⟩ := stageLoop_table_only (s.table.nodeCount + 1) s (s.table.getFirstLeak (isInStage s.stage))
    simp only [step, deallocStage]; rw [h, h0]; exact ⟨rfl, rfl, rfl⟩
  | invalidate addr => simp only [step, invalidateMemory]; split <;> exact ⟨rfl, rfl, rfl⟩
  | _ => exact ⟨rfl, rfl, rfl⟩

theorem increaseStageTimes_stage (k : Nat) (s : State) :
    (increaseStageTimes k s).stage = s.stage + BitVec.ofNat 8 k := by
  induction k with
  | zero => simp [increaseStageTimes]
  | succ k ih =>
    simp only [increaseStageTimes, increaseStage, ih]
    rw [BitVec.add_assoc]
    rw [BitVec.ofNat_add]
    rfl

theorem increaseStageTimes_table (k : Nat) (s : State) : (increaseStageTimes k s).table = s.table := by
  induction k with
  | zero => rfl
  | succ k ih => simpa [increaseStageTimes, increaseStage] using ih

/-! ### allocation numbers identify the records -/

def NumOk (L : List Node) (seq : Nat) : Prop := (∀ n ∈ L, n.number < seq) ∧ (L.map (·.number)).Nodup

theorem numOk_sublist {L L' : List Node} {seq : Nat} (h : L'.Sublist L) (ok : NumOk L seq) : NumOk L' seq :=
  ⟨fun n hn => ok.1 n (h.subset hn), (h.map _).nodup ok.2⟩

theorem numOk_of_numbers {L L' : List Node} {seq : Nat} (h : (L'.map (·.number)).Perm (L.map (·.number)))
    (ok : NumOk L seq) : NumOk L' seq := by
  refine ⟨fun n hn => ?_, h.nodup_iff.mpr ok.2⟩
  obtain ⟨m, hm, hmn⟩ := List.mem_map.mp (h.mem_iff.mp (List.mem_map_of_mem hn))
  exact hmn ▸ ok.1 m hm

theorem numOk_map {L : List Node} {seq : Nat} (g : Node → Node) (hg : ∀ n, (g n).number = n.number) (ok : NumOk L seq) :
    NumOk (L.map g) seq :=
  numOk_of_numbers (.of_eq (by rw [List.map_map]; exact List.map_congr_left fun n _ => hg n)) ok

theorem atAddr_number (a : Nat) (f : Node → Node) (hf : ∀ n, (f n).number = n.number) (n : Node) :
    (atAddr a f n).number = n.number := by
  unfold atAddr; split
  · exact hf n
  · rfl

theorem numOk_cons_new {L : List Node} {seq : Nat} (n : Node) (hn : n.number = seq) (ok : NumOk L seq) :
    NumOk (n :: L) (seq + 1) := by
  refine ⟨?_, ?_⟩
  · intro m hm
    simp only [List.mem_cons] at hm
    rcases hm with rfl | hm
    · omega
    · have := ok.1 m hm; omega
  · simp only [List.map_cons, List.nodup_cons, List.mem_map, not_exists, not_and]
    refine ⟨?_, ok.2⟩
    intro m hm h
    have := ok.1 m hm
    omega

/-- the list operations of `nodesAfter` keep `NumOk`: a new record takes the next number, `filter` drops records, the
    maps keep every number (no invariant of the table is needed) -/
theorem numOk_nodesAfter {s : State} (ok : NumOk s.nodes s.seq) (op : Op) :
    NumOk (nodesAfter s op) (Spec.step (abs s) op).seq := by
  have hnew : ∀ {L : List Node} {a size file line sep fill} (result : Nat), NumOk L s.seq →
      NumOk (Spec.newNode (abs s) result size a file line sep fill :: L) (s.seq + 1) := fun _ => numOk_cons_new _ rfl
  cases op with
  | alloc a size file line sep result nodeOk fill =>
    simp only [nodesAfter, Spec.step]
    split
    · exact ok
    · exact hnew result ok
  | realloc a addr size file line sep result fill =>
    rcases realloc_cases s a addr size file line sep result fill with
      h | ⟨-, -, h⟩ | ⟨_, -, -, -, h⟩ | ⟨_, -, -, -, h⟩ <;> rw [h.nodes, h.spec]
    · exact ok
    · exact hnew result ok
    · exact numOk_map _ (atAddr_number _ _ fun _ => rfl) ok
    · exact hnew result (numOk_sublist List.filter_sublist ok)
  | dealloc a addr file line sep =>
    have : (Spec.step (abs s) (.dealloc a addr file line sep)).seq = s.seq := by simp only [Spec.step]; split <;> rfl
    rw [this]; exact numOk_sublist List.filter_sublist ok
  | deallocStage => exact numOk_sublist List.filter_sublist ok
  | clear p => exact numOk_sublist List.filter_sublist ok
  | markChecking => exact numOk_map _ (fun n => by unfold demote; split <;> rfl) ok
  | invalidate addr => exact numOk_map _ (atAddr_number _ _ fun _ => rfl) ok
  | write addr off b => exact numOk_map _ (atAddr_number _ _ fun _ => rfl) ok
  | _ => exact ok

theorem numInv_step {s : State} (inv : s.Inv) (op : Op) (hf : FreshAddr s op) (ok : NumInv s) : NumInv (step s op).1 := by
  obtain ⟨_, hp, m, hm⟩ := step_nodes inv op hf
  have := numOk_of_numbers (hp.map _) (numOk_nodesAfter ok op)
  rwa [hm] at this

theorem abs_update_self {s s' : State} {a0 : Nat} {f : Node → Node}
    (h : abs s' = { abs s with map := (abs s).map.update a0 f }) {n : Node} (hn : (abs s).map a0 = some n) :
    (abs s').map a0 = some (f n) := by
  rw [h]
  show (if a0 = a0 then _ else _) = _
  rw [if_pos rfl, hn]; rfl

theorem retrieve_invalidate {s : State} (inv : s.Inv) {n : Node} (hn : n ∈ s.nodes) :
    (invalidateMemory s n.addr).table.retrieveNode n.addr = some (poison n) :=
  abs_update_self (step_abs inv (.invalidate n.addr) trivial) ((retrieve_some_iff inv).mpr ⟨hn, rfl⟩)

theorem run_append_fst : ∀ (a b : List Op) (s : State), (run s (a ++ b)).1 = (run (run s a).1 b).1
  | [], _, _ => rfl
  | _ :: a, b, _ => run_append_fst a b _

theorem freshAll_append : ∀ (a b : List Op) (s : State), FreshAll s a → FreshAll (run s a).1 b → FreshAll s (a ++ b)
  | [], _, _, _, h => h
  | _ :: a, b, _, h1, h2 => ⟨h1.1, freshAll_append a b _ h1.2 h2⟩

end LeakDetector
