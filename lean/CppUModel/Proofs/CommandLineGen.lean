import CppUModel.Proofs.CommandLine
import CppUModel.Gen.ParseHandlers
/-!
What the comparison of the regenerated `CommandLineArguments.cpp` with the model is stated and proved with.
`Gen/ParseHandlers.lean` is regenerated from the source on every run (translate/extract_cmdline_fns.py): one Lean
definition per function of `CommandLineArguments.cpp` that `parse` runs, plus the body of the `for` loop of
`parse` itself and the runner's calls as event lists.  `Props/C12.lean` proves each of them equal to the corresponding
function of `Model/CommandLine.lean`.

Indexing convention of the generated code: `rest` = `av[i .. ac)` at entry, `k` = how far the function advanced `i`.
-/
namespace CommandLine
open Text
namespace Src
open Gen.ParseHandlers
def kOf (b : Bool) : Nat := if b then 1 else 0

theorem kOf_false : kOf false = 0 := rfl
theorem kOf_true : kOf true = 1 := rfl

/-- what `setShuffle` leaves in `shufflingPreSeeded_`: set exactly when a seed was given -/
def preSeededOf (p : Bool) (a : Bytes) (next : Option Bytes) : Bool :=
  if a.length > 2 then true else match next with
    | some n => if atou n != 0 then true else p
    | none => p

/-- `dispatch` as a recursion over the table, so that `simp only [table, dispatchIn, Entry.hits]` unrolls it into the
    same chain of `if`s as the generated `parseBody` -/
def dispatchIn : List Entry → Bytes → Option Handler
  | [], _ => none
  | e :: t, a => if e.hits a = true then some e.h else dispatchIn t a

theorem dispatch_eq_dispatchIn (a : Bytes) : dispatch a = dispatchIn table a := by
  unfold dispatch
  generalize table = tbl
  induction tbl with
  | nil => rfl
  | cons e t ih =>
    simp only [List.find?_cons, dispatchIn]
    cases h : e.hits a <;> simp [ih]

/-- what the generated loop body and the model's `step` are compared on: configuration, verdict, arguments consumed
    (`shufflingPreSeeded_` is left out: the model does not carry it) -/
def view (o : Out Bool) : Config × Bool × Nat := (o.st.cfg, o.ret, o.k)
def viewS (s : StepOut) : Config × Bool × Nat := (s.cfg, s.good, kOf s.consumed)

theorem ite_ite_same {α : Type} (x y : Bool) (A B : α) :
    (if x = true then A else if y = true then A else B) = if (x || y) = true then A else B := by
  cases x <;> cases y <;> rfl

/-- the model's `step` once the branch is known; a function of the dispatch result, so that it can be pushed into the
    `if` chain -/
def afterDispatch (env : Env) (c : Config) (a : Bytes) (next : Option Bytes) (d : Option Handler) : Config × Bool × Nat :=
  viewS (match d with
    | some h => runHandler env h c a next
    | none => ⟨c, false, false⟩)

theorem afterDispatch_some (env : Env) (c : Config) (a : Bytes) (next : Option Bytes) (h : Handler) :
    afterDispatch env c a next (some h) = viewS (runHandler env h c a next) := rfl

theorem afterDispatch_none (env : Env) (c : Config) (a : Bytes) (next : Option Bytes) :
    afterDispatch env c a next none = (c, false, 0) := rfl

theorem view_mk (st : St) (k : Nat) (r : Bool) : view ⟨st, k, r⟩ = (st.cfg, r, k) := rfl

theorem step_chain (env : Env) (c : Config) (a : Bytes) (next : Option Bytes) :
    viewS (step env c a next) = afterDispatch env c a next (dispatchIn table a) := by
  simp only [step, dispatch_eq_dispatchIn, afterDispatch]
  rfl

/-- the rejection test `if (correctParameters == false) return false` at the end of every branch -/
theorem out_of_good (st : St) (k : Nat) (g : Bool) :
    (if (g == false) = true then (⟨st, k, false⟩ : Out Bool) else ⟨st, k, true⟩) = ⟨st, k, g⟩ := by
  cases g <;> rfl

/-- `for (int i = 1; i < ac_; i++) { body }` of `parse` with the regenerated body: `rest` = av[i..ac), the body
    reports how far it advanced `i` itself (`k`), the loop header adds one.  `fuel` bounds the
    number of iterations (every iteration removes at least one argument). -/
def genLoop (env : Env) : Nat → St → List Bytes → ParseResult
  | _, s, [] => .ok s.cfg
  | 0, s, _ :: _ => .ok s.cfg
  | fuel + 1, s, a :: rest =>
    if (Gen.ParseHandlers.parseBody env s (a :: rest) 0).ret
    then genLoop env fuel (Gen.ParseHandlers.parseBody env s (a :: rest) 0).st
           ((a :: rest).drop ((Gen.ParseHandlers.parseBody env s (a :: rest) 0).k + 1))
    else .reject (Gen.ParseHandlers.parseBody env s (a :: rest) 0).st.cfg

/-- `CommandLineArguments(ac, av).parse(plugin)` assembled from the regenerated pieces -/
def genParse (env : Env) (argv : List Bytes) : ParseResult :=
  genLoop env argv.tail.length ⟨initialConfig, initialPreSeeded⟩ argv.tail

def genLoopOf (body : St → List Bytes → Out Bool) : Nat → St → List Bytes → ParseResult
  | _, s, [] => .ok s.cfg
  | 0, s, _ :: _ => .ok s.cfg
  | fuel + 1, s, a :: rest =>
    if (body s (a :: rest)).ret
    then genLoopOf body fuel (body s (a :: rest)).st ((a :: rest).drop ((body s (a :: rest)).k + 1))
    else .reject (body s (a :: rest)).st.cfg

theorem genLoop_eq_genLoopOf (env : Env) : ∀ fuel s rest,
    genLoop env fuel s rest = genLoopOf (fun s r => Gen.ParseHandlers.parseBody env s r 0) fuel s rest
  | _, _, [] => by cases ‹Nat› <;> rfl
  | 0, _, _ :: _ => rfl
  | f + 1, s, a :: r => by simp only [genLoop, genLoopOf, genLoop_eq_genLoopOf env f]

theorem genLoopOf_eq_go (env : Env) (body : St → List Bytes → Out Bool)
    (hb : ∀ c p a r, view (body ⟨c, p⟩ (a :: r)) = viewS (step env c a r.head?)) :
    ∀ (fuel : Nat) (s : St) (rest : List Bytes), rest.length ≤ fuel → genLoopOf body fuel s rest = go env s.cfg false rest
  | _, _, [], _ => by cases ‹Nat› <;> rfl
  | 0, _, _ :: _, h => by simp at h
  | f + 1, ⟨c, p⟩, a :: r, h => by
    have hv := hb c p a r
    have hc : (body ⟨c, p⟩ (a :: r)).st.cfg = (step env c a r.head?).cfg := congrArg (·.1) hv
    have hr : (body ⟨c, p⟩ (a :: r)).ret = (step env c a r.head?).good := congrArg (·.2.1) hv
    have hk : (body ⟨c, p⟩ (a :: r)).k = kOf (step env c a r.head?).consumed := congrArg (·.2.2) hv
    simp only [genLoopOf, go, hr, hk]
    cases (step env c a r.head?).good with
    | false => simp [hc]
    | true =>
      cases (step env c a r.head?).consumed with
      | false =>
        simp only [kOf, Bool.false_eq_true, if_false, Nat.zero_add, List.drop_succ_cons, List.drop_zero]
        rw [genLoopOf_eq_go env body hb _ _ r (by simpa using h), hc]
      | true =>
        simp only [kOf, if_true, List.drop_succ_cons]
        cases r with
        | nil => cases f <;> simp [genLoopOf, go, hc]
        | cons b r' =>
          simp only [List.drop_succ_cons, List.drop_zero, go]
          rw [genLoopOf_eq_go env body hb _ _ r' (by simp at h; omega), hc]

theorem initialConfig_eq : initialConfig = ({} : Config) := rfl

/-! ## the runner's events (`initializeTestRun`, `runAllTests` regenerated as event lists): what is read off them -/

def toModelEv : Gen.ParseHandlers.OutEv → CommandLine.OutEv
  | .console => .console
  | .junit p => .junit p
  | .teamcity => .teamcity
  | .composite => .composite

def evCall : Ev → Option RegCall
  | .separateProcess => some .separateProcess
  | .listGroups => some .listGroups
  | .listNames => some .listNames
  | .listLocations => some .listLocations
  | .reverse => some .reverse
  | .shuffle s => some (.shuffle s)
  | .runAll => some .runAll
  | .setGroupFilters | .setNameFilters | .verbose _ | .color | .runIgnored | .crashOnFail | .rethrow _
  | .print _ | .printNum _ | .printTestRun _ _ => none

theorem init_calls_eq (c : Config) : (Gen.ParseHandlers.initializeTestRun c).filterMap evCall = initCalls c := by
  simp only [Gen.ParseHandlers.initializeTestRun, List.filterMap_cons, List.filterMap_append, List.filterMap_nil,
    apply_ite (List.filterMap evCall), evCall, ite_self, List.append_nil, List.nil_append, initCalls]

/-- what `initializeTestRun` switches on: console verbosity and colour, registry flags, the two static switches -/
structure InitState where
  verbosity       : Nat := 0
  color           : Bool := false
  separateProcess : Bool := false
  runIgnored      : Bool := false
  crashOnFail     : Bool := false
  rethrow         : Bool := false
deriving DecidableEq, Repr

def applyEv (s : InitState) : Ev → InitState
  | .verbose l => { s with verbosity := l }
  | .color => { s with color := true }
  | .separateProcess => { s with separateProcess := true }
  | .runIgnored => { s with runIgnored := true }
  | .crashOnFail => { s with crashOnFail := true }
  | .rethrow b => { s with rethrow := b }
  | .setGroupFilters | .setNameFilters | .listGroups | .listNames | .listLocations | .reverse | .print _ | .printNum _
  | .shuffle _ | .printTestRun _ _ | .runAll => s

def evPrinted : Ev → Option String
  | .print s => some s
  | .printNum n => some (toString n)
  | .setGroupFilters | .setNameFilters | .verbose _ | .color | .separateProcess | .runIgnored | .crashOnFail | .rethrow _
  | .listGroups | .listNames | .listLocations | .reverse | .shuffle _ | .printTestRun _ _ | .runAll => none

def evHeader : Ev → Option (Nat × Nat)
  | .printTestRun i n => some (i, n)
  | .setGroupFilters | .setNameFilters | .verbose _ | .color | .separateProcess | .runIgnored | .crashOnFail | .rethrow _
  | .listGroups | .listNames | .listLocations | .reverse | .shuffle _ | .print _ | .printNum _ | .runAll => none

theorem init_prints_nothing (c : Config) :
    (Gen.ParseHandlers.initializeTestRun c).filterMap evPrinted = [] ∧
    (Gen.ParseHandlers.initializeTestRun c).filterMap evHeader = [] := by
  simp only [Gen.ParseHandlers.initializeTestRun, List.filterMap_cons, List.filterMap_append, List.filterMap_nil,
    apply_ite (List.filterMap evPrinted), apply_ite (List.filterMap evHeader), evPrinted, evHeader, ite_self,
    List.append_nil, and_self]

theorem evHeader_reverse : [Ev.reverse].filterMap evHeader = [] := rfl
theorem evHeader_seed (a b : String) (n : Nat) : [Ev.print a, .printNum n, .print b].filterMap evHeader = [] := rfl
theorem evHeader_body1 (s i n : Nat) : [Ev.shuffle s, .printTestRun i n, .runAll].filterMap evHeader = [(i, n)] := rfl
theorem evHeader_body0 (i n : Nat) : [Ev.printTestRun i n, .runAll].filterMap evHeader = [(i, n)] := rfl
end Src
end CommandLine
