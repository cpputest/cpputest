import CppUModel.Proofs.LeakDetector
import CppUModel.Proofs.ThreadSafe
/-!
Helper lemmas of the composition theorems `Props/C10x.lean`: the outstanding-set detector of
`Model/ThreadSafe.lean` (C10) against the finite-map specification of `Spec/LeakDetector.lean` and the
table model `Model/LeakDetector.lean` (C04/C06).
-/
namespace Compose.TS
open LeakDetector ThreadSafe

def famOf : Kind → Family
  | .new => .new
  | .newArray => .newArray
  | .malloc => .malloc

/-- `operator new/new[]` keep the accounting node inside the block, `malloc` allocates it separately
    (the `allocatNodesSeperately` argument of the wrappers in MemoryLeakWarningPlugin.cpp) -/
def sepOf : Kind → Bool
  | .malloc => true
  | _ => false

/-- The three current allocators are three different objects of three different types
    (`defaultNewAllocator`, `defaultNewArrayAllocator`, `defaultMallocAllocator`). -/
def Distinct (c : Current) : Prop :=
  ∀ f g : Family, f ≠ g → (c.of f).actual.id ≠ (c.of g).actual.id ∧ (c.of f).actual.name ≠ (c.of g).actual.name

theorem famOf_inj {k k' : Kind} (h : famOf k = famOf k') : k = k' := by
  cases k <;> cases k' <;> first | rfl | cases h

theorem matching_of_distinct {c : Current} (hc : Distinct c) (k k' : Kind) :
    matching true (c.of (famOf k)) (c.of (famOf k')) = decide (k = k') := by
  unfold matching Gen.LeakDetector.matchingAllocation
  by_cases h : k = k'
  · subst h; simp
  · have hf : famOf k ≠ famOf k' := fun e => h (famOf_inj e)
    have := hc _ _ hf
    have h1 : ((c.of (famOf k)).actual.id == (c.of (famOf k')).actual.id) = false := by simpa using this.1
    have h2 : ((c.of (famOf k')).actual.name == (c.of (famOf k)).actual.name) = false := by
      simpa using fun e => this.2 e.symm
    simp [h1, h2, h]

theorem of_famOf_inj {c : Current} (hc : Distinct c) {k k' : Kind} (h : c.of (famOf k) = c.of (famOf k')) : k = k' := by
  by_cases hk : k = k'
  · exact hk
  · have hf : famOf k ≠ famOf k' := fun e => hk (famOf_inj e)
    exact absurd (by rw [h]) (hc _ _ hf).1

/-! ## the relation on the finite map -/

/-- The outstanding-set detector `d` of the C10 model represents the finite map `m` of the C04
    specification: the same addresses are outstanding, each allocated by the current allocator of its
    family; live ids are pairwise distinct; allocation type checking is on. -/
structure RS (c : Current) (m : Spec.State) (d : Det) : Prop where
  look : ∀ id, (m.map id).map (·.allocator) = (ThreadSafe.lookup d id).map (fun k => c.of (famOf k))
  nodup : (ids d).Nodup
  tc : m.typeChecking = true

theorem RS.live_iff {c : Current} {m : Spec.State} {d : Det} (h : RS c m d) (id : Nat) :
    m.map id = none ↔ ThreadSafe.lookup d id = none := by
  have := h.look id
  cases hm : m.map id <;> cases hl : ThreadSafe.lookup d id <;> simp [hm, hl] at this ⊢

theorem RS.alloc {c : Current} {m : Spec.State} {d : Det} (h : RS c m d) (id : Nat) (k : Kind) (size : Nat)
    (file : String) (line : Nat) (nodeOk : Bool) (fill : UInt8)
    (hz : id ≠ 0) (hfresh : id ∉ ids d) (hsz : sizeOverflows size = false) (hn : sepOf k = true → nodeOk = true) :
    RS c (Spec.step m (.alloc (c.of (famOf k)) size file line (sepOf k) id nodeOk fill)) ((id, k) :: d) := by
  have hcond : ¬ (sizeOverflows size = true ∨ id = 0 ∨ (sepOf k = true ∧ nodeOk = false)) := by
    rintro (h1 | h1 | h1)
    · rw [hsz] at h1; cases h1
    · exact hz h1
    · rw [hn h1.1] at h1; cases h1.2
  refine { look := ?_, nodup := ?_, tc := ?_ }
  · intro x
    simp only [Spec.step, if_neg hcond, Spec.Map.insert, Spec.newNode, ThreadSafe.lookup_cons]
    by_cases hx : x = id
    · simp [hx]
    · simp only [hx, if_false]; exact h.look x
  · simp only [ids, List.map_cons, List.nodup_cons]
    exact ⟨hfresh, h.nodup⟩
  · simp only [Spec.step, if_neg hcond]; exact h.tc

/-- in-place updates that keep the allocator of every record (`invalidateMemory`, client writes) -/
theorem RS.update {c : Current} {m : Spec.State} {d : Det} (h : RS c m d) (a : Nat) (f : Node → Node)
    (hf : ∀ n, (f n).allocator = n.allocator) : RS c { m with map := m.map.update a f } d := by
  refine { look := ?_, nodup := h.nodup, tc := h.tc }
  intro x
  simp only [Spec.Map.update]
  by_cases hx : x = a
  · simp only [hx, if_true, Option.map_map]
    rw [← h.look a]
    congr 1
    funext n; exact hf n
  · simp only [hx, if_false]; exact h.look x

theorem RS.erase {c : Current} {m : Spec.State} {d : Det} (h : RS c m d) (a : Allocator) (id : Nat) (file : String)
    (line : Nat) (sep : Bool) (hz : id ≠ 0) :
    RS c (Spec.step m (.dealloc a id file line sep)) (remove d id) := by
  refine { look := ?_, nodup := nodup_ids_remove id h.nodup, tc := ?_ }
  · intro x
    simp only [Spec.step, hz, if_false, Spec.Map.erase, lookup_remove h.nodup]
    by_cases hx : x = id
    · simp [hx]
    · simp only [hx, if_false]; exact h.look x
  · simp only [Spec.step, hz, if_false]; exact h.tc

theorem RS.realloc {c : Current} {m : Spec.State} {d : Det} (h : RS c m d) (old new size : Nat) (file : String)
    (line : Nat) (fill : UInt8) (hz : new ≠ 0) (hoz : old ≠ 0) (hlive : ThreadSafe.lookup d old ≠ none)
    (hfresh : new = old ∨ new ∉ ids d) (hsz : sizeOverflows size = false) :
    RS c (Spec.step m (.realloc c.mallocA old size file line true new fill)) ((new, .malloc) :: remove d old) := by
  have hm : ¬ m.map old = none := fun e => hlive ((h.live_iff old).mp e)
  refine { look := ?_, nodup := ?_, tc := ?_ }
  · intro x
    simp only [Spec.step, hsz, Bool.false_eq_true, if_false, hoz, hm, hz, Spec.Map.insert, Spec.Map.erase,
      Spec.newNode, ThreadSafe.lookup_cons, lookup_remove h.nodup]
    by_cases hx : x = new
    · simp [hx, famOf, Current.of]
    · simp only [hx, if_false]
      by_cases hx2 : x = old
      · simp [hx2]
      · simp only [hx2, if_false]; exact h.look x
  · simp only [ids, List.map_cons, List.nodup_cons]
    refine ⟨?_, nodup_ids_remove old h.nodup⟩
    intro hmem
    have := (mem_ids_remove d h.nodup old new).mp hmem
    rcases hfresh with e | e
    · exact this.2 e
    · exact e this.1
  · simp only [Spec.step, hsz, Bool.false_eq_true, if_false, hoz, hm, hz]; exact h.tc

theorem RS.realloc_unknown {c : Current} {m : Spec.State} {d : Det} (h : RS c m d) (a : Allocator) (old new size : Nat)
    (file : String) (line : Nat) (sep : Bool) (fill : UInt8) (hoz : old ≠ 0) (hdead : ThreadSafe.lookup d old = none)
    (hsz : sizeOverflows size = false) :
    Spec.step m (.realloc a old size file line sep new fill) = m := by
  have hm : m.map old = none := (h.live_iff old).mpr hdead
  simp [Spec.step, hsz, hoz, hm]

end Compose.TS
