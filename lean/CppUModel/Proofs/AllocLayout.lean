import CppUModel.Spec.AllocLayout
import CppUModel.Proofs.ListLemmas
/-! Lemmas for C05 below the invariant: the size arithmetic on `BitVec 64` against its `Nat` meaning, the block memory and the
record table, what the bookkeeping writes do when the memory has room, and how each model function can end. -/
namespace AllocLayout
open Gen.AllocLayout


/-! ## size arithmetic -/

theorem guard_eq (c : Cfg) : c.guard = if c.check then 3#64 else 0#64 := by
  unfold Cfg.guard corruptionBufferSizeCheck corruptionBufferSizeNoCheck
  cases c.check <;> rfl

theorem guard_toNat (c : Cfg) : c.guard.toNat = if c.check then 3 else 0 := by
  rw [guard_eq]; cases c.check <;> rfl

theorem guard_le (c : Cfg) : c.guard.toNat ≤ 3 := by
  rw [guard_toNat]; split <;> omega

theorem swci_toNat (c : Cfg) (size : W) : (swci c size).toNat = swciNat c size.toNat % 2^64 := by
  have hs := size.isLt
  unfold swci swciNat alignNat sizeOfMemoryWithCorruptionInfo align
  rw [guard_toNat, guard_eq]
  cases hc : c.check
  · simp only [Bool.false_eq_true, if_false, calculateVoidPointerAlignedSizeNoCheck, BitVec.add_zero, Nat.add_zero]
    by_cases h0 : size = 0#64
    · subst h0; simp
    · have : size.toNat ≠ 0 := fun h => h0 (BitVec.eq_of_toNat_eq (by simpa using h))
      simp [h0, this, Nat.mod_eq_of_lt hs]
  · simp [calculateVoidPointerAlignedSizeCheck, BitVec.toNat_add, BitVec.toNat_sub, BitVec.toNat_umod]
    omega

theorem swciNat_bounds (c : Cfg) (n : Nat) :
    n + c.guard.toNat ≤ swciNat c n ∧ swciNat c n ≤ n + c.guard.toNat + 8 ∧ 1 ≤ swciNat c n := by
  unfold swciNat alignNat
  split
  · omega
  · split <;> omega

theorem swciNat_aligned (c : Cfg) (hc : c.check = true) (n : Nat) : swciNat c n % 8 = 0 := by
  unfold swciNat alignNat
  simp [hc]; omega

theorem rejectsAlloc_iff (c : Cfg) (h : NodeOk c) (size : W) :
    rejectsAlloc c size = true ↔ extNat c size.toNat ≥ 2^64 := by
  have h2 := h.small
  have hs := size.isLt
  have hb := swciNat_bounds c size.toNat
  have hg := guard_le c
  unfold rejectsAlloc allocOverflowGuard extNat
  simp only [BitVec.ult, BitVec.toNat_add, swci_toNat, decide_eq_true_eq]
  -- the padded size exceeds `size` by at most 11 and the record is below 2^32: the sum wraps at most once
  omega

theorem rejectsRealloc_eq (c : Cfg) (size : W) : rejectsRealloc c size = rejectsAlloc c size := rfl

theorem accepted_lt (c : Cfg) (h : NodeOk c) (size : W) (hacc : rejectsAlloc c size = false) :
    extNat c size.toNat < 2^64 :=
  Nat.lt_of_not_le fun h1 => by rw [(rejectsAlloc_iff c h size).mpr h1] at hacc; cases hacc

theorem swci_toNat_acc (c : Cfg) (h : NodeOk c) (size : W) (hacc : rejectsAlloc c size = false) :
    (swci c size).toNat = swciNat c size.toNat := by
  have := accepted_lt c h size hacc
  rw [swci_toNat]; unfold extNat at this
  exact Nat.mod_eq_of_lt (by omega)

theorem nodeOff_toNat_acc (c : Cfg) (h : NodeOk c) (size : W) (hacc : rejectsAlloc c size = false) :
    (nodeOff c size).toNat = swciNat c size.toNat :=
  swci_toNat_acc c h size hacc

theorem allocReq_toNat_acc (c : Cfg) (h : NodeOk c) (size : W) (sep : Bool) (hacc : rejectsAlloc c size = false) :
    (allocReq c sep size).toNat = if sep then swciNat c size.toNat else extNat c size.toNat := by
  have hl := accepted_lt c h size hacc
  have hs := swci_toNat_acc c h size hacc
  unfold allocReq allocRequestSeparate allocRequestInline
  cases sep
  · simp only [Bool.false_eq_true, if_false, BitVec.toNat_add, hs]
    unfold extNat at *; exact Nat.mod_eq_of_lt hl
  · simpa using hs

theorem reallocReq_eq (c : Cfg) (sep : Bool) (size : W) : reallocReq c sep size = allocReq c sep size := rfl

theorem accepted_room (c : Cfg) (h : NodeOk c) (size : W) (hacc : rejectsAlloc c size = false) :
    size.toNat + c.guard.toNat ≤ (nodeOff c size).toNat ∧
    (allocReq c true size).toNat = (nodeOff c size).toNat ∧
    (allocReq c false size).toNat = (nodeOff c size).toNat + c.node.toNat := by
  have hb := swciNat_bounds c size.toNat
  rw [allocReq_toNat_acc c h size true hacc, allocReq_toNat_acc c h size false hacc, nodeOff_toNat_acc c h size hacc]
  exact ⟨hb.1, rfl, rfl⟩

theorem accepted_fits (c : Cfg) (h : NodeOk c) (size : W) (sep : Bool) (hacc : rejectsAlloc c size = false) :
    size.toNat + c.guard.toNat ≤ (allocReq c sep size).toNat := by
  obtain ⟨h1, h2, h3⟩ := accepted_room c h size hacc
  cases sep
  · rw [h3]; omega
  · rw [h2]; exact h1

theorem small_accepted (c : Cfg) (h : NodeOk c) (size : W) (hs : size.toNat < 2 ^ 63) : rejectsAlloc c size = false := by
  cases hr : rejectsAlloc c size
  · rfl
  · have := (rejectsAlloc_iff c h size).mp hr
    have hb := swciNat_bounds c size.toNat
    have hg := guard_le c
    have := h.small
    unfold extNat at *
    omega

/-! ## calloc, strdup, strndup -/

theorem calloc_test_iff (num size : W) :
    callocOverflowTest num size = true ↔ num.toNat * size.toNat ≥ 2^64 := by
  have hn := num.isLt
  unfold callocOverflowTest
  simp only [Bool.and_eq_true, bne_iff_ne, ne_eq, BitVec.ult, decide_eq_true_eq, BitVec.toNat_udiv, BitVec.toNat_neg, BitVec.toNat_ofNat]
  have hmax : (2 ^ 64 - 1 % 2 ^ 64) % 2 ^ 64 = 2^64 - 1 := by decide
  rw [hmax, ← BitVec.toNat_inj]
  show size.toNat ≠ 0 ∧ _ ↔ _
  -- `(2^64 - 1) / size < num` is `2^64 - 1 < num * size` for a positive `size`
  rcases Nat.eq_zero_or_pos size.toNat with h0 | hpos
  · rw [h0]; omega
  · rw [Nat.div_lt_iff_lt_mul hpos]; omega

theorem calloc_request_exact (num size : W) (h : callocOverflowTest num size = false) :
    (callocRequest num size).toNat = num.toNat * size.toNat ∧
    (callocMemset num size).toNat = num.toNat * size.toNat := by
  have this : num.toNat * size.toNat < 2^64 :=
    Nat.lt_of_not_le fun h1 => by rw [(calloc_test_iff num size).mpr h1] at h; cases h
  unfold callocRequest callocMemset
  simp [BitVec.toNat_mul, Nat.mod_eq_of_lt this]

theorem strdupLength_ofNat (len : Nat) : strdupLength (BitVec.ofNat 64 len) = BitVec.ofNat 64 (len + 1) := by
  unfold strdupLength
  rw [BitVec.add_comm, ← BitVec.ofNat_add]

theorem strndupLength_ofNat (len : Nat) (n : W) (h : len < 2 ^ 64) :
    strndupLength (BitVec.ofNat 64 len) n = BitVec.ofNat 64 (min n.toNat len + 1) := by
  unfold strndupLength
  rw [BitVec.ofNat_add]
  simp only [BitVec.ult, BitVec.toNat_ofNat, Nat.mod_eq_of_lt h, decide_eq_true_eq]
  split
  · next hlt => rw [Nat.min_eq_right (Nat.le_of_lt hlt)]
  · next hge => rw [Nat.min_eq_left (Nat.le_of_not_lt hge), BitVec.ofNat_toNat, BitVec.setWidth_eq]

/-- `result[size - 1]`: the index of the last of `k + 1` bytes -/
theorem toNat_sub_one {size : W} {k : Nat} (h : size.toNat = k + 1) : (size - 1).toNat = k := by
  have := size.isLt
  rw [BitVec.toNat_sub]; simp; omega

/-! ## bounds-checked writes -/

theorem writeAt_eq_some {bs bs' : List UInt8} {off : Nat} {src : List UInt8} (h : writeAt bs off src = some bs') :
    off + src.length ≤ bs.length ∧ bs' = bs.take off ++ src ++ bs.drop (off + src.length) := by
  unfold writeAt at h
  split at h
  · next hle => exact ⟨hle, (Option.some.inj h).symm⟩
  · cases h

theorem writeAt_some {bs : List UInt8} {off : Nat} {src : List UInt8} (h : off + src.length ≤ bs.length) :
    writeAt bs off src = some (bs.take off ++ src ++ bs.drop (off + src.length)) := by
  simp [writeAt, h]

theorem writeAt_length {bs bs' : List UInt8} {off : Nat} {src : List UInt8} (h : writeAt bs off src = some bs') :
    bs'.length = bs.length := by
  obtain ⟨h1, rfl⟩ := writeAt_eq_some h
  simp; omega

theorem writeAt_take {bs bs' : List UInt8} {off : Nat} {src : List UInt8} (h : writeAt bs off src = some bs')
    (n : Nat) (hn : n ≤ off) : bs'.take n = bs.take n := by
  obtain ⟨h1, rfl⟩ := writeAt_eq_some h
  rw [List.append_assoc, List.take_append_of_le_length (by simp; omega)]
  simp [List.take_take, Nat.min_eq_left hn]

theorem writeAt_read {bs bs' : List UInt8} {off : Nat} {src : List UInt8} (h : writeAt bs off src = some bs') :
    (bs'.drop off).take src.length = src := by
  obtain ⟨h1, rfl⟩ := writeAt_eq_some h
  have : (bs.take off).length = off := by simp; omega
  rw [List.append_assoc, List.drop_append_of_le_length (by omega)]
  simp

theorem writeAt_zero_take {bs bs' src : List UInt8} (h : writeAt bs 0 src = some bs') :
    bs'.take src.length = src := by
  have := writeAt_read h
  simpa using this

theorem writeAt_drop {bs bs' : List UInt8} {off : Nat} {src : List UInt8} (h : writeAt bs off src = some bs')
    (n : Nat) (hn : off + src.length ≤ n) : bs'.drop n = bs.drop n := by
  obtain ⟨h1, rfl⟩ := writeAt_eq_some h
  have e : n = (bs.take off ++ src).length + (n - (off + src.length)) := by simp; omega
  rw [e, ← List.drop_drop, List.drop_left]
  simp
  congr 1; omega

/-! ## block memory -/

theorem findBlock_cons (x : Block) (xs : List Block) (id : Nat) :
    findBlock (x :: xs) id = if x.id == id then some x else findBlock xs id := by
  unfold findBlock; rw [List.find?_cons]; split <;> simp_all

theorem findBlock_cons_self (id : Nat) (bs : List UInt8) (m : List Block) :
    findBlock (⟨id, bs⟩ :: m) id = some ⟨id, bs⟩ := by rw [findBlock_cons, if_pos (beq_self_eq_true id)]

theorem findBlock_cons_ne {id id' : Nat} (bs : List UInt8) (m : List Block) (h : id' ≠ id) :
    findBlock (⟨id', bs⟩ :: m) id = findBlock m id := by rw [findBlock_cons, if_neg (by simpa using h)]

theorem findBlock_id {m : List Block} {id : Nat} {b : Block} (h : findBlock m id = some b) : b.id = id := by
  have := List.find?_some h
  simpa using this

theorem setBlock_cons (x : Block) (xs : List Block) (id : Nat) (bs : List UInt8) :
    setBlock (x :: xs) id bs = (if x.id == id then { x with bytes := bs } else x) :: setBlock xs id bs := by
  simp [setBlock]

theorem setBlock_comm (m : List Block) (i j : Nat) (a b : List UInt8) (h : i ≠ j) :
    setBlock (setBlock m i a) j b = setBlock (setBlock m j b) i a := by
  induction m with
  | nil => simp [setBlock]
  | cons x xs ih =>
    simp only [setBlock_cons, ih]
    by_cases hi : (x.id == i) = true
    · have e : x.id = i := by simpa using hi
      have : (x.id == j) = false := by simp [e]; exact h
      simp [hi, this]
    · by_cases hj : (x.id == j) = true <;> simp [hi, hj]

theorem findBlock_setBlock (m : List Block) (id' : Nat) (bs : List UInt8) (id : Nat) :
    findBlock (setBlock m id' bs) id =
      (findBlock m id).map fun b => if b.id == id' then { b with bytes := bs } else b := by
  unfold findBlock setBlock
  rw [List.find?_map]
  congr 2
  funext b
  simp only [Function.comp]; split <;> rfl

theorem findBlock_setBlock_same {m : List Block} {id : Nat} {b : Block} (bs : List UInt8)
    (h : findBlock m id = some b) : findBlock (setBlock m id bs) id = some ⟨id, bs⟩ := by
  rw [findBlock_setBlock, h]; simp [findBlock_id h]

theorem findBlock_setBlock_ne {m : List Block} {id id' : Nat} (bs : List UInt8) (h : id ≠ id') :
    findBlock (setBlock m id' bs) id = findBlock m id := by
  rw [findBlock_setBlock]
  cases hf : findBlock m id with
  | none => rfl
  | some b => simp [findBlock_id hf, h]

theorem writeBlock_spec {m : List Block} {id off : Nat} {src : List UInt8} {b : Block}
    (hb : findBlock m id = some b) (hfit : off + src.length ≤ b.bytes.length) :
    ∃ m' bs', writeBlock m id off src = some m' ∧ writeAt b.bytes off src = some bs' ∧
      findBlock m' id = some ⟨id, bs'⟩ ∧ ∀ j, j ≠ id → findBlock m' j = findBlock m j :=
  ⟨_, _, by simp only [writeBlock, hb, writeAt_some hfit], writeAt_some hfit, findBlock_setBlock_same _ hb,
    fun _ hj => findBlock_setBlock_ne _ hj⟩

theorem dropBlock_cons (x : Block) (xs : List Block) (id : Nat) :
    dropBlock (x :: xs) id = if x.id != id then x :: dropBlock xs id else dropBlock xs id := by
  simp [dropBlock, List.filter_cons]

theorem findBlock_dropBlock_ne {m : List Block} {id j : Nat} (h : j ≠ id) :
    findBlock (dropBlock m id) j = findBlock m j := by
  unfold findBlock dropBlock
  rw [List.find?_filter]
  congr 1; funext x
  by_cases hx : x.id = j <;> simp [hx, h]

theorem findBlock_none_of_fresh {m : List Block} {id : Nat} (h : Fresh m id) : findBlock m id = none :=
  List.find?_eq_none.mpr fun b hb => by simpa using h b hb

theorem ne_of_fresh_of_find {m : List Block} {id j : Nat} {b : Block} (hf : Fresh m id) (hb : findBlock m j = some b) :
    j ≠ id := by
  intro h; subst h; rw [findBlock_none_of_fresh hf] at hb; cases hb

theorem fresh_dropBlock {m : List Block} {id : Nat} (j : Nat) (h : Fresh m id) : Fresh (dropBlock m j) id := by
  intro b hb; exact h b (List.mem_filter.mp hb).1

theorem Ans.Fresh.dropBlock {m : List Block} {a : Ans} (h : a.Fresh m) (j : Nat) : a.Fresh (AllocLayout.dropBlock m j) := by
  cases a with
  | block k kb => exact fresh_dropBlock j h
  | _ => trivial

theorem fresh_dropBlock_self (m : List Block) (id : Nat) : Fresh (dropBlock m id) id := by
  intro b hb
  have := (List.mem_filter.mp hb).2
  simpa using this

theorem findBlock_dropBlock_self (m : List Block) (id : Nat) : findBlock (dropBlock m id) id = none :=
  findBlock_none_of_fresh (fresh_dropBlock_self m id)

theorem dropBlock_fresh {m : List Block} {id : Nat} (h : Fresh m id) : dropBlock m id = m := by
  apply List.filter_eq_self.mpr
  intro b hb
  have := h b hb
  simp [this]

theorem userView_of_find {s : State} {id : Nat} {b : Block} (h : findBlock s.mem id = some b) (n : Nat) :
    userView s id n = some (b.bytes.take n) := by
  unfold userView; rw [h]; rfl

/-! ## the record table -/

theorem removeRec_eq : ∀ (t : List Rec) (id : Nat),
    removeRec t id = (t.find? (·.id == id)).map fun r => (r, t.eraseP (·.id == id))
  | [], _ => rfl
  | x :: xs, id => by
    rw [removeRec, List.find?_cons, List.eraseP_cons, removeRec_eq xs id]
    cases hx : x.id == id
    · cases xs.find? (·.id == id) <;> rfl
    · rfl

theorem removeRec_retrieve (t : List Rec) (id : Nat) : retrieveRec t id = (removeRec t id).map (·.1) := by
  rw [removeRec_eq, Option.map_map]; exact Option.map_id'.symm

theorem removeRec_some {t : List Rec} {id : Nat} {o : Rec} {rest : List Rec} (h : removeRec t id = some (o, rest)) :
    t.find? (·.id == id) = some o ∧ rest = t.eraseP (·.id == id) := by
  rw [removeRec_eq] at h
  cases hf : t.find? (·.id == id) <;> rw [hf] at h <;> cases h
  exact ⟨rfl, rfl⟩

theorem removeRec_perm {t : List Rec} {id : Nat} {r : Rec} {rest : List Rec} (h : removeRec t id = some (r, rest)) :
    t.Perm (r :: rest) ∧ r.id = id := by
  obtain ⟨hf, rfl⟩ := removeRec_some h
  exact ⟨ListLemmas.perm_cons_eraseP hf, by simpa using List.find?_some hf⟩

theorem removeRec_mem {t : List Rec} {id : Nat} {r : Rec} {rest : List Rec} (h : removeRec t id = some (r, rest)) :
    r ∈ t ∧ r.id = id :=
  ⟨(removeRec_perm h).1.mem_iff.mpr (List.mem_cons_self ..), (removeRec_perm h).2⟩

theorem removeRec_none_not_mem : ∀ (t : List Rec) (id : Nat), removeRec t id = none → ∀ r ∈ t, r.id ≠ id
  | t, id, h => by
    rw [removeRec_eq, Option.map_eq_none_iff, List.find?_eq_none] at h
    simpa using h

theorem removeRec_some_of_mem (t : List Rec) (r : Rec) (h : r ∈ t) : ∃ o rest, removeRec t r.id = some (o, rest) := by
  rw [removeRec_eq]
  obtain ⟨o, ho⟩ := Option.isSome_iff_exists.mp (List.find?_isSome (p := (·.id == r.id)) |>.mpr ⟨r, h, beq_self_eq_true _⟩)
  exact ⟨o, _, by rw [ho]; rfl⟩

theorem removeRec_rest {t : List Rec} (hnd : (t.map (·.id)).Nodup) {id : Nat} {o : Rec} {rest : List Rec}
    (h : removeRec t id = some (o, rest)) : rest = t.filter (·.id != id) := by
  rw [(removeRec_some h).2]; exact ListLemmas.eraseP_key_eq_filter Rec.id hnd id

theorem trackedSet_cons (s : State) (r : Rec) (m : List Block) (q : Nat) :
    State.trackedSet { tracked := r :: s.tracked, mem := m, seq := q } = (r.id, r.size) :: s.trackedSet := by
  simp [State.trackedSet]

/-! ## the blocks a record owns -/

theorem mem_owned_iff (r : Rec) (j : Nat) : j ∈ r.owned ↔ j = r.id ∨ (r.sep = true ∧ j = r.nodeId) := by
  unfold Rec.owned; cases r.sep <;> simp

theorem id_mem_owned (r : Rec) : r.id ∈ r.owned := (mem_owned_iff r _).mpr (.inl rfl)

theorem nodeId_mem_owned {r : Rec} (hs : r.sep = true) : r.nodeId ∈ r.owned := (mem_owned_iff r _).mpr (.inr ⟨hs, rfl⟩)

/-! ## storeLeakInformation -/

theorem guardImage_length (c : Cfg) : (guardImage c).length = c.guard.toNat := by
  simp [guardImage]

/-- `node->init` where the layout puts the record: the data block keeps its length and everything up to the end of the
    guard bytes, and no block the record does not own is touched -/
theorem writeNode_ok (c : Cfg) (img : NodeImage) (hi : ImgOk c img) (m : List Block) (r : Rec) {b : Block}
    (hb : findBlock m r.id = some b)
    (hin : r.sep = false → r.size.toNat + c.guard.toNat ≤ (nodeOff c r.size).toNat ∧
      (nodeOff c r.size).toNat + c.node.toNat ≤ b.bytes.length)
    (hsp : r.sep = true → r.nodeId ≠ r.id ∧ ∃ nb, findBlock m r.nodeId = some nb ∧ nb.bytes.length = c.node.toNat) :
    ∃ m1 b1, writeNode c img m r = some m1 ∧ findBlock m1 r.id = some b1 ∧ b1.bytes.length = b.bytes.length ∧
      (∀ k, k ≤ r.size.toNat + c.guard.toNat → b1.bytes.take k = b.bytes.take k) ∧
      (r.sep = true → ∃ nb', findBlock m1 r.nodeId = some nb' ∧ nb'.bytes.length = c.node.toNat) ∧
      ∀ j, j ∉ r.owned → findBlock m1 j = findBlock m j := by
  unfold writeNode Rec.owned
  cases hs : r.sep
  · obtain ⟨h1, h2⟩ := hin hs
    obtain ⟨m1, bs1, hw, hwa, hf, hfr⟩ := writeBlock_spec hb (src := img r) (by rw [hi]; exact h2)
    exact ⟨m1, _, hw, hf, writeAt_length hwa, fun k hk => writeAt_take hwa k (Nat.le_trans hk h1), nofun,
      fun j hj => hfr j (by simpa using hj)⟩
  · obtain ⟨hne, nb, hnb, hnl⟩ := hsp hs
    obtain ⟨m1, bs1, hw, hwa, hf, hfr⟩ := writeBlock_spec hnb (off := 0) (src := img r) (by rw [hi]; omega)
    exact ⟨m1, b, hw, by rw [hfr _ hne.symm]; exact hb, rfl, fun _ _ => rfl,
      fun _ => ⟨_, hf, by rw [writeAt_length hwa]; exact hnl⟩, fun j hj => hfr j (by simp at hj; exact hj.2)⟩

/-- a data block after the bookkeeping writes, against the bytes it held before -/
structure Sound (c : Cfg) (size : W) (bytes : List UInt8) (b' : Block) : Prop where
  len   : b'.bytes.length = bytes.length
  user  : b'.bytes.take size.toNat = bytes.take size.toNat
  guard : (b'.bytes.drop size.toNat).take c.guard.toNat = guardImage c

theorem store_ok (c : Cfg) (img : NodeImage) (hi : ImgOk c img) (s : State) (r : Rec) (evs : List Ev) {b : Block}
    (hb : findBlock s.mem r.id = some b) (hfit : r.size.toNat + c.guard.toNat ≤ b.bytes.length)
    (hin : r.sep = false → r.size.toNat + c.guard.toNat ≤ (nodeOff c r.size).toNat ∧
      (nodeOff c r.size).toNat + c.node.toNat ≤ b.bytes.length)
    (hsp : r.sep = true → r.nodeId ≠ r.id ∧ ∃ nb, findBlock s.mem r.nodeId = some nb ∧ nb.bytes.length = c.node.toNat) :
    ∃ m', store c img s r evs = (⟨r :: s.tracked, m', s.seq + 1⟩, evs, .ptr r.id) ∧
      (∃ b', findBlock m' r.id = some b' ∧ Sound c r.size b.bytes b') ∧
      (r.sep = true → ∃ nb', findBlock m' r.nodeId = some nb' ∧ nb'.bytes.length = c.node.toNat) ∧
      ∀ j, j ∉ r.owned → findBlock m' j = findBlock s.mem j := by
  obtain ⟨m1, b1, hw1, hb1, hl1, ht1, hn1, hfr1⟩ := writeNode_ok c img hi s.mem r hb hin hsp
  obtain ⟨m2, bs2, hw2, hwa, hf2, hfr2⟩ := writeBlock_spec hb1 (off := r.size.toNat) (src := guardImage c)
    (by rw [guardImage_length, hl1]; exact hfit)
  refine ⟨m2, by simp only [store, hw1, writeGuard, hw2], ⟨_, hf2, ?_, ?_, ?_⟩, ?_, ?_⟩
  · rw [writeAt_length hwa, hl1]
  · rw [writeAt_take hwa _ (Nat.le_refl _), ht1 _ (Nat.le_add_right ..)]
  · have := writeAt_read hwa
    rwa [guardImage_length] at this
  · intro hs
    rw [hfr2 _ (hsp hs).1]; exact hn1 hs
  · intro j hj
    rw [hfr2 j (fun e => hj (e ▸ id_mem_owned r)), hfr1 j hj]

theorem account_ok (c : Cfg) (h : NodeOk c) (img : NodeImage) (hi : ImgOk c img)
    (t : List Rec) (m : List Block) (q fam : Nat) (size : W) (sep : Bool) (id : Nat) (bytes : List UInt8) (a2 : Ans)
    (evs : List Ev) (hacc : rejectsAlloc c size = false) (hlen : bytes.length = (allocReq c sep size).toNat)
    (h2 : sep = true → ∃ nid nb, a2 = .block nid nb ∧ nb.length = c.node.toNat ∧ nid ≠ id) :
    ∃ m' evs', account c img ⟨t, ⟨id, bytes⟩ :: m, q⟩ fam size sep id a2 evs =
        (⟨⟨id, size, fam, sep, if sep then a2.id else 0, q⟩ :: t, m', q + 1⟩, evs', .ptr id) ∧
      (∃ b', findBlock m' id = some b' ∧ Sound c size bytes b') ∧
      (sep = true → ∃ nb', findBlock m' a2.id = some nb' ∧ nb'.bytes.length = c.node.toNat) ∧
      ∀ j, j ≠ id → (sep = true → j ≠ a2.id) → findBlock m' j = findBlock m j := by
  obtain ⟨hord, hrs, hri⟩ := accepted_room c h size hacc
  cases sep
  · obtain ⟨m', he, hb', _, hfr⟩ := store_ok c img hi ⟨t, ⟨id, bytes⟩ :: m, q⟩ ⟨id, size, fam, false, 0, q⟩ evs
      (b := ⟨id, bytes⟩) (findBlock_cons_self ..) (by simp only; omega) (fun _ => ⟨hord, by simp only; omega⟩) nofun
    refine ⟨m', evs, he, hb', nofun, fun j hj _ => ?_⟩
    rw [hfr j (by simpa [mem_owned_iff] using hj)]; exact findBlock_cons_ne bytes m (Ne.symm hj)
  · obtain ⟨nid, nb, rfl, hnl, hne⟩ := h2 rfl
    obtain ⟨m', he, hb', hn', hfr⟩ := store_ok c img hi ⟨t, ⟨nid, nb⟩ :: ⟨id, bytes⟩ :: m, q⟩ ⟨id, size, fam, true, nid, q⟩
      (evs ++ [.unode c.node nid]) (b := ⟨id, bytes⟩)
      (by rw [findBlock_cons_ne nb _ hne]; exact findBlock_cons_self ..) (by simp only; omega) nofun
      (fun _ => ⟨hne, _, findBlock_cons_self .., hnl⟩)
    refine ⟨m', _, he, hb', fun _ => hn' rfl, fun j hj hjn => ?_⟩
    rw [hfr j (by simpa [mem_owned_iff] using ⟨hj, hjn rfl⟩)]
    exact (findBlock_cons_ne nb _ (Ne.symm (hjn rfl))).trans (findBlock_cons_ne bytes m (Ne.symm hj))

theorem store_cases (c : Cfg) (img : NodeImage) (s : State) (r : Rec) (evs : List Ev) :
    (∃ m', store c img s r evs = (⟨r :: s.tracked, m', s.seq + 1⟩, evs, .ptr r.id)) ∨
    (∃ w, store c img s r evs = (s, evs, .ub w)) := by
  unfold store
  cases writeNode c img s.mem r with
  | none => exact .inr ⟨_, rfl⟩
  | some m1 =>
    dsimp only
    cases writeGuard c m1 r with
    | none => exact .inr ⟨_, rfl⟩
    | some m2 => exact .inl ⟨_, rfl⟩

theorem account_cases (c : Cfg) (img : NodeImage) (s : State) (fam : Nat) (size : W) (sep : Bool) (id : Nat)
    (a2 : Ans) (evs : List Ev) :
    (∃ m', account c img s fam size sep id a2 evs =
        (⟨⟨id, size, fam, sep, if sep then a2.id else 0, s.seq⟩ :: s.tracked, m', s.seq + 1⟩,
          if sep then evs ++ [.unode c.node a2.id] else evs, .ptr id) ∧
      (sep = true → a2.isNull = false)) ∨
    (∃ s' w, account c img s fam size sep id a2 evs = (s', if sep then evs ++ [.unode c.node a2.id] else evs, .ub w) ∧
      s'.tracked = s.tracked ∧ s'.seq = s.seq) ∨
    (account c img s fam size sep id a2 evs = (s, evs ++ [.unode c.node 0], .testFail) ∧ sep = true ∧ a2 = .fail) := by
  cases sep
  · rcases store_cases c img s ⟨id, size, fam, false, 0, s.seq⟩ evs with ⟨m', he⟩ | ⟨w, he⟩
    · exact .inl ⟨m', he, nofun⟩
    · exact .inr (.inl ⟨s, w, he, rfl, rfl⟩)
  · cases a2 with
    | null => exact .inr (.inl ⟨s, _, rfl, rfl, rfl⟩)
    | fail => exact .inr (.inr ⟨rfl, rfl, rfl⟩)
    | block nid nb =>
      rcases store_cases c img { s with mem := ⟨nid, nb⟩ :: s.mem } ⟨id, size, fam, true, nid, s.seq⟩
        (evs ++ [.unode c.node nid]) with ⟨m', he⟩ | ⟨w, he⟩
      · exact .inl ⟨m', he, fun _ => rfl⟩
      · exact .inr (.inl ⟨_, w, he, rfl, rfl⟩)

theorem retrack_cases (c : Cfg) (img : NodeImage) (s : State) (old : Rec) (sep : Bool) (a2 : Ans) (evs : List Ev) :
    (∃ m' evs', retrack c img s old sep a2 evs =
        ({ s with tracked := { old with sep := sep, nodeId := if sep then a2.id else 0 } :: s.tracked, mem := m' }, evs', .null) ∧
      (sep = true → a2.isNull = false)) ∨
    (∃ evs' o, retrack c img s old sep a2 evs = (s, evs', o) ∧ (o = .testFail ∨ o.isUb = true)) := by
  unfold retrack
  cases sep
  · cases writeNode c img s.mem { old with sep := false, nodeId := 0 } with
    | none => exact .inr ⟨_, _, rfl, .inr rfl⟩
    | some m1 => exact .inl ⟨m1, _, rfl, nofun⟩
  · cases a2 with
    | null => exact .inr ⟨_, _, rfl, .inr rfl⟩
    | fail => exact .inr ⟨_, _, rfl, .inl rfl⟩
    | block nid nb =>
      cases hw : writeNode c img (⟨nid, nb⟩ :: s.mem) { old with sep := true, nodeId := nid } with
      | none => exact .inr ⟨evs ++ [.unode c.node nid], .ub "node written outside its block", by simp only [hw, if_true], .inr rfl⟩
      | some m1 => exact .inl ⟨m1, evs ++ [.unode c.node nid], by simp only [hw, if_true]; rfl, fun _ => rfl⟩

theorem account_ne_null (c : Cfg) (img : NodeImage) (s : State) (fam : Nat) (size : W) (sep : Bool) (id : Nat) (a2 : Ans)
    (evs : List Ev) : (account c img s fam size sep id a2 evs).2.2 ≠ .null := by
  rcases account_cases c img s fam size sep id a2 evs with ⟨m', h, _⟩ | ⟨s', w, h, _⟩ | ⟨h, _⟩ <;> rw [h] <;> nofun

theorem node_block_of_env {a2 : Ans} {n id : Nat} (h2 : a2.Ok n) (hne : a2.isNull = true ∨ a2.id ≠ id)
    (hnn : a2 ≠ .null) (hnf : a2 ≠ .fail) : ∃ nid nb, a2 = .block nid nb ∧ nb.length = n ∧ nid ≠ id := by
  cases a2 with
  | block nid nb => exact ⟨nid, nb, rfl, h2, by simpa [Ans.isNull, Ans.id] using hne⟩
  | null => exact absurd rfl hnn
  | fail => exact absurd rfl hnf

/-- the one way to undefined behaviour is a NULL node in the separate layout (`hnn`) -/
theorem account_never_ub (c : Cfg) (h : NodeOk c) (img : NodeImage) (hi : ImgOk c img)
    (t : List Rec) (m : List Block) (q fam : Nat) (size : W) (sep : Bool) (id : Nat) (bytes : List UInt8) (a2 : Ans)
    (evs : List Ev) (hacc : rejectsAlloc c size = false) (hlen : bytes.length = (allocReq c sep size).toNat)
    (h2 : a2.Ok c.node.toNat) (hne : a2.isNull = true ∨ a2.id ≠ id) (hnn : sep = true → a2 ≠ .null) :
    (account c img ⟨t, ⟨id, bytes⟩ :: m, q⟩ fam size sep id a2 evs).2.2.isUb = false := by
  by_cases hf : sep = true ∧ a2 = .fail
  · obtain ⟨rfl, rfl⟩ := hf; rfl
  · obtain ⟨m', evs', he, _⟩ := account_ok c h img hi t m q fam size sep id bytes a2 evs hacc hlen fun hs =>
      node_block_of_env h2 hne (hnn hs) fun e => hf ⟨hs, e⟩
    rw [he]; rfl

/-! ## allocMemory -/

theorem forcedSep_true (c : Cfg) : forcedSep c true = true := by simp [forcedSep]

theorem allocMemory_block_eq (c : Cfg) (img : NodeImage) (s : State) (fam : Nat) (size : W) (sep0 : Bool) (id : Nat)
    (bytes : List UInt8) (a2 : Ans) (hacc : rejectsAlloc c size = false)
    (hn : ¬ (forcedSep c sep0 = true ∧ a2 = .null)) :
    allocMemory c img s fam size sep0 (.block id bytes) a2 =
      account c img { s with mem := ⟨id, bytes⟩ :: s.mem } fam size (forcedSep c sep0) id a2
        [.ualloc (allocReq c (forcedSep c sep0) size) id] := by
  unfold allocMemory
  simp only [hacc, Bool.false_eq_true, if_false]
  split
  · exact absurd ⟨‹forcedSep c sep0 = true›, rfl⟩ hn
  · rfl

/-- an allocation that does not get as far as the accounting -/
def AllocStops (c : Cfg) (size : W) (sep : Bool) (a1 a2 : Ans) : Prop :=
  rejectsAlloc c size = true ∨ a1.isNull = true ∨ (sep = true ∧ a2 = .null)

theorem allocMemory_stops (c : Cfg) (img : NodeImage) (s : State) (fam : Nat) (size : W) (sep0 : Bool) (a1 a2 : Ans)
    (h : AllocStops c size (forcedSep c sep0) a1 a2) :
    ∃ evs o, allocMemory c img s fam size sep0 a1 a2 = (s, evs, o) ∧ (o = .null ∨ (o = .testFail ∧ a1 = .fail)) := by
  unfold allocMemory
  cases hacc : rejectsAlloc c size
  · cases a1 with
    | null => exact ⟨_, _, rfl, .inl rfl⟩
    | fail => exact ⟨_, _, rfl, .inr ⟨rfl, rfl⟩⟩
    | block id bytes =>
      obtain ⟨hs, rfl⟩ : forcedSep c sep0 = true ∧ a2 = .null := by simpa [AllocStops, hacc, Ans.isNull] using h
      simp only [hs]; exact ⟨_, _, rfl, .inl rfl⟩
  · exact ⟨_, _, rfl, .inl rfl⟩

theorem allocMemory_goes (c : Cfg) (img : NodeImage) (s : State) (fam : Nat) (size : W) (sep0 : Bool) (a1 a2 : Ans)
    (h : ¬ AllocStops c size (forcedSep c sep0) a1 a2) :
    ∃ id bytes, a1 = .block id bytes ∧ rejectsAlloc c size = false ∧
      allocMemory c img s fam size sep0 a1 a2 =
        account c img { s with mem := ⟨id, bytes⟩ :: s.mem } fam size (forcedSep c sep0) id a2
          [.ualloc (allocReq c (forcedSep c sep0) size) id] := by
  have hacc : rejectsAlloc c size = false := by
    cases hr : rejectsAlloc c size
    · rfl
    · exact absurd (.inl hr) h
  cases a1 with
  | null => exact absurd (.inr (.inl rfl)) h
  | fail => exact absurd (.inr (.inl rfl)) h
  | block id bytes =>
    exact ⟨id, bytes, rfl, hacc, allocMemory_block_eq c img s fam size sep0 id bytes a2 hacc (fun hx => h (.inr (.inr hx)))⟩

theorem allocMemory_outcome (c : Cfg) (img : NodeImage) (s : State) (fam : Nat) (size : W) (sep0 : Bool) (a1 a2 : Ans) :
    (allocMemory c img s fam size sep0 a1 a2).2.2 ≠ .badAlloc ∧
    ((allocMemory c img s fam size sep0 a1 a2).2.2 = .testFail → a1 = .fail ∨ a2 = .fail) ∧
    ((∀ id, (allocMemory c img s fam size sep0 a1 a2).2.2 ≠ .ptr id) →
      (allocMemory c img s fam size sep0 a1 a2).1.tracked = s.tracked) := by
  by_cases hst : AllocStops c size (forcedSep c sep0) a1 a2
  · obtain ⟨evs, o, he, ho⟩ := allocMemory_stops c img s fam size sep0 a1 a2 hst
    rw [he]
    rcases ho with rfl | ⟨rfl, ha⟩
    · exact ⟨nofun, nofun, fun _ => rfl⟩
    · exact ⟨nofun, fun _ => .inl ha, fun _ => rfl⟩
  · obtain ⟨id, bytes, rfl, hacc, he⟩ := allocMemory_goes c img s fam size sep0 _ a2 hst
    rw [he]
    rcases account_cases c img _ fam size (forcedSep c sep0) id a2 _ with
      ⟨m', h, _⟩ | ⟨s', w, h, ht, _⟩ | ⟨h, _, ha⟩ <;> rw [h]
    · exact ⟨nofun, nofun, fun hx => absurd rfl (hx id)⟩
    · exact ⟨nofun, nofun, fun _ => ht⟩
    · exact ⟨nofun, fun _ => .inr ha, fun _ => rfl⟩

theorem allocMemory_ok (c : Cfg) (h : NodeOk c) (img : NodeImage) (hi : ImgOk c img) (s : State) (fam : Nat)
    (size : W) (sep0 : Bool) (id : Nat) (bytes : List UInt8) (a2 : Ans)
    (hacc : rejectsAlloc c size = false)
    (hlen : bytes.length = (allocReq c (forcedSep c sep0) size).toNat)
    (h2 : forcedSep c sep0 = true → ∃ nid nb, a2 = .block nid nb ∧ nb.length = c.node.toNat ∧ nid ≠ id) :
    ∃ s' evs, allocMemory c img s fam size sep0 (.block id bytes) a2 = (s', evs, .ptr id) ∧
      s'.trackedSet = (id, size) :: s.trackedSet ∧
      (∃ b', findBlock s'.mem id = some b' ∧ Sound c size bytes b' ∧ size.toNat + c.guard.toNat ≤ b'.bytes.length) ∧
      (∀ j, j ≠ id → j ≠ a2.id → findBlock s'.mem j = findBlock s.mem j) := by
  obtain ⟨m', evs', he, ⟨b', hb', hs⟩, _, hfr⟩ :=
    account_ok c h img hi s.tracked s.mem s.seq fam size _ id bytes a2 [.ualloc (allocReq c (forcedSep c sep0) size) id] hacc hlen h2
  refine ⟨_, _, (allocMemory_block_eq c img s fam size sep0 id bytes a2 hacc ?_).trans he, rfl,
    ⟨b', hb', hs, ?_⟩, fun j hj hjn => hfr j hj (fun _ => hjn)⟩
  · rintro ⟨hs, rfl⟩
    obtain ⟨_, _, hx, _⟩ := h2 hs
    cases hx
  · rw [hs.len, hlen]; exact accepted_fits c h size _ hacc

/-! ## the case trees of `reallocMemory` and `deallocMemory` -/

theorem checkForCorruption_ub {c : Cfg} {m m' : List Block} {r : Rec} {fam : Nat} {sep : Bool} {evs : List Ev}
    (h : checkForCorruption c m r fam sep = (m', evs, true)) : evs = [] := by
  unfold checkForCorruption at h
  -- the flag is set in one branch only: matching family, intact guard, separate release of an inline record
  by_cases h1 : (r.fam != fam) = true
  · rw [if_pos h1] at h; cases h
  · by_cases h2 : (!guardValid c m r) = true
    · rw [if_neg h1, if_pos h2] at h; cases h
    · by_cases h3 : sep = true ∧ r.sep = false
      · rw [if_neg h1, if_neg h2, if_pos h3.1, if_neg (by rw [h3.2]; exact Bool.false_ne_true)] at h
        exact (congrArg (·.2.1) h).symm
      · rw [if_neg h1, if_neg h2] at h
        cases sep <;> cases hs : r.sep <;> simp [hs] at h h3

theorem reallocMemory_none {c : Cfg} (img : NodeImage) (s : State) (fam : Nat) {size : W} (sep0 : Bool) (ar : RAns) (a2 : Ans)
    (hacc : rejectsRealloc c size = false) :
    reallocMemory c img s fam none size sep0 ar a2 = reallocRest c img s fam none size (forcedSep c sep0) ar a2 [] := by
  simp only [reallocMemory, hacc, Bool.false_eq_true, if_false]

theorem reallocMemory_some {c : Cfg} (img : NodeImage) {s : State} {fam id : Nat} {size : W} {sep0 : Bool} (ar : RAns) (a2 : Ans)
    {o : Rec} {rest : List Rec} {m1 : List Block} {evs : List Ev} (hacc : rejectsRealloc c size = false)
    (hrem : removeRec s.tracked id = some (o, rest))
    (hcfc : checkForCorruption c s.mem o fam (forcedSep c sep0) = (m1, evs, false)) :
    reallocMemory c img s fam (some id) size sep0 ar a2 =
      reallocRest c img { s with tracked := rest, mem := m1 } fam (some o) size (forcedSep c sep0) ar a2 evs := by
  simp only [reallocMemory, hacc, Bool.false_eq_true, if_false, hrem, hcfc]

theorem reallocMemory_cases (c : Cfg) (img : NodeImage) (s : State) (fam : Nat) (ptr : Option Nat) (size : W) (sep0 : Bool)
    (ar : RAns) (a2 : Ans) :
    (rejectsRealloc c size = true ∧ reallocMemory c img s fam ptr size sep0 ar a2 = (s, [], .null)) ∨
    (rejectsRealloc c size = false ∧ ptr = none ∧
      reallocMemory c img s fam ptr size sep0 ar a2 = reallocRest c img s fam none size (forcedSep c sep0) ar a2 []) ∨
    (∃ id, rejectsRealloc c size = false ∧ ptr = some id ∧ removeRec s.tracked id = none ∧
      reallocMemory c img s fam ptr size sep0 ar a2 = (s, [.misuse "nonallocated"], .null)) ∨
    (∃ id o rest m1 evs, rejectsRealloc c size = false ∧ ptr = some id ∧ removeRec s.tracked id = some (o, rest) ∧
      ((checkForCorruption c s.mem o fam (forcedSep c sep0) = (m1, evs, false) ∧
        reallocMemory c img s fam ptr size sep0 ar a2 =
          reallocRest c img { s with tracked := rest, mem := m1 } fam (some o) size (forcedSep c sep0) ar a2 evs) ∨
       (checkForCorruption c s.mem o fam (forcedSep c sep0) = (m1, evs, true) ∧
        reallocMemory c img s fam ptr size sep0 ar a2 = ({ s with tracked := rest }, evs, .ub "inline node released as a block")))) := by
  cases hacc : rejectsRealloc c size
  · cases ptr with
    | none => exact .inr (.inl ⟨rfl, rfl, reallocMemory_none img s fam sep0 ar a2 hacc⟩)
    | some id =>
      cases hrem : removeRec s.tracked id with
      | none =>
        exact .inr (.inr (.inl ⟨id, rfl, rfl, hrem, by simp only [reallocMemory, hacc, hrem, Bool.false_eq_true, if_false]⟩))
      | some p =>
        obtain ⟨o, rest⟩ := p
        cases hcfc : checkForCorruption c s.mem o fam (forcedSep c sep0) with
        | mk m1 q =>
          obtain ⟨evs, ub⟩ := q
          refine .inr (.inr (.inr ⟨id, o, rest, m1, evs, rfl, rfl, hrem, ?_⟩))
          cases ub
          · exact .inl ⟨hcfc, reallocMemory_some img ar a2 hacc hrem hcfc⟩
          · exact .inr ⟨hcfc, by simp only [reallocMemory, hacc, hrem, hcfc, Bool.false_eq_true, if_false]⟩
  · exact .inl ⟨rfl, by simp only [reallocMemory, hacc, if_true]⟩

theorem deallocMemory_cases (c : Cfg) (s : State) (fam : Nat) (ptr : Option Nat) (sep0 : Bool) :
    (ptr = none ∧ deallocMemory c s fam ptr sep0 = (s, [], .null)) ∨
    (∃ id, ptr = some id ∧ removeRec s.tracked id = none ∧
      deallocMemory c s fam ptr sep0 = (s, [.misuse "nonallocated"], .null)) ∨
    (∃ id r rest m1 evs, ptr = some id ∧ removeRec s.tracked id = some (r, rest) ∧
      ((checkForCorruption c s.mem r fam (forcedSep c sep0) = (m1, evs, false) ∧
        deallocMemory c s fam ptr sep0 = ({ s with tracked := rest, mem := dropBlock m1 id }, evs ++ [.ufree id], .null)) ∨
       (checkForCorruption c s.mem r fam (forcedSep c sep0) = (m1, [], true) ∧
        deallocMemory c s fam ptr sep0 = ({ s with tracked := rest }, [], .ub "inline node released as a block")))) := by
  cases ptr with
  | none => exact .inl ⟨rfl, rfl⟩
  | some id =>
    cases hrem : removeRec s.tracked id with
    | none => exact .inr (.inl ⟨id, rfl, hrem, by simp only [deallocMemory, hrem]⟩)
    | some p =>
      obtain ⟨r, rest⟩ := p
      cases hck : checkForCorruption c s.mem r fam (forcedSep c sep0) with
      | mk m1 q =>
        obtain ⟨evs, ub⟩ := q
        refine .inr (.inr ⟨id, r, rest, m1, evs, rfl, hrem, ?_⟩)
        cases ub
        · exact .inl ⟨hck, by simp only [deallocMemory, hrem, hck]⟩
        · obtain rfl := checkForCorruption_ub hck
          exact .inr ⟨hck, by simp only [deallocMemory, hrem, hck]⟩

/-! ## C strings and the stores of the C wrappers -/

theorem cstrlen_none_of_no_nul : ∀ (buf : List UInt8), (∀ b ∈ buf, b ≠ 0) → cstrlen buf = none
  | [], _ => rfl
  | b :: rest, h => by
    unfold cstrlen
    have hb : (b == 0) = false := by simpa using h b (by simp)
    simp only [hb, Bool.false_eq_true, if_false]
    rw [cstrlen_none_of_no_nul rest (fun x hx => h x (by simp [hx]))]; rfl

theorem cstrlen_of_nul : ∀ (buf : List UInt8), (0 : UInt8) ∈ buf →
    cstrlen buf = some (cstrOf buf).length ∧ (cstrOf buf).length < buf.length ∧
      buf.take (cstrOf buf).length = cstrOf buf
  | [], h => nomatch h
  | b :: rest, h => by
    unfold cstrlen cstrOf
    by_cases hb : b = 0
    · subst hb; simp
    · have hr : (0 : UInt8) ∈ rest := (List.mem_cons.mp h).resolve_left (Ne.symm hb)
      obtain ⟨h1, h2, h3⟩ := cstrlen_of_nul rest hr
      have hne : (b != 0) = true := by simpa using hb
      have hbe : (b == 0) = false := by simpa using hb
      rw [List.takeWhile_cons, if_pos hne, if_neg (by rw [hbe]; exact Bool.false_ne_true), h1]
      exact ⟨rfl, Nat.succ_lt_succ h2, congrArg (b :: ·) h3⟩

theorem thenWrite_ptr (s1 : State) (evs : List Ev) (id off : Nat) (src : List UInt8) (why : String) {b : Block}
    (hb : findBlock s1.mem id = some b) (hfit : off + src.length ≤ b.bytes.length) :
    ∃ m' bs', thenWrite (s1, evs, .ptr id) off src why = ({ s1 with mem := m' }, evs, .ptr id) ∧
      writeAt b.bytes off src = some bs' ∧ findBlock m' id = some ⟨id, bs'⟩ ∧
      ∀ j, j ≠ id → findBlock m' j = findBlock s1.mem j := by
  obtain ⟨m', bs', hw, h⟩ := writeBlock_spec hb hfit
  exact ⟨m', bs', by simp only [thenWrite, hw], h⟩

theorem thenWrite_notptr (s1 : State) (evs : List Ev) (o : Outcome) (off : Nat) (src : List UInt8) (why : String)
    (h : ∀ id, o ≠ .ptr id) : thenWrite (s1, evs, o) off src why = (s1, evs, o) := by
  unfold thenWrite
  cases o <;> simp_all

theorem strdupAlloc_copies (c : Cfg) (h : NodeOk c) (img : NodeImage) (hi : ImgOk c img) (s : State)
    (buf : List UInt8) (k : Nat) (size : W) (id : Nat) (bytes : List UInt8) (nid : Nat) (nb : List UInt8)
    (hsize : size.toNat = k + 1) (hk : k < buf.length) (hsmall : size.toNat < 2 ^ 63)
    (hlen : bytes.length = (allocReq c true size).toNat)
    (hnl : nb.length = c.node.toNat) (hne : nid ≠ id) :
    ∃ s' evs, strdupAlloc c img s buf size (.block id bytes) (.block nid nb) = (s', evs, .ptr id) ∧
      s'.trackedSet = (id, size) :: s.trackedSet ∧
      userView s' id (k + 1) = some (buf.take k ++ [0]) := by
  obtain ⟨s1, evs, he, ht, ⟨b', hb', _, hfit⟩, _⟩ :=
    allocMemory_ok c h img hi s famMalloc size true id bytes (.block nid nb) (small_accepted c h size hsmall)
      (by rw [forcedSep_true]; exact hlen) (fun _ => ⟨nid, nb, rfl, hnl, hne⟩)
  have hsub := toNat_sub_one hsize
  have htk : (buf.take size.toNat).length = k + 1 := by rw [List.length_take]; omega
  -- memcpy of `k + 1` bytes, then the terminator over the last of them
  obtain ⟨m1, bs1, he1, hw1, hf1, _⟩ := thenWrite_ptr s1 evs id 0 (buf.take size.toNat) "memcpy outside the block" hb' (by omega)
  obtain ⟨m2, bs2, he2, hw2, hf2, _⟩ := thenWrite_ptr { s1 with mem := m1 } evs id k [0] "terminator outside the block" hf1
    (by rw [writeAt_length hw1, List.length_singleton]; omega)
  refine ⟨{ s1 with mem := m2 }, evs, ?_, ht, ?_⟩
  · unfold strdupAlloc cMalloc
    rw [if_neg (by omega), he, he1, hsub, he2]
  · have e1 : bs1.take k = buf.take k := by
      have := writeAt_zero_take hw1
      rw [htk, hsize] at this
      exact ListLemmas.take_eq_of_le this (Nat.le_succ k)
    rw [userView_of_find (s := { s1 with mem := m2 }) hf2, List.take_add, writeAt_take hw2 k (Nat.le_refl k), e1]
    exact congrArg _ (congrArg _ (writeAt_read hw2))

/-! ## the wrappers as functions of the detector's result -/

theorem thenWrite_ub (off : Nat) (src : List UInt8) (why : String) (r : State × List Ev × Outcome)
    (h : r.2.2.isUb = true) : (thenWrite r off src why).2.2.isUb = true := by
  obtain ⟨s1, evs, o⟩ := r
  cases o with
  | ub w => exact h
  | _ => cases h

/-- what `mem_leak_operator_new*` does with the detector's result -/
def newWrap (v : NewVariant) : State × List Ev × Outcome → State × List Ev × Outcome
  | (s1, evs, .null) => if v.throws then (s1, evs, .badAlloc) else (s1, evs, .null)
  | (s1, evs, .testFail) =>
    if v.nothrow then (s1, evs, .ub "test failure thrown through a noexcept operator new: std::terminate")
    else (s1, evs, .testFail)
  | other => other

/-- what `strdup_alloc(str, size)` does with the result of `cpputest_malloc_location` -/
def strdupWrap (str : List UInt8) (size : W) (d : State × List Ev × Outcome) : State × List Ev × Outcome :=
  if str.length < size.toNat then
    match d with
    | (s1, evs, .ptr _) => (s1, evs, .ub "memcpy reads past the source")
    | other => other
  else
    thenWrite (thenWrite d 0 (str.take size.toNat) "memcpy outside the block") (size - 1).toNat [0] "terminator outside the block"

theorem operatorNew_eq (c : Cfg) (img : NodeImage) (s : State) (v : NewVariant) (size : W) (a1 a2 : Ans) :
    operatorNew c img s v size a1 a2 =
      newWrap v (allocMemory c img s (if v.array then famNewArray else famNew) size false a1 a2) := rfl

theorem cCalloc_eq (c : Cfg) (img : NodeImage) (s : State) (num size : W) (a1 a2 : Ans) :
    cCalloc c img s num size a1 a2 =
      if callocOverflowTest num size then (s, [], .null)
      else thenWrite (cMalloc c img s (callocRequest num size) a1 a2) 0 (List.replicate (callocMemset num size).toNat 0)
        "memset outside the block" := by
  unfold cCalloc
  split
  · rfl
  · generalize cMalloc c img s (callocRequest num size) a1 a2 = d
    obtain ⟨s1, evs, o⟩ := d
    cases o <;> rfl

theorem strdupAlloc_eq (c : Cfg) (img : NodeImage) (s : State) (str : List UInt8) (size : W) (a1 a2 : Ans) :
    strdupAlloc c img s str size a1 a2 = strdupWrap str size (cMalloc c img s size a1 a2) := rfl

theorem newWrap_isUb (v : NewVariant) (d : State × List Ev × Outcome) :
    (newWrap v d).2.2.isUb = true ↔ d.2.2.isUb = true ∨ (d.2.2 = .testFail ∧ v.nothrow = true) := by
  obtain ⟨s1, evs, o⟩ := d
  unfold newWrap
  cases o with
  | null => cases v.throws <;> simp [Outcome.isUb]
  | testFail => cases v.nothrow <;> simp [Outcome.isUb]
  | _ => simp [Outcome.isUb]

theorem newWrap_ub (v : NewVariant) (r : State × List Ev × Outcome) (h : r.2.2.isUb = true) : (newWrap v r).2.2.isUb = true :=
  (newWrap_isUb v r).mpr (.inl h)

theorem strdupWrap_ub (str : List UInt8) (size : W) (r : State × List Ev × Outcome) (h : r.2.2.isUb = true) :
    (strdupWrap str size r).2.2.isUb = true := by
  unfold strdupWrap
  split
  · obtain ⟨s1, evs, o⟩ := r
    cases o with
    | ub w => exact h
    | _ => cases h
  · exact thenWrite_ub _ _ _ _ (thenWrite_ub _ _ _ r h)

theorem newWrap_spec (v : NewVariant) (d : State × List Ev × Outcome) (hnb : d.2.2 ≠ .badAlloc) :
    (newWrap v d).1 = d.1 ∧ (newWrap v d).2.1 = d.2.1 ∧
    ((newWrap v d).2.2 = .badAlloc ↔ (d.2.2 = .null ∧ v.throws = true)) ∧
    ((newWrap v d).2.2 = .null ↔ (d.2.2 = .null ∧ v.throws = false)) ∧
    (∀ id, (newWrap v d).2.2 = .ptr id ↔ d.2.2 = .ptr id) := by
  obtain ⟨s1, evs, o⟩ := d
  unfold newWrap
  cases o with
  | null => cases ht : v.throws <;> simp
  | testFail => cases hn : v.nothrow <;> simp
  | ptr id => simp
  | badAlloc => exact absurd rfl hnb
  | ub w => simp

end AllocLayout
