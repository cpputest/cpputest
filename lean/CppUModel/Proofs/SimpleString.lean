import CppUModel.Proofs.ListLemmas
import CppUModel.Proofs.CString
import CppUModel.Proofs.BitVecLemmas
import CppUModel.Model.SimpleString
/-!
# `SimpleString` methods equal their textbook meaning

Shape of every lemma: for objects that hold NUL-free strings (`Holds o a`), the model of the
method, run in ANY world `w`, returns `.ok (result, w')` where the result holds the value of the
textbook definition and `w'` is `w` plus an explicit list of allocator events
(`World.alloc` / `World.free`).  So each lemma gives at once: value, memory safety (no
`.error`), termination, and the exact allocations/releases.  Composite methods (`split`, `printable`, the formatters)
have a run-and-value lemma that hides the world (`split_val`, `printable_ok`, `stringFromBinary_ok`,
`stringFromMaskedBits_ok`); what a computation does to the outstanding buffers is stated once, as an ownership triple
`Eff`, for every world and operand.
-/
namespace SStr
open CStr Text TextExt

/-! ### running the monad -/

@[simp] theorem pure_run {α} (a : α) (w : World) : (pure a : M α) w = .ok (a, w) := rfl
@[simp] theorem bind_run {α β} (x : M α) (f : α → M β) (w : World) :
    (x >>= f) w = match x w with | .error e => .error e | .ok (a, w') => f a w' := rfl
@[simp] theorem liftE_ok {α} (a : α) (w : World) : liftE (.ok a : Except Err α) w = .ok (a, w) := rfl
@[simp] theorem liftE_error {α} (e : Err) (w : World) : liftE (.error e : Except Err α) w = .error e := rfl

def World.alloc (w : World) (n : Nat) : World :=
  { w with next := w.next + 1, log := w.log ++ [.alloc w.next n] }
def World.free (w : World) (id n : Nat) : World := { w with log := w.log ++ [.free id n] }

@[simp] theorem alloc_next (w : World) (n) : (w.alloc n).next = w.next + 1 := rfl
@[simp] theorem alloc_junk (w : World) (n) : (w.alloc n).junk = w.junk := rfl
@[simp] theorem alloc_vsn (w : World) (n) : (w.alloc n).vsn = w.vsn := rfl
@[simp] theorem alloc_log (w : World) (n) : (w.alloc n).log = w.log ++ [.alloc w.next n] := rfl
@[simp] theorem free_next (w : World) (i n) : (w.free i n).next = w.next := rfl
@[simp] theorem free_junk (w : World) (i n) : (w.free i n).junk = w.junk := rfl
@[simp] theorem free_vsn (w : World) (i n) : (w.free i n).vsn = w.vsn := rfl
@[simp] theorem free_log (w : World) (i n) : (w.free i n).log = w.log ++ [.free i n] := rfl

@[simp] theorem allocStringBuffer_run (n : Nat) (w : World) :
    allocStringBuffer n w = .ok (⟨w.next, List.replicate n w.junk⟩, w.alloc n) := rfl
@[simp] theorem deallocStringBuffer_run (i n : Nat) (w : World) :
    deallocStringBuffer i n w = .ok ((), w.free i n) := rfl
@[simp] theorem dtor_run (o : Obj) (w : World) : dtor o w = .ok ((), w.free o.id o.size) := rfl

/-! ### objects holding strings -/

def Holds (o : Obj) (a : Bytes) : Prop := CAt o.buf 0 a

def Sized (o : Obj) : Prop := o.size = o.buf.length

def mkObj (id : Nat) (a : Bytes) : Obj := ⟨id, a ++ [0], a.length + 1⟩

@[simp] theorem mkObj_id (i a) : (mkObj i a).id = i := rfl
@[simp] theorem mkObj_buf (i a) : (mkObj i a).buf = a ++ [0] := rfl
@[simp] theorem mkObj_size (i a) : (mkObj i a).size = a.length + 1 := rfl

theorem holds_mkObj {i : Nat} {a : Bytes} (h : NulFree a) : Holds (mkObj i a) a := CAt.mk_cz h
theorem sized_mkObj (i : Nat) (a : Bytes) : Sized (mkObj i a) := by simp [Sized]

theorem Holds.nulFree {o a} (h : Holds o a) : NulFree a := h.1

theorem Holds.unique {o a a'} (h : Holds o a) (h' : Holds o a') : a = a' := CAt.unique h h'

theorem size_ok {o : Obj} {a : Bytes} (h : Holds o a) : size o = .ok a.length := StrLen_ok h

theorem emptyLit_at : CAt emptyLit 0 [] := ⟨nulFree_nil, [], rfl⟩

/-! ### buffer management, constructors, assignment -/

theorem copyToNewBuffer_ge {src : Buf} {sp n : Nat} {a : Bytes} (h : CAt src sp a) (hn : a.length + 1 ≤ n)
    (w : World) :
    ∃ slack, slack.length = n - (a.length + 1) ∧
      copyToNewBuffer src sp n w = .ok (⟨w.next, a ++ 0 :: slack⟩, w.alloc n) := by
  have h1 := StrNCpy_append h [] (List.replicate n w.junk) n (by simp; omega)
  rw [Nat.min_eq_right hn, List.take_of_length_le (by simp [cz]; omega)] at h1
  simp only [List.nil_append, List.length_nil, cz, List.drop_replicate, List.append_assoc, List.singleton_append] at h1
  simp only [copyToNewBuffer, bind_run, allocStringBuffer_run, h1, liftE_ok]
  have hlen : n - 1 < (a ++ 0 :: List.replicate (n - (a.length + 1)) w.junk).length := by simp; omega
  simp only [wr, hlen, if_true, liftE_ok, pure_run]
  rw [List.set_append]
  have : ¬ (n - 1 < a.length) := by omega
  simp only [this, if_false]
  cases hk : n - 1 - a.length with
  | zero => exact ⟨List.replicate (n - (a.length + 1)) w.junk, by simp, by simp⟩
  | succ k => exact ⟨(List.replicate (n - (a.length + 1)) w.junk).set k 0, by simp, by simp⟩

theorem copyToNewBuffer_exact {src : Buf} {sp : Nat} {a : Bytes} (h : CAt src sp a) (w : World) :
    copyToNewBuffer src sp (a.length + 1) w = .ok (⟨w.next, a ++ [0]⟩, w.alloc (a.length + 1)) := by
  obtain ⟨slack, hl, hc⟩ := copyToNewBuffer_ge h (Nat.le_refl _) w
  rw [hc, List.eq_nil_of_length_eq_zero (by omega : slack.length = 0)]

theorem ctorCStr_ok {src : Buf} {sp : Nat} {a : Bytes} (h : CAt src sp a) (w : World) :
    ctorCStr src sp w = .ok (mkObj w.next a, w.alloc (a.length + 1)) := by
  simp only [ctorCStr, bind_run, StrLen_ok h, liftE_ok, copyBufferToNewInternalBuffer, deallocateInternalBuffer,
    pure_run, copyToNewBuffer_exact h, mkObj]

theorem ctorEmpty_ok (w : World) : ctorCStr emptyLit 0 w = .ok (mkObj w.next [], w.alloc 1) :=
  ctorCStr_ok emptyLit_at w

theorem ctorNull_ok (w : World) : ctorNull w = .ok (mkObj w.next [], w.alloc 1) := by
  simp [ctorNull, setInternalBufferAsEmptyString, getEmptyString, deallocateInternalBuffer, wr, mkObj]

theorem ctorCopy_ok {o : Obj} {a : Bytes} (h : Holds o a) (w : World) :
    ctorCopy o w = .ok (mkObj w.next a, w.alloc (a.length + 1)) := ctorCStr_ok h w

theorem assign_ok {other : Obj} {a : Bytes} (self : Obj) (h : Holds other a) (w : World) :
    assign self other w =
      .ok (mkObj w.next a, (w.free self.id self.size).alloc (a.length + 1)) := by
  simp only [assign, bind_run, size_ok h, liftE_ok, copyBufferToNewInternalBuffer, deallocateInternalBuffer,
    deallocStringBuffer_run, copyToNewBuffer_exact h, pure_run, mkObj, free_next]

/-! ### concatenation -/

theorem appendC_ok {self : Obj} {a : Bytes} {rhs : Buf} {rp : Nat} {r : Bytes}
    (h : Holds self a) (hr : CAt rhs rp r) (w : World) :
    appendC self rhs rp w =
      .ok (⟨w.next, a ++ r ++ [0], a.length + (r.length + 1)⟩,
           (w.alloc (a.length + (r.length + 1))).free self.id self.size) := by
  obtain ⟨slack, hsl, hc⟩ := copyToNewBuffer_ge (n := a.length + (r.length + 1)) h (by omega) w
  simp only [appendC, bind_run, size_ok h, liftE_ok, StrLen_ok hr, hc]
  rw [StrNCpy_append_full hr a (0 :: slack) (by rw [List.length_cons]; omega)]
  simp [setInternalBufferTo, deallocateInternalBuffer, hsl]
  omega

theorem holds_append {i n : Nat} {a r : Bytes} (ha : NulFree a) (hr : NulFree r) :
    Holds ⟨i, a ++ r ++ [0], n⟩ (a ++ r) := CAt.mk_cz (nulFree_append.mpr ⟨ha, hr⟩)

theorem plus_ok {self rhs : Obj} {a b : Bytes} (h : Holds self a) (hb : Holds rhs b) (w : World) :
    plus self rhs w =
      .ok (⟨w.next + 1, a ++ b ++ [0], a.length + (b.length + 1)⟩,
           ((w.alloc (a.length + 1)).alloc (a.length + (b.length + 1))).free w.next (a.length + 1)) := by
  simp only [plus, bind_run, ctorCStr_ok h]
  rw [appendC_ok (holds_mkObj h.nulFree) hb]
  simp

/-! ### comparisons and searches -/

theorem equals_ok {l r : Obj} {a b : Bytes} (hl : Holds l a) (hr : Holds r b) :
    equals l r = .ok (decide (a = b)) := by
  simp only [equals, StrCmp_ok hl hr]
  congr 1
  rw [Bool.eq_iff_iff, beq_iff_eq, decide_eq_true_iff]
  exact cmp_eq_zero_iff hl.nulFree hr.nulFree

theorem contains_ok {self other : Obj} {a b : Bytes} (h : Holds self a) (hb : Holds other b) :
    contains self other = .ok (Text.isInfix a b) := by
  simp only [contains, StrStr_ok h hb, ← strStr_isSome_eq_isInfix]
  cases TextExt.strStr a b <;> rfl

theorem endsWith_ok {self other : Obj} {a b : Bytes} (h : Holds self a) (hb : Holds other b) :
    endsWith self other = .ok (Text.endsWith a b) := by
  simp only [endsWith, size_ok h, size_ok hb]
  by_cases hb0 : b.length = 0
  · have : b = [] := List.eq_nil_of_length_eq_zero hb0
    subst this; simp [Text.endsWith]
  · simp only [hb0, if_false]
    by_cases ha0 : a.length = 0
    · simp [ha0, endsWith_of_lt (a := a) (b := b) (by omega)]
    · simp only [ha0, if_false]
      by_cases hlt : a.length < b.length
      · simp [hlt, endsWith_of_lt hlt]
      · simp only [hlt, if_false]
        have hd := CAt.drop h (a.length - b.length) (by omega)
        simp only [Nat.zero_add] at hd
        rw [StrCmp_ok hd hb]
        have : (Text.cmp (a.drop (a.length - b.length)) b == 0) = Text.endsWith a b := by
          rw [Bool.eq_iff_iff, beq_iff_eq, cmp_eq_zero_iff (nulFree_drop h.nulFree _) hb.nulFree, endsWith_iff]
          exact ⟨fun he => ⟨by omega, he⟩, fun h => h.2⟩
        simp [this]

theorem countLoop_ok : ∀ (f : Nat) (s : Bytes) (buf sub : Buf) (b : Bytes) (str num : Nat),
    CAt buf str s → CAt sub 0 b → s.length < f →
    countLoop buf sub f str ((TextExt.strStr s b).map (· + str)) num = .ok (num + Text.count s b)
  | 0, _, _, _, _, _, _, _, _, hf => by simp at hf
  | f + 1, [], buf, sub, b, str, num, hs, hb, _ => by
    simp [countLoop, hs.nil_rd, Text.count]
  | f + 1, x :: t, buf, sub, b, str, num, hs, hb, hf => by
    have hx := hs.cons_ne
    simp only [countLoop, hs.cons_rd, hx, if_false]
    cases hst : TextExt.strStr (x :: t) b with
    | none => simp [count_eq_zero_of_strStr_none _ _ hst]
    | some i =>
      have ⟨hi, hc⟩ := count_of_strStr_some (x :: t) b i (by simp) hst
      have hd := CAt.drop hs (i + 1) (by omega)
      simp only [Option.map_some]
      have e : i + str + 1 = str + (i + 1) := by omega
      rw [e, StrStr_ok hd hb]
      simp only []
      rw [countLoop_ok f ((x :: t).drop (i + 1)) buf sub b (str + (i + 1)) (num + 1) hd hb (by
        simp at hf ⊢; omega), hc]
      congr 1; omega

/-! #### find / at -/

theorem findFromLoop_ok : ∀ (s : Bytes) (buf : Buf) (ch : UInt8) (i : Nat), CAt buf i s →
    findFromLoop buf ch s.length i =
      .ok (match s.findIdx? (· == ch) with | some j => j + i | none => npos)
  | [], _, _, _, _ => by simp [findFromLoop]
  | x :: t, buf, ch, i, h => by
    simp only [List.length_cons, findFromLoop, h.cons_rd, List.findIdx?_cons]
    by_cases hc : x = ch
    · simp [hc]
    · have : (x == ch) = false := by simpa using hc
      simp only [hc, if_false, this, Bool.false_eq_true]
      rw [findFromLoop_ok t buf ch (i + 1) h.tail]
      cases t.findIdx? (· == ch) <;> simp; omega

theorem findFrom_lt {a : Bytes} {start : Nat} {c : UInt8} {j : Nat} (h : Text.findFrom a start c = some j) :
    start ≤ j ∧ j < a.length := by
  simp only [Text.findFrom, Option.map_eq_some_iff] at h
  obtain ⟨k, hk, rfl⟩ := h
  have := List.findIdx?_eq_some_iff_getElem.mp hk
  obtain ⟨hlt, _⟩ := this
  simp at hlt
  omega

theorem findFrom_ok {self : Obj} {a : Bytes} (h : Holds self a) (start : Nat) (ch : UInt8) :
    findFrom self start ch = .ok ((Text.findFrom a start ch).getD npos) := by
  simp only [findFrom, size_ok h]
  by_cases hs : start ≤ a.length
  · have hd := CAt.drop h start hs
    simp only [Nat.zero_add] at hd
    have := findFromLoop_ok (a.drop start) self.buf ch start hd
    simp only [List.length_drop] at this
    rw [this, Text.findFrom]
    cases (a.drop start).findIdx? (· == ch) <;> simp
  · have h0 : a.length - start = 0 := by omega
    have : a.drop start = [] := List.drop_eq_nil_of_le (by omega)
    simp [h0, findFromLoop, Text.findFrom, this]

theorem find_ok {self : Obj} {a : Bytes} (h : Holds self a) (ch : UInt8) :
    find self ch = .ok ((Text.find a ch).getD npos) := findFrom_ok h 0 ch

/-! ### substrings -/

theorem cat_set_zero {s : Bytes} (hs : NulFree s) {n : Nat} (hn : n < s.length) :
    CAt ((s ++ [0]).set n 0) 0 (s.take n) := by
  refine ⟨nulFree_take hs n, (s.drop (n + 1)) ++ [0], ?_⟩
  rw [List.set_append]
  simp only [hn, if_true, List.drop_zero]
  rw [List.set_eq_take_append_cons_drop]
  simp [hn]

theorem subString_ok {self : Obj} {a : Bytes} (h : Holds self a) (beginPos amount : Nat) (w : World) :
    subString self beginPos amount w =
      if beginPos ≥ a.length then .ok (mkObj w.next [], w.alloc 1)
      else .ok (mkObj (w.next + 1) (Text.subString a beginPos amount),
                (((w.alloc ((a.drop beginPos).length + 1)).alloc ((Text.subString a beginPos amount).length + 1)).free
                  w.next ((a.drop beginPos).length + 1))) := by
  simp only [subString, bind_run, size_ok h, liftE_ok]
  by_cases hp : beginPos ≥ a.length
  · simp only [hp, if_true, ctorEmpty_ok]
  · simp only [hp, if_false]
    have hd := CAt.drop h beginPos (by omega)
    simp only [Nat.zero_add] at hd
    have hnf := nulFree_drop h.nulFree beginPos
    simp only [bind_run, ctorCStr_ok hd, size_ok (holds_mkObj hnf), liftE_ok]
    have hsub := subString_of_lt (Nat.lt_of_not_le hp) amount
    by_cases hgt : (a.drop beginPos).length > amount
    · simp only [hgt, if_true, mkObj_buf]
      have hlen : amount < (a.drop beginPos ++ [0]).length := by simp at hgt ⊢; omega
      have hc := cat_set_zero hnf hgt
      simp only [wr, hlen, if_true, liftE_ok]
      simp only [ctorCopy_ok (o := ⟨_, _, _⟩) hc, hsub]
      simp
    · simp only [hgt, if_false, liftE_ok]
      have htake : (a.drop beginPos).take amount = a.drop beginPos := List.take_of_length_le (by omega)
      simp only [mkObj_buf, ctorCopy_ok (o := ⟨_, _, _⟩) (CAt.mk_cz hnf), hsub, htake]
      simp

theorem subString_vsn {self : Obj} {a : Bytes} (h : Holds self a) {p n : Nat} {w w' : World} {o : Obj}
    (hrun : subString self p n w = .ok (o, w')) : w'.vsn = w.vsn := by
  rw [subString_ok h] at hrun
  split at hrun <;> (cases hrun; rfl)

/-! ### replace(char, char), lowerCase -/

theorem replaceCharLoop_ok (to w : UInt8) : ∀ (s pre post : Bytes), NulFree s →
    replaceCharLoop to w s.length (pre ++ s ++ 0 :: post) pre.length =
      .ok (pre ++ Text.replaceByte s to w ++ 0 :: post)
  | [], pre, post, _ => by simp [replaceCharLoop, Text.replaceByte]
  | x :: t, pre, post, hs => by
    have e : pre ++ x :: t ++ 0 :: post = pre ++ x :: (t ++ 0 :: post) := by simp
    have ih := replaceCharLoop_ok to w t (pre ++ [if x = to then w else x]) post (nulFree_cons.mp hs).2
    simp only [List.length_append, List.length_cons, List.length_nil, List.append_assoc, List.cons_append,
      List.nil_append, Nat.zero_add] at ih
    rw [e]
    simp only [List.length_cons, replaceCharLoop, rd_append]
    by_cases hx : x = to
    · simp only [hx, if_true, wr_append]
      simp only [hx, if_true] at ih
      rw [ih]; simp [Text.replaceByte]
    · simp only [hx, if_false] at ih ⊢
      rw [ih]; simp [Text.replaceByte, hx]

theorem replaceChar_ok {self : Obj} {a : Bytes} (h : Holds self a) (to w : UInt8) :
    ∃ b, replaceChar self to w = .ok ⟨self.id, b, self.size⟩ ∧ b.length = self.buf.length ∧
      ∃ post, b = Text.replaceByte a to w ++ 0 :: post := by
  obtain ⟨hn, post, hd⟩ := h
  simp only [List.drop_zero] at hd
  have := replaceCharLoop_ok to w a [] post hn
  simp only [List.nil_append, List.length_nil] at this
  refine ⟨Text.replaceByte a to w ++ 0 :: post, ?_, ?_, post, rfl⟩
  · simp only [replaceChar, size_ok ⟨hn, post, by simpa using hd⟩, hd, this]
  · rw [hd]; simp [Text.replaceByte]

theorem lowerLoop_ok : ∀ (s pre post : Bytes),
    lowerLoop s.length (pre ++ s ++ 0 :: post) pre.length = .ok (pre ++ Text.lower s ++ 0 :: post)
  | [], pre, post => by simp [lowerLoop, Text.lower]
  | x :: t, pre, post => by
    have e : pre ++ x :: t ++ 0 :: post = pre ++ x :: (t ++ 0 :: post) := by simp
    have ih := lowerLoop_ok t (pre ++ [Text.lowerByte x]) post
    simp only [List.length_append, List.length_cons, List.length_nil, List.append_assoc, List.cons_append,
      List.nil_append, Nat.zero_add] at ih
    rw [e]
    simp only [List.length_cons, lowerLoop, rd_append, wr_append, ToLower_eq_lowerByte]
    rw [ih]; simp [Text.lower]

theorem nulFree_lower {a : Bytes} (h : NulFree a) : NulFree (Text.lower a) :=
  nulFree_map lowerByte_ne_zero h

theorem lower_length (a : Bytes) : (Text.lower a).length = a.length := by simp [Text.lower]

theorem lowerCase_ok {self : Obj} {a : Bytes} (h : Holds self a) (w : World) :
    lowerCase self w = .ok (mkObj w.next (Text.lower a), w.alloc (a.length + 1)) := by
  simp only [lowerCase, bind_run, ctorCopy_ok h, size_ok (holds_mkObj h.nulFree), liftE_ok]
  have := lowerLoop_ok a [] []
  simp only [List.nil_append, List.length_nil] at this
  simp only [mkObj_buf, this, liftE_ok, pure_run]
  simp [mkObj, lower_length]

theorem equalsNoCase_ok {self str : Obj} {a b : Bytes} (h : Holds self a) (hb : Holds str b) (w : World) :
    equalsNoCase self str w =
      .ok (Text.equalsNoCase a b,
           (((w.alloc (b.length + 1)).alloc (a.length + 1)).free (w.next + 1) (a.length + 1)).free w.next (b.length + 1)) := by
  simp only [equalsNoCase, bind_run, lowerCase_ok hb, lowerCase_ok h,
    equals_ok (holds_mkObj (nulFree_lower h.nulFree)) (holds_mkObj (nulFree_lower hb.nulFree)), liftE_ok, dtor_run,
    pure_run, alloc_next, mkObj_id, mkObj_size, lower_length, Text.equalsNoCase]
  congr 2
  by_cases he : Text.lower a = Text.lower b <;> simp [he]

theorem containsNoCase_ok {self other : Obj} {a b : Bytes} (h : Holds self a) (hb : Holds other b) (w : World) :
    containsNoCase self other w =
      .ok (Text.containsNoCase a b,
           (((w.alloc (a.length + 1)).alloc (b.length + 1)).free (w.next + 1) (b.length + 1)).free w.next (a.length + 1)) := by
  simp only [containsNoCase, bind_run, lowerCase_ok hb, lowerCase_ok h,
    contains_ok (holds_mkObj (nulFree_lower h.nulFree)) (holds_mkObj (nulFree_lower hb.nulFree)), liftE_ok, dtor_run,
    pure_run, alloc_next, mkObj_id, mkObj_size, lower_length, Text.containsNoCase]

/-! ### SimpleString(s, repeatCount) -/

theorem repeatStr_succ (a : Bytes) (k : Nat) : repeatStr a (k + 1) = a ++ repeatStr a k := by
  simp [repeatStr, List.replicate_succ]

theorem repeatStr_length (a : Bytes) (k : Nat) : (repeatStr a k).length = a.length * k := by
  induction k with
  | zero => simp [repeatStr]
  | succ k ih => rw [repeatStr_succ, List.length_append, ih, Nat.mul_succ]; omega

theorem nulFree_repeatStr {a : Bytes} (h : NulFree a) (k : Nat) : NulFree (repeatStr a k) := by
  induction k with
  | zero => simp [repeatStr, NulFree]
  | succ k ih => rw [repeatStr_succ]; exact nulFree_append.mpr ⟨h, ih⟩

theorem repeatLoop_ok {src : Buf} {sp : Nat} {a : Bytes} (h : CAt src sp a) :
    ∀ (k : Nat) (done rest : Bytes), rest.length = a.length * k + 1 →
      ∃ z, repeatLoop src sp a.length k (done ++ rest) done.length =
        .ok (done ++ repeatStr a k ++ [z], done.length + a.length * k)
  | 0, done, rest, hl => by
    match rest, hl with
    | [z], _ => exact ⟨z, by simp [repeatLoop, repeatStr]⟩
  | k + 1, done, rest, hl => by
    obtain ⟨z, hz⟩ := repeatLoop_ok h k (done ++ a) (0 :: rest.drop (a.length + 1))
      (by rw [List.length_cons, List.length_drop, hl, Nat.mul_succ]; omega)
    refine ⟨z, ?_⟩
    simp only [repeatLoop, StrNCpy_append_full h done rest (by rw [hl, Nat.mul_succ]; omega)]
    rw [← List.length_append, hz, repeatStr_succ]
    simp [Nat.mul_succ]; omega

theorem ctorRepeat_ok {src : Buf} {sp : Nat} {a : Bytes} (h : CAt src sp a) (k : Nat) (w : World) :
    ctorRepeat src sp k w =
      .ok (⟨w.next, repeatStr a k ++ [0], a.length * k + 1⟩, w.alloc (a.length * k + 1)) := by
  simp only [ctorRepeat, bind_run, StrLen_ok h, liftE_ok, setInternalBufferToNewBuffer, deallocateInternalBuffer,
    pure_run, allocStringBuffer_run]
  have hw : wr (List.replicate (a.length * k + 1) w.junk) 0 0 = .ok (0 :: List.replicate (a.length * k) w.junk) := by
    simp [wr, List.replicate_succ]
  simp only [hw, liftE_ok]
  obtain ⟨z, hz⟩ := repeatLoop_ok h k [] (0 :: List.replicate (a.length * k) w.junk) (by simp)
  simp only [List.nil_append, List.length_nil, Nat.zero_add] at hz
  simp only [hz, liftE_ok]
  have : wr (repeatStr a k ++ [z]) (a.length * k) 0 = .ok (repeatStr a k ++ [0]) := by
    have := wr_append (pre := repeatStr a k) (x := z) (post := []) 0
    rwa [repeatStr_length] at this
  simp [this]

theorem holds_repeat {i n : Nat} {a : Bytes} (h : NulFree a) (k : Nat) :
    Holds ⟨i, repeatStr a k ++ [0], n⟩ (repeatStr a k) := CAt.mk_cz (nulFree_repeatStr h k)

theorem copyToBuffer_null (self : Obj) (n : Nat) : copyToBuffer self none n = .ok none := rfl

/-! ### allocator pairing: replaying an event log -/

/-- one event against the set of outstanding buffers (id, requested size) -/
def liveStep (L : List (Nat × Nat)) : Ev → Option (List (Nat × Nat))
  | .alloc id n => if L.any (fun p => p.1 == id) then none else some ((id, n) :: L)
  | .free id n => if (id, n) ∈ L then some (L.erase (id, n)) else none
  | _ => some L

/-- replay of a log: `none` as soon as a buffer is released that is not outstanding with exactly
    that size (released twice, never requested, other size) or a live id is handed out again -/
def liveAfter : List Ev → List (Nat × Nat) → Option (List (Nat × Nat))
  | [], L => some L
  | e :: es, L => (liveStep L e).bind (liveAfter es)

theorem liveAfter_append (l1 l2 : List Ev) (L : List (Nat × Nat)) :
    liveAfter (l1 ++ l2) L = (liveAfter l1 L).bind (liveAfter l2) :=
  ListLemmas.optRun_append (step := liveStep) (run := fun L l => liveAfter l L) (fun _ => rfl) (fun _ _ _ => rfl) l1 l2 L

/-- the outstanding buffers of world `w` are exactly `L` (as a multiset); every id is below the
    allocator's counter -/
def Owns (w : World) (L : List (Nat × Nat)) : Prop :=
  ∃ L0, liveAfter w.log [] = some L0 ∧ L0.Perm L ∧ ∀ p ∈ L0, p.1 < w.next

theorem Owns.perm {w L L'} (h : Owns w L) (hp : L.Perm L') : Owns w L' := by
  obtain ⟨L0, h1, h2, h3⟩ := h
  exact ⟨L0, h1, h2.trans hp, h3⟩

theorem Owns.alloc {w L} (h : Owns w L) (n : Nat) : Owns (w.alloc n) ((w.next, n) :: L) := by
  obtain ⟨L0, h1, h2, h3⟩ := h
  refine ⟨(w.next, n) :: L0, ?_, List.Perm.cons _ h2, ?_⟩
  · have hany : L0.any (fun p => p.1 == w.next) = false := by
      apply Bool.eq_false_iff.mpr
      intro hc
      simp only [List.any_eq_true, beq_iff_eq] at hc
      obtain ⟨p, hp, he⟩ := hc
      have := h3 p hp; omega
    simp [liveAfter_append, h1, liveAfter, liveStep, hany]
  · intro p hp
    simp only [List.mem_cons] at hp
    rcases hp with rfl | hp
    · simp
    · have := h3 p hp; simp; omega

theorem Owns.free {w L} (h : Owns w L) {i n : Nat} (hm : (i, n) ∈ L) : Owns (w.free i n) (L.erase (i, n)) := by
  obtain ⟨L0, h1, h2, h3⟩ := h
  have hm0 : (i, n) ∈ L0 := h2.symm.subset hm
  refine ⟨L0.erase (i, n), ?_, h2.erase _, ?_⟩
  · simp [liveAfter_append, h1, liveAfter, liveStep, hm0]
  · intro p hp
    exact h3 p (List.mem_of_mem_erase hp)

theorem Owns.free_head {w L} {i n : Nat} (h : Owns w ((i, n) :: L)) : Owns (w.free i n) L := by
  have := h.free (i := i) (n := n) (by simp)
  simpa using this

theorem Owns.free_mid {w} (G : List (Nat × Nat)) {L} {i n : Nat} (h : Owns w (G ++ (i, n) :: L)) :
    Owns (w.free i n) (G ++ L) :=
  (h.perm List.perm_middle).free_head

theorem Owns.lt {w L} (h : Owns w L) : ∀ p ∈ L, p.1 < w.next := by
  obtain ⟨L0, _, h2, h3⟩ := h
  intro p hp
  exact h3 p (h2.symm.subset hp)

theorem Owns.init : Owns {} [] := ⟨[], rfl, List.Perm.refl _, by simp⟩

theorem Owns.congr {w w' : World} {L} (h : Owns w L) (hl : w'.log = w.log) (hn : w'.next = w.next) : Owns w' L := by
  obtain ⟨L0, h1, h2, h3⟩ := h
  exact ⟨L0, hl ▸ h1, h2, hn ▸ h3⟩

theorem Owns.log_other {w w' : World} {L} (h : Owns w L) {e : Ev} (he : ∀ L, liveStep L e = some L)
    (hl : w'.log = w.log ++ [e]) (hn : w'.next = w.next) : Owns w' L := by
  obtain ⟨L0, h1, h2, h3⟩ := h
  exact ⟨L0, by simp [hl, liveAfter_append, h1, liveAfter, he], h2, hn ▸ h3⟩

/-! ### operations with what they do to the outstanding buffers -/

/-- `m` creates one object: the result owns one new buffer under its recorded size; every other
    buffer requested on the way is released again (with its requested size) -/
def Creates (m : M Obj) (w : World) (P : Obj → Prop) : Prop :=
  ∃ r w', m w = .ok (r, w') ∧ P r ∧ Sized r ∧ ∀ L, Owns w L → Owns w' ((r.id, r.size) :: L)

/-- `m` gives object `self` a new buffer and releases the old one under its recorded size -/
def Replaces (m : M Obj) (w : World) (self : Obj) (P : Obj → Prop) : Prop :=
  ∃ r w', m w = .ok (r, w') ∧ P r ∧ Sized r ∧
    ∀ L, Owns w ((self.id, self.size) :: L) → Owns w' ((r.id, r.size) :: L)

/-- `m` returns `v`; all buffers it requested are released again -/
def Returns {α} (m : M α) (w : World) (v : α) : Prop :=
  ∃ w', m w = .ok (v, w') ∧ ∀ L, Owns w L → Owns w' L

/-! ### ownership triples -/

def HasStr (o : Obj) : Prop := ∃ a, Holds o a

theorem hasStr_mk (i : Nat) {a : Bytes} (h : NulFree a) : HasStr (mkObj i a) := ⟨a, holds_mkObj h⟩

abbrev own (o : Obj) : List (Nat × Nat) := [(o.id, o.size)]

abbrev WF (o : Obj) : Prop := HasStr o ∧ Sized o

theorem wf_mk (i : Nat) {a : Bytes} (h : NulFree a) : WF (mkObj i a) := ⟨hasStr_mk i h, sized_mkObj i a⟩

theorem bind_ok_inv {α β} {x : M α} {f : α → M β} {w : World} {b : β} {w' : World}
    (h : (x >>= f) w = .ok (b, w')) : ∃ a w1, x w = .ok (a, w1) ∧ f a w1 = .ok (b, w') := by
  simp only [bind_run] at h
  cases hx : x w with
  | error e => simp [hx] at h
  | ok p => obtain ⟨a, w1⟩ := p; simp only [hx] at h; exact ⟨a, w1, rfl, h⟩

/-- if `m` succeeds, its value satisfies `R` and of the outstanding buffers those in `pre` have been
    exchanged for `post a`, whatever else (`L`) is outstanding — in every world -/
def Eff {α} (m : M α) (pre : List (Nat × Nat)) (post : α → List (Nat × Nat)) (R : α → Prop) : Prop :=
  ∀ w a w', m w = .ok (a, w') → R a ∧ ∀ L, Owns w (pre ++ L) → Owns w' (post a ++ L)

/-- sequencing: the first step exchanges `pre` for `post1 a` in the middle of what is outstanding; the younger
    buffers `G` and the older ones `F` are left alone and handed to what follows -/
theorem Eff.seq {α β} {x : M α} {f : α → M β} {pre : List (Nat × Nat)} (G F : List (Nat × Nat))
    {post1 : α → List (Nat × Nat)} {post2 : β → List (Nat × Nat)} {R1 : α → Prop} {R2 : β → Prop}
    (hx : Eff x pre post1 R1) (hf : ∀ a, R1 a → Eff (f a) (G ++ (post1 a ++ F)) post2 R2) :
    Eff (x >>= f) (G ++ (pre ++ F)) post2 R2 := by
  intro w b w' h
  obtain ⟨a, w1, hxw, h⟩ := bind_ok_inv h
  obtain ⟨hr, ho⟩ := hx w a w1 hxw
  obtain ⟨hr2, ho2⟩ := hf a hr w1 b w' h
  refine ⟨hr2, fun L hL => ho2 L ?_⟩
  have p : ∀ X : List (Nat × Nat), (G ++ (X ++ F) ++ L).Perm (X ++ (G ++ (F ++ L))) := fun X => by
    simp only [List.append_assoc]; exact List.perm_append_comm_assoc ..
  exact (ho _ (hL.perm (p pre))).perm (p (post1 a)).symm

/-- the same when nothing older is in play (`X ++ []` is not `X` by computation) -/
theorem Eff.seq' {α β} {x : M α} {f : α → M β} {pre : List (Nat × Nat)} (G : List (Nat × Nat))
    {post1 : α → List (Nat × Nat)} {post2 : β → List (Nat × Nat)} {R1 : α → Prop} {R2 : β → Prop}
    (hx : Eff x pre post1 R1) (hf : ∀ a, R1 a → Eff (f a) (G ++ post1 a) post2 R2) :
    Eff (x >>= f) (G ++ pre) post2 R2 := by
  have := Eff.seq G [] hx (fun a h => by simpa using hf a h)
  simpa using this

theorem Eff.bind {α β} {x : M α} {f : α → M β} {pre F : List (Nat × Nat)} {post1 : α → List (Nat × Nat)}
    {post2 : β → List (Nat × Nat)} {R1 : α → Prop} {R2 : β → Prop}
    (hx : Eff x pre post1 R1) (hf : ∀ a, R1 a → Eff (f a) (post1 a ++ F) post2 R2) :
    Eff (x >>= f) (pre ++ F) post2 R2 := Eff.seq [] F hx hf

theorem Eff.bind' {α β} {x : M α} {f : α → M β} {pre : List (Nat × Nat)} {post1 : α → List (Nat × Nat)}
    {post2 : β → List (Nat × Nat)} {R1 : α → Prop} {R2 : β → Prop}
    (hx : Eff x pre post1 R1) (hf : ∀ a, R1 a → Eff (f a) (post1 a) post2 R2) : Eff (x >>= f) pre post2 R2 :=
  Eff.seq' [] hx hf

theorem Eff.perm {α} {m : M α} {pre pre' : List (Nat × Nat)} {post : α → List (Nat × Nat)} {R : α → Prop}
    (h : Eff m pre post R) (hp : pre'.Perm pre) : Eff m pre' post R :=
  fun w a w' hm => ⟨(h w a w' hm).1, fun L hL => (h w a w' hm).2 L (hL.perm (hp.append_right L))⟩

theorem Eff.imp {α} {m : M α} {pre : List (Nat × Nat)} {post : α → List (Nat × Nat)} {R R' : α → Prop}
    (h : Eff m pre post R) (hR : ∀ a, R a → R' a) : Eff m pre post R' :=
  fun w a w' hm => ⟨hR a (h w a w' hm).1, (h w a w' hm).2⟩

theorem Eff.ite {α} {c : Prop} [Decidable c] {m1 m2 : M α} {pre : List (Nat × Nat)} {post : α → List (Nat × Nat)}
    {R : α → Prop} (h1 : Eff m1 pre post R) (h2 : Eff m2 pre post R) : Eff (if c then m1 else m2) pre post R := by
  split <;> assumption

theorem eff_ret {α} {a : α} {post : α → List (Nat × Nat)} {R : α → Prop} (h : R a) :
    Eff (pure a : M α) (post a) post R := by
  intro w b w' hm; cases hm; exact ⟨h, fun _ hL => hL⟩

theorem Creates.of_eff {m : M Obj} {w : World} {P : Obj → Prop} (he : Eff m [] own WF)
    (h : ∃ r w', m w = .ok (r, w') ∧ P r) : Creates m w P :=
  have ⟨r, w', hrun, hP⟩ := h
  ⟨r, w', hrun, hP, (he w r w' hrun).1.2, (he w r w' hrun).2⟩

theorem Replaces.of_eff {m : M Obj} {w : World} {self : Obj} {P : Obj → Prop} (he : Eff m (own self) own WF)
    (h : ∃ r w', m w = .ok (r, w') ∧ P r) : Replaces m w self P :=
  have ⟨r, w', hrun, hP⟩ := h
  ⟨r, w', hrun, hP, (he w r w' hrun).1.2, (he w r w' hrun).2⟩

theorem Returns.of_eff {α} {m : M α} {w w' : World} {v : α} {R : α → Prop} (he : Eff m [] (fun _ => []) R)
    (h : m w = .ok (v, w')) : Returns m w v := ⟨w', h, (he w v w' h).2⟩

theorem Eff.of_total {α} {m : M α} {pre : List (Nat × Nat)} {post : α → List (Nat × Nat)} {R : α → Prop}
    (h : ∀ w, ∃ a w', m w = .ok (a, w') ∧ R a ∧ ∀ L, Owns w (pre ++ L) → Owns w' (post a ++ L)) : Eff m pre post R :=
  fun w a w' hm => by
    obtain ⟨a0, w0, h0, hr, ho⟩ := h w
    cases h0.symm.trans hm
    exact ⟨hr, ho⟩

/-! #### single computations -/

theorem eff_unit : Eff (pure () : M Unit) [] (fun _ => []) (fun _ => True) :=
  eff_ret (post := fun _ => []) (R := fun _ => True) trivial

theorem eff_liftE {α} (e : Except Err α) : Eff (liftE e) [] (fun _ => []) (fun a => e = .ok a) := by
  intro w a w' hm
  cases e with
  | error x => simp at hm
  | ok b => cases hm; exact ⟨rfl, fun _ hL => hL⟩

theorem eff_alloc (n : Nat) : Eff (allocStringBuffer n) [] (fun b => [(b.id, n)]) (fun b => b.buf.length = n) :=
  fun w a w' h => by cases h; exact ⟨List.length_replicate, fun _ hL => hL.alloc n⟩

theorem eff_dealloc (i n : Nat) : Eff (deallocStringBuffer i n) [(i, n)] (fun _ => []) (fun _ => True) :=
  fun w a w' h => by cases h; exact ⟨trivial, fun _ hL => hL.free_head⟩

theorem eff_dtor (o : Obj) : Eff (dtor o) (own o) (fun _ => []) (fun _ => True) := eff_dealloc o.id o.size

theorem Eff.after_dtor {α} (t : Obj) {m : M α} {keep : List (Nat × Nat)} {post : α → List (Nat × Nat)} {R : α → Prop}
    (h : Eff m keep post R) : Eff (dtor t >>= fun _ => m) (keep ++ own t) post R :=
  (Eff.bind (F := keep) (eff_dtor t) fun _ _ => h).perm List.perm_append_comm

/-! #### constructors, assignment, concatenation -/

/-- a computation that starts by measuring a string runs on a C string or fails -/
theorem Eff.of_strLen {α} {src : Buf} {sp : Nat} {k : Nat → M α} {pre : List (Nat × Nat)}
    {post : α → List (Nat × Nat)} {R : α → Prop}
    (h : ∀ a, CAt src sp a → Eff (liftE (StrLen src sp) >>= k) pre post R) :
    Eff (liftE (StrLen src sp) >>= k) pre post R := by
  intro w r w' hm
  cases hl : StrLen src sp with
  | error e => simp [hl] at hm
  | ok n =>
    obtain ⟨a, ha, _⟩ := StrLen_inv hl
    exact h a ha w r w' hm

theorem ctorCStr_eff (src : Buf) (sp : Nat) : Eff (ctorCStr src sp) [] own WF :=
  Eff.of_strLen fun _ ha => Eff.of_total fun w => ⟨_, _, ctorCStr_ok ha w, wf_mk _ ha.nulFree, fun _ hL => hL.alloc _⟩

theorem ctorCStr_creates {src : Buf} {sp : Nat} {a : Bytes} (h : CAt src sp a) (w : World) :
    Creates (ctorCStr src sp) w (fun r => Holds r a) :=
  Creates.of_eff (ctorCStr_eff src sp) ⟨_, _, ctorCStr_ok h w, holds_mkObj h.nulFree⟩

theorem ctorCopy_eff (o : Obj) : Eff (ctorCopy o) [] own WF := ctorCStr_eff _ _

theorem ctorNull_eff : Eff ctorNull [] own WF :=
  Eff.of_total fun w => ⟨_, _, ctorNull_ok w, wf_mk _ nulFree_nil, fun _ hL => hL.alloc _⟩

theorem ctorRepeat_eff (src : Buf) (sp k : Nat) : Eff (ctorRepeat src sp k) [] own WF :=
  Eff.of_strLen fun _ ha => Eff.of_total fun w => ⟨_, _, ctorRepeat_ok ha k w,
    ⟨⟨_, holds_repeat ha.nulFree k⟩, by simp [Sized, repeatStr_length]⟩, fun _ hL => hL.alloc _⟩

theorem assign_eff (self : Obj) {other : Obj} (h : HasStr other) : Eff (assign self other) (own self) own WF :=
  have ⟨_, ha⟩ := h
  Eff.of_total fun w => ⟨_, _, assign_ok self ha w, wf_mk _ ha.nulFree, fun _ hL => hL.free_head.alloc _⟩

theorem assign_replaces {other : Obj} {a : Bytes} (self : Obj) (h : Holds other a) (w : World) :
    Replaces (assign self other) w self (fun r => Holds r a) :=
  Replaces.of_eff (assign_eff self ⟨a, h⟩) ⟨_, _, assign_ok self h w, holds_mkObj h.nulFree⟩

theorem appendC_eff {self : Obj} (hself : HasStr self) (rhs : Buf) (rp : Nat) :
    Eff (appendC self rhs rp) (own self) own WF := by
  obtain ⟨a, ha⟩ := hself
  intro w r w' h
  cases hl : StrLen rhs rp with
  | error e => simp [appendC, size_ok ha, hl] at h
  | ok n =>
    obtain ⟨b, hb, _⟩ := StrLen_inv hl
    rw [appendC_ok ha hb] at h
    cases h
    exact ⟨⟨⟨_, holds_append ha.nulFree hb.nulFree⟩, by simp [Sized]⟩, fun L hL => (hL.alloc _).free_mid [_]⟩

theorem appendC_replaces {self : Obj} {a : Bytes} {rhs : Buf} {rp : Nat} {r : Bytes}
    (h : Holds self a) (hr : CAt rhs rp r) (w : World) :
    Replaces (appendC self rhs rp) w self (fun o => Holds o (a ++ r)) :=
  Replaces.of_eff (appendC_eff ⟨a, h⟩ rhs rp) ⟨_, _, appendC_ok h hr w, holds_append h.nulFree hr.nulFree⟩

theorem plus_eff (x y : Obj) : Eff (plus x y) [] own WF :=
  Eff.bind' (ctorCStr_eff _ _) fun _ ht => appendC_eff ht.1 _ _

/-! #### lowerCase and the comparisons through it -/

theorem lowerCase_eff {x : Obj} (h : HasStr x) : Eff (lowerCase x) [] own WF :=
  have ⟨a, ha⟩ := h
  Eff.of_total fun w => ⟨_, _, lowerCase_ok ha w, wf_mk _ (nulFree_lower ha.nulFree),
    fun L hL => by simpa [lower_length] using hL.alloc (a.length + 1)⟩

theorem equalsNoCase_eff {x y : Obj} (hx : HasStr x) (hy : HasStr y) :
    Eff (equalsNoCase x y) [] (fun _ => []) (fun _ => True) :=
  Eff.bind' (lowerCase_eff hy) fun r _ => Eff.bind (F := own r) (lowerCase_eff hx) fun l _ =>
    Eff.bind (F := own l ++ own r) (eff_liftE _) fun _ _ => Eff.bind (F := own r) (eff_dtor l) fun _ _ =>
      Eff.bind' (eff_dtor r) fun _ _ => eff_ret (post := fun _ => []) (R := fun _ => True) trivial

theorem containsNoCase_eff {x y : Obj} (hx : HasStr x) (hy : HasStr y) :
    Eff (containsNoCase x y) [] (fun _ => []) (fun _ => True) :=
  Eff.bind' (lowerCase_eff hx) fun l _ => Eff.bind (F := own l) (lowerCase_eff hy) fun r _ =>
    Eff.bind (F := own r ++ own l) (eff_liftE _) fun _ _ => Eff.bind (F := own l) (eff_dtor r) fun _ _ =>
      Eff.bind' (eff_dtor l) fun _ _ => eff_ret (post := fun _ => []) (R := fun _ => True) trivial

theorem equalsNoCase_returns {self str : Obj} {a b : Bytes} (h : Holds self a) (hb : Holds str b) (w : World) :
    Returns (equalsNoCase self str) w (Text.equalsNoCase a b) :=
  Returns.of_eff (equalsNoCase_eff ⟨a, h⟩ ⟨b, hb⟩) (equalsNoCase_ok h hb w)

theorem containsNoCase_returns {self other : Obj} {a b : Bytes} (h : Holds self a) (hb : Holds other b) (w : World) :
    Returns (containsNoCase self other) w (Text.containsNoCase a b) :=
  Returns.of_eff (containsNoCase_eff ⟨a, h⟩ ⟨b, hb⟩) (containsNoCase_ok h hb w)

/-! #### substrings -/

theorem subString_eff (self : Obj) (p n : Nat) : Eff (subString self p n) [] own WF :=
  Eff.bind' (eff_liftE _) fun _ _ =>
    Eff.ite (ctorCStr_eff _ _)
      (Eff.bind' (ctorCStr_eff _ _) fun ns _ => Eff.bind (F := own ns) (eff_liftE _) fun _ _ =>
        Eff.bind (F := own ns) (eff_liftE _) fun _ _ => Eff.bind (F := own ns) (ctorCopy_eff _) fun _ hr =>
          Eff.after_dtor ns (eff_ret hr))

theorem subStringFromTill_eff (self : Obj) (s e : UInt8) : Eff (subStringFromTill self s e) [] own WF :=
  Eff.bind' (eff_liftE _) fun _ _ =>
    Eff.ite (ctorCStr_eff _ _)
      (Eff.bind' (eff_liftE _) fun _ _ => Eff.ite (subString_eff _ _ _) (subString_eff _ _ _))

theorem subString_creates {self : Obj} {a : Bytes} (h : Holds self a) (beginPos amount : Nat) (w : World) :
    Creates (subString self beginPos amount) w (fun r => Holds r (Text.subString a beginPos amount)) := by
  refine Creates.of_eff (subString_eff _ _ _) ?_
  rw [subString_ok h]
  by_cases hp : beginPos ≥ a.length
  · have : Text.subString a beginPos amount = [] := by simp [Text.subString, hp]
    rw [if_pos hp, this]
    exact ⟨_, _, rfl, holds_mkObj nulFree_nil⟩
  · rw [if_neg hp]
    refine ⟨_, _, rfl, holds_mkObj ?_⟩
    rw [subString_of_lt (Nat.lt_of_not_le hp)]
    exact nulFree_take (nulFree_drop h.nulFree _) _

theorem subString1_creates {self : Obj} {a : Bytes} (h : Holds self a) (hfit : a.length < npos)
    (beginPos : Nat) (w : World) :
    Creates (subString1 self beginPos) w (fun r => Holds r (Text.subStringFrom a beginPos)) := by
  have := subString_creates h beginPos npos w
  have e : Text.subString a beginPos npos = Text.subStringFrom a beginPos := by
    simp only [Text.subString, Text.subStringFrom]
    split
    · next hp => rw [List.drop_eq_nil_of_le hp]
    · rw [List.take_of_length_le (by simp; omega)]
  rw [e] at this
  exact this

theorem subStringFromTill_creates {self : Obj} {a : Bytes} (h : Holds self a) (hfit : a.length < npos)
    (s e : UInt8) (w : World) :
    Creates (subStringFromTill self s e) w (fun r => Holds r (Text.subStringFromTill a s e)) := by
  unfold Creates
  simp only [subStringFromTill, bind_run, find_ok h, liftE_ok, Text.subStringFromTill]
  cases hf : Text.find a s with
  | none =>
    simp only [Option.getD_none, if_true]
    exact ctorCStr_creates emptyLit_at w
  | some i =>
    have ⟨_, hi⟩ := findFrom_lt hf
    have hne : i ≠ npos := by omega
    simp only [Option.getD_some, hne, if_false, bind_run, findFrom_ok h, liftE_ok]
    cases hg : Text.findFrom a i e with
    | none =>
      simp only [Option.getD_none, if_true]
      exact subString1_creates h hfit i w
    | some j =>
      have ⟨hij, hj⟩ := findFrom_lt hg
      have hne : j ≠ npos := by omega
      simp only [Option.getD_some, hne, if_false]
      exact subString_of_lt (p := i) (by omega) (j - i) ▸ subString_creates h i (j - i) w

theorem subStringFromTill_spec {self : Obj} {a : Bytes} (h : Holds self a) (hfit : a.length < npos)
    (s e : UInt8) (w : World) :
    ∃ r w', subStringFromTill self s e w = .ok (r, w') ∧ Holds r (Text.subStringFromTill a s e) ∧ Sized r :=
  have ⟨r, w', h1, h2, h3, _⟩ := subStringFromTill_creates h hfit s e w
  ⟨r, w', h1, h2, h3⟩

/-! ### padding -/

def padChars (c : UInt8) : Bytes := if c = 0 then [] else [c]

theorem padLit_at (c : UInt8) : CAt [c, 0] 0 (padChars c) := by
  by_cases hc : c = 0
  · subst hc; exact ⟨nulFree_nil, [0], rfl⟩
  · simp only [padChars, hc, if_false]
    exact ⟨by simp [NulFree, hc], [], rfl⟩

theorem repeat_padChars (c : UInt8) (n : Nat) :
    repeatStr (padChars c) n = if c = 0 then [] else List.replicate n c := by
  by_cases hc : c = 0
  · simp only [padChars, hc, if_true]
    induction n with
    | zero => rfl
    | succ n ih => rw [repeatStr_succ, ih]; rfl
  · simp only [padChars, hc, if_false]
    induction n with
    | zero => rfl
    | succ n ih => rw [repeatStr_succ, ih]; simp [List.replicate_succ]

theorem padFirst_eff (x : Obj) (n : Nat) (c : UInt8) : Eff (padFirst x n c) (own x) own WF :=
  Eff.bind (F := own x) (ctorRepeat_eff _ 0 n) fun rep _ =>
    Eff.bind (F := own rep ++ own x) (plus_eff rep x) fun t ht =>
      Eff.seq' (own t ++ own rep) (assign_eff x ht.1) fun r hr =>
        Eff.bind (F := own rep ++ own r) (eff_dtor t) fun _ _ =>
          Eff.bind (F := own r) (eff_dtor rep) fun _ _ => eff_ret (post := own) hr

theorem padFirst_replaces {str1 : Obj} {a : Bytes} (h : Holds str1 a) (n : Nat) (c : UInt8) (w : World) :
    Replaces (padFirst str1 n c) w str1 (fun r => Holds r (TextExt.padLeft n c a)) := by
  have hrep := ctorRepeat_ok (padLit_at c) n w
  have hR := holds_repeat (i := w.next) (n := (padChars c).length * n + 1) (padLit_at c).nulFree n
  refine Replaces.of_eff (padFirst_eff str1 n c) ?_
  simp only [padFirst, bind_run, hrep, plus_ok hR h]
  have hT : Holds (⟨(w.alloc ((padChars c).length * n + 1)).next + 1, repeatStr (padChars c) n ++ a ++ [0],
      (repeatStr (padChars c) n).length + (a.length + 1)⟩ : Obj) (repeatStr (padChars c) n ++ a) :=
    holds_append hR.nulFree h.nulFree
  simp only [assign_ok str1 hT, dtor_run, pure_run]
  refine ⟨_, _, rfl, ?_⟩
  have : TextExt.padLeft n c a = repeatStr (padChars c) n ++ a := by
    simp [TextExt.padLeft, repeat_padChars]
  rw [this]; exact holds_mkObj hT.nulFree

/-! ### replace(to, with) -/

/-- number of (leftmost, non-overlapping) occurrences that `replaceAllAux` replaces -/
def nocc : Nat → Bytes → Bytes → Nat
  | 0, _, _ => 0
  | _ + 1, [], _ => 0
  | n + 1, x :: t, pat => if pat.isPrefixOf (x :: t) then 1 + nocc n ((x :: t).drop pat.length) pat else nocc n t pat

theorem replaceAllAux_length (pat rep : Bytes) (hp : pat ≠ []) : ∀ (n : Nat) (s : Bytes), s.length < n →
    (Text.replaceAllAux n s pat rep).length + pat.length * nocc n s pat = s.length + rep.length * nocc n s pat
  | 0, _, h => by simp at h
  | n + 1, [], _ => by simp [Text.replaceAllAux, nocc]
  | n + 1, x :: t, h => by
    have hpl : 0 < pat.length := List.length_pos_iff.mpr hp
    by_cases hpre : pat.isPrefixOf (x :: t) = true
    · have hle := prefix_length_le hpre
      have ih := replaceAllAux_length pat rep hp n ((x :: t).drop pat.length) (length_drop_lt hpl hle h)
      simp only [Text.replaceAllAux, nocc, hpre, if_true, List.length_append, List.length_drop] at ih ⊢
      rw [Nat.mul_add, Nat.mul_add]
      omega
    · have ih := replaceAllAux_length pat rep hp n t (by simp at h; omega)
      simp only [Text.replaceAllAux, nocc, hpre, Bool.false_eq_true, if_false, List.length_cons] at ih ⊢
      omega

theorem replaceAllAux_of_nocc_zero (pat rep : Bytes) : ∀ (n : Nat) (s : Bytes), nocc n s pat = 0 →
    Text.replaceAllAux n s pat rep = s
  | 0, _, _ => rfl
  | n + 1, [], _ => rfl
  | n + 1, x :: t, h => by
    by_cases hpre : pat.isPrefixOf (x :: t) = true
    · simp [nocc, hpre] at h
    · simp only [nocc, hpre, Bool.false_eq_true, if_false] at h
      simp [Text.replaceAllAux, hpre, replaceAllAux_of_nocc_zero pat rep n t h]

theorem nulFree_replaceAllAux {pat rep : Bytes} (hr : NulFree rep) : ∀ (n : Nat) (s : Bytes), NulFree s →
    NulFree (Text.replaceAllAux n s pat rep)
  | 0, _, h => h
  | n + 1, [], _ => nulFree_nil
  | n + 1, x :: t, h => by
    by_cases hpre : pat.isPrefixOf (x :: t) = true
    · simp only [Text.replaceAllAux, hpre, if_true]
      exact nulFree_append.mpr ⟨hr, nulFree_replaceAllAux hr n _ (nulFree_drop h _)⟩
    · simp only [Text.replaceAllAux, hpre, Bool.false_eq_true, if_false]
      exact nulFree_cons.mpr ⟨(nulFree_cons.mp h).1, nulFree_replaceAllAux hr n t (nulFree_cons.mp h).2⟩

theorem replCountLoop_ok {buf to : Buf} {tp len : Nat} {pat : Bytes} (hto : CAt to tp pat) (hp : pat ≠ []) :
    ∀ (n : Nat) (s : Bytes) (i c : Nat), s.length < n → CAt buf i s → i + s.length = len →
      replCountLoop buf len to tp pat.length n i c = .ok (c + nocc n s pat)
  | 0, _, _, _, h, _, _ => by simp at h
  | n + 1, [], i, c, _, _, hl => by
    have : ¬ (i < len) := by simp at hl; omega
    simp [replCountLoop, this, nocc]
  | n + 1, x :: t, i, c, hn, hs, hl => by
    have hpl : 0 < pat.length := List.length_pos_iff.mpr hp
    have hi : i < len := by simp at hl; omega
    simp only [replCountLoop, hi, if_true, StrNCmp_ok _ _ _ _ _ _ _ hs hto, ite_ncmp_length hs.1 hto.1, nocc]
    by_cases hpre : pat.isPrefixOf (x :: t) = true
    · have hle := prefix_length_le hpre
      simp only [hpre, if_true]
      rw [replCountLoop_ok hto hp n ((x :: t).drop pat.length) (i + pat.length) (c + 1)
        (length_drop_lt hpl hle hn) (hs.drop _ hle) (by rw [List.length_drop]; omega)]
      congr 1; omega
    · simp only [hpre, if_false, Bool.false_eq_true]
      exact replCountLoop_ok hto hp n t (i + 1) c (Nat.lt_of_succ_lt_succ hn) hs.tail
        (by rw [List.length_cons] at hl; omega)

/-- the copy loop writes the replaced text behind `out`; of the `room` left there only the length
    of what stays behind the text matters (its first byte may be a terminator written on the way) -/
theorem replCopyLoop_ok {buf to wb : Buf} {tp wp len : Nat} {pat rep : Bytes} (hto : CAt to tp pat)
    (hw : CAt wb wp rep) (hp : pat ≠ []) :
    ∀ (n : Nat) (s : Bytes) (i : Nat) (out room : Bytes), s.length < n → CAt buf i s →
      i + s.length = len → (Text.replaceAllAux n s pat rep).length + 1 ≤ room.length →
      ∃ tail, tail.length + (Text.replaceAllAux n s pat rep).length = room.length ∧
        replCopyLoop buf len to tp pat.length wb wp rep.length n i out.length (out ++ room) =
          .ok (out ++ Text.replaceAllAux n s pat rep ++ tail)
  | 0, _, _, _, _, h, _, _, _ => by simp at h
  | n + 1, [], i, out, room, _, _, hl, _ => by
    have : ¬ (i < len) := by simp at hl; omega
    exact ⟨room, by simp [Text.replaceAllAux], by simp [replCopyLoop, this, Text.replaceAllAux]⟩
  | n + 1, x :: t, i, out, room, hn, hs, hl, hroom => by
    have hpl : 0 < pat.length := List.length_pos_iff.mpr hp
    have hi : i < len := by simp at hl; omega
    simp only [replCopyLoop, hi, if_true, StrNCmp_ok _ _ _ _ _ _ _ hs hto, ite_ncmp_length hs.1 hto.1,
      Text.replaceAllAux] at hroom ⊢
    by_cases hpre : pat.isPrefixOf (x :: t) = true
    · have hle := prefix_length_le hpre
      simp only [hpre, if_true, List.length_append] at hroom ⊢
      simp only [StrNCpy_append_full hw out room (by omega)]
      obtain ⟨tail, htl, hrec⟩ := replCopyLoop_ok (buf := buf) (len := len) hto hw hp n ((x :: t).drop pat.length)
        (i + pat.length) (out ++ rep) (0 :: room.drop (rep.length + 1))
        (length_drop_lt hpl hle hn) (hs.drop _ hle) (by rw [List.length_drop]; omega)
        (by rw [List.length_cons, List.length_drop]; omega)
      refine ⟨tail, by rw [List.length_cons, List.length_drop] at htl; omega, ?_⟩
      rw [← List.length_append, hrec, List.append_assoc out]
    · simp only [hpre, if_false, Bool.false_eq_true, List.length_cons, hs.cons_rd] at hroom ⊢
      match room, hroom with
      | y :: room', hroom =>
        simp only [wr_append, List.append_cons out x room']
        obtain ⟨tail, htl, hrec⟩ := replCopyLoop_ok (buf := buf) (len := len) hto hw hp n t (i + 1) (out ++ [x]) room'
          (Nat.lt_of_succ_lt_succ hn) hs.tail (by rw [List.length_cons] at hl; omega)
          (by rw [List.length_cons] at hroom; omega)
        refine ⟨tail, by rw [List.length_cons] at hroom ⊢; omega, ?_⟩
        rw [show out.length + 1 = (out ++ [x]).length from (List.length_append (as := out) (bs := [x])).symm, hrec, List.append_assoc out]
        rfl

/-- Count the occurrences (`nocc`), size the new buffer by `replaceAllAux_length`, copy; the copy loop leaves one byte
    behind the text, which the final `wr` turns into the terminator.  No occurrence: the object stays; empty result: `""`. -/
theorem replaceStr_replaces {self : Obj} {a pat rep : Bytes} {to wb : Buf} {tp wp : Nat}
    (h : Holds self a) (hs : Sized self) (hto : CAt to tp pat) (hw : CAt wb wp rep) (w : World) :
    Replaces (replaceStr self to tp wb wp) w self (fun r => Holds r (Text.replaceAll a pat rep)) := by
  unfold Replaces
  simp only [replaceStr, bind_run, size_ok h, liftE_ok, StrLen_ok hto, StrLen_ok hw]
  by_cases hp : pat = []
  · subst hp
    simp only [List.length_nil, if_true, pure_run, Text.replaceAll, List.isEmpty_nil]
    exact ⟨self, w, rfl, h, hs, fun _ hL => hL⟩
  · have hpl : pat.length ≠ 0 := by simpa using hp
    have hpe : pat.isEmpty = false := List.isEmpty_eq_false_iff.mpr hp
    simp only [hpl, if_false, bind_run, Text.replaceAll, hpe, Bool.false_eq_true]
    have hcnt := replCountLoop_ok (buf := self.buf) (len := a.length) hto hp (a.length + 1) a 0 0
      (by omega) h (by simp)
    simp only [Nat.zero_add] at hcnt
    simp only [hcnt, liftE_ok]
    by_cases hc : nocc (a.length + 1) a pat = 0
    · simp only [hc, if_true, pure_run, replaceAllAux_of_nocc_zero pat rep _ a hc]
      exact ⟨self, w, rfl, h, hs, fun _ hL => hL⟩
    · have hlen := replaceAllAux_length pat rep hp (a.length + 1) a (by omega)
      have hnf := nulFree_replaceAllAux (pat := pat) hw.1 (a.length + 1) a h.nulFree
      generalize hR : Text.replaceAllAux (a.length + 1) a pat rep = R at hlen hnf
      generalize hcc : nocc (a.length + 1) a pat = c at hlen hc hcnt
      have hsz : a.length + rep.length * c - pat.length * c = R.length := by omega
      simp only [hc, if_false, replaceBuild, hsz]
      by_cases hR0 : R.length + 1 > 1
      · simp only [hR0, if_true, bind_run, allocStringBuffer_run]
        obtain ⟨tail, htl, hcp⟩ := replCopyLoop_ok (buf := self.buf) (len := a.length) hto hw hp (a.length + 1)
          a 0 [] (List.replicate (R.length + 1) w.junk) (by omega) h (by simp) (by rw [hR]; simp)
        simp only [List.nil_append, List.length_nil, hR] at hcp htl
        simp only [hcp, liftE_ok]
        have htl1 : tail.length = 1 := by simp at htl; omega
        match tail, htl1 with
        | [z], _ =>
          have hwz := wr_append (pre := R) (x := z) (post := []) 0
          simp only [Nat.add_sub_cancel, hwz, liftE_ok, setInternalBufferTo, deallocateInternalBuffer, bind_run,
            deallocStringBuffer_run, pure_run]
          refine ⟨_, _, rfl, CAt.mk_cz hnf, by simp [Sized], fun L hL => ?_⟩
          exact (hL.alloc (R.length + 1)).free_mid [_]
      · have hRnil : R = [] := List.eq_nil_of_length_eq_zero (by omega)
        simp only [hR0, if_false, setInternalBufferAsEmptyString, deallocateInternalBuffer, bind_run,
          deallocStringBuffer_run, getEmptyString, allocStringBuffer_run, pure_run]
        have : wr (List.replicate 1 (w.free self.id self.size).junk) 0 0 = .ok [0] := by simp [wr]
        simp only [this, liftE_ok, hRnil]
        refine ⟨_, _, rfl, CAt.mk_cz nulFree_nil, by simp [Sized], fun L hL => ?_⟩
        exact (hL.free_head).alloc 1

/-! ### formatted construction: the glue around `vsnprintf` -/

def World.vsnCall (w : World) (size : Nat) (r : VsnRes) : World :=
  { w with vsn := w.vsn.tail, log := w.log ++ [.vsn size r.ret r.text] }

@[simp] theorem vsnCall_next (w : World) (s r) : (w.vsnCall s r).next = w.next := rfl
@[simp] theorem vsnCall_junk (w : World) (s r) : (w.vsnCall s r).junk = w.junk := rfl
@[simp] theorem vsnCall_vsn (w : World) (s r) : (w.vsnCall s r).vsn = w.vsn.tail := rfl

theorem Owns.vsnCall {w : World} {L} (h : Owns w L) (s : Nat) (r : VsnRes) : Owns (w.vsnCall s r) L :=
  h.log_other (fun _ => rfl) rfl rfl

theorem vsnprintf_ok {w : World} {r : VsnRes} {rest : List VsnRes} (buf : Buf) (size : Nat)
    (hv : w.vsn = r :: rest) (hfit : r.text.length < size) (hsz : size ≤ buf.length) :
    vsnprintf buf size w = .ok ((r, r.text ++ 0 :: buf.drop (r.text.length + 1)), w.vsnCall size r) := by
  simp only [vsnprintf, hv, hfit, hsz, and_self, if_true, World.vsnCall, List.tail_cons]

@[simp] theorem getJunk_run (w : World) : getJunk w = .ok (w.junk, w) := rfl

/-- fast path: a formatted length below the 100-byte stack buffer: no buffer is requested for
    the text; the result holds what `vsnprintf` wrote, up to its first NUL byte if it has one -/
theorem vStringFromFormat_fast_cut {w : World} {r : VsnRes} {rest : List VsnRes} (hv : w.vsn = r :: rest)
    (hret : r.ret < sizeOfdefaultBuffer) (hlen : r.text.length < sizeOfdefaultBuffer) :
    vStringFromFormat w =
      .ok (mkObj (w.next + 2) (cut r.text),
           (((((w.alloc 1).vsnCall sizeOfdefaultBuffer r).alloc ((cut r.text).length + 1)).free w.next 1).alloc
              ((cut r.text).length + 1)).free (w.next + 1) ((cut r.text).length + 1)) := by
  have hv' : (w.alloc 1).vsn = r :: rest := hv
  simp only [vStringFromFormat, bind_run, ctorEmpty_ok, getJunk_run, alloc_junk,
    vsnprintf_ok (List.replicate sizeOfdefaultBuffer w.junk) sizeOfdefaultBuffer hv' hlen (by simp), hret, if_true,
    ctorCStr_ok (cat_cut _ _), assign_ok _ (holds_mkObj (nulFree_cut _)), dtor_run, pure_run]
  simp

/-- slow path: a formatted length of 100 or more: a buffer of exactly `length + 1` bytes is
    requested, filled by a second `vsnprintf` call, copied, and released as `length + 1` bytes -/
theorem vStringFromFormat_slow_cut {w : World} {r r2 : VsnRes} {rest : List VsnRes} (hv : w.vsn = r :: r2 :: rest)
    (hret : ¬ r.ret < sizeOfdefaultBuffer) (hlen : r.text.length < sizeOfdefaultBuffer)
    (hlen2 : r2.text.length < r.ret + 1) :
    vStringFromFormat w =
      .ok (mkObj (w.next + 3) (cut r2.text),
           (((((((((w.alloc 1).vsnCall sizeOfdefaultBuffer r).alloc (r.ret + 1)).vsnCall (r.ret + 1) r2).alloc
              ((cut r2.text).length + 1)).free w.next 1).alloc ((cut r2.text).length + 1)).free (w.next + 2)
              ((cut r2.text).length + 1)).free (w.next + 1) (r.ret + 1))) := by
  have hv' : (w.alloc 1).vsn = r :: r2 :: rest := hv
  have hv2 : (((w.alloc 1).vsnCall sizeOfdefaultBuffer r).alloc (r.ret + 1)).vsn = r2 :: rest := by
    simp [hv]
  simp only [vStringFromFormat, bind_run, ctorEmpty_ok, getJunk_run, alloc_junk,
    vsnprintf_ok (List.replicate sizeOfdefaultBuffer w.junk) sizeOfdefaultBuffer hv' hlen (by simp), hret, if_false,
    allocStringBuffer_run, vsnCall_junk,
    vsnprintf_ok (List.replicate (r.ret + 1) w.junk) (r.ret + 1) hv2 hlen2 (by simp),
    ctorCStr_ok (cat_cut _ _), assign_ok _ (holds_mkObj (nulFree_cut _)), dtor_run, deallocStringBuffer_run, pure_run]
  simp

theorem vStringFromFormat_fast {w : World} {r : VsnRes} {rest : List VsnRes} (hv : w.vsn = r :: rest)
    (hret : r.ret < sizeOfdefaultBuffer) (hlen : r.text.length < sizeOfdefaultBuffer) (hnf : NulFree r.text) :
    vStringFromFormat w =
      .ok (mkObj (w.next + 2) r.text,
           (((((w.alloc 1).vsnCall sizeOfdefaultBuffer r).alloc (r.text.length + 1)).free w.next 1).alloc
              (r.text.length + 1)).free (w.next + 1) (r.text.length + 1)) := by
  have := vStringFromFormat_fast_cut hv hret hlen
  rwa [cut_of_nulFree hnf] at this

theorem stringFromFormat_fast {w : World} {r : VsnRes} {rest : List VsnRes} (hv : w.vsn = r :: rest)
    (hret : r.ret < sizeOfdefaultBuffer) (hlen : r.text.length < sizeOfdefaultBuffer) (hnf : NulFree r.text) :
    ∃ w', stringFromFormat w = .ok (mkObj (w.next + 4) r.text, w') ∧ w'.vsn = rest ∧ w'.junk = w.junk ∧
      w'.next = w.next + 5 := by
  have hv' : (w.alloc 1).vsn = r :: rest := hv
  simp only [stringFromFormat, bind_run, ctorEmpty_ok, vStringFromFormat_fast hv' hret hlen hnf,
    assign_ok _ (holds_mkObj hnf), dtor_run, pure_run]
  exact ⟨_, rfl, by simp [hv], by simp, by simp⟩

/-! ### split -/

theorem delimStep_pos (d : Bytes) : 0 < delimStep d := by
  unfold delimStep; split <;> omega

theorem strStr_step_le {s d : Bytes} {i : Nat} (hs : s ≠ []) (h : TextExt.strStr s d = some i) :
    i + delimStep d ≤ s.length := by
  obtain ⟨h1, h2, _⟩ := (strStr_some_iff s d i).mp h
  unfold delimStep
  by_cases hd : d.length ≠ 0
  · rw [if_pos hd]
    have := prefix_length_le h2
    simp only [List.length_drop] at this; omega
  · rw [if_neg hd]
    have hd' : d = [] := List.eq_nil_of_length_eq_zero (by omega)
    subst hd'
    rw [strStr_nil_right] at h
    injection h with h; subst h
    have : 0 < s.length := List.length_pos_iff.mpr hs
    omega

theorem splitScan_none {d : Bytes} {n : Nat} {x : UInt8} {t : Bytes} (h : TextExt.strStr (x :: t) d = none) :
    TextExt.splitScan d (n + 1) (x :: t) = ([], 0) := by simp [TextExt.splitScan, h]

theorem splitScan_some {d : Bytes} {n : Nat} {x : UInt8} {t : Bytes} {i : Nat} (h : TextExt.strStr (x :: t) d = some i) :
    TextExt.splitScan d (n + 1) (x :: t) =
      ((x :: t).take (i + delimStep d) :: (TextExt.splitScan d n ((x :: t).drop (i + delimStep d))).1,
       i + delimStep d + (TextExt.splitScan d n ((x :: t).drop (i + delimStep d))).2) := by
  simp [TextExt.splitScan, h]

/-- the scan either stops (empty rest, no further occurrence) or jumps behind the next occurrence, which lies inside
    the rest and leaves a shorter rest -/
theorem splitScan_induction {d : Bytes} {motive : (n : Nat) → (s : Bytes) → s.length < n → Prop}
    (nil : ∀ n h, motive (n + 1) [] h)
    (none : ∀ n x t h, TextExt.strStr (x :: t) d = none → motive (n + 1) (x :: t) h)
    (some : ∀ n x t i h, TextExt.strStr (x :: t) d = some i → 0 < i + delimStep d → i + delimStep d ≤ (x :: t).length →
      (hl : ((x :: t).drop (i + delimStep d)).length < n) → motive n ((x :: t).drop (i + delimStep d)) hl →
      motive (n + 1) (x :: t) h) :
    ∀ (n : Nat) (s : Bytes) (h : s.length < n), motive n s h
  | 0, _, h => absurd h (Nat.not_lt_zero _)
  | n + 1, [], h => nil n h
  | n + 1, x :: t, hn => by
    cases hst : TextExt.strStr (x :: t) d with
    | none => exact none n x t hn hst
    | some i =>
      have hle := strStr_step_le (by simp) hst
      have hpos := delimStep_pos d
      have hl := length_drop_lt (by omega) hle hn
      exact some n x t i hn hst (by omega) hle hl (splitScan_induction nil none some n _ hl)

theorem splitScan_le (d : Bytes) (n : Nat) (s : Bytes) (hn : s.length < n) : (TextExt.splitScan d n s).2 ≤ s.length := by
  induction n, s, hn using splitScan_induction (d := d) with
  | nil n _ => simp [TextExt.splitScan]
  | none n x t _ h => simp [splitScan_none h]
  | some n x t i _ h _ hle _ ih => rw [splitScan_some h]; simp only [List.length_drop] at ih; simp only; omega

/-- the first loop of `split` counts the delimiter-terminated tokens and stops where they end -/
theorem splitScan_model {buf dbuf : Buf} {d : Bytes} (hd : CAt dbuf 0 d) (n : Nat) (s : Bytes) (hn : s.length < n) :
    ∀ (rest num : Nat), CAt buf rest s →
      SStr.splitScan buf dbuf (delimStep d) n rest num =
        .ok ⟨rest + (TextExt.splitScan d n s).2, num + (TextExt.splitScan d n s).1.length⟩ := by
  induction n, s, hn using splitScan_induction (d := d) with
  | nil n _ => intro rest num hs; simp [SStr.splitScan, hs.nil_rd, TextExt.splitScan]
  | none n x t _ h =>
    intro rest num hs; simp [SStr.splitScan, hs.cons_rd, hs.cons_ne, StrStr_ok hs hd, h, splitScan_none h]
  | some n x t i _ h hpos hle hl ih =>
    intro rest num hs
    simp only [SStr.splitScan, hs.cons_rd, hs.cons_ne, if_false, StrStr_ok hs hd, h, Option.map_some, splitScan_some h]
    rw [show i + rest + delimStep d = rest + (i + delimStep d) by omega, ih _ (num + 1) (hs.drop _ hle)]
    simp only [List.length_cons]
    congr 2 <;> omega

theorem splitScan_fuel (d : Bytes) (n : Nat) (s : Bytes) (hn : s.length < n) :
    ∀ m, s.length < m → TextExt.splitScan d n s = TextExt.splitScan d m s := by
  induction n, s, hn using splitScan_induction (d := d) with
  | nil n _ => intro m hm; cases m <;> simp [TextExt.splitScan] at hm ⊢
  | none n x t _ h => intro m hm; cases m with | zero => simp at hm | succ m => rw [splitScan_none h, splitScan_none h]
  | some n x t i _ h hpos hle hl ih =>
    intro m hm
    cases m with
    | zero => simp at hm
    | succ m => rw [splitScan_some h, splitScan_some h, ih m (length_drop_lt hpos hle hm)]

def ownedObjs (xs : List Obj) : List (Nat × Nat) := xs.map fun o => (o.id, o.size)

theorem splitScan_toks_nil {d : Bytes} (n : Nat) (s : Bytes) (hn : s.length < n)
    (h : (TextExt.splitScan d n s).1 = []) : (TextExt.splitScan d n s).2 = 0 := by
  induction n, s, hn using splitScan_induction (d := d) with
  | nil n _ => simp [TextExt.splitScan]
  | none n x t _ h' => simp [splitScan_none h']
  | some n x t i _ h' _ _ _ _ => simp [splitScan_some h'] at h

theorem ctorEmptyN_ok : ∀ (n : Nat) (w : World),
    ∃ items w', ctorEmptyN n w = .ok (items, w') ∧ items.length = n ∧ ∀ o ∈ items, Holds o [] ∧ Sized o
  | 0, w => ⟨[], w, rfl, rfl, by simp⟩
  | n + 1, w => by
    obtain ⟨items, w', h1, h2, h3⟩ := ctorEmptyN_ok n (w.alloc 1)
    refine ⟨mkObj w.next [] :: items, w', ?_, by simp [h2], fun o ho => ?_⟩
    · simp only [ctorEmptyN, bind_run, ctorEmpty_ok, h1, pure_run]
    · rcases List.mem_cons.mp ho with rfl | ho
      · exact ⟨holds_mkObj nulFree_nil, sized_mkObj _ _⟩
      · exact h3 o ho

theorem collAssign_at {done rest : List Obj} {t value e : Obj} {v : Bytes} (hv : Holds value v) (w : World) :
    collAssign ⟨done ++ t :: rest, e⟩ done.length value w =
      .ok (⟨done ++ mkObj w.next v :: rest, e⟩, (w.free t.id t.size).alloc (v.length + 1)) := by
  have hget : (done ++ t :: rest)[done.length]? = some t := by simp
  simp only [collAssign, hget, bind_run, assign_ok t hv, pure_run]
  simp

def HoldAll : List Obj → List Bytes → Prop
  | [], [] => True
  | o :: os, a :: as => Holds o a ∧ Sized o ∧ HoldAll os as
  | _, _ => False

theorem splitStoreToken_ok {self : Obj} {s : Bytes} {str : Nat} (hs : CAt self.buf str s) (hne : s ≠ []) (k : Nat)
    (done rest : List Obj) (t e : Obj) (w : World) :
    ∃ o w', splitStoreToken self str k ⟨done ++ t :: rest, e⟩ done.length w = .ok (⟨done ++ o :: rest, e⟩, w') ∧
      Holds o (s.take k) ∧ Sized o := by
  have hnf := hs.nulFree
  have hlen : 0 < s.length := List.length_pos_iff.mpr hne
  have htok : Text.subString s 0 k = s.take k := subString_of_lt hlen k
  have hsub := subString_ok (holds_mkObj (i := w.next) hnf) 0 k (w.alloc (s.length + 1))
  rw [if_neg (by omega)] at hsub
  have htoknf : NulFree (Text.subString s 0 k) := by rw [htok]; exact nulFree_take hnf _
  simp only [splitStoreToken, bind_run, ctorCStr_ok hs, hsub, collAssign_at (holds_mkObj htoknf), dtor_run, pure_run]
  exact ⟨_, _, rfl, by rw [← htok]; exact holds_mkObj htoknf, sized_mkObj _ _⟩

theorem splitStoreRest_ok {self : Obj} {s : Bytes} {str : Nat} (hs : CAt self.buf str s)
    (done rest : List Obj) (t e : Obj) (w : World) :
    ∃ o w', splitStoreRest self str ⟨done ++ t :: rest, e⟩ done.length w = .ok (⟨done ++ o :: rest, e⟩, w') ∧
      Holds o s ∧ Sized o := by
  simp only [splitStoreRest, bind_run, ctorCStr_ok hs, collAssign_at (holds_mkObj hs.nulFree), dtor_run, pure_run]
  exact ⟨_, _, rfl, holds_mkObj hs.nulFree, sized_mkObj _ _⟩

/-- the second loop of `split`: the tokens found by the scan are stored into the next elements of
    the collection -/
theorem splitFill_ok {self : Obj} {dbuf : Buf} {d : Bytes} (hd : CAt dbuf 0 d) (e : Obj) (n : Nat) (s : Bytes)
    (hn : s.length < n) :
    ∀ (str : Nat) (done cur post : List Obj) (w : World),
      CAt self.buf str s → cur.length = (TextExt.splitScan d n s).1.length →
      ∃ new w', splitFill self dbuf (delimStep d) (TextExt.splitScan d n s).1.length done.length str
          ⟨done ++ cur ++ post, e⟩ w = .ok ((⟨done ++ new ++ post, e⟩, str + (TextExt.splitScan d n s).2), w') ∧
        HoldAll new (TextExt.splitScan d n s).1 := by
  induction n, s, hn using splitScan_induction (d := d) with
  | nil n _ =>
    intro str done cur post w _ hc
    have : cur = [] := List.eq_nil_of_length_eq_zero (by simpa [TextExt.splitScan] using hc)
    subst this
    exact ⟨[], w, by simp [TextExt.splitScan, splitFill], by simp [TextExt.splitScan, HoldAll]⟩
  | none n x t _ hst =>
    intro str done cur post w _ hc
    have : cur = [] := List.eq_nil_of_length_eq_zero (by simpa [splitScan_none hst] using hc)
    subst this
    exact ⟨[], w, by simp [splitScan_none hst, splitFill], by simp [splitScan_none hst, HoldAll]⟩
  | some n x t i _ hst hpos hle hl ih =>
    intro str done cur post w hs hc
    rw [splitScan_some hst] at hc ⊢
    simp only [List.length_cons] at hc ⊢
    match cur, hc with
    | c0 :: cur', hc =>
      have e1 : i + str + delimStep d - str = i + delimStep d := by omega
      have e2 : done ++ c0 :: cur' ++ post = done ++ c0 :: (cur' ++ post) := by simp
      obtain ⟨o, w1, ho, hho, hso⟩ := splitStoreToken_ok hs (by simp) (i + delimStep d) done (cur' ++ post) c0 e w
      simp only [splitFill, bind_run, StrStr_ok hs hd, hst, Option.map_some, liftE_ok, e1, e2, ho]
      obtain ⟨new, w', hrec, hf2⟩ := ih (str + (i + delimStep d)) (done ++ [o]) cur' post w1 (hs.drop _ hle)
        (by simpa using hc)
      have e3 : done ++ o :: (cur' ++ post) = done ++ [o] ++ cur' ++ post := by simp
      have e4 : done.length + 1 = (done ++ [o]).length := by simp
      have e5 : i + str + delimStep d = str + (i + delimStep d) := by omega
      rw [e3, e4, e5, hrec]
      exact ⟨o :: new, w', by simp [Nat.add_assoc], ⟨hho, hso, hf2⟩⟩

theorem holdAll_length : ∀ {os : List Obj} {as : List Bytes}, HoldAll os as → os.length = as.length
  | [], [], _ => rfl
  | _ :: _, [], h => by simp [HoldAll] at h
  | [], _ :: _, h => by simp [HoldAll] at h
  | _ :: os, _ :: as, h => by simp [holdAll_length h.2.2]

theorem holdAll_append : ∀ {os : List Obj} {as : List Bytes} {o : Obj} {a : Bytes}, HoldAll os as → Holds o a → Sized o →
    HoldAll (os ++ [o]) (as ++ [a])
  | [], [], _, _, _, h, hs => by simp [HoldAll, h, hs]
  | _ :: _, [], _, _, h, _, _ => by simp [HoldAll] at h
  | [], _ :: _, _, _, h, _, _ => by simp [HoldAll] at h
  | _ :: os, _ :: as, _, _, h, ho, hs => ⟨h.1, h.2.1, holdAll_append h.2.2 ho hs⟩

theorem dtorAllRev_nil (w : World) : dtorAllRev [] w = .ok ((), w) := rfl

/-- whether `split` stores one more token behind those the scan found, and which: what is left, also when the
    string is empty and the delimiter is not -/
theorem split_eq_scan (a d : Bytes) :
    TextExt.split a d = (TextExt.splitScan d (a.length + 1) a).1 ++
      (if (TextExt.splitScan d (a.length + 1) a).2 < a.length ∨ (a = [] ∧ d ≠ []) then
        [a.drop (TextExt.splitScan d (a.length + 1) a).2] else []) := by
  simp only [TextExt.split]
  cases a with
  | nil => cases d <;> simp [TextExt.splitScan]
  | cons x t => simp

theorem split_val {self delim : Obj} {a d : Bytes} (h : Holds self a) (hd : Holds delim d) (e : Obj) (w : World) :
    ∃ items w', split self delim ⟨[], e⟩ w = .ok (⟨items, e⟩, w') ∧ HoldAll items (TextExt.split a d) := by
  -- the scan gives the tokens `T` and the offset `K` where they end; `hX` turns the code's test for one more token into the
  -- specification's; `T.length` elements (one more under `hX`) are allocated and filled, and the rest is stored behind them
  have hstep : (if d.length ≠ 0 then d.length else 1) = delimStep d := rfl
  have hlt := h.lt_fuel
  have hscan := splitScan_model hd _ a hlt 0 0 h
  rw [splitScan_fuel d _ a hlt (a.length + 1) (Nat.lt_succ_self _), Nat.zero_add, Nat.zero_add] at hscan
  have hKle := splitScan_le d (a.length + 1) a (Nat.lt_succ_self _)
  have hK0 := splitScan_toks_nil (d := d) (a.length + 1) a (Nat.lt_succ_self _)
  rw [split_eq_scan]
  generalize hT : (TextExt.splitScan d (a.length + 1) a).1 = T at hscan hK0
  generalize hK : (TextExt.splitScan d (a.length + 1) a).2 = K at hscan hKle hK0
  simp only [split, bind_run, size_ok hd, liftE_ok, hstep, hscan, collAllocate, dtorAllRev_nil]
  have hrest := CAt.drop h K hKle
  simp only [Nat.zero_add] at hrest
  have hhead : (a.drop K).headD 0 ≠ 0 ↔ K < a.length := by
    cases hdk : a.drop K with
    | nil => simpa using List.drop_eq_nil_iff.mp hdk
    | cons c r =>
      rw [hdk] at hrest
      have : K < a.length := Nat.lt_of_not_le fun hge => by simp [List.drop_eq_nil_of_le hge] at hdk
      simpa [hrest.cons_ne] using this
  have hpush : (if (a.drop K).headD 0 ≠ 0 then Except.ok true else if T.length = 0 then endsWith self delim else .ok true :
      Except Err Bool) = .ok (if (a.drop K).headD 0 ≠ 0 then true else if T.length = 0 then Text.endsWith a d else true) := by
    rw [endsWith_ok h hd]; split <;> (try split) <;> rfl
  have hX : ((a.drop K).headD 0 ≠ 0 ∨ T.length = 0 ∧
      (if (a.drop K).headD 0 ≠ 0 then true else if T.length = 0 then Text.endsWith a d else true) = false) ↔
      (K < a.length ∨ a = [] ∧ d ≠ []) := by
    simp only [hhead]
    by_cases hlt : K < a.length
    · simp [hlt]
    · by_cases hT0 : T.length = 0
      · have hTn : T = [] := List.eq_nil_of_length_eq_zero hT0
        have ha : a = [] := List.eq_nil_of_length_eq_zero (by have := hK0 hTn; omega)
        subst ha
        cases d with
        | nil => simp [Text.endsWith]
        | cons y d' => simp [hT0, endsWith_of_lt (a := []) (b := y :: d') (by simp)]
      · have ha : a ≠ [] := fun ha => hT0 (by subst ha; simp [TextExt.splitScan] at hT; simp [← hT])
        simp [hlt, hT0, ha]
  simp only [hrest.rd_head, hpush, liftE_ok, hX]
  obtain ⟨items0, w0, ha0, hl0, _⟩ := ctorEmptyN_ok (T.length + if K < a.length ∨ a = [] ∧ d ≠ [] then 1 else 0) w
  simp only [ha0, pure_run]
  have hfill := splitFill_ok (self := self) hd e (a.length + 1) a (by omega) 0 [] (items0.take T.length)
    (items0.drop T.length) w0 h (by rw [hT, List.length_take, hl0]; omega)
  rw [hT, hK, List.nil_append, List.take_append_drop] at hfill
  obtain ⟨new, w1, hf1, hf2⟩ := hfill
  simp only [List.length_nil, Nat.zero_add, List.nil_append] at hf1
  simp only [hf1]
  by_cases hx : K < a.length ∨ a = [] ∧ d ≠ []
  · obtain ⟨p0, hp0⟩ : ∃ p0, items0.drop T.length = [p0] := by
      have : (items0.drop T.length).length = 1 := by simp [hl0, hx]
      match items0.drop T.length, this with
      | [p0], _ => exact ⟨p0, rfl⟩
    rw [hp0, ← holdAll_length hf2]
    obtain ⟨o, w2, hr1, hr2, hr3⟩ := splitStoreRest_ok (self := self) hrest new [] p0 e w1
    simp only [hx, if_true, hr1]
    exact ⟨new ++ [o], w2, rfl, holdAll_append hf2 hr2 hr3⟩
  · have : items0.drop T.length = [] := List.drop_eq_nil_of_le (by simp [hl0, hx])
    simp only [hx, if_false, this, List.append_nil, pure_run]
    exact ⟨new, w1, rfl, by simpa using hf2⟩

/-! ### the first-occurrence form of `split` is `Text.split` -/

/-- tokens and remainder put together, with `pre` still pending in front of the first one -/
def splitOut (pre : Bytes) (toks : List Bytes) (rem : Bytes) : List Bytes :=
  match toks with
  | [] => if (pre ++ rem).isEmpty then [] else [pre ++ rem]
  | tok :: r => (pre ++ tok) :: (r ++ (if rem.isEmpty then [] else [rem]))

theorem splitOut_nil (toks : List Bytes) (rem : Bytes) :
    splitOut [] toks rem = toks ++ (if rem.isEmpty then [] else [rem]) := by
  cases toks <;> simp [splitOut]

/-- `Text.splitAux` walks byte by byte and collects the pending token in `cur`; `splitScan` jumps from occurrence to
    occurrence.  At a byte where `d` does not start, the next occurrence of the scan is one further (`hstr`), and the scan
    of the tail has one fuel unit less, which does not matter (`splitScan_fuel`). -/
theorem splitAux_eq (d : Bytes) (hd : d ≠ []) : ∀ (n : Nat) (s cur : Bytes), s.length < n →
    Text.splitAux n s d cur =
      splitOut cur.reverse (TextExt.splitScan d n s).1 (s.drop (TextExt.splitScan d n s).2)
  | 0, _, _, h => by simp at h
  | n + 1, [], cur, _ => by
    simp only [Text.splitAux, TextExt.splitScan, splitOut, List.drop_nil, List.append_nil, List.isEmpty_reverse]
  | n + 1, x :: t, cur, hn => by
    have hdl : delimStep d = d.length := by
      unfold delimStep; rw [if_pos (by simpa using hd)]
    have hpl : 0 < d.length := List.length_pos_iff.mpr hd
    by_cases hp : d.isPrefixOf (x :: t) = true
    · have hst : TextExt.strStr (x :: t) d = some 0 := (strStr_zero_iff _ _).mpr hp
      have hle := prefix_length_le hp
      simp only [Text.splitAux, hp, if_true, TextExt.splitScan, hst, Nat.zero_add, hdl, splitOut]
      rw [splitAux_eq d hd n ((x :: t).drop d.length) [] (length_drop_lt hpl hle hn)]
      simp only [List.reverse_nil, splitOut_nil, List.drop_drop, isPrefixOf_iff_take.mp hp]
    · have hp' : d.isPrefixOf (x :: t) = false := Bool.eq_false_iff.mpr hp
      simp only [Text.splitAux, hp', Bool.false_eq_true, if_false]
      have hn' : t.length < n := Nat.lt_of_succ_lt_succ hn
      rw [splitAux_eq d hd n t (x :: cur) hn']
      have hstr : TextExt.strStr (x :: t) d = (TextExt.strStr t d).map (· + 1) := by
        simp [TextExt.strStr, hp']
      cases n with
      | zero => simp at hn'
      | succ m =>
        cases t with
        | nil =>
          have : TextExt.strStr [] d = none := by
            cases d with
            | nil => exact absurd rfl hd
            | cons y d' => simp [TextExt.strStr]
          simp [TextExt.splitScan, hstr, this, splitOut]
        | cons y t' =>
          cases hst : TextExt.strStr (y :: t') d with
          | none => simp [TextExt.splitScan, hstr, hst, splitOut]
          | some j =>
            have hle := strStr_step_le (by simp) hst
            have hfuel := splitScan_fuel d (m + 1) ((y :: t').drop (j + delimStep d))
              (by simp at hn' hle ⊢; omega) m (by simp at hn' hle ⊢; omega)
            have e1 : (x :: y :: t').drop (j + 1 + delimStep d) = (y :: t').drop (j + delimStep d) := by
              have : j + 1 + delimStep d = (j + delimStep d) + 1 := by omega
              rw [this]; rfl
            have e2 : (x :: y :: t').take (j + 1 + delimStep d) = x :: (y :: t').take (j + delimStep d) := by
              have : j + 1 + delimStep d = (j + delimStep d) + 1 := by omega
              rw [this]; rfl
            simp only [TextExt.splitScan, hstr, hst, Option.map_some, e1, e2, hfuel, splitOut, List.reverse_cons,
              List.append_assoc, List.singleton_append]
            congr 2
            have : j + 1 + delimStep d + (TextExt.splitScan d m ((y :: t').drop (j + delimStep d))).2 =
                (j + delimStep d + (TextExt.splitScan d m ((y :: t').drop (j + delimStep d))).2) + 1 := by omega
            rw [this]; rfl

/-! ### printable -/

/-- the escaping rule, under the tests the code makes -/
theorem printableByte_eq (c : UInt8) : printableByte c =
    if isControlWithShortEscapeSequence c then [92, shortEscapeLetter c]
    else if isControl c then [92, 120] ++ hex2 c else [c] := by
  simp [printableByte, isControlWithShortEscapeSequence, isControl, or_assoc]

theorem shortEscapeCode_at {c : UInt8} (h : isControlWithShortEscapeSequence c = true) :
    CAt (shortEscapeCode c) 0 [92, shortEscapeLetter c] := by
  have h7 : (7 : UInt8).toNat = 7 := rfl
  have h13 : (13 : UInt8).toNat = 13 := rfl
  simp only [isControlWithShortEscapeSequence, Bool.and_eq_true, decide_eq_true_eq, UInt8.le_iff_toNat_le, h7, h13] at h
  have hc : c = UInt8.ofNat c.toNat := by simp
  have : c.toNat = 7 ∨ c.toNat = 8 ∨ c.toNat = 9 ∨ c.toNat = 10 ∨ c.toNat = 11 ∨ c.toNat = 12 ∨ c.toNat = 13 := by omega
  rcases this with e | e | e | e | e | e | e <;> rw [hc, e] <;> exact ⟨by decide, [], rfl⟩

theorem hexDigitUpper_ne_zero (n : Nat) (h : n < 16) : hexDigitUpper n ≠ 0 := by
  unfold hexDigitUpper
  split
  · intro h0
    have := congrArg UInt8.toNat h0
    simp at this; omega
  · intro h0
    have := congrArg UInt8.toNat h0
    simp at this; omega

theorem nulFree_hex2 (c : UInt8) : NulFree (hex2 c) := by
  have := c.toNat_lt
  intro x hx
  simp only [hex2, List.mem_cons, List.not_mem_nil, or_false] at hx
  rcases hx with rfl | rfl
  · exact hexDigitUpper_ne_zero _ (by omega)
  · exact hexDigitUpper_ne_zero _ (by omega)

theorem shortEscapeLetter_ne_zero (c : UInt8) : shortEscapeLetter c ≠ 0 := by
  unfold shortEscapeLetter; split <;> decide

theorem nulFree_flatMap {f : UInt8 → Bytes} (hf : ∀ b, NulFree (f b)) : ∀ (x : Bytes), NulFree (x.flatMap f)
  | [] => nulFree_nil
  | b :: t => by
    simp only [List.flatMap_cons]
    exact nulFree_append.mpr ⟨hf b, nulFree_flatMap hf t⟩

/-- also for the byte 0, which is printed as a hex escape -/
theorem nulFree_printableByte (c : UInt8) : NulFree (printableByte c) := by
  unfold printableByte
  split
  · exact nulFree_cons.mpr ⟨by decide, nulFree_cons.mpr ⟨shortEscapeLetter_ne_zero c, nulFree_nil⟩⟩
  · split
    · exact nulFree_append.mpr ⟨by decide, nulFree_hex2 c⟩
    · next h => exact nulFree_cons.mpr ⟨fun h0 => h (Or.inl (h0 ▸ by decide)), nulFree_nil⟩

theorem nulFree_printable (a : Bytes) : NulFree (TextExt.printable a) := nulFree_flatMap nulFree_printableByte a

theorem printable_cons (x : UInt8) (a : Bytes) : TextExt.printable (x :: a) = printableByte x ++ TextExt.printable a := by
  simp [TextExt.printable]

theorem getPrintableSizeLoop_ok : ∀ (s : Bytes) (buf : Buf) (i acc : Nat), CAt buf i s →
    getPrintableSizeLoop buf s.length i (acc + s.length) = .ok (acc + (TextExt.printable s).length)
  | [], _, _, _, _ => by simp [getPrintableSizeLoop, TextExt.printable]
  | x :: t, buf, i, acc, h => by
    -- the byte itself is counted already: an escape of `k + 1` characters adds `k`
    have step : ∀ k, getPrintableSizeLoop buf t.length (i + 1) (acc + (t.length + 1) + k) =
        .ok (acc + (k + 1 + (TextExt.printable t).length)) := fun k => by
      rw [show acc + (t.length + 1) + k = acc + (k + 1) + t.length by omega,
        getPrintableSizeLoop_ok t buf (i + 1) (acc + (k + 1)) h.tail, Nat.add_assoc]
    simp only [List.length_cons, getPrintableSizeLoop, h.cons_rd, printable_cons, printableByte_eq, List.length_append,
      Gen.Str.printableSizeShort, Gen.Str.printableSizeHex]
    cases isControlWithShortEscapeSequence x
    · cases isControl x
      · simpa using step 0
      · simpa [hex2] using step 3
    · simpa using step 1

theorem getPrintableSize_ok {self : Obj} {a : Bytes} (h : Holds self a) :
    getPrintableSize self = .ok (TextExt.printable a).length := by
  have := getPrintableSizeLoop_ok a self.buf 0 0 h
  simp only [Nat.zero_add] at this
  simp only [getPrintableSize, size_ok h, this]

/-- bytes that `printable()` escapes through `StringFromFormat("\\x%02X ", c)` -/
def isHexEscaped (c : UInt8) : Bool := !(isControlWithShortEscapeSequence c) && isControl c

/-- what `printf("\\x%02X ", c)` prints -/
def hexEscapeText (c : UInt8) : Bytes := [92, 120] ++ hex2 c ++ [32]

/-- the recorded `vsnprintf` answers are the texts `f c` of the bytes `cs`, in order, each of a length below the stack
    buffer; `HexEnv s` unfolds to `FmtEnv hexEscapeText (s.filter isHexEscaped)`, `BinEnv` to `FmtEnv hexPairSp` -/
def FmtEnv (f : UInt8 → Bytes) (cs : Bytes) (vs : List VsnRes) : Prop :=
  vs.map (·.text) = cs.map f ∧ ∀ r ∈ vs, r.ret < sizeOfdefaultBuffer

/-- the recorded `vsnprintf` results are what libc prints for the hex-escaped bytes of `s`, in order -/
def HexEnv (s : Bytes) (vs : List VsnRes) : Prop :=
  vs.map (·.text) = (s.filter isHexEscaped).map hexEscapeText ∧ ∀ r ∈ vs, r.ret < sizeOfdefaultBuffer

theorem nulFree_hexEscapeText (c : UInt8) : NulFree (hexEscapeText c) := by
  unfold hexEscapeText
  exact nulFree_append.mpr ⟨nulFree_append.mpr ⟨by decide, nulFree_hex2 c⟩, by decide⟩

theorem env_cons {f : UInt8 → Bytes} {c : UInt8} {cs : Bytes} {vs : List VsnRes} (h : FmtEnv f (c :: cs) vs) :
    ∃ r vs', vs = r :: vs' ∧ r.text = f c ∧ r.ret < sizeOfdefaultBuffer ∧ FmtEnv f cs vs' := by
  obtain ⟨h1, h2⟩ := h
  cases vs with
  | nil => simp at h1
  | cons r vs' =>
    rw [List.map_cons, List.map_cons] at h1
    exact ⟨r, vs', rfl, (List.cons.inj h1).1, h2 r (List.mem_cons_self ..), (List.cons.inj h1).2,
      fun r' hr' => h2 r' (List.mem_cons_of_mem _ hr')⟩

theorem HexEnv.of_plain {x : UInt8} {t : Bytes} {vs : List VsnRes} (h : isHexEscaped x = false)
    (he : HexEnv (x :: t) vs) : HexEnv t vs := by
  simpa [HexEnv, List.filter_cons, h] using he

theorem HexEnv.of_escaped {x : UInt8} {t : Bytes} {vs : List VsnRes} (h : isHexEscaped x = true)
    (he : HexEnv (x :: t) vs) : FmtEnv hexEscapeText (x :: t.filter isHexEscaped) vs := by
  simpa [HexEnv, FmtEnv, List.filter_cons, h] using he

theorem printableLoop_ok {src : Buf} :
    ∀ (s : Bytes) (i : Nat) (out room : Bytes) (w : World) (vs rest : List VsnRes), CAt src i s → HexEnv s vs →
      w.vsn = vs ++ rest → (TextExt.printable s).length ≤ room.length →
      ∃ w', printableLoop src s.length i out.length (out ++ room) w =
          .ok ((out ++ TextExt.printable s ++ room.drop (TextExt.printable s).length,
                out.length + (TextExt.printable s).length), w') ∧
        w'.vsn = rest
  | [], i, out, room, w, vs, rest, _, henv, hv, _ => by
    have : vs = [] := by simpa using henv.1
    subst this
    exact ⟨w, by simp [printableLoop, TextExt.printable], by simpa using hv⟩
  | x :: t, i, out, room, w, vs, rest, hs, henv, hv, hroom => by
    -- once the piece `p` for `x` stands behind `out`, the rest of the loop writes the rest
    have next : ∀ (p : Bytes) (w1 : World) (vs' : List VsnRes), HexEnv t vs' → w1.vsn = vs' ++ rest →
        (p ++ TextExt.printable t).length ≤ room.length →
        ∃ w', printableLoop src t.length (i + 1) (out.length + p.length) (out ++ p ++ room.drop p.length) w1 =
            .ok ((out ++ (p ++ TextExt.printable t) ++ room.drop (p ++ TextExt.printable t).length,
                  out.length + (p ++ TextExt.printable t).length), w') ∧
          w'.vsn = rest := fun p w1 vs' henv' hv' hr => by
      obtain ⟨w', h1, h2⟩ := printableLoop_ok t (i + 1) (out ++ p) (room.drop p.length) w1 vs' rest hs.tail henv' hv'
        (by rw [List.length_drop]; rw [List.length_append] at hr; omega)
      refine ⟨w', ?_, h2⟩
      rw [← List.length_append, h1, List.drop_drop]
      simp only [List.append_assoc, List.length_append, Nat.add_assoc]
    simp only [printable_cons, printableByte_eq] at hroom ⊢
    simp only [List.length_cons, printableLoop, bind_run, hs.cons_rd, liftE_ok]
    cases hsb : isControlWithShortEscapeSequence x with
    | true =>
      simp only [hsb, if_true, bind_run] at hroom ⊢
      have henv' : HexEnv t vs := henv.of_plain (by simp [isHexEscaped, hsb])
      have hcp : StrNCpy (out ++ room) out.length (shortEscapeCode x) 0 2 =
          .ok (out ++ [92, shortEscapeLetter x] ++ room.drop 2) :=
        StrNCpy_append (shortEscapeCode_at hsb) out room 2 (by simp at hroom ⊢; omega)
      simp only [Gen.Str.shortEscapeCopy, Gen.Str.shortEscapeAdvance, hcp, liftE_ok]
      exact next _ w vs henv' hv hroom
    | false =>
      simp only [hsb, Bool.false_eq_true, if_false] at hroom ⊢
      cases hcb : isControl x with
      | true =>
        simp only [hcb, if_true, bind_run] at hroom ⊢
        obtain ⟨r, vs', rfl, htext, hret, henv'⟩ := env_cons (henv.of_escaped (by simp [isHexEscaped, hsb, hcb]))
        have hnf : NulFree r.text := by rw [htext]; exact nulFree_hexEscapeText x
        obtain ⟨w1, hf1, hf2, _⟩ := stringFromFormat_fast (w := w) (r := r) (rest := vs' ++ rest)
          (by simpa using hv) hret
          (by rw [htext]; simp [hexEscapeText, hex2, sizeOfdefaultBuffer, Gen.Str.sizeOfdefaultBuffer]) hnf
        have hcp : StrNCpy (out ++ room) out.length (r.text ++ [0]) 0 4 =
            .ok (out ++ ([92, 120] ++ hex2 x) ++ room.drop 4) := by
          rw [htext]
          exact StrNCpy_append (CAt.mk_cz (nulFree_hexEscapeText x)) out room 4 (by simp [hex2] at hroom ⊢; omega)
        simp only [hf1, mkObj_buf, Gen.Str.hexEscapeCopy, Gen.Str.hexEscapeAdvance, hcp, liftE_ok, dtor_run]
        exact next ([92, 120] ++ hex2 x) _ vs' henv' (by simpa using hf2) hroom
      | false =>
        simp only [hcb, Bool.false_eq_true, if_false, bind_run] at hroom ⊢
        have henv' : HexEnv t vs := henv.of_plain (by simp [isHexEscaped, hcb])
        match room, hroom with
        | y :: room', hroom =>
          simp only [wr_append, List.append_cons out x room', liftE_ok]
          exact next [x] w vs henv' hv hroom

/-- `printable()`, run and value — given that libc printed the hex escapes (`HexEnv`) -/
theorem printable_ok {self : Obj} {a : Bytes} (h : Holds self a) (w : World) (vs rest : List VsnRes)
    (henv : HexEnv a vs) (hv : w.vsn = vs ++ rest) :
    ∃ r w', SStr.printable self w = .ok (r, w') ∧ Holds r (TextExt.printable a) ∧ w'.vsn = rest := by
  have hnf := nulFree_printable a
  simp only [SStr.printable, bind_run, ctorEmpty_ok, getPrintableSize_ok h, liftE_ok, setInternalBufferToNewBuffer,
    deallocateInternalBuffer, deallocStringBuffer_run, allocStringBuffer_run, size_ok h, mkObj_id, mkObj_size,
    List.length_nil, Nat.zero_add, free_junk, alloc_junk]
  have hw0 : wr (List.replicate ((TextExt.printable a).length + 1) w.junk) 0 0 =
      .ok (0 :: List.replicate (TextExt.printable a).length w.junk) := by
    simp [wr, List.replicate_succ]
  simp only [hw0, liftE_ok, pure_run]
  obtain ⟨w', h1, h2⟩ := printableLoop_ok (src := self.buf) a 0 [] (0 :: List.replicate (TextExt.printable a).length w.junk)
    (((w.alloc 1).free w.next 1).alloc ((TextExt.printable a).length + 1)) vs rest h henv
    (by simpa using hv) (by simp)
  simp only [List.nil_append, List.length_nil, Nat.zero_add] at h1
  simp only [h1]
  have hdrop : (0 :: List.replicate (TextExt.printable a).length w.junk).drop (TextExt.printable a).length =
      [if (TextExt.printable a).length = 0 then 0 else w.junk] := by
    cases hl : (TextExt.printable a).length with
    | zero => simp
    | succ k => simp [List.drop_replicate]
  rw [hdrop]
  have hw1 := wr_append (pre := TextExt.printable a) (x := if (TextExt.printable a).length = 0 then 0 else w.junk)
    (post := []) 0
  simp only [hw1, liftE_ok]
  exact ⟨_, _, rfl, CAt.mk_cz hnf, h2⟩

/-! ### StringFromBinary: hex pairs joined by single blanks -/

/-- what `printf("%02X ", b)` prints -/
def hexPairSp (b : UInt8) : Bytes := hex2 b ++ [32]

def BinEnv (x : Bytes) (vs : List VsnRes) : Prop :=
  vs.map (·.text) = x.map hexPairSp ∧ ∀ r ∈ vs, r.ret < sizeOfdefaultBuffer

theorem nulFree_hexPairSp (b : UInt8) : NulFree (hexPairSp b) :=
  nulFree_append.mpr ⟨nulFree_hex2 b, by decide⟩

theorem flat_eq_join : ∀ (x : Bytes), x ≠ [] → x.flatMap hexPairSp = TextExt.binary x ++ [32]
  | [], h => absurd rfl h
  | [b], _ => by simp [TextExt.binary, joinSp, hexPairSp]
  | b :: c :: t, _ => by
    have ih := flat_eq_join (c :: t) (by simp)
    simp only [List.flatMap_cons] at ih ⊢
    rw [ih]
    simp [TextExt.binary, joinSp, hexPairSp]

theorem binaryLoop_ok : ∀ (x : Bytes) (result : Obj) (acc : Bytes) (w : World) (vs rest : List VsnRes),
    Holds result acc → BinEnv x vs → w.vsn = vs ++ rest →
    ∃ r w', binaryLoop x.length result w = .ok (r, w') ∧ Holds r (acc ++ x.flatMap hexPairSp) ∧ w'.vsn = rest
  | [], result, acc, w, vs, rest, h, henv, hv => by
    have : vs = [] := by simpa using henv.1
    subst this
    exact ⟨result, w, rfl, by simpa using h, by simpa using hv⟩
  | b :: t, result, acc, w, vs, rest, h, henv, hv => by
    obtain ⟨r, vs', rfl, htext, hret, henv'⟩ := env_cons henv
    have hlen : r.text.length < sizeOfdefaultBuffer := by
      rw [htext]; simp [hexPairSp, hex2, sizeOfdefaultBuffer, Gen.Str.sizeOfdefaultBuffer]
    have hnf : NulFree r.text := by rw [htext]; exact nulFree_hexPairSp b
    obtain ⟨w1, hf1, hf2, _⟩ := stringFromFormat_fast (w := w) (r := r) (rest := vs' ++ rest)
      (by simpa using hv) hret hlen hnf
    have hap := appendC_ok h (holds_mkObj (i := w.next + 4) hnf) w1
    rw [mkObj_buf] at hap
    simp only [List.length_cons, binaryLoop, bind_run, hf1, mkObj_buf, hap, dtor_run, mkObj_id, mkObj_size]
    obtain ⟨r3, w3, hb1, hb2, hb3⟩ := binaryLoop_ok t ⟨w1.next, acc ++ r.text ++ [0], acc.length + (r.text.length + 1)⟩
      (acc ++ r.text) (((w1.alloc (acc.length + (r.text.length + 1))).free result.id result.size).free (w.next + 4)
        (r.text.length + 1)) vs' rest (holds_append h.nulFree hnf) henv' (by simp [hf2])
    exact ⟨r3, w3, hb1, by simpa [htext, List.append_assoc] using hb2, hb3⟩

/-- `StringFromBinary` = two upper-case hex digits per byte, single blanks between — given that
    `printf("%02X ", b)` printed each pair (libc, trusted) -/
theorem stringFromBinary_ok (x : Bytes) (w : World) (vs rest : List VsnRes) (henv : BinEnv x vs)
    (hv : w.vsn = vs ++ rest) :
    ∃ r w', stringFromBinary x.length w = .ok (r, w') ∧ Holds r (TextExt.binary x) ∧ w'.vsn = rest := by
  simp only [stringFromBinary, bind_run, ctorEmpty_ok]
  obtain ⟨r1, w1, h1, h2, h4⟩ := binaryLoop_ok x (mkObj w.next []) [] (w.alloc 1) vs rest
    (holds_mkObj nulFree_nil) henv (by simpa using hv)
  simp only [List.nil_append] at h2
  simp only [h1, size_ok h2, liftE_ok]
  have hnf : NulFree (TextExt.binary x) := by
    cases x with
    | nil => simp [TextExt.binary, joinSp, NulFree]
    | cons b t =>
      have := nulFree_flatMap nulFree_hexPairSp (b :: t)
      rw [flat_eq_join (b :: t) (by simp)] at this
      exact (nulFree_append.mp this).1
  have hsub : Text.subString (x.flatMap hexPairSp) 0
      (if (x.flatMap hexPairSp).length = 0 then npos else (x.flatMap hexPairSp).length - 1) = TextExt.binary x := by
    cases x with
    | nil => simp [Text.subString, TextExt.binary, joinSp]
    | cons b t =>
      rw [flat_eq_join (b :: t) (by simp)]
      simp [Text.subString]
  obtain ⟨r2, w2, hs1, hs2, _⟩ := subString_creates h2 0
    (if (x.flatMap hexPairSp).length = 0 then npos else (x.flatMap hexPairSp).length - 1) w1
  rw [hsub] at hs2
  simp only [hs1, assign_ok r1 hs2, dtor_run, pure_run]
  have hw2v := subString_vsn h2 hs1
  exact ⟨_, _, rfl, holds_mkObj hnf, by simp [hw2v, h4]⟩

/-! ### StringFromMaskedBits -/

/-- `val` is `v` after `i` left shifts on a 64-bit `unsigned long` -/
def ShiftedBy (v i val : Nat) : Prop := ∀ j, j < 64 → val.testBit j = (decide (i ≤ j) && v.testBit (j - i))

theorem shiftedBy_zero (v : Nat) : ShiftedBy v 0 v := by intro j _; simp

theorem shiftedBy_succ {v i val : Nat} (h : ShiftedBy v i val) :
    ShiftedBy v (i + 1) ((val <<< 1) % 18446744073709551616) := by
  intro j hj
  have e : (18446744073709551616 : Nat) = 2 ^ 64 := by decide
  rw [e, Nat.testBit_mod_two_pow, Nat.testBit_shiftLeft]
  simp only [hj, decide_true, Bool.true_and]
  by_cases hj1 : j ≥ 1
  · rw [h (j - 1) (by omega)]
    simp only [hj1, decide_true, Bool.true_and]
    have e2 : j - 1 - i = j - (i + 1) := by omega
    rw [e2]
    congr 1
    simp; omega
  · have : j = 0 := by omega
    subst this; simp

theorem shiftedBy_test {v i val B : Nat} (h : ShiftedBy v i val) (hB : B ≤ 64) (hi : i < B) :
    (val &&& (1 <<< (B - 1)) ≠ 0) ↔ v.testBit (B - 1 - i) = true := by
  rw [Nat.one_shiftLeft, BitVecLemmas.and_two_pow_ne_zero, h (B - 1) (by omega)]
  have : i ≤ B - 1 := by omega
  simp [this]

def maskedCell (v m B i : Nat) : Bytes :=
  (if m.testBit (B - 1 - i) then (if v.testBit (B - 1 - i) then [49] else [48]) else [120]) ++
    (if i % 8 = 7 ∧ i ≠ B - 1 then [32] else [])

theorem nulFree_maskedCell (v m B i : Nat) : NulFree (maskedCell v m B i) := by
  unfold maskedCell
  apply nulFree_append.mpr
  constructor
  · split
    · split <;> decide
    · decide
  · split <;> decide

theorem lit1_at (c : UInt8) (hc : c ≠ 0) : CAt [c, 0] 0 [c] := ⟨by simp [NulFree, hc], [], rfl⟩

theorem maskedBitsLoop_ok {v m B : Nat} (hB : B ≤ 64) :
    ∀ (k i value mask : Nat) (result : Obj) (acc : Bytes) (w : World), i + k = B → ShiftedBy v i value →
      ShiftedBy m i mask → Holds result acc →
      ∃ r w', maskedBitsLoop B k i value mask result w = .ok (r, w') ∧
        Holds r (acc ++ (List.range' i k).flatMap (maskedCell v m B))
  | 0, i, value, mask, result, acc, w, _, _, _, h => ⟨result, w, rfl, by simpa using h⟩
  | k + 1, i, value, mask, result, acc, w, hik, hv, hm, h => by
    have hi : i < B := by omega
    have hmt := shiftedBy_test hm hB hi
    have hvt := shiftedBy_test hv hB hi
    obtain ⟨c, hc, hlit, hcell⟩ : ∃ c : UInt8, c ≠ 0 ∧
        (if mask &&& (1 <<< (B - 1)) ≠ 0 then (if value &&& (1 <<< (B - 1)) ≠ 0 then [49, 0] else [48, 0]) else [120, 0]) = [c, 0] ∧
        (if m.testBit (B - 1 - i) then (if v.testBit (B - 1 - i) then [49] else [48]) else [120]) = [c] := by
      by_cases h1 : m.testBit (B - 1 - i) = true
      · by_cases h2 : v.testBit (B - 1 - i) = true
        · exact ⟨49, by decide, by rw [if_pos (hmt.mpr h1), if_pos (hvt.mpr h2)], by simp [h1, h2]⟩
        · have h2' : ¬ (value &&& (1 <<< (B - 1)) ≠ 0) := fun hx => h2 (hvt.mp hx)
          exact ⟨48, by decide, by rw [if_pos (hmt.mpr h1), if_neg h2'], by simp [h1, h2]⟩
      · have h1' : ¬ (mask &&& (1 <<< (B - 1)) ≠ 0) := fun hx => h1 (hmt.mp hx)
        exact ⟨120, by decide, by rw [if_neg h1'], by simp [h1]⟩
    simp only [maskedBitsLoop, bind_run, hlit]
    obtain ⟨r1, w1, ha1, ha2, _⟩ := appendC_replaces h (lit1_at c hc) w
    simp only [ha1]
    -- the blank behind every eighth cell but the last
    obtain ⟨r2, w2, hb1, hb2⟩ : ∃ r2 w2, (if i % 8 = 7 ∧ i ≠ B - 1 then appendC r1 [32, 0] 0 else pure r1) w1 = .ok (r2, w2) ∧
        Holds r2 (acc ++ [c] ++ if i % 8 = 7 ∧ i ≠ B - 1 then [32] else []) := by
      split
      · obtain ⟨r2, w2, hb1, hb2, _⟩ := appendC_replaces ha2 (lit1_at 32 (by decide)) w1
        exact ⟨r2, w2, hb1, hb2⟩
      · exact ⟨r1, w1, rfl, by simpa using ha2⟩
    simp only [hb1]
    obtain ⟨r3, w3, hc1, hc2⟩ := maskedBitsLoop_ok hB k (i + 1) ((value <<< 1) % 18446744073709551616)
      ((mask <<< 1) % 18446744073709551616) r2 _ w2 (by omega) (shiftedBy_succ hv) (shiftedBy_succ hm) hb2
    exact ⟨r3, w3, hc1, by simpa [List.range'_succ, maskedCell, hcell] using hc2⟩

theorem stringFromMaskedBits_ok (v m k : Nat) (w : World) :
    ∃ r w', stringFromMaskedBits v m k w = .ok (r, w') ∧ Holds r (TextExt.maskedBits v m k) := by
  have hbc : (if k > 8 then 64 else k * 8) = min k 8 * 8 := by split <;> omega
  have hB : min k 8 * 8 ≤ 64 := by omega
  simp only [stringFromMaskedBits, bind_run, ctorEmpty_ok, hbc]
  obtain ⟨r, w', h1, h2⟩ := maskedBitsLoop_ok (v := v) (m := m) hB (min k 8 * 8) 0 v m (mkObj w.next []) []
    (w.alloc 1) (by omega) (shiftedBy_zero v) (shiftedBy_zero m) (holds_mkObj nulFree_nil)
  refine ⟨r, w', h1, ?_⟩
  have : TextExt.maskedBits v m k = (List.range' 0 (min k 8 * 8)).flatMap (maskedCell v m (min k 8 * 8)) := by
    simp only [TextExt.maskedBits, List.range_eq_range']
    rfl
  rw [this]
  simpa using h2

end SStr
