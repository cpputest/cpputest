import CppUModel.Proofs.ListLemmas
import CppUModel.Spec.MockCReporter
/-! C19, the failure reporter behind the C interface: the run through `mock_c()` / `mock_scope_c()` and the run of the C++
    program stay in `Sim` (same objects selected, the C reporter where the C++ side has the standard one, same flag, same
    failures), on the required tables, to which the regenerated ones are equal. -/
namespace MockC.Rep

theorem gen_tables : genTables = Req.tables := rfl

theorem req_mock_c : mockReporter Req.tables.calls "mock_c" = .c := by decide
theorem req_mock_scope_c : mockReporter Req.tables.calls "mock_scope_c" = .c := by decide

theorem failEvents_c (flag hf : Bool) :
    failEvents Req.tables.reps Req.tables.terms (classOf Req.tables.cCls .c) flag hf = evs flag hf .longjmp := by
  cases flag <;> cases hf <;> decide

theorem failEvents_std (flag hf : Bool) :
    failEvents Req.tables.reps Req.tables.terms (classOf Req.tables.cCls .std) flag hf = evs flag hf .exception := by
  cases flag <;> cases hf <;> decide

theorem evs_isCrash (flag hf : Bool) (a b : Exit) : (evs flag hf a).map Ev.isCrash = (evs flag hf b).map Ev.isCrash := by
  cases flag <;> cases hf <;> simp [evs, Ev.isCrash]

theorem evs_isEmpty (flag hf : Bool) (a b : Exit) : (evs flag hf a).isEmpty = (evs flag hf b).isEmpty := by
  cases flag <;> cases hf <;> simp [evs]

theorem evs_longjmp (flag hf : Bool) : ∀ e ∈ evs flag hf .longjmp, e = Ev.crash ∨ e = Ev.exit .longjmp := by
  cases flag <;> cases hf <;> simp [evs]

theorem sim_fail (c x : RWorld) (sim : Sim c x) :
    Sim (failVia Req.tables c .c) (failVia Req.tables x .std) := by
  simp only [failVia, failEvents_c, failEvents_std, flagOf]
  refine { active := sim.active, active_std := sim.active_std, cur := sim.cur, cur_std := sim.cur_std, flag := sim.flag,
           failed := ?_, crashes := ?_, c_exits := ?_ }
  · simp only [sim.flag, sim.failed, evs_isEmpty x.crashStd x.hasFailed .longjmp .exception]
  · simp only [List.map_append, sim.crashes, sim.flag, sim.failed, evs_isCrash x.crashStd x.hasFailed .longjmp .exception]
  · intro e he
    rcases List.mem_append.mp he with he | he
    · exact sim.c_exits e he
    · exact evs_longjmp _ _ e he

theorem Sim.cur_cases {c x : RWorld} (sim : Sim c x) :
    (c.cur = none ∧ x.cur = none) ∨ ∃ s, c.cur = some (s, .c) ∧ x.cur = some (s, .std) := by
  cases hx : x.cur with
  | none => exact Or.inl ⟨by rw [sim.cur, hx]; rfl, rfl⟩
  | some p =>
    obtain ⟨s, r⟩ := p
    have hp : r = .std := sim.cur_std _ hx
    subst hp
    exact Or.inr ⟨s, by rw [sim.cur, hx]; rfl, rfl⟩

theorem stepSim (c x : RWorld) (o : ROp) (sim : Sim c x) :
    Sim (stepCWith Req.tables c o) (stepXWith Req.tables x o) := by
  cases o with
  | mockGlobal | mockScope =>
    simp only [stepCWith, stepXWith, req_mock_c, req_mock_scope_c, select]
    exact { active := (by simp [sim.active]), active_std := (fun p hp => by
              rcases List.mem_cons.mp hp with hp | hp
              · rw [hp]
              · exact sim.active_std p hp),
            cur := rfl, cur_std := (fun p hp => by simp only [Option.some.injEq] at hp; rw [← hp]),
            flag := sim.flag, failed := sim.failed, crashes := sim.crashes, c_exits := sim.c_exits }
  | crashOnFailure b =>
    rcases sim.cur_cases with ⟨hc, hx⟩ | ⟨s, hc, hx⟩
    · simpa [stepCWith, stepXWith, hx, hc] using sim
    · simp only [stepCWith, stepXWith, hx, hc, setFlag]
      exact { active := sim.active, active_std := sim.active_std, cur := (by simp),
              cur_std := (fun p hp => by simp only [Option.some.injEq] at hp; rw [← hp]), flag := rfl, failed := sim.failed,
              crashes := sim.crashes, c_exits := sim.c_exits }
  | fail =>
    rcases sim.cur_cases with ⟨hc, hx⟩ | ⟨s, hc, hx⟩
    · simpa [stepCWith, stepXWith, hx, hc] using sim
    · simp only [stepCWith, stepXWith, hx, hc]
      exact sim_fail c x sim
  | failIn s =>
    have hl : c.active.lookup s = (x.active.lookup s).map (fun _ => Rk.c) := by
      rw [sim.active, ListLemmas.lookup_map_snd fun _ => Rk.c]
    cases hx : x.active.lookup s with
    | none =>
      simp only [stepCWith, stepXWith, hl, hx, Option.map_none]
      exact sim
    | some r =>
      have hr : r = Rk.std := sim.active_std _ (ListLemmas.mem_of_lookup_eq_some hx)
      subst hr
      simp only [stepCWith, stepXWith, hl, hx, Option.map_some]
      exact sim_fail c x sim
  | newTest =>
    exact { active := sim.active, active_std := sim.active_std, cur := sim.cur, cur_std := sim.cur_std, flag := sim.flag,
            failed := rfl, crashes := sim.crashes, c_exits := sim.c_exits }

theorem sim_init : Sim {} {} :=
  { active := rfl, active_std := (fun p hp => by cases hp), cur := rfl, cur_std := (fun p hp => by cases hp), flag := rfl,
    failed := rfl, crashes := rfl, c_exits := (fun e he => by cases he) }

theorem runSim : ∀ (os : List ROp) (c x : RWorld), Sim c x → Sim (runC c os) (runX x os) := by
  intro os c x sim
  unfold runC runX stepC stepX
  rw [gen_tables]
  exact List.foldl_rel (r := Sim) sim fun o _ c x sim => stepSim c x o sim

end MockC.Rep
