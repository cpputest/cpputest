import CppUModel.Proofs.OutputEvents
import CppUModel.Proofs.ListLemmas
import CppUModel.Model.TeamCity
import CppUModel.Spec.TeamCity
import CppUModel.Proofs.Digits
/-!
The regenerated branch table of `printEscaped` is the TeamCity escaping rule; each scanner of `Spec/TeamCity.lean` passes over an
escaped byte; the message view of the writer (`msgsOf`), and what the writer prints is the rendering of those messages.
-/
namespace TeamCity
open Text (Bytes)
open OutEv

theorem escByte_eq_ref (c : UInt8) : escByte c = escRef c := by
  simp [escByte, escByteAux, Gen.EscapeTables.tcBranches, Gen.EscapeTables.tcBar, escRef]

theorem printEscaped_eq_ref (s : Bytes) : printEscaped s = escapeRef s := by
  unfold printEscaped escapeRef
  congr 1
  funext c
  exact escByte_eq_ref c

theorem escapeRef_append (a b : Bytes) : escapeRef (a ++ b) = escapeRef a ++ escapeRef b := by
  simp [escapeRef]

theorem escapeRef_cons (c : UInt8) (s : Bytes) : escapeRef (c :: s) = escRef c ++ escapeRef s := by
  simp [escapeRef]

/-- the bytes the TeamCity rules escape: `' | [ ]`, CR, LF -/
def special : List UInt8 := [39, 124, 91, 93, 13, 10]

theorem not_special {c : UInt8} (h : c ∉ special) : c ≠ 39 ∧ c ≠ 124 ∧ c ≠ 91 ∧ c ≠ 93 ∧ c ≠ 13 ∧ c ≠ 10 := by
  simpa [special] using h

/-- an escaped byte is `|` and a byte that stands for it under a valid escape, or the byte itself when it needs none -/
theorem escRef_shape (c : UInt8) :
    (c ∈ special ∧ ∃ x, escRef c = [124, x] ∧ unescByte x = c ∧ validEsc x = true) ∨ (c ∉ special ∧ escRef c = [c]) := by
  by_cases h : c ∈ special
  · refine .inl ⟨h, ?_⟩
    simp only [special, List.mem_cons, List.not_mem_nil, or_false] at h
    rcases h with rfl | rfl | rfl | rfl | rfl | rfl <;> exact ⟨_, rfl, rfl, rfl⟩
  · exact .inr ⟨h, by simp [escRef, not_special h]⟩

theorem decodeAux_escRef (c : UInt8) (rest : Bytes) :
    decodeAux false (escRef c ++ rest) = c :: decodeAux false rest := by
  rcases escRef_shape c with ⟨_, x, e, hx, _⟩ | ⟨hs, e⟩
  · rw [e]; simp [decodeAux, hx]
  · rw [e]; simp [decodeAux, not_special hs]

theorem decodeAux_escapeRef (s rest : Bytes) :
    decodeAux false (escapeRef s ++ rest) = s ++ decodeAux false rest := by
  rw [escapeRef, ListLemmas.flatMap_scan escRef (decodeAux false) List.cons decodeAux_escRef]
  simp

theorem oddRunOk_escRef (c : UInt8) (rest : Bytes) :
    oddRunOk false (escRef c ++ rest) = oddRunOk false rest := by
  rcases escRef_shape c with ⟨_, x, e, _, _⟩ | ⟨hs, e⟩
  · -- after one `|` any byte is accepted and ends the run
    rw [e]; simp [oddRunOk]
  · rw [e]; simp [oddRunOk, not_special hs]

theorem oddRunOk_escapeRef (s rest : Bytes) :
    oddRunOk false (escapeRef s ++ rest) = oddRunOk false rest :=
  -- a scanner that keeps nothing of what it has read
  ListLemmas.flatMap_scan_acc escRef (fun x _ => oddRunOk false x) (fun c rest _ => oddRunOk_escRef c rest) s rest []

/-- parity of the run of `|` at the end of `pre`, started with parity `odd` -/
def parityAfter : Bool → Bytes → Bool
  | odd, [] => odd
  | odd, c :: rest => if c = 124 then parityAfter (!odd) rest else parityAfter false rest

theorem parityAfter_snoc (pre : Bytes) (c : UInt8) : ∀ odd,
    parityAfter odd (pre ++ [c]) = if c = 124 then !(parityAfter odd pre) else false := by
  induction pre with
  | nil => intro odd; simp [parityAfter]
  | cons d pre ih =>
    intro odd
    simp only [List.cons_append, parityAfter]
    split <;> exact ih _

theorem trailingBars_snoc (pre : Bytes) (c : UInt8) :
    trailingBars (pre ++ [c]) = if c = 124 then trailingBars pre + 1 else 0 := by
  unfold trailingBars
  by_cases h : c = 124 <;> simp [h]

theorem parityAfter_eq_trailing (pre : Bytes) :
    parityAfter false pre = decide (trailingBars pre % 2 = 1) := by
  induction pre using ListLemmas.rev_induction with
  | hnil => simp [parityAfter, trailingBars]
  | hsnoc pre c ih =>
    rw [parityAfter_snoc, trailingBars_snoc, ih]
    by_cases h : c = 124
    · simp only [h, if_true]
      by_cases h2 : trailingBars pre % 2 = 1 <;> (simp [h2]; omega)
    · simp [h]

theorem oddRunOk_split (pre post : Bytes) (c : UInt8) (hc : c = 39 ∨ c = 93) : ∀ odd,
    oddRunOk odd (pre ++ c :: post) = true → parityAfter odd pre = true := by
  induction pre with
  | nil =>
    intro odd h
    have hb : c ≠ 124 := by rcases hc with h | h <;> subst h <;> decide
    simp only [List.nil_append, oddRunOk, hb, if_false, hc, if_true, Bool.and_eq_true] at h
    simpa [parityAfter] using h.1
  | cons d pre ih =>
    intro odd h
    simp only [List.cons_append, oddRunOk] at h
    simp only [parityAfter]
    split
    · rename_i hd; simp only [hd, if_true] at h; exact ih _ h
    · rename_i hd
      simp only [hd, if_false] at h
      split at h
      · simp only [Bool.and_eq_true] at h; exact ih _ h.2
      · exact ih _ h

theorem scanValue_escRef (c : UInt8) (rest acc : Bytes) :
    scanValue false (escRef c ++ rest) acc = scanValue false rest (c :: acc) := by
  rcases escRef_shape c with ⟨_, x, e, hx, hv⟩ | ⟨hs, e⟩
  · rw [e]; simp [scanValue, hx, hv]
  · rw [e]; simp [scanValue, not_special hs]

theorem scanValue_escapeRef (v rest acc : Bytes) :
    scanValue false (escapeRef v ++ 39 :: rest) acc = some (acc.reverse ++ v, rest) := by
  rw [escapeRef, ListLemmas.flatMap_scan_acc escRef (scanValue false) scanValue_escRef]
  simp [scanValue]

def plain (s : Bytes) : Prop := ∀ c ∈ s, c ≠ 39 ∧ c ≠ 124 ∧ c ≠ 91 ∧ c ≠ 93 ∧ c ≠ 13 ∧ c ≠ 10

instance (s : Bytes) : Decidable (plain s) := by unfold plain; infer_instance

theorem plain_iff (s : Bytes) : plain s ↔ ∀ c ∈ s, c ∉ special := by
  simp [plain, special]

theorem escapeRef_plain (s : Bytes) (h : plain s) : escapeRef s = s :=
  ListLemmas.flatMap_self_of_forall s _ fun c hc =>
    (escRef_shape c).elim (fun hs => absurd hs.1 ((plain_iff s).1 h c hc)) (·.2)

theorem dec_plain (n : Nat) : plain (dec n) := dec_forall _ (by decide) n

theorem escapeRef_dec (n : Nat) : escapeRef (dec n) = dec n := escapeRef_plain _ (dec_plain n)

theorem step_eq_hand (s : St) (e : Ev) : step s e = stepHand s e := by
  cases e with
  | testRun i n =>
    by_cases h : n > 1 <;>
      simp [step, stepHand, exec, Gen.TeamCityWriters.printTestRun, condHolds, condAtomHolds, atomsOut, atomOut, numVal,
        testRunOut, h]
  | testsStarted => rfl
  | groupStarted t =>
    simp [step, stepHand, exec, Gen.TeamCityWriters.printCurrentGroupStarted, atomOut, fieldVal, groupStartedOut]
  | testStarted t =>
    cases hw : t.willRun <;>
      simp [step, stepHand, exec, Gen.TeamCityWriters.printCurrentTestStarted, condHolds, condAtomHolds, atomsOut, atomOut,
        fieldVal, testStartedOut, hw]
  | print text => rfl
  | failure f =>
    by_cases hc : (f.isOutsideTestFile || f.isInHelperFunction) = true
    · simp only [Bool.or_eq_true] at hc
      simp [step, stepHand, exec, Gen.TeamCityWriters.printFailure, condHolds, condAtomHolds, atomsOut, atomOut, fieldVal, numVal,
        failureOut, failurePrefix, hc]
    · simp only [Bool.or_eq_true, not_or, Bool.not_eq_true] at hc
      simp [step, stepHand, exec, Gen.TeamCityWriters.printFailure, condHolds, condAtomHolds, atomOut, fieldVal, numVal,
        failureOut, failurePrefix, hc.1, hc.2]
  | veryVerbose text => rfl
  | testEnded ms c =>
    cases hc : s.currTest <;>
      simp [step, stepHand, exec, Gen.TeamCityWriters.printCurrentTestEnded, guardHolds, atomOut, fieldVal, numVal, testEndedOut, hc]
  | groupEnded ms =>
    by_cases hg : s.currGroup = [] <;>
      simp [step, stepHand, exec, Gen.TeamCityWriters.printCurrentGroupEnded, guardHolds, atomOut, fieldVal, groupEndedOut, hg]
  | testsEnded sm => rfl

/-- the decoded `message` value of a `testFailed` message: optional test location, failure location -/
def failureLocation (f : Failure) : Bytes :=
  (if f.isOutsideTestFile || f.isInHelperFunction then
     lit "TEST failed (" ++ f.testFile ++ lit ":" ++ dec f.testLine ++ lit "): " else []) ++
  f.file ++ lit ":" ++ dec f.line

/-- what the writer says for one event, as messages with their ORIGINAL (unescaped) values -/
def msgsOf (s : St) : Ev → List Msg
  | .testRun i n => if n > 1 then [.text (testRunOut i n)] else []
  | .testsStarted => []
  | .groupStarted t => [.suiteStarted t.group]
  | .testStarted t => .testStarted t.name :: (if !t.willRun then [.testIgnored t.name] else [])
  | .print text => [.text text]
  | .failure f => [.testFailed f.testName (failureLocation f) f.message]
  | .veryVerbose text => if s.veryVerbose then [.text text] else []
  | .testEnded ms _ =>
    match s.currTest with
    | none => []
    | some n => [.testFinished n ms]
  | .groupEnded _ => if s.currGroup == [] then [] else [.suiteFinished s.currGroup]
  | .testsEnded sm => [.text (summaryOut sm)]

def msgStep (s : St) (e : Ev) : St × List Msg := ((step s e).1, msgsOf s e)

def messagesV (vv : Bool) (evs : List Ev) : List Msg := (foldEvents msgStep { veryVerbose := vv } evs).2

def messages (evs : List Ev) : List Msg := messagesV false evs

theorem escapeRef_lit_plain (x : String) (h : plain (lit x)) : escapeRef (lit x) = lit x :=
  escapeRef_plain _ h

theorem escape_failureLocation (f : Failure) :
    escapeRef (failureLocation f) = failurePrefix f ++ printEscaped f.file ++ lit ":" ++ dec f.line := by
  have h1 : escapeRef (lit "TEST failed (") = lit "TEST failed (" := escapeRef_plain _ (by decide +kernel)
  have h2 : escapeRef (lit ":") = lit ":" := escapeRef_plain _ (by decide +kernel)
  have h3 : escapeRef (lit "): ") = lit "): " := escapeRef_plain _ (by decide +kernel)
  unfold failureLocation failurePrefix
  split <;> simp only [escapeRef_append, h1, h2, h3, escapeRef_dec, printEscaped_eq_ref, List.nil_append]

/-! ## what the writer prints is the rendering of those messages

`Msg.render` builds a message from many small literals, the writer prints a few long ones.  Literals are compared as
strings (`lit_append` moves `++` inside `lit`, where `String.reduceAppend` joins them): evaluating `lit` itself on a
literal is slow in the kernel. -/

theorem attr_eq (k : String) (v : Bytes) : attr k v = lit (" " ++ k ++ "='") ++ (escapeRef v ++ lit "'") := by
  have h1 : lit " " = [32] := by decide
  have h2 : lit "='" = [61, 39] := by decide
  have h3 : lit "'" = [39] := by decide
  simp only [attr, lit_append, h1, h2, h3, List.append_assoc]

theorem message_eq (nm : String) (as : Bytes) : message nm as = lit ("##teamcity[" ++ nm) ++ (as ++ lit "]\n") := by
  simp only [message, lit_append, List.append_assoc]

theorem renderAll_nil : renderAll [] = [] := rfl
theorem renderAll_cons (m : Msg) (ms : List Msg) : renderAll (m :: ms) = m.render ++ renderAll ms := rfl
theorem renderAll_singleton (m : Msg) : renderAll [m] = m.render := List.append_nil _

theorem groupStartedOut_eq (g : Bytes) : groupStartedOut g = (Msg.suiteStarted g).render := by
  simp only [groupStartedOut, Msg.render, message_eq, attr_eq, printEscaped_eq_ref, List.append_assoc, lit_append_append,
    ← lit_append, String.reduceAppend]

theorem groupEndedOut_eq (g : Bytes) : groupEndedOut g = renderAll (if g == [] then [] else [.suiteFinished g]) := by
  unfold groupEndedOut
  split
  · rfl
  · simp only [renderAll_singleton, Msg.render, message_eq, attr_eq, printEscaped_eq_ref, List.append_assoc, lit_append_append,
      ← lit_append, String.reduceAppend]

theorem testStartedOut_eq (t : TestInfo) :
    testStartedOut t = renderAll (.testStarted t.name :: (if !t.willRun then [.testIgnored t.name] else [])) := by
  unfold testStartedOut
  cases t.willRun <;>
    simp only [renderAll_cons, renderAll_nil, Bool.not_false, Bool.not_true, if_true, Bool.false_eq_true, if_false, Msg.render,
      message_eq, attr_eq, printEscaped_eq_ref, List.append_assoc, List.append_nil, lit_append_append, ← lit_append,
      String.reduceAppend]

theorem testEndedOut_eq (n : Bytes) (ms : Nat) : testEndedOut (some n) ms = (Msg.testFinished n ms).render := by
  simp only [testEndedOut, Msg.render, message_eq, attr_eq, printEscaped_eq_ref, escapeRef_dec, List.append_assoc,
    lit_append_append, ← lit_append, String.reduceAppend]

theorem failureOut_eq (f : Failure) : failureOut f = (Msg.testFailed f.testName (failureLocation f) f.message).render := by
  simp only [failureOut, Msg.render, message_eq, attr_eq, escape_failureLocation, printEscaped_eq_ref, List.append_assoc,
    lit_append_append, ← lit_append, String.reduceAppend]

theorem step_renders (s : St) (e : Ev) : (step s e).2 = renderAll (msgsOf s e) := by
  rw [step_eq_hand]
  cases e with
  | testRun i n =>
    show testRunOut i n = renderAll (if n > 1 then [.text (testRunOut i n)] else [])
    by_cases h : n > 1
    · rw [if_pos h]; exact (renderAll_singleton (.text _)).symm
    · rw [if_neg h, testRunOut, if_neg h]; rfl
  | testsStarted => rfl
  | groupStarted t => exact (groupStartedOut_eq t.group).trans (renderAll_singleton _).symm
  | testStarted t => exact testStartedOut_eq t
  | print text => exact (renderAll_singleton (.text text)).symm
  | veryVerbose text =>
    show (if s.veryVerbose then text else []) = renderAll (if s.veryVerbose then [.text text] else [])
    cases s.veryVerbose
    · rfl
    · exact (renderAll_singleton (.text text)).symm
  | failure f => exact (failureOut_eq f).trans (renderAll_singleton _).symm
  | testEnded ms c =>
    show testEndedOut s.currTest ms = renderAll (match s.currTest with | none => [] | some n => [.testFinished n ms])
    cases s.currTest with
    | none => rfl
    | some n => exact (testEndedOut_eq n ms).trans (renderAll_singleton _).symm
  | groupEnded ms => exact groupEndedOut_eq s.currGroup
  | testsEnded sm => exact (renderAll_singleton (.text (summaryOut sm))).symm

theorem fold_renders (evs : List Ev) (s : St) :
    foldEvents step s evs = ((foldEvents msgStep s evs).1, renderAll (foldEvents msgStep s evs).2) :=
  foldEvents_sim id renderAll rfl (fun _ _ => List.flatMap_append)
    (fun s e => Prod.ext rfl (step_renders s e)) evs s

end TeamCity
