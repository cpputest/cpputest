import CppUModel.Proofs.Mock
import CppUModel.Proofs.MockIop
/-! Runs of calls (C08).  A fulfilled call hands the hypotheses on; the verdict of the code is the verdict of the specification,
    the expectation list the calls leave is what the fold of `consume` leaves, and with the counting of `Proofs/MockIop.lean`
    that gives the two verdicts of a run. -/
namespace Mock

theorem Ready.step {es : List Exp} {c : Call} {k : Nat} {buf : List UInt8} (h : Ready es) (hwf : WFCall c)
    (hok : (callFull es k c.name c.segs buf).fail = none) :
    es.any (wants c) = true ∧ Ready (callFull es k c.name c.segs buf).es ∧
      (callFull es k c.name c.segs buf).es.map Exp.norm = modifyFirst (wants c) (fun e => e.bump k) (es.map Exp.norm) := by
  have hW := (callFull_fail_none_iff k buf h hwf).mp hok
  have hn := (callFull_consumes k buf h hwf hW).norm
  have hn' := hn.trans (consume_norm c k es)
  exact ⟨hW, ⟨callFull_clean _ _ _ _ _ h.clean hok, (static_list_iff UnambiguousI unambiguousI_map_norm hn').mpr (unambiguous_bumpI h.unamb),
    (static_list_iff (fun l => ∀ e ∈ l, WFExp e) wfexp_map_norm hn').mpr (wfexp_bump h.wfe)⟩, hn⟩

/-- An equation in `Option`, so success and failure alike: the first call that reports a failure is the first for which
    `consume` fails. -/
theorem afterCalls_eq : ∀ (calls : List Call) (es : List Exp) (k : Nat), Ready es → (∀ c ∈ calls, WFCall c) →
    (afterCalls es k calls).map (List.map Exp.norm) = consumeAll (es.map Exp.norm) k calls
  | [], _, _, _, _ => rfl
  | c :: rest, es, k, h, hwfc => by
    have hwf := hwfc c (by simp)
    simp only [afterCalls, consumeAll, consume, any_wants_norm]
    cases hfail : (callFull es (k + 1) c.name c.segs bufInit).fail with
    | some m =>
      have : es.any (wants c) = false := Bool.eq_false_iff.mpr (fun hW => by
        rw [(callFull_fail_none_iff (k + 1) bufInit h hwf).mpr hW] at hfail; cases hfail)
      rw [this]; rfl
    | none =>
      obtain ⟨hW, hr, hn⟩ := h.step hwf hfail
      rw [hW, if_pos rfl, ← hn]
      exact afterCalls_eq rest _ (k + 1) hr (fun c' hc' => hwfc c' (by simp [hc']))

theorem run_eq_specRun : ∀ (calls : List Call) (es : List Exp) (k : Nat),
    Ready es → (∀ c ∈ calls, WFCall c) → run es k calls = specRun (es.map Exp.norm) k calls
  | [], es, k, _, _ => (endCheck_norm es).symm
  | c :: rest, es, k, h, hwfc => by
    have hwf := hwfc c (by simp)
    simp only [run, specRun]
    rw [diagnose_norm, ← callFull_diagnoseI (k + 1) bufInit h hwf]
    cases hfail : (callFull es (k + 1) c.name c.segs bufInit).fail with
    | some m => rfl
    | none =>
      obtain ⟨_, hr, hn⟩ := h.step hwf hfail
      rw [← hn]
      exact run_eq_specRun rest _ (k + 1) hr (fun c' hc' => hwfc c' (by simp [hc']))

theorem run_refinesI (calls : List Call) (es : List Exp) (k : Nat) (h : Ready es) (hwfc : ∀ c ∈ calls, WFCall c) :
    (∀ es', consumeAll (es.map Exp.norm) k calls = some es' → run es k calls = endCheck es') ∧
    (consumeAll (es.map Exp.norm) k calls = none → run es k calls ≠ none) := by
  rw [run_eq_specRun calls es k h hwfc]
  exact specRun_of_consumeAll calls _ k

theorem run_none_iff {es : List Exp} {k : Nat} {calls : List Call} (h : Ready es) (hwfc : ∀ c ∈ calls, WFCall c) :
    run es k calls = none ↔ ∃ N', consumeAll es k calls = some N' ∧ endCheck N' = none := by
  obtain ⟨h1, h2⟩ := run_refinesI calls es k h hwfc
  rw [consumeAll_map_norm] at h1 h2
  cases hc : consumeAll es k calls with
  | none => exact ⟨fun hr => absurd hr (h2 (by rw [hc]; rfl)), fun ⟨_, h', _⟩ => by cases h'⟩
  | some N' =>
    rw [h1 _ (by rw [hc]; rfl), endCheck_norm]
    exact ⟨fun he => ⟨N', rfl, he⟩, fun ⟨_, h', he⟩ => by cases h'; exact he⟩

theorem run_none_iff_multisetEqI (es : List Exp) (k : Nat) (calls : List Call)
    (hclean : Clean es) (hun : UnambiguousI es) (hwfe : ∀ e ∈ es, WFExp e) (hwfc : ∀ c ∈ calls, WFCall c)
    (hcap : ∀ e ∈ es, e.actual ≤ e.expected) (hno : NoOrder es) :
    run es k calls = none ↔ MultisetEqI es calls := by
  rw [run_none_iff ⟨hclean, hun, hwfe⟩ hwfc, ← consumeAll_full_iffI calls es k hun hwfe hcap]
  constructor
  · rintro ⟨N', hc, he⟩
    exact ⟨N', hc, ((endCheck_none_iff N').mp he).1⟩
  · rintro ⟨N', hc, hall⟩
    exact ⟨N', hc, (endCheck_none_iff N').mpr ⟨hall, fun x hx => (noOrder_consumeAll calls es k N' hno hc x hx).2⟩⟩

theorem run_none_iff_seqEq (es : List Exp) (k : Nat) (calls : List Call)
    (hclean : Clean es) (hun : UnambiguousI es) (hwfe : ∀ e ∈ es, WFExp e) (hwfc : ∀ c ∈ calls, WFCall c)
    (hw : windowsFrom k es) : run es k calls = none ↔ SeqEq es calls := by
  rw [run_none_iff ⟨hclean, hun, hwfe⟩ hwfc]
  exact strict_core calls es k (inOrder_of_windows es k hw)

end Mock
