import CppUModel.Spec.Asserts
import CppUModel.Proofs.BitVecLemmas
/-! Helper lemmas for the C03 theorems: C integer conversions on `BitVec.ofInt`, promotion and
    usual arithmetic conversions, `& 0xff`, `memCmp`. -/
namespace Asserts
open Text

theorem valueAt_true {n : Nat} (x : BitVec n) : valueAt true x = x.toInt := rfl

theorem valueAt_false {n : Nat} (x : BitVec n) : valueAt false x = (x.toNat : Int) := rfl

theorem conv_eq_iff (n : Nat) (a b : Int) :
    conv n a = conv n b ↔ a % (2 : Int) ^ n = b % (2 : Int) ^ n := by
  unfold conv
  rw [← BitVec.toNat_inj, BitVec.toNat_ofInt, BitVec.toNat_ofInt, BitVecLemmas.natCast_two_pow]
  constructor
  · intro h; omega
  · intro h; rw [h]

theorem conv_toInt_of_inRange (n : Nat) (hn : 0 < n) (v : Int)
    (h : -(2 : Int) ^ (n - 1) ≤ v ∧ v < (2 : Int) ^ (n - 1)) : (conv n v).toInt = v := by
  unfold conv
  rw [BitVec.toInt_ofInt]
  have h2 : (2 : Int) ^ n = 2 * (2 : Int) ^ (n - 1) := by
    have : n = (n - 1) + 1 := by omega
    rw [this, Int.pow_succ]; simp; omega
  apply Int.bmod_eq_of_le
  · rw [BitVecLemmas.natCast_two_pow, h2]; omega
  · rw [BitVecLemmas.natCast_two_pow, h2]; omega

theorem conv_toNat_of_inRange (n : Nat) (v : Int)
    (h : 0 ≤ v ∧ v < (2 : Int) ^ n) : ((conv n v).toNat : Int) = v := by
  unfold conv
  rw [BitVec.toNat_ofInt, BitVecLemmas.natCast_two_pow, Int.emod_eq_of_lt h.1 h.2]
  omega

theorem asType_of_inRange (t : CTy) (ht : 0 < t.w) (v : Int) (h : InRange t v) : asType t v = v := by
  unfold asType valueAt
  unfold InRange at h
  split
  · next hs => simp [hs] at h; exact conv_toInt_of_inRange t.w ht v h
  · next hs => simp [hs] at h; exact conv_toNat_of_inRange t.w v h

theorem asType_eq_iff (t : CTy) (a b : Int) : asType t a = asType t b ↔ conv t.w a = conv t.w b := by
  unfold asType valueAt
  split
  · exact BitVec.toInt_inj
  · rw [← BitVec.toNat_inj]; omega

/-- a verdict stated on the converted operands is, on values the parameter type represents, the verdict on the values -/
theorem iff_ne_of_inRange {t : CTy} (ht : 0 < t.w) {P : Prop} {e a : Int} (h : P ↔ asType t e ≠ asType t a)
    (he : InRange t e) (ha : InRange t a) : P ↔ e ≠ a := by
  rw [h, asType_of_inRange t ht e he, asType_of_inRange t ht a ha]

/-! ## promotion / common type -/

theorem promote_w_ge (t : CTy) : 32 ≤ (promote t).w := by
  unfold promote tyInt; split
  · simp
  · simp at *; omega

theorem le_promote_w (t : CTy) : t.w ≤ (promote t).w := by
  unfold promote; split
  · exact Nat.le_of_lt ‹_›
  · exact Nat.le_refl _

theorem common_w_ge (t u : CTy) : 32 ≤ (common t u).w := by
  unfold common commonPromoted
  have h1 := promote_w_ge t; have h2 := promote_w_ge u
  -- every branch takes its width from one of the two promoted types
  split
  · exact Nat.le_trans h1 (Nat.le_max_left _ _)
  · split <;> split <;> assumption

theorem andLit_255_val (x : CInt) : (andLit x 255).val = x.val % 256 := by
  have hw := common_w_ge x.ty tyInt
  unfold andLit
  generalize (common x.ty tyInt).w = W at hw
  generalize (common x.ty tyInt).signed = s
  have hp : 2 ^ 9 ≤ 2 ^ W := Nat.pow_le_pow_right (by decide) (by omega)
  -- `& 0xff` keeps the pattern modulo 2^8, the pattern is the value modulo 2^W, and 2^8 divides 2^W
  have hm : (conv W x.val &&& BitVec.ofNat W 255).toNat = (conv W x.val).toNat % 2 ^ 8 := by
    rw [BitVec.toNat_and, BitVec.toNat_ofNat, Nat.mod_eq_of_lt (by omega)]
    exact Nat.and_two_pow_sub_one_eq_mod _ 8
  have hlt : 2 * (conv W x.val &&& BitVec.ofNat W 255).toNat < 2 ^ W := by omega
  have hc : ((conv W x.val).toNat : Int) = x.val % 2 ^ W := by
    unfold conv
    rw [BitVec.toNat_ofInt, BitVecLemmas.natCast_two_pow]
    exact Int.toNat_of_nonneg (Int.emod_nonneg _ (Int.ne_of_gt (Int.pow_pos (by decide))))
  have hd : x.val % 2 ^ W % 256 = x.val % 256 :=
    Int.emod_emod_of_dvd _ ⟨2 ^ (W - 8), by rw [show (256 : Int) = 2 ^ 8 from rfl, ← Int.pow_add]; congr 1; omega⟩
  have hv : ((conv W x.val &&& BitVec.ofNat W 255).toNat : Int) = x.val % 256 := by
    rw [hm, Int.natCast_emod, hc]; exact hd
  cases s
  · exact hv
  · -- below 2^(W-1) the signed reading of a pattern is the unsigned one
    rw [valueAt_true, BitVec.toInt_eq_toNat_of_lt hlt]; exact hv

theorem memCmp_eq_zero_iff : ∀ (n : Nat) (a b : Bytes), n ≤ a.length → n ≤ b.length →
    (memCmp n a b = 0 ↔ a.take n = b.take n)
  | 0, _, _, _, _ => by simp [memCmp]
  | n + 1, [], _, ha, _ => by simp at ha
  | n + 1, _ :: _, [], _, hb => by simp at hb
  | n + 1, x :: xs, y :: ys, ha, hb => by
    unfold memCmp
    split
    · next h =>
      have h2 : x.toNat ≠ y.toNat := fun e => h (UInt8.toNat_inj.mp e)
      simp [h]; omega
    · next h =>
      have h' : x = y := by simpa using h
      subst h'
      have ih := memCmp_eq_zero_iff n xs ys (by simpa using ha) (by simpa using hb)
      simp [ih]

/-! ## usual arithmetic conversions keep representable values -/

def mbits (t : CTy) : Nat := if t.signed then t.w - 1 else t.w

theorem inRange_mono {t u : CTy} {v : Int} (hv : InRange t v) (h : mbits t ≤ mbits u) (h0 : u.signed = false → 0 ≤ v) :
    InRange u v := by
  obtain ⟨w, s⟩ := t
  obtain ⟨w', s'⟩ := u
  have := BitVecLemmas.pow_mono_int h
  cases s <;> cases s' <;> simp [InRange, mbits] at hv this h0 ⊢ <;> omega

theorem inRange_nonneg {w : Nat} {v : Int} (hv : InRange ⟨w, false⟩ v) : 0 ≤ v := hv.1

theorem inRange_promote (t : CTy) (v : Int) (hv : InRange t v) : InRange (promote t) v := by
  unfold promote
  split
  · next h =>
    obtain ⟨w, s⟩ := t
    exact inRange_mono hv (by cases s <;> simp [mbits, tyInt] at h ⊢ <;> omega) nofun
  · exact hv

/-- after the usual arithmetic conversions both operands still have their mathematical values
    when the promoted types have the same signedness, or when both values are non-negative -/
theorem inRange_commonPromoted (t u : CTy) (x y : Int) (hx : InRange t x) (hy : InRange u y)
    (h : t.signed = u.signed ∨ (0 ≤ x ∧ 0 ≤ y)) :
    InRange (commonPromoted t u) x ∧ InRange (commonPromoted t u) y := by
  obtain ⟨wt, st⟩ := t
  obtain ⟨wu, su⟩ := u
  unfold commonPromoted
  -- each cell: evaluate the tests on the two signednesses, then the monotonicity lemma of that cell
  cases st <;> cases su
  · -- both unsigned
    rw [if_pos rfl]
    exact ⟨inRange_mono hx (Nat.le_max_left _ _) fun _ => inRange_nonneg hx,
      inRange_mono hy (Nat.le_max_right _ _) fun _ => inRange_nonneg hy⟩
  · -- t unsigned, u signed
    have h0 := h.resolve_left nofun
    rw [if_neg nofun, if_neg nofun]
    split
    · next hw => exact ⟨hx, inRange_mono hy (by simp [mbits] at hw ⊢; omega) fun _ => h0.2⟩
    · next hw => exact ⟨inRange_mono hx (by simp [mbits] at hw ⊢; omega) nofun, hy⟩
  · -- t signed, u unsigned
    have h0 := h.resolve_left nofun
    rw [if_neg nofun, if_pos rfl]
    split
    · next hw => exact ⟨inRange_mono hx (by simp [mbits] at hw ⊢; omega) fun _ => h0.1, hy⟩
    · next hw => exact ⟨hx, inRange_mono hy (by simp [mbits] at hw ⊢; omega) nofun⟩
  · -- both signed
    rw [if_pos rfl]
    exact ⟨inRange_mono hx (by simp [mbits]; omega) nofun, inRange_mono hy (by simp [mbits]; omega) nofun⟩

theorem inRange_common (e a : CInt) (he : InRange e.ty e.val) (ha : InRange a.ty a.val)
    (h : (promote e.ty).signed = (promote a.ty).signed ∨ (0 ≤ e.val ∧ 0 ≤ a.val)) :
    InRange (common e.ty a.ty) e.val ∧ InRange (common e.ty a.ty) a.val :=
  inRange_commonPromoted (promote e.ty) (promote a.ty) e.val a.val
    (inRange_promote _ _ he) (inRange_promote _ _ ha) h

/-! ## values of bit patterns: the bridge between the typed (`BitVec`) regenerated macro expansions and the model's
    mathematical operands.  Converting the value read from a pattern is sign extension (signed operand) or zero
    extension / truncation (unsigned operand) of the pattern; the generator leaves a conversion to the operand's own
    width out.  `cvt` is that conversion as a function of the operand type, `conv_valueAt` the bridge in one equation. -/

theorem signExtend_bne_iff {w v : Nat} (h : w ≤ v) (x y : BitVec w) :
    (x.signExtend v != y.signExtend v) = (x != y) :=
  BitVecLemmas.signExtend_bne h x y

theorem setWidth_bne_iff {w v : Nat} (h : w ≤ v) (x y : BitVec w) :
    (x.setWidth v != y.setWidth v) = (x != y) :=
  BitVecLemmas.setWidth_bne h x y

theorem conv_toInt {w : Nat} (n : Nat) (x : BitVec w) : conv n x.toInt = x.signExtend n := rfl

theorem conv_toNat {w : Nat} (n : Nat) (x : BitVec w) : conv n (x.toNat : Int) = x.setWidth n := by
  unfold conv
  rw [BitVec.ofInt_natCast]
  exact BitVec.ofNat_toNat n x

theorem conv_zero (n : Nat) : conv n 0 = 0#n := by simp [conv]

/-- the conversion of an operand of type `⟨w, s⟩` to `n` bits as the typed AST shows it: none to the operand's own width,
    sign extension of a signed operand, zero extension / truncation of an unsigned one -/
def cvt (s : Bool) (n : Nat) {w : Nat} (x : BitVec w) : BitVec n :=
  if h : w = n then x.cast h else if s then x.signExtend n else x.setWidth n

theorem conv_valueAt (s : Bool) (n : Nat) {w : Nat} (x : BitVec w) : conv n (valueAt s x) = cvt s n x := by
  unfold cvt
  split
  · next h =>
    subst h
    cases s
    · rw [valueAt_false, conv_toNat, BitVec.setWidth_eq]; rfl
    · rw [valueAt_true, conv_toInt, BitVec.signExtend_eq]; rfl
  · cases s
    · exact conv_toNat n x
    · rfl

theorem cvt_bne (s : Bool) {w n : Nat} (h : w ≤ n) (x y : BitVec w) : (cvt s n x != cvt s n y) = (x != y) := by
  unfold cvt
  split
  · next hw => subst hw; rfl
  · cases s
    · exact setWidth_bne_iff h x y
    · exact signExtend_bne_iff h x y

theorem valueAt_inj (s : Bool) {n : Nat} (x y : BitVec n) : valueAt s x = valueAt s y ↔ x = y := by
  cases s
  · exact Int.ofNat_inj.trans BitVec.toNat_inj
  · exact BitVec.toInt_inj

theorem inRange_valueAt (w : Nat) (hw : 0 < w) (s : Bool) (x : BitVec w) : InRange ⟨w, s⟩ (valueAt s x) := by
  cases s
  · simp only [InRange, valueAt]
    have := x.isLt
    constructor
    · exact Int.natCast_nonneg _
    · have h : ((x.toNat : Nat) : Int) < ((2 ^ w : Nat) : Int) := Int.ofNat_lt.mpr this
      rwa [BitVecLemmas.natCast_two_pow] at h
  · simp only [InRange, valueAt]
    have h1 := @BitVec.le_toInt w x
    have h2 := @BitVec.toInt_lt w x
    have e1 : ((2 ^ (w - 1) : Nat) : Int) = (2 : Int) ^ (w - 1) := BitVecLemmas.natCast_two_pow _
    constructor
    · simpa [e1] using h1
    · simpa [e1] using h2

theorem valueAt_bne_zero (s : Bool) {n : Nat} (x : BitVec n) : (valueAt s x != 0) = (x != 0#n) := by
  have h0 : valueAt s (0#n) = 0 := by cases s <;> simp [valueAt]
  rw [← h0]
  exact BitVecLemmas.bne_of_injective _ (valueAt_inj s) x 0#n

theorem holds_lt_s {n : Nat} (x y : BitVec n) : RelOp.holds .lt x.toInt y.toInt = BitVec.slt x y := rfl
theorem holds_le_s {n : Nat} (x y : BitVec n) : RelOp.holds .le x.toInt y.toInt = BitVec.sle x y := rfl
theorem holds_gt_s {n : Nat} (x y : BitVec n) : RelOp.holds .gt x.toInt y.toInt = BitVec.slt y x := rfl
theorem holds_ge_s {n : Nat} (x y : BitVec n) : RelOp.holds .ge x.toInt y.toInt = BitVec.sle y x := rfl

theorem holds_eq (s : Bool) {n : Nat} (x y : BitVec n) : RelOp.holds .eq (valueAt s x) (valueAt s y) = (x == y) := by
  by_cases h : x = y <;> simp [RelOp.holds, h, valueAt_inj]

theorem holds_ne (s : Bool) {n : Nat} (x y : BitVec n) : RelOp.holds .ne (valueAt s x) (valueAt s y) = (x != y) := by
  by_cases h : x = y <;> simp [RelOp.holds, h, valueAt_inj]

/-- a C++ comparison operator on two patterns read at one type -/
def bvRel {n : Nat} : RelOp → Bool → BitVec n → BitVec n → Bool
  | .lt, true, x, y => BitVec.slt x y
  | .lt, false, x, y => BitVec.ult x y
  | .le, true, x, y => BitVec.sle x y
  | .le, false, x, y => BitVec.ule x y
  | .gt, true, x, y => BitVec.slt y x
  | .gt, false, x, y => BitVec.ult y x
  | .ge, true, x, y => BitVec.sle y x
  | .ge, false, x, y => BitVec.ule y x
  | .eq, _, x, y => x == y
  | .ne, _, x, y => x != y

theorem holds_valueAt (op : RelOp) (s : Bool) {n : Nat} (x y : BitVec n) :
    op.holds (valueAt s x) (valueAt s y) = bvRel op s x y := by
  cases s
  · cases op
    case eq => exact holds_eq _ x y
    case ne => exact holds_ne _ x y
    all_goals simp [RelOp.holds, valueAt, bvRel, BitVec.ult, BitVec.ule]
  · cases op
    case eq => exact holds_eq _ x y
    case ne => exact holds_ne _ x y
    -- `BitVec.slt` / `BitVec.sle` are the comparisons of `toInt` by definition
    all_goals rfl

theorem seqO_nothing_left (x : Outcome) : seqO nothing x = x := by
  cases x; simp [seqO, nothing]

end Asserts
