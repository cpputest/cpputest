import CppUModel.Proofs.ThreadSafe
/-! C10 helper lemmas: the table and the threads' holdings walked along a schedule (the accounting of a whole
schedule, `sched_conservation`), and the ownership discipline of a schedule refines the detector run. -/
namespace ThreadSafe

theorem moving_step_conservation (m : List (Nat × Kind × Nat)) (t : Nat) (op : TOp)
    (h : ∀ id k, op = .take id k → (id, k, t) ∈ m) (x : Nat × Kind) :
    List.count x ((movingStep m t op).map pr) + List.count x (takenOf op) =
      List.count x (m.map pr) + List.count x (givenOf op) := by
  cases op with
  | det d => simp [movingStep, takenOf, givenOf]
  | give id k to => simp [movingStep, takenOf, givenOf, pr, List.count_cons]
  | take id k =>
    have hm := h id k rfl
    have hp := (List.perm_cons_erase hm).map pr
    have e := hp.count_eq x
    simp only [List.map_cons, List.count_cons, pr] at e
    simp only [movingStep, takenOf, givenOf, List.count_cons, List.count_nil]
    omega

theorem ownStep_held (o : Own) (t u : Nat) (op : TOp) :
    (ownStep o t op).held u = if u = t then holdStep (o.held t) op else o.held u := rfl

/-- one step of thread `t` changes the sum of what the threads hold by that step's own bookkeeping -/
theorem held_step_conservation (n : Nat) (o : Own) (t : Nat) (op : TOp) (ht : t < n)
    (hown : opOwned (o.held t) op = true) (x : Nat × Kind) :
    List.count x ((List.range n).flatMap (ownStep o t op).held) + List.count x (freedOf op) + List.count x (givenOf op) =
      List.count x ((List.range n).flatMap o.held) + List.count x (allocdOf op) + List.count x (takenOf op) := by
  have e1 := ListLemmas.count_flatMap_of_eq_off x (g := (ownStep o t op).held) (h := o.held)
    (fun u hu => if_neg hu) List.nodup_range (List.mem_range.mpr ht)
  have e2 := (hold_step_conservation (o.held t) op hown).count_eq x
  simp only [ownStep_held, if_pos] at e1
  simp only [List.count_append] at e2
  omega

/-- one step of the ownership state neither forgets nor invents a block -/
theorem all_step_conservation (n : Nat) (o : Own) (t : Nat) (op : TOp) (ht : t < n)
    (hown : opOwned (o.held t) op = true) (htake : ∀ id k, op = .take id k → (id, k, t) ∈ o.moving)
    (x : Nat × Kind) :
    List.count x (allBlocks n (ownStep o t op)) + List.count x (freedOf op) =
      List.count x (allBlocks n o) + List.count x (allocdOf op) := by
  have e1 := held_step_conservation n o t op ht hown x
  have e3 := moving_step_conservation o.moving t op htake x
  simp only [ownStep] at e1
  simp only [allBlocks, ownStep, List.count_append]
  omega

/-- a thread's discipline over a schedule, one event at a time -/
theorem threadOk_proj_cons (t u : Nat) (op : TOp) (es : List Event) (o : Own) :
    ThreadOk (proj u ((t, op) :: es)) (o.held u) = true ↔
      (u = t → opOwned (o.held t) op = true) ∧ ThreadOk (proj u es) ((ownStep o t op).held u) = true := by
  rw [proj_cons, ownStep_held]
  by_cases htu : t = u
  · subst htu; simp [ThreadOk]
  · simp [htu, Ne.symm htu]

/-- The accounting of a whole schedule from any table and any holdings: what the table and the threads end with,
    against what they started with and what was handed over.  One induction along the schedule; each step is
    `step_conservation` for the table and `held_step_conservation` for the threads. -/
theorem sched_conservation (n : Nat) (x : Nat × Kind) : ∀ (sched : List Event) (d : Det) (o : Own),
    (∀ e ∈ sched, e.1 < n) → RunOk (detOps sched) d = true →
    (∀ t, t < n → ThreadOk (proj t sched) (o.held t) = true) →
    List.count x (runDet (detOps sched) d) + List.count x ((List.range n).flatMap o.held) +
        List.count x (sched.flatMap fun e => takenOf e.2) =
      List.count x ((List.range n).flatMap (ownRun sched o).held) + List.count x d +
        List.count x (sched.flatMap fun e => givenOf e.2)
  | [], _, _, _, _, _ => by simp [detOps, runDet, ownRun]; omega
  | (t, op) :: es, d, o, htid, hok, hthr => by
    rw [List.forall_mem_cons] at htid
    have hs := held_step_conservation n o t op htid.1 (((threadOk_proj_cons t t op es o).mp (hthr t htid.1)).1 rfl) x
    have ih := fun d' hok' => sched_conservation n x es d' (ownStep o t op) htid.2 hok'
      fun u hu => ((threadOk_proj_cons t u op es o).mp (hthr u hu)).2
    simp only [List.flatMap_cons, List.count_append, ownRun]
    cases op with
    | det p =>
      simp only [detOps, RunOk, Bool.and_eq_true, runDet] at hok ⊢
      have e := (step_conservation p d (stepOk_normal hok.1)).count_eq x
      have := ih _ hok.2
      simp only [List.count_append, givenOf, takenOf, List.count_nil] at e hs this ⊢
      omega
    | give | take =>
      have := ih d hok
      simp only [detOps, freedOf, allocdOf, List.count_nil] at hs this ⊢
      omega

theorem nodup_after_step (p : DetOp) (d : Det) (hd : (ids d).Nodup) (h : stepOk p d = true) :
    (ids (body p d).1).Nodup := by
  have hn := stepOk_normal h
  rw [stepOk_iff] at h
  cases p with
  | alloc i k => exact List.nodup_cons.mpr ⟨lookup_none_not_mem h, hd⟩
  | free i k c => rw [body_free_eq]; exact nodup_ids_remove i hd
  | realloc o n c =>
    rw [body_realloc_eq] at hn ⊢
    rw [if_pos hn]
    exact List.nodup_cons.mpr ⟨lookup_none_not_mem h.1, nodup_ids_remove o hd⟩

def Tied (n : Nat) (o : Own) (d : Det) : Prop := d.Perm (allBlocks n o) ∧ (ids d).Nodup

theorem Tied.lookup_held {n : Nat} {o : Own} {d : Det} (h : Tied n o d) {t : Nat} (ht : t < n) {id : Nat}
    {k : Kind} (hb : (o.held t).contains (id, k) = true) : lookup d id = some k := by
  refine mem_lookup_of_nodup h.2 (h.1.symm.subset ?_)
  simp only [allBlocks, List.mem_append, List.mem_flatMap, List.mem_range]
  exact Or.inl ⟨t, ht, by simpa using hb⟩

theorem tied_empty (n : Nat) : Tied n Own.empty [] :=
  ⟨by simp [allBlocks, Own.empty], List.nodup_nil⟩

theorem tied_det_step (n : Nat) (o : Own) (d : Det) (t : Nat) (op : DetOp) (ht : t < n)
    (hown : opOwned (o.held t) (.det op) = true) (hex : ownExtra n o t (.det op)) (hinv : Tied n o d) :
    stepOk op d = true ∧ Tied n (ownStep o t (.det op)) (body op d).1 := by
  have hok : stepOk op d = true := by
    rw [stepOk_iff]
    cases op with
    | alloc id k => exact (lookup_eq_none_iff d id).mpr fun hm => hex ((hinv.1.map _).subset hm)
    | free id k c => exact ⟨hinv.lookup_held ht hown, hex⟩
    | realloc old new c =>
      refine ⟨(lookup_eq_none_iff _ new).mpr fun hm => ?_, hinv.lookup_held ht hown, hex.1⟩
      have ⟨h1, h2⟩ := (mem_ids_remove d hinv.2 old new).mp hm
      exact hex.2 ((List.mem_erase_of_ne h2).mpr ((hinv.1.map _).subset h1))
  refine ⟨hok, ?_, nodup_after_step op d hinv.2 hok⟩
  rw [List.perm_iff_count]; intro x
  have e1 := (step_conservation op d (stepOk_normal hok)).count_eq x
  have e2 := all_step_conservation n o t (.det op) ht hown (by intros; contradiction) x
  have e3 := hinv.1.count_eq x
  simp only [List.count_append] at e1
  omega

theorem tied_handover_step (n : Nat) (o : Own) (d : Det) (t : Nat) (op : TOp) (ht : t < n)
    (hf : freedOf op = []) (ha : allocdOf op = [])
    (hown : opOwned (o.held t) op = true) (hex : ownExtra n o t op) (hinv : Tied n o d) :
    Tied n (ownStep o t op) d := by
  refine ⟨?_, hinv.2⟩
  rw [List.perm_iff_count]; intro x
  have e2 := all_step_conservation n o t op ht hown (by intro id k e; subst e; exact hex) x
  have e3 := hinv.1.count_eq x
  rw [hf, ha, List.count_nil] at e2
  omega

/-- Every schedule that respects the ownership discipline is misuse-free with distinct live ids,
    and the detector table stays tied to the ownership state. -/
theorem owned_run : ∀ (n : Nat) (sched : List Event) (o : Own) (d : Det),
    Owned n sched o → Tied n o d →
      RunOk (detOps sched) d = true ∧ Tied n (ownRun sched o) (runDet (detOps sched) d)
  | _, [], _, _, _, hinv => ⟨rfl, hinv⟩
  | n, (t, op) :: es, o, d, h, hinv => by
    obtain ⟨ht, hown, hex, hrest⟩ := h
    cases op with
    | det op =>
      have hs := tied_det_step n o d t op ht hown hex hinv
      simpa [detOps, RunOk, runDet, ownRun, hs.1] using owned_run n es _ _ hrest hs.2
    | give | take =>
      simpa [detOps, ownRun] using
        owned_run n es _ d hrest (tied_handover_step n o d t _ ht rfl rfl hown hex hinv)

theorem ownRun_held : ∀ (sched : List Event) (o : Own) (u : Nat),
    (ownRun sched o).held u = holds (proj u sched) (o.held u)
  | [], _, _ => rfl
  | (t, op) :: es, o, u => by
    rw [ownRun, ownRun_held es _ u, ownStep_held, proj_cons]
    by_cases h : t = u
    · subst h; simp [holds]
    · simp [h, Ne.symm h]

theorem unionHeld_eq (n : Nat) (sched : List Event) :
    unionHeld n sched = (List.range n).flatMap (ownRun sched Own.empty).held :=
  congrArg (List.flatMap · (List.range n)) (funext fun u => (ownRun_held sched Own.empty u).symm)

theorem owned_threadOk : ∀ (n : Nat) (sched : List Event) (o : Own) (u : Nat),
    Owned n sched o → ThreadOk (proj u sched) (o.held u) = true
  | _, [], _, _, _ => rfl
  | n, (t, op) :: es, o, u, ⟨_, hown, _, hrest⟩ =>
    (threadOk_proj_cons t u op es o).mpr ⟨fun _ => hown, owned_threadOk n es _ u hrest⟩

/-! ## commutation of operations on different blocks -/

theorem lookup_body_other (a : DetOp) (d : Det) (hd : (ids d).Nodup) (h : (body a d).2 = .normal) (j : Nat)
    (hj : j ∉ opIds a) : lookup (body a d).1 j = lookup d j := by
  cases a with
  | alloc i k => exact (lookup_cons d i j k).trans (if_neg fun e => hj (by simp [opIds, e]))
  | free i k c =>
    rw [body_free_eq, lookup_remove hd, if_neg fun e => hj (by simp [opIds, e])]
  | realloc o n c =>
    rw [body_realloc_eq] at h ⊢
    rw [if_pos h, lookup_cons, if_neg fun e => hj (by simp [opIds, e]), lookup_remove hd,
      if_neg fun e => hj (by simp [opIds, e])]

/-- whether a step is fine depends only on what the table says about the ids it mentions -/
theorem stepOk_transfer (p : DetOp) (d e : Det) (hd : (ids d).Nodup) (he : (ids e).Nodup)
    (hl : ∀ j ∈ opIds p, lookup e j = lookup d j) (h : stepOk p d = true) : stepOk p e = true := by
  rw [stepOk_iff] at h ⊢
  cases p with
  | alloc i k => exact (hl i (by simp [opIds])).trans h
  | free i k c => exact ⟨(hl i (by simp [opIds])).trans h.1, h.2⟩
  | realloc o n c =>
    refine ⟨?_, (hl o (by simp [opIds])).trans h.2.1, h.2.2⟩
    have := h.1
    rw [lookup_remove hd] at this
    rw [lookup_remove he, hl n (by simp [opIds])]
    exact this

end ThreadSafe
