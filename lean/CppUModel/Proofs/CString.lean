import CppUModel.Base.CString
import CppUModel.Spec.TextExt
import CppUModel.Proofs.TextLemmas
import CppUModel.Proofs.ListLemmas
/-!
# The C-like primitives equal their textbook meaning

`CAt b p a` says: at offset `p` of buffer `b` there is the C string `a` (NUL-free bytes, then a
terminator, then anything).  The theorems about a primitive have the form
`CAt … → primitive … = .ok (textbook value)`: the primitive terminates, stays inside the
buffers (`.ok`), and returns the value of the list definition of `Spec/Text.lean` /
`Spec/TextExt.lean` — for all buffers, offsets, strings and counts.
-/
namespace CStr
open Text TextExt

/-! ### reading through `drop` -/

theorem rd_of_drop {b : Buf} {p : Nat} {x : UInt8} {rest : Buf} (h : b.drop p = x :: rest) :
    rd b p = .ok x := by
  have : b[p]? = some x := by
    have := List.getElem?_drop (xs := b) (i := p) (j := 0)
    rw [h] at this; simpa using this.symm
  simp [rd, this]

theorem drop_of_rd {b : Buf} {p : Nat} {c : UInt8} (h : rd b p = .ok c) : ∃ rest, b.drop p = c :: rest := by
  have hb : b[p]? = some c := by
    unfold rd at h; split at h
    · next x hx => cases h; exact hx
    · cases h
  obtain ⟨hp, rfl⟩ := List.getElem?_eq_some_iff.mp hb
  exact ⟨_, List.drop_eq_getElem_cons hp⟩

theorem rd_append {pre : Buf} {x : UInt8} {post : Buf} : rd (pre ++ x :: post) pre.length = .ok x :=
  rd_of_drop (rest := post) (by simp)

theorem drop_succ_of_drop {b : Buf} {p : Nat} {x : UInt8} {rest : Buf} (h : b.drop p = x :: rest) :
    b.drop (p + 1) = rest := by
  have := List.drop_drop (l := b) (i := 1) (j := p)
  rw [h] at this; simpa using this.symm

theorem drop_add_of_drop {b : Buf} {p : Nat} {u v : Buf} (h : b.drop p = u ++ v) :
    b.drop (p + u.length) = v := by
  have := List.drop_drop (l := b) (i := u.length) (j := p)
  rw [h] at this; simpa using this.symm

theorem lt_length_of_drop {b : Buf} {p : Nat} {x : UInt8} {rest : Buf} (h : b.drop p = x :: rest) :
    p < b.length := by
  rcases Nat.lt_or_ge p b.length with hp | hp
  · exact hp
  · rw [List.drop_eq_nil_of_le hp] at h; cases h

theorem length_drop_lt {s : Bytes} {k n : Nat} (hk : 0 < k) (hle : k ≤ s.length) (hn : s.length < n + 1) :
    (s.drop k).length < n := by
  rw [List.length_drop]; omega

/-! ### NUL-free strings -/

theorem nulFree_nil : NulFree [] := by simp [NulFree]

theorem nulFree_cons {x : UInt8} {a : Bytes} : NulFree (x :: a) ↔ x ≠ 0 ∧ NulFree a := by
  simp [NulFree]

theorem nulFree_append {a b : Bytes} : NulFree (a ++ b) ↔ NulFree a ∧ NulFree b := List.forall_mem_append

theorem nulFree_drop {a : Bytes} (h : NulFree a) (k : Nat) : NulFree (a.drop k) :=
  fun c hc => h c (List.mem_of_mem_drop hc)

theorem nulFree_take {a : Bytes} (h : NulFree a) (k : Nat) : NulFree (a.take k) :=
  fun c hc => h c (List.mem_of_mem_take hc)

theorem nulFree_map {a : Bytes} {f : UInt8 → UInt8} (hf : ∀ c, c ≠ 0 → f c ≠ 0) (h : NulFree a) :
    NulFree (a.map f) := by
  intro c hc
  simp only [List.mem_map] at hc
  obtain ⟨d, hd, rfl⟩ := hc
  exact hf d (h d hd)

theorem cut_of_nulFree {a : Bytes} (h : NulFree a) : cut a = a := by
  have := List.takeWhile_append_of_pos (p := (· != 0)) (l₁ := a) (l₂ := []) (fun c hc => by simpa using h c hc)
  simpa [cut] using this

theorem cut_append_zero {a post : Bytes} (h : NulFree a) : cut (a ++ 0 :: post) = a := by
  rw [cut, List.takeWhile_append_of_pos (fun c hc => by simpa using h c hc)]
  simp

theorem nulFree_cut (a : Bytes) : NulFree (cut a) :=
  fun c hc => by simpa using List.all_eq_true.mp (List.all_takeWhile (p := (· != 0)) (l := a)) c hc

theorem length_takeWhile_le (p : UInt8 → Bool) (a : Bytes) : (a.takeWhile p).length ≤ a.length :=
  (List.takeWhile_prefix p).length_le

/-! ### the textbook functions among themselves -/

theorem isPrefixOf_iff_take {b a : Bytes} : b.isPrefixOf a = true ↔ a.take b.length = b :=
  List.isPrefixOf_iff_prefix.trans (List.prefix_iff_eq_take.trans eq_comm)

theorem ncmp_length_eq_zero_iff {a b : Bytes} (ha : NulFree a) (hb : NulFree b) :
    Text.ncmp b.length a b = 0 ↔ b.isPrefixOf a = true := by
  rw [ncmp_eq_zero_iff _ ha hb, isPrefixOf_iff_take]
  simp

/-- the model's test `StrNCmp(s, pat, |pat|) == 0` is the specification's test "`pat` is a prefix" -/
theorem ite_ncmp_length {α} {a b : Bytes} (ha : NulFree a) (hb : NulFree b) (x y : α) :
    (if Text.ncmp b.length a b = 0 then x else y) = if b.isPrefixOf a = true then x else y := by
  simp only [ncmp_length_eq_zero_iff ha hb]

theorem prefix_length_le {pat s : Bytes} (h : pat.isPrefixOf s = true) : pat.length ≤ s.length :=
  (List.isPrefixOf_iff_prefix.mp h).length_le

theorem strStr_isSome_eq_isInfix : ∀ (a b : Bytes), (TextExt.strStr a b).isSome = Text.isInfix a b
  | [], b => by cases b <;> simp [TextExt.strStr, Text.isInfix]
  | x :: t, b => by
    by_cases hp : b.isPrefixOf (x :: t)
    · simp [TextExt.strStr, Text.isInfix, hp]
    · simp [TextExt.strStr, Text.isInfix, hp, strStr_isSome_eq_isInfix t b]

theorem strStr_some_iff : ∀ (a b : Bytes) (i : Nat), TextExt.strStr a b = some i ↔
    (i ≤ a.length ∧ b.isPrefixOf (a.drop i) = true ∧ ∀ j < i, b.isPrefixOf (a.drop j) = false)
  | [], b, i => by
    cases b with
    | nil =>
      simp [TextExt.strStr]
      constructor
      · intro h; subst h; simp
      · rintro ⟨h, _⟩; exact h.symm
    | cons y b => simp [TextExt.strStr]
  | x :: t, b, i => by
    by_cases hp : b.isPrefixOf (x :: t)
    · simp only [TextExt.strStr, hp, if_true, Option.some.injEq]
      constructor
      · intro h; subst h; simp [hp]
      · rintro ⟨_, _, h3⟩
        rcases Nat.eq_zero_or_pos i with h0 | h0
        · exact h0.symm
        · have := h3 0 h0; simp [hp] at this
    · have hp' : b.isPrefixOf (x :: t) = false := Bool.eq_false_iff.mpr hp
      simp only [TextExt.strStr, hp, Bool.false_eq_true, if_false, Option.map_eq_some_iff]
      constructor
      · rintro ⟨k, hk, rfl⟩
        obtain ⟨h1, h2, h3⟩ := (strStr_some_iff t b k).mp hk
        refine ⟨by simp; omega, by simpa using h2, ?_⟩
        intro j hj
        cases j with
        | zero => simpa using hp'
        | succ j => simpa using h3 j (by omega)
      · rintro ⟨h1, h2, h3⟩
        cases i with
        | zero => simp [hp'] at h2
        | succ k =>
          refine ⟨k, (strStr_some_iff t b k).mpr ⟨by simpa using h1, by simpa using h2, ?_⟩, rfl⟩
          intro j hj
          simpa using h3 (j + 1) (by omega)

theorem strStr_nil_right (a : Bytes) : TextExt.strStr a [] = some 0 := by
  cases a <;> simp [TextExt.strStr]

theorem strStr_zero_iff (a b : Bytes) : TextExt.strStr a b = some 0 ↔ b.isPrefixOf a = true := by
  rw [strStr_some_iff]
  simp

theorem endsWith_iff (a b : Bytes) :
    Text.endsWith a b = true ↔ b.length ≤ a.length ∧ a.drop (a.length - b.length) = b := by
  simp only [Text.endsWith, List.isPrefixOf_iff_prefix, List.reverse_prefix]
  constructor
  · intro h
    exact ⟨h.length_le, (List.suffix_iff_eq_drop.mp h).symm⟩
  · rintro ⟨_, h⟩
    rw [← h]; exact List.drop_suffix _ _

theorem endsWith_of_lt {a b : Bytes} (h : a.length < b.length) : Text.endsWith a b = false :=
  Bool.eq_false_iff.mpr fun h' => by have := ((endsWith_iff a b).mp h').1; omega

theorem count_eq_zero_of_strStr_none : ∀ (s b : Bytes), TextExt.strStr s b = none → Text.count s b = 0
  | [], _, _ => rfl
  | x :: t, b, h => by
    by_cases hp : b.isPrefixOf (x :: t) = true
    · simp [TextExt.strStr, hp] at h
    · simp only [TextExt.strStr, hp, Bool.false_eq_true, if_false, Option.map_eq_none_iff] at h
      simp [Text.count, hp, count_eq_zero_of_strStr_none t b h]

theorem count_of_strStr_some : ∀ (s b : Bytes) (i : Nat), s ≠ [] → TextExt.strStr s b = some i →
    i < s.length ∧ Text.count s b = 1 + Text.count (s.drop (i + 1)) b
  | [], _, _, hne, _ => absurd rfl hne
  | x :: t, b, i, _, h => by
    by_cases hp : b.isPrefixOf (x :: t) = true
    · simp only [TextExt.strStr, hp, if_true, Option.some.injEq] at h
      subst h
      simp [Text.count, hp]
    · simp only [TextExt.strStr, hp, Bool.false_eq_true, if_false, Option.map_eq_some_iff] at h
      obtain ⟨k, hk, rfl⟩ := h
      have hne : t ≠ [] := by
        intro ht; subst ht
        cases b with
        | nil => simp at hp
        | cons y b => simp [TextExt.strStr] at hk
      have ⟨h1, h2⟩ := count_of_strStr_some t b k hne hk
      refine ⟨by simp; omega, ?_⟩
      simp [Text.count, hp, h2]

theorem subString_of_lt {a : Bytes} {p : Nat} (h : p < a.length) (n : Nat) :
    Text.subString a p n = (a.drop p).take n := if_neg (Nat.not_le_of_lt h)

theorem dropWhile_eq_drop_takeWhile (p : UInt8 → Bool) (a : Bytes) :
    a.dropWhile p = a.drop (a.takeWhile p).length := by
  induction a with
  | nil => rfl
  | cons x a ih =>
    by_cases hp : p x = true
    · simp [hp, ih]
    · simp [hp]

theorem isDigit_zero : TextExt.isDigit 0 = false := by decide

theorem digitsVal_mod (ds : Bytes) : ∀ (r : Nat),
    TextExt.digitsVal (r % 4294967296) ds % 4294967296 = TextExt.digitsVal r ds % 4294967296 := by
  induction ds with
  | nil => intro r; simp [TextExt.digitsVal]
  | cons d ds ih =>
    intro r
    simp only [TextExt.digitsVal, List.foldl_cons] at ih ⊢
    rw [← ih ((r % 4294967296) * 10 + (d.toNat - 48)), ← ih (r * 10 + (d.toNat - 48))]
    congr 2
    omega

theorem digitsVal_ge (ds : Bytes) : ∀ r, r ≤ TextExt.digitsVal r ds := by
  induction ds with
  | nil => intro r; simp [TextExt.digitsVal]
  | cons d ds ih =>
    intro r
    simp only [TextExt.digitsVal, List.foldl_cons] at ih ⊢
    exact Nat.le_trans (by omega) (ih _)

/-- how `atoi` reads what follows the blanks: a sign and the number behind it, or the number -/
theorem atoi_forms (a : Bytes) :
    (∃ r, a.dropWhile TextExt.isBlank = 45 :: r ∧ atoi a = -(leadingNumber r : Int) ∧ atoiMagnitude a = leadingNumber r) ∨
    (∃ r, a.dropWhile TextExt.isBlank = 43 :: r ∧ atoi a = (leadingNumber r : Int) ∧ atoiMagnitude a = leadingNumber r) ∨
    ((a.dropWhile TextExt.isBlank).head? ≠ some 45 ∧ (a.dropWhile TextExt.isBlank).head? ≠ some 43 ∧
      atoi a = (leadingNumber (a.dropWhile TextExt.isBlank) : Int) ∧
      atoiMagnitude a = leadingNumber (a.dropWhile TextExt.isBlank)) := by
  unfold atoi atoiMagnitude
  generalize a.dropWhile TextExt.isBlank = s
  match s with
  | [] => exact Or.inr (Or.inr ⟨by simp, by simp, rfl, rfl⟩)
  | x :: r =>
    by_cases h45 : x = 45
    · subst h45; exact Or.inl ⟨r, rfl, rfl, rfl⟩
    · by_cases h43 : x = 43
      · subst h43; exact Or.inr (Or.inl ⟨r, rfl, rfl, rfl⟩)
      · refine Or.inr (Or.inr ⟨by simpa using h45, by simpa using h43, ?_, ?_⟩) <;>
        · split
          · next heq => exact absurd (List.cons.inj heq).1 h45
          · next heq => exact absurd (List.cons.inj heq).1 h43
          · rfl

/-! ### AtoI on a string given by its parts: blanks, optional sign, digits, rest -/

theorem dropWhile_append_of_all {p : UInt8 → Bool} (xs ys : Bytes) (hx : ∀ c ∈ xs, p c = true)
    (hy : ∀ c, ys.head? = some c → p c = false) : (xs ++ ys).dropWhile p = ys := by
  rw [List.dropWhile_append_of_pos hx]
  cases ys with
  | nil => rfl
  | cons y t => simp [hy y rfl]

theorem takeWhile_append_of_all {p : UInt8 → Bool} (xs ys : Bytes) (hx : ∀ c ∈ xs, p c = true)
    (hy : ∀ c, ys.head? = some c → p c = false) : (xs ++ ys).takeWhile p = xs := by
  rw [List.takeWhile_append_of_pos hx]
  cases ys with
  | nil => simp
  | cons y t => simp [hy y rfl]

theorem leadingNumber_parts (digits rest : Bytes) (hd : ∀ c ∈ digits, TextExt.isDigit c = true)
    (hr : ∀ c, rest.head? = some c → TextExt.isDigit c = false) :
    TextExt.leadingNumber (digits ++ rest) = TextExt.digitsVal 0 digits := by
  simp only [TextExt.leadingNumber, takeWhile_append_of_all digits rest hd hr]

theorem atoi_parts (blanks sign digits rest : Bytes) (hb : ∀ c ∈ blanks, TextExt.isBlank c = true)
    (hs : sign = [] ∨ sign = [43] ∨ sign = [45])
    (hd : ∀ c ∈ digits, TextExt.isDigit c = true)
    (hr : ∀ c, rest.head? = some c → TextExt.isDigit c = false)
    (hfirst : sign = [] → ∀ c, (digits ++ rest).head? = some c → TextExt.isBlank c = false ∧ c ≠ 43 ∧ c ≠ 45) :
    TextExt.atoi (blanks ++ sign ++ digits ++ rest) =
        (if sign = [45] then - (TextExt.digitsVal 0 digits : Int) else (TextExt.digitsVal 0 digits : Int)) ∧
      TextExt.atoiMagnitude (blanks ++ sign ++ digits ++ rest) = TextExt.digitsVal 0 digits := by
  have hln := leadingNumber_parts digits rest hd hr
  have signed : ∀ s : UInt8, TextExt.isBlank s = false →
      (blanks ++ [s] ++ digits ++ rest).dropWhile TextExt.isBlank = s :: (digits ++ rest) := fun s hs' => by
    rw [show blanks ++ [s] ++ digits ++ rest = blanks ++ (s :: (digits ++ rest)) by simp]
    exact dropWhile_append_of_all blanks _ hb (fun c hc => by
      simp only [List.head?_cons, Option.some.injEq] at hc; subst hc; exact hs')
  rcases hs with rfl | rfl | rfl
  ·
    have hdrop : (blanks ++ [] ++ digits ++ rest).dropWhile TextExt.isBlank = digits ++ rest := by
      simp only [List.append_nil, List.append_assoc]
      exact dropWhile_append_of_all blanks (digits ++ rest) hb (fun c hc => (hfirst rfl c hc).1)
    rcases atoi_forms (blanks ++ [] ++ digits ++ rest) with ⟨r, hd', _⟩ | ⟨r, hd', _⟩ | ⟨_, _, hv, hm⟩
    · rw [hdrop] at hd'; exact absurd rfl (hfirst rfl 45 (by rw [hd']; rfl)).2.2
    · rw [hdrop] at hd'; exact absurd rfl (hfirst rfl 43 (by rw [hd']; rfl)).2.1
    · rw [hv, hm, hdrop, hln]; simp
  · simp only [TextExt.atoi, TextExt.atoiMagnitude, signed 43 (by decide), hln]
    simp
  · simp only [TextExt.atoi, TextExt.atoiMagnitude, signed 45 (by decide), hln]
    simp

/-! ### "the C string `a` sits at offset `p` of `b`" -/

def CAt (b : Buf) (p : Nat) (a : Bytes) : Prop := NulFree a ∧ ∃ post, b.drop p = a ++ 0 :: post

theorem CAt.nulFree {b p a} (h : CAt b p a) : NulFree a := h.1

theorem CAt.nil_rd {b p} (h : CAt b p []) : rd b p = .ok 0 := by
  obtain ⟨_, post, hd⟩ := h
  exact rd_of_drop (by simpa using hd)

theorem CAt.cons_rd {b p x a} (h : CAt b p (x :: a)) : rd b p = .ok x := by
  obtain ⟨_, post, hd⟩ := h
  exact rd_of_drop (by simpa using hd)

theorem CAt.rd_head {b p a} (h : CAt b p a) : rd b p = .ok (a.headD 0) := by
  cases a with
  | nil => exact h.nil_rd
  | cons x a => exact h.cons_rd

theorem CAt.cons_ne {b p x a} (h : CAt b p (x :: a)) : x ≠ 0 := (nulFree_cons.mp h.1).1

theorem CAt.tail {b p x a} (h : CAt b p (x :: a)) : CAt b (p + 1) a := by
  obtain ⟨hn, post, hd⟩ := h
  exact ⟨(nulFree_cons.mp hn).2, post, drop_succ_of_drop (by simpa using hd)⟩

theorem CAt.drop {b p a} (h : CAt b p a) (k : Nat) (hk : k ≤ a.length) : CAt b (p + k) (a.drop k) := by
  induction k generalizing p a with
  | zero => simpa using h
  | succ k ih =>
    cases a with
    | nil => simp at hk
    | cons x a =>
      have := ih (h.tail) (by simpa using hk)
      simpa [Nat.add_assoc, Nat.add_comm 1 k] using this

theorem CAt.length_lt {b p a} (h : CAt b p a) : p + a.length < b.length := by
  obtain ⟨_, post, hd⟩ := h
  have := congrArg List.length hd
  simp at this; omega

theorem CAt.lt_fuel {b p a} (h : CAt b p a) : a.length < b.length + 1 := by have := h.length_lt; omega

theorem CAt.mk_cz {a : Bytes} (h : NulFree a) : CAt (a ++ [0]) 0 a := ⟨h, [], by simp⟩

theorem CAt.of_prefix {pre a slack : Bytes} (h : NulFree a) : CAt (pre ++ a ++ 0 :: slack) pre.length a :=
  ⟨h, slack, by simp⟩

theorem CAt.unique {b p a a'} (h : CAt b p a) (h' : CAt b p a') : a = a' := by
  obtain ⟨hn, post, hd⟩ := h
  obtain ⟨hn', post', hd'⟩ := h'
  have : cut (b.drop p) = a := by rw [hd]; exact cut_append_zero hn
  rw [hd'] at this
  rw [cut_append_zero hn'] at this
  exact this.symm

theorem cat_cut : ∀ (b post : Bytes), CAt (b ++ 0 :: post) 0 (cut b)
  | [], post => ⟨nulFree_nil, post, rfl⟩
  | x :: t, post => by
    by_cases hx : x = 0
    · subst hx
      exact ⟨nulFree_cut _, t ++ 0 :: post, by simp [cut]⟩
    · obtain ⟨_, post', hd⟩ := cat_cut t post
      have hc : cut (x :: t) = x :: cut t := by simp [cut, hx]
      refine ⟨nulFree_cut _, post', ?_⟩
      simp only [List.drop_zero] at hd
      rw [hc]; simp [hd]

/-- reading a C string to its terminator with more fuel than it is long: at the terminator the read gives 0;
    before it, a byte that is not 0, and what follows is the rest of the string under one fuel less -/
theorem CAt.scan {b : Buf} {motive : (a : Bytes) → (p f : Nat) → CAt b p a → a.length < f → Prop}
    (nil : ∀ p f h hf, rd b p = .ok 0 → motive [] p (f + 1) h hf)
    (cons : ∀ x a p f h hf (ht : CAt b (p + 1) a) (hft : a.length < f), x ≠ 0 → rd b p = .ok x →
      motive a (p + 1) f ht hft → motive (x :: a) p (f + 1) h hf) :
    ∀ (a : Bytes) (p f : Nat) (h : CAt b p a) (hf : a.length < f), motive a p f h hf
  | _, _, 0, _, hf => absurd hf (Nat.not_lt_zero _)
  | [], p, f + 1, h, hf => nil p f h hf h.nil_rd
  | x :: a, p, f + 1, h, hf =>
    cons x a p f h hf h.tail (Nat.lt_of_succ_lt_succ hf) h.cons_ne h.cons_rd
      (CAt.scan nil cons a (p + 1) f h.tail (Nat.lt_of_succ_lt_succ hf))

/-! ### scans and comparisons -/

theorem strLenLoop_ok (a : Bytes) (b : Buf) (p n f : Nat) (h : CAt b p a) (hf : a.length < f) :
    strLenLoop b f p n = .ok (n + a.length) := by
  induction a, p, f, h, hf using CAt.scan generalizing n with
  | nil p f _ _ hr => simp [strLenLoop, hr]
  | cons x a p f _ _ _ _ hx hr ih =>
    simp only [strLenLoop, hr, hx, if_false, ih]
    simp; omega

theorem StrLen_ok {b : Buf} {p : Nat} {a : Bytes} (h : CAt b p a) : StrLen b p = .ok a.length := by
  have := strLenLoop_ok a b p 0 (b.length + 1) h h.lt_fuel
  simpa [StrLen] using this

theorem StrNCmp_ok : ∀ (n : Nat) (a1 a2 : Bytes) (b1 b2 : Buf) (p1 p2 : Nat), CAt b1 p1 a1 → CAt b2 p2 a2 →
    StrNCmp b1 p1 b2 p2 n = .ok (Text.ncmp n a1 a2)
  | 0, _, _, _, _, _, _, _, _ => by simp [StrNCmp, Text.ncmp]
  | n + 1, [], [], b1, b2, p1, p2, h1, h2 => by simp [StrNCmp, h1.nil_rd, h2.nil_rd, Text.ncmp]
  | n + 1, [], y :: a2, b1, b2, p1, p2, h1, h2 => by simp [StrNCmp, h1.nil_rd, h2.cons_rd, Text.ncmp]
  | n + 1, x :: a1, [], b1, b2, p1, p2, h1, h2 => by
    have hx := h1.cons_ne
    simp [StrNCmp, h1.cons_rd, h2.nil_rd, Text.ncmp, hx]
  | n + 1, x :: a1, y :: a2, b1, b2, p1, p2, h1, h2 => by
    have hx := h1.cons_ne
    by_cases hxy : x = y
    · subst hxy
      simp only [StrNCmp, h1.cons_rd, h2.cons_rd, Text.ncmp, hx, ne_eq, not_false_eq_true, and_self, if_true]
      exact StrNCmp_ok n a1 a2 b1 b2 (p1 + 1) (p2 + 1) h1.tail h2.tail
    · simp [StrNCmp, h1.cons_rd, h2.cons_rd, Text.ncmp, hxy]

/-- the two loops have the same body; `strCmpLoop` stops at the terminator before its fuel runs out (whatever the
    second buffer holds) -/
theorem strCmpLoop_eq_StrNCmp (a1 : Bytes) (b1 b2 : Buf) (p1 p2 f : Nat) (h : CAt b1 p1 a1) (hf : a1.length < f) :
    strCmpLoop b1 b2 f p1 p2 = StrNCmp b1 p1 b2 p2 f := by
  induction a1, p1, f, h, hf using CAt.scan generalizing p2 with
  | nil p1 f _ _ hr => simp [strCmpLoop, StrNCmp, hr]
  | cons x a1 p1 f _ _ _ _ _ hr ih => simp only [strCmpLoop, StrNCmp, hr, ih]

theorem strCmpLoop_ok (a1 a2 : Bytes) (b1 b2 : Buf) (p1 p2 f : Nat) (h1 : CAt b1 p1 a1) (h2 : CAt b2 p2 a2)
    (hf : a1.length < f) : strCmpLoop b1 b2 f p1 p2 = .ok (Text.cmp a1 a2) := by
  rw [strCmpLoop_eq_StrNCmp a1 b1 b2 p1 p2 f h1 hf, StrNCmp_ok f a1 a2 b1 b2 p1 p2 h1 h2, ncmp_eq_cmp f a1 a2 hf]

theorem StrCmp_ok {b1 b2 : Buf} {p1 p2 : Nat} {a1 a2 : Bytes} (h1 : CAt b1 p1 a1) (h2 : CAt b2 p2 a2) :
    StrCmp b1 p1 b2 p2 = .ok (Text.cmp a1 a2) :=
  strCmpLoop_ok a1 a2 b1 b2 p1 p2 (b1.length + 1) h1 h2 h1.lt_fuel

/-- `StrCmp(…) == 0` as the callers test it -/
theorem ok_cmp_zero_iff {a b : Bytes} (ha : NulFree a) (hb : NulFree b) :
    (Except.ok (Text.cmp a b) : Except Err Int) = .ok 0 ↔ a = b := by
  rw [Except.ok.injEq, cmp_eq_zero_iff ha hb]

theorem strStrLoop_ok (a1 a2 : Bytes) (b1 b2 : Buf) (p1 p2 f : Nat) (h1 : CAt b1 p1 a1) (h2 : CAt b2 p2 a2)
    (hne : a2 ≠ []) (hf : a1.length < f) :
    strStrLoop b1 b2 p2 f p1 = .ok ((TextExt.strStr a1 a2).map (· + p1)) := by
  induction a1, p1, f, h1, hf using CAt.scan with
  | nil p1 f _ _ hr =>
    cases a2 with
    | nil => exact absurd rfl hne
    | cons y a2 => simp [strStrLoop, hr, TextExt.strStr]
  | cons x a1 p1 f h1 _ _ _ hx hr ih =>
    simp only [strStrLoop, hr, hx, if_false, StrLen_ok h2, StrNCmp_ok _ _ _ _ _ _ _ h1 h2, ite_ncmp_length h1.1 h2.1,
      TextExt.strStr, ih]
    split
    · simp
    · cases TextExt.strStr a1 a2 <;> simp; omega

theorem StrStr_ok {b1 b2 : Buf} {p1 p2 : Nat} {a1 a2 : Bytes} (h1 : CAt b1 p1 a1) (h2 : CAt b2 p2 a2) :
    StrStr b1 p1 b2 p2 = .ok ((TextExt.strStr a1 a2).map (· + p1)) := by
  cases a2 with
  | nil => simp [StrStr, h2.nil_rd, strStr_nil_right]
  | cons y a2 =>
    have hy := h2.cons_ne
    simp only [StrStr, h2.cons_rd, hy, if_false]
    exact strStrLoop_ok a1 (y :: a2) b1 b2 p1 p2 (b1.length + 1) h1 h2 (by simp) h1.lt_fuel

theorem StrStr_isSome_iff_isInfix {b1 b2 : Buf} {p1 p2 : Nat} {a1 a2 : Bytes} (h1 : CAt b1 p1 a1) (h2 : CAt b2 p2 a2) :
    (StrStr b1 p1 b2 p2).map Option.isSome = .ok (Text.isInfix a1 a2) := by
  rw [StrStr_ok h1 h2]
  simp [Except.map, ← strStr_isSome_eq_isInfix]

theorem MemCmp_ok : ∀ (n : Nat) (b1 b2 : Buf) (p1 p2 : Nat), n ≤ (b1.drop p1).length → n ≤ (b2.drop p2).length →
    MemCmp b1 p1 b2 p2 n = .ok (TextExt.memCmp n (b1.drop p1) (b2.drop p2))
  | 0, _, _, _, _, _, _ => by simp [MemCmp, TextExt.memCmp]
  | n + 1, b1, b2, p1, p2, h1, h2 => by
    match hd1 : b1.drop p1, hd2 : b2.drop p2 with
    | [], _ => rw [hd1] at h1; simp at h1
    | _ :: _, [] => rw [hd2] at h2; simp at h2
    | x :: r1, y :: r2 =>
      rw [hd1] at h1; rw [hd2] at h2
      simp only [MemCmp, rd_of_drop hd1, rd_of_drop hd2, TextExt.memCmp]
      by_cases hxy : x = y
      · subst hxy
        simp only [ne_eq, not_true_eq_false, if_false, if_true]
        rw [MemCmp_ok n b1 b2 (p1 + 1) (p2 + 1) (by rw [drop_succ_of_drop hd1]; simpa using h1)
          (by rw [drop_succ_of_drop hd2]; simpa using h2), drop_succ_of_drop hd1, drop_succ_of_drop hd2]
      · simp [hxy]

/-! ### writes and copies -/

theorem wr_ok {b : Buf} {i : Nat} (v : UInt8) (h : i < b.length) : wr b i v = .ok (b.set i v) := by
  simp [wr, h]

theorem wr_append {pre : Buf} {x : UInt8} {post : Buf} (v : UInt8) :
    wr (pre ++ x :: post) pre.length v = .ok (pre ++ v :: post) := by
  simp [wr]

theorem take_cz_full (a : Bytes) : (cz a).take (a.length + 1) = a ++ [0] := by
  simp [cz, List.take_of_length_le]

theorem StrNCpy_append {src : Buf} {sp : Nat} {a : Bytes} (h : CAt src sp a) (out room : Buf) (n : Nat)
    (hroom : min n (a.length + 1) ≤ room.length) :
    StrNCpy (out ++ room) out.length src sp n =
      .ok (out ++ (cz a).take n ++ room.drop (min n (a.length + 1))) := by
  induction n generalizing a sp out room with
  | zero => simp [StrNCpy]
  | succ n ih =>
    match room, hroom with
    | [], hroom => simp at hroom
    | m :: room, hroom =>
      cases a with
      | nil => simp [StrNCpy, h.nil_rd, wr_append, cz]
      | cons x a =>
        have ih := ih h.tail (out ++ [x]) room (by simp at hroom ⊢; omega)
        simp only [List.length_append, List.length_cons, List.length_nil, List.append_assoc, List.cons_append,
          List.nil_append] at ih
        simp only [StrNCpy, h.cons_rd, wr_append, h.cons_ne, if_false, ih]
        simp [cz, Nat.add_min_add_right]

theorem StrNCpy_append_full {src : Buf} {sp : Nat} {a : Bytes} (h : CAt src sp a) (out room : Buf)
    (hroom : a.length + 1 ≤ room.length) :
    StrNCpy (out ++ room) out.length src sp (a.length + 1) = .ok (out ++ a ++ 0 :: room.drop (a.length + 1)) := by
  rw [StrNCpy_append h out room _ (by omega), take_cz_full, Nat.min_self]
  simp

/-- nothing but `(cz src).take n` at `dp` is written: no zero padding -/
theorem StrNCpy_ok {dst src : Buf} {dp sp n : Nat} {a : Bytes} (h : CAt src sp a)
    (hfit : dp + min n (a.length + 1) ≤ dst.length) :
    StrNCpy dst dp src sp n =
      .ok (dst.take dp ++ (cz a).take n ++ dst.drop (dp + min n (a.length + 1))) := by
  have := StrNCpy_append h (dst.take dp) (dst.drop dp) n (by rw [List.length_drop]; omega)
  rwa [List.take_append_drop, List.length_take, Nat.min_eq_left (by omega), List.drop_drop] at this

theorem StrNCpy_front {dst src : Buf} {sp n : Nat} {a : Bytes} (h : CAt src sp a)
    (hfit : min n (a.length + 1) ≤ dst.length) :
    StrNCpy dst 0 src sp n = .ok (TextExt.strNCpy dst a n) := by
  have := StrNCpy_ok (dst := dst) (dp := 0) (n := n) h (by simpa using hfit)
  simpa [TextExt.strNCpy] using this

/-! ### character classes, ToLower -/

theorem toNat_lt (c : UInt8) : c.toNat < 256 := c.toNat_lt

theorem ToLower_eq_lowerByte (c : UInt8) : ToLower c = Text.lowerByte c := by
  simp only [ToLower, isUpper, Text.lowerByte, Bool.and_eq_true, decide_eq_true_eq]

theorem isSpace_eq_isBlank : ∀ c : UInt8, isSpace c = TextExt.isBlank c := forall_uint8 _ (by decide +kernel)

theorem isDigit_eq (c : UInt8) : isDigit c = TextExt.isDigit c := rfl

/-! ### the loops of `AtoU` and `AtoI` -/

theorem skipSpaces_ok (a : Bytes) (b : Buf) (p f : Nat) (h : CAt b p a) (hf : a.length < f) :
    skipSpaces b f p = .ok (p + (a.takeWhile TextExt.isBlank).length) := by
  induction a, p, f, h, hf using CAt.scan with
  | nil p f _ _ hr =>
    have : isSpace 0 = false := by decide
    simp [skipSpaces, hr, this]
  | cons x a p f _ _ _ _ _ hr ih =>
    simp only [skipSpaces, hr, isSpace_eq_isBlank, List.takeWhile_cons]
    by_cases hb : TextExt.isBlank x = true
    · simp only [hb, if_true, ih]
      simp; omega
    · simp [hb]

theorem atoULoop_ok (a : Bytes) (b : Buf) (p f r : Nat) (h : CAt b p a) (hf : a.length < f) (hr : r < 4294967296) :
    atoULoop b f p r = .ok (TextExt.digitsVal r (a.takeWhile TextExt.isDigit) % 4294967296) := by
  induction a, p, f, h, hf using CAt.scan generalizing r with
  | nil p f _ _ hrd => simp [atoULoop, hrd, isDigit_eq, isDigit_zero, TextExt.digitsVal, Nat.mod_eq_of_lt hr]
  | cons x a p f _ _ _ _ _ hrd ih =>
    simp only [atoULoop, hrd, isDigit_eq, List.takeWhile_cons]
    by_cases hd : TextExt.isDigit x = true
    · simp only [hd, if_true, ih _ (Nat.mod_lt _ (by decide)), TextExt.digitsVal, List.foldl_cons]
      exact congrArg Except.ok (digitsVal_mod _ _)
    · simp [hd, TextExt.digitsVal, Nat.mod_eq_of_lt hr]

theorem atoILoop_ok (a : Bytes) (b : Buf) (p f r : Nat) (h : CAt b p a) (hf : a.length < f)
    (hfit : TextExt.digitsVal r (a.takeWhile TextExt.isDigit) ≤ 2147483647) :
    atoILoop b f p r = .ok (TextExt.digitsVal r (a.takeWhile TextExt.isDigit)) := by
  induction a, p, f, h, hf using CAt.scan generalizing r with
  | nil p f _ _ hrd => simp [atoILoop, hrd, isDigit_eq, isDigit_zero, TextExt.digitsVal]
  | cons x a p f _ _ _ _ _ hrd ih =>
    simp only [atoILoop, hrd, isDigit_eq, List.takeWhile_cons] at hfit ⊢
    by_cases hd : TextExt.isDigit x = true
    · simp only [hd, if_true, TextExt.digitsVal, List.foldl_cons] at hfit ⊢
      have hge := digitsVal_ge (a.takeWhile TextExt.isDigit) (r * 10 + (x.toNat - 48))
      simp only [TextExt.digitsVal] at hge
      have : ¬ (r * 10 + (x.toNat - 48) > 2147483647) := by omega
      simp only [this, if_false]
      exact ih _ hfit
    · simp [hd, TextExt.digitsVal]

/-! ### inversion: what a successful run tells about the operands -/

theorem strLenLoop_inv : ∀ (f : Nat) (b : Buf) (p n m : Nat), strLenLoop b f p n = .ok m →
    ∃ a, CAt b p a ∧ m = n + a.length
  | 0, _, _, _, _, h => by simp [strLenLoop] at h
  | f + 1, b, p, n, m, h => by
    simp only [strLenLoop] at h
    cases hr : rd b p with
    | error e => simp [hr] at h
    | ok c =>
      simp only [hr] at h
      obtain ⟨rest, hd⟩ := drop_of_rd hr
      by_cases hc : c = 0
      · subst hc
        simp only [if_true] at h
        injection h with h
        exact ⟨[], ⟨nulFree_nil, rest, by simpa using hd⟩, by simp [h]⟩
      · simp only [hc, if_false] at h
        obtain ⟨a, ⟨hnf, post, hda⟩, hm⟩ := strLenLoop_inv f b (p + 1) (n + 1) m h
        refine ⟨c :: a, ⟨nulFree_cons.mpr ⟨hc, hnf⟩, post, ?_⟩, by simp [hm]; omega⟩
        have := drop_succ_of_drop hd
        rw [this] at hda
        rw [hd, hda]; rfl

theorem StrLen_inv {b : Buf} {p n : Nat} (h : StrLen b p = .ok n) : ∃ a, CAt b p a ∧ a.length = n := by
  obtain ⟨a, ha, hn⟩ := strLenLoop_inv _ b p 0 n h
  exact ⟨a, ha, by omega⟩

theorem hasStr_of_zero {b : Buf} {j : Nat} (h : b[j]? = some 0) : ∃ a, CAt b 0 a := by
  rw [(ListLemmas.eq_take_cons_drop h).2]
  exact ⟨_, cat_cut _ _⟩

theorem wr_inv {b b' : Buf} {i : Nat} {v : UInt8} (h : wr b i v = .ok b') : i < b.length ∧ b' = b.set i v := by
  simp only [wr] at h
  split at h
  · next hi => injection h with h; exact ⟨hi, h.symm⟩
  · cases h

theorem wr_length {b b' : Buf} {i : Nat} {v : UInt8} (h : wr b i v = .ok b') : b'.length = b.length := by
  rw [(wr_inv h).2]; simp

theorem StrNCpy_length : ∀ (n : Nat) (dst : Buf) (dp : Nat) (src : Buf) (sp : Nat) (d : Buf),
    StrNCpy dst dp src sp n = .ok d → d.length = dst.length
  | 0, dst, _, _, _, d, h => by simp only [StrNCpy] at h; injection h with h; rw [h]
  | n + 1, dst, dp, src, sp, d, h => by
    simp only [StrNCpy] at h
    cases hr : rd src sp with
    | error e => simp [hr] at h
    | ok c =>
      simp only [hr] at h
      cases hw : wr dst dp c with
      | error e => simp [hw] at h
      | ok dst' =>
        simp only [hw] at h
        have hl := wr_length hw
        split at h
        · injection h with h; rw [← h, hl]
        · rw [StrNCpy_length n dst' (dp + 1) src (sp + 1) d h, hl]

end CStr
