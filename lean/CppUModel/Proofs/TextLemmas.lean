import CppUModel.Spec.Text
/-! What the textbook string functions of `Spec/Text.lean` decide, for every area that models a call to
`StrCmp`, `StrNCmp` or `contains` by them.  "NUL-free" is written out (`∀ c ∈ a, c ≠ 0`): the areas' own
`NulFree` predicates unfold to it. -/
namespace Text

private theorem toNat_ne_zero {c : UInt8} (h : c ≠ 0) : c.toNat ≠ 0 :=
  fun e => h (UInt8.toNat_inj.mp (by simpa using e))

/-- the hypotheses are needed: `cmp [] [0] = 0` -/
theorem cmp_eq_zero_iff : ∀ {a b : Bytes}, (∀ c ∈ a, c ≠ 0) → (∀ c ∈ b, c ≠ 0) → (cmp a b = 0 ↔ a = b)
  | [], [], _, _ => by simp [cmp]
  | [], y :: b, _, hb => by
    have := toNat_ne_zero (hb y (by simp))
    simp [cmp]; omega
  | x :: a, [], ha, _ => by
    have := toNat_ne_zero (ha x (by simp))
    simp [cmp]; omega
  | x :: a, y :: b, ha, hb => by
    by_cases hxy : x = y
    · subst hxy
      simp [cmp, cmp_eq_zero_iff (fun c hc => ha c (List.mem_cons_of_mem _ hc)) (fun c hc => hb c (List.mem_cons_of_mem _ hc))]
    · have : x.toNat ≠ y.toNat := fun h => hxy (UInt8.toNat_inj.mp h)
      simp [cmp, hxy]; omega

theorem ncmp_eq_cmp_take : ∀ (n : Nat) (a b : Bytes), ncmp n a b = cmp (a.take n) (b.take n)
  | 0, _, _ => rfl
  | _ + 1, [], [] => rfl
  | _ + 1, [], _ :: _ => rfl
  | _ + 1, _ :: _, [] => rfl
  | n + 1, x :: xs, y :: ys => by simp only [ncmp, cmp, List.take_succ_cons, ncmp_eq_cmp_take n xs ys]

theorem ncmp_eq_zero_iff (n : Nat) {a b : Bytes} (ha : ∀ c ∈ a, c ≠ 0) (hb : ∀ c ∈ b, c ≠ 0) :
    ncmp n a b = 0 ↔ a.take n = b.take n :=
  ncmp_eq_cmp_take n a b ▸ cmp_eq_zero_iff (fun c h => ha c (List.mem_of_mem_take h)) (fun c h => hb c (List.mem_of_mem_take h))

theorem ncmp_eq_cmp : ∀ (n : Nat) (a b : Bytes), a.length < n → ncmp n a b = cmp a b
  | 0, _, _, h => absurd h (Nat.not_lt_zero _)
  | _ + 1, [], [], _ => rfl
  | _ + 1, [], _ :: _, _ => rfl
  | _ + 1, _ :: _, [], _ => rfl
  | n + 1, x :: a, y :: b, h => by
    simp only [ncmp, cmp, ncmp_eq_cmp n a b (Nat.lt_of_succ_lt_succ h)]

theorem isInfix_iff (a b : Bytes) : isInfix a b = true ↔ b <:+: a := by
  induction a with
  | nil => simp [isInfix, List.isEmpty_iff]
  | cons x t ih =>
    simp only [isInfix, Bool.or_eq_true, ih, List.infix_cons_iff, List.isPrefixOf_iff_prefix]

theorem isInfix_mono (acc x b : Bytes) (h : isInfix acc b = true) : isInfix (acc ++ x) b = true := by
  rw [isInfix_iff] at h ⊢
  exact h.trans (List.prefix_append acc x).isInfix

theorem isInfix_self_mid (acc e x : Bytes) : isInfix (acc ++ e ++ x) e = true := by
  rw [isInfix_iff]
  exact List.infix_append acc e x

/-! ## `find`, `subString`, `subStringFromTill`, `split`, `replaceAll` on strings of a known shape -/

private theorem findIdx?_skip (p : UInt8 → Bool) (g r : Bytes) (h : ∀ x ∈ g, p x = false) :
    (g ++ r).findIdx? p = (r.findIdx? p).map (· + g.length) := by
  rw [List.findIdx?_append, List.findIdx?_eq_none_iff.mpr h, Option.none_or]

private theorem not_mem_beq_false (k : UInt8) (g : Bytes) (h : k ∉ g) : ∀ x ∈ g, (x == k) = false := by
  intro x hx
  cases e : x == k with
  | false => rfl
  | true => exact absurd (eq_of_beq e ▸ hx) h

theorem find_after (g r : Bytes) (k : UInt8) (h : k ∉ g) : find (g ++ k :: r) k = some g.length := by
  simp [find, findFrom, findIdx?_skip _ g (k :: r) (not_mem_beq_false k g h), List.findIdx?_cons]

theorem findFrom_zero_none (a : Bytes) (k : UInt8) (h : k ∉ a) : findFrom a 0 k = none := by
  have := not_mem_beq_false k a h
  simp only [findFrom, List.drop_zero, Option.map_eq_none_iff, List.findIdx?_eq_none_iff]
  intro x hx; simp [this x hx]

theorem subStringFromTill_between (a m r : Bytes) (s e : UInt8) (hs : s ∉ a) (he : e ∉ s :: m) :
    subStringFromTill (a ++ s :: (m ++ e :: r)) s e = s :: m := by
  have hd : (a ++ s :: (m ++ e :: r)).drop a.length = s :: (m ++ e :: r) := by simp
  have hf : findFrom (a ++ s :: (m ++ e :: r)) a.length e = some (m.length + 1 + a.length) := by
    rw [findFrom, hd, ← List.cons_append, findIdx?_skip _ (s :: m) (e :: r) (not_mem_beq_false e _ he)]
    simp [List.findIdx?_cons]
  rw [subStringFromTill, find_after a _ s hs]
  simp only [hf, hd]
  simp

theorem subString_infix (a : Bytes) (p n : Nat) : subString a p n <:+: a := by
  unfold subString
  split
  · exact List.nil_infix
  · exact (List.take_prefix _ _).isInfix.trans (List.drop_suffix _ _).isInfix

theorem subStringFromTill_infix (a : Bytes) (s e : UInt8) : subStringFromTill a s e <:+: a := by
  unfold subStringFromTill
  split
  · exact List.nil_infix
  · split
    · exact (List.drop_suffix _ _).isInfix
    · exact (List.take_prefix _ _).isInfix.trans (List.drop_suffix _ _).isInfix

theorem singleton_not_prefix {k x : UInt8} (t : Bytes) (h : x ≠ k) : ([k] : Bytes).isPrefixOf (x :: t) = false := by
  have : (k == x) = false := beq_eq_false_iff_ne.mpr (Ne.symm h)
  simp [List.isPrefixOf, this]

theorem splitAux_nil (fuel : Nat) (d cur : Bytes) :
    splitAux fuel [] d cur = if cur.isEmpty then [] else [cur.reverse] := by cases fuel <;> rfl

theorem splitAux_skip {k : UInt8} : ∀ (g r : Bytes) (fuel : Nat) (cur : Bytes), k ∉ g → g.length ≤ fuel →
    splitAux fuel (g ++ r) [k] cur = splitAux (fuel - g.length) r [k] (g.reverse ++ cur)
  | [], r, fuel, cur, _, _ => by simp
  | x :: t, r, fuel, cur, hg, hf => by
    obtain ⟨f, rfl⟩ : ∃ f, fuel = f + 1 := ⟨fuel - 1, by simp at hf; omega⟩
    have hx : x ≠ k := fun e => hg (by simp [e])
    have ih := splitAux_skip t r f (x :: cur) (fun m => hg (List.mem_cons_of_mem _ m)) (by simp at hf; omega)
    simp only [List.cons_append, splitAux, singleton_not_prefix _ hx, Bool.false_eq_true, if_false, ih]
    simp

theorem splitAux_one {k : UInt8} (g n : Bytes) (fuel : Nat) (cur : Bytes) (hg : k ∉ g) (hn : k ∉ n) (hne : n ≠ [])
    (hf : g.length + n.length + 1 < fuel) :
    splitAux fuel (g ++ k :: n) [k] cur = [cur.reverse ++ g ++ [k], n] := by
  obtain ⟨f, hk⟩ : ∃ f, fuel - g.length = f + 1 := ⟨fuel - g.length - 1, by omega⟩
  have h2 := splitAux_skip n [] f [] hn (by omega)
  rw [List.append_nil] at h2
  rw [splitAux_skip g _ fuel cur hg (by omega), hk]
  simp [splitAux, h2, splitAux_nil, hne]

theorem splitAux_infix : ∀ (fuel : Nat) (a d cur t : Bytes), t ∈ splitAux fuel a d cur → t <:+: (cur.reverse ++ a)
  | 0, a, d, cur, t, h => by
    simp only [splitAux] at h
    split at h
    · cases h
    · simp only [List.mem_singleton] at h; subst h; exact (List.prefix_append _ _).isInfix
  | f + 1, [], d, cur, t, h => by
    simp only [splitAux] at h
    split at h
    · cases h
    · simp only [List.mem_singleton] at h; subst h; exact (List.prefix_append _ _).isInfix
  | f + 1, x :: r, d, cur, t, h => by
    simp only [splitAux] at h
    split at h
    · rename_i hp
      simp only [List.mem_cons] at h
      rcases h with rfl | h
      · have hpre : d <+: (x :: r) := List.isPrefixOf_iff_prefix.mp hp
        obtain ⟨rest, hr⟩ := hpre
        rw [← hr, ← List.append_assoc]
        exact (List.prefix_append _ _).isInfix
      · have ih := splitAux_infix f ((x :: r).drop d.length) d [] t h
        exact ih.trans ((List.drop_suffix _ _).isInfix.trans (List.suffix_append _ _).isInfix)
    · have ih := splitAux_infix f r d (x :: cur) t h
      simpa using ih

theorem replaceAllAux_not_mem {k : UInt8} (pat : Bytes) : ∀ (n : Nat) (t : Bytes), k ∉ t → t.length ≤ n →
    replaceAllAux n t (k :: pat) [] = t
  | 0, t, _, h => by cases t <;> simp_all [replaceAllAux]
  | n + 1, [], _, _ => rfl
  | n + 1, x :: t, hd, hl => by
    have hx : x ≠ k := by intro e; exact hd (by simp [e])
    have ht : k ∉ t := fun h => hd (List.mem_cons_of_mem _ h)
    have : ¬ (k :: pat).isPrefixOf (x :: t) = true := by
      simp [List.isPrefixOf, Ne.symm hx]
    simp only [replaceAllAux, this, if_false, Bool.false_eq_true]
    rw [replaceAllAux_not_mem pat n t ht (by simpa using hl)]

theorem forall_uint8 (P : UInt8 → Prop) (h : ∀ n : Fin 256, P (UInt8.ofNat n.val)) : ∀ c, P c := by
  intro c
  have := h ⟨c.toNat, c.toNat_lt⟩
  simpa using this

theorem lowerByte_ne_zero (c : UInt8) (h : c ≠ 0) : lowerByte c ≠ 0 := by
  simp only [lowerByte]
  split
  · next hc =>
    intro h0
    have h1 : (65 : UInt8).toNat ≤ c.toNat := UInt8.le_iff_toNat_le.mp hc.1
    have h2 : c.toNat ≤ (90 : UInt8).toNat := UInt8.le_iff_toNat_le.mp hc.2
    have : (c + 32).toNat = 0 := by rw [h0]; rfl
    simp at h1 h2 this
    omega
  · exact h

end Text
