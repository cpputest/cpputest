import CppUModel.Proofs.MockC
/-! C19: the knowledge computed from the scenario text (`Sym`) stays true of the pointers along a run. -/
namespace MockC

theorem storeX_spec (K : CppMock) (st : Core K) (kind : XKind) (r : Res K.EC K.AC) :
    (storeX K st kind r).m = st.m ∧ (storeX K st kind r).cur = st.cur ∧
    ((storeX K st kind r).a = st.a ∨ kind = .toAct ∧ ∃ a', r = .ac a' ∧ (storeX K st kind r).a = some a') := by
  cases kind <;> cases r <;> simp [storeX]

theorem has_sig_facts : signature "hasReturnValue" [] ≠ sigActualCall ∧ signature "hasReturnValue" [] ≠ sigClear ∧
    signature "hasReturnValue" [] ≠ sigDisable ∧ signature "hasReturnValue" [] ≠ sigIgnoreOtherCalls := by decide

/-- what a call on the support object does to the knowledge: one of three outcomes, each with its side conditions (the tests
    in the order `symStepX` makes them) -/
theorem symStepX_sup {sy sy' : Sym} {sig : String} {args : List Val} {kind : XKind}
    (hs : symStepX sy (.call .sup sig args kind) = some sy') :
    sig ≠ sigDisable ∧ sig ≠ sigIgnoreOtherCalls ∧
    ((sig = sigActualCall ∧ kind = .toAct ∧ sy' = { sy with act := sy.cur }) ∨
     (kind ≠ .toAct ∧ sy' = { sy with act := none }) ∨
     (sig ≠ sigActualCall ∧ sig ≠ sigClear ∧ kind ≠ .toAct ∧ sy' = sy)) := by
  by_cases hd : sig = sigDisable ∨ sig = sigIgnoreOtherCalls
  · simp [symStepX, hd] at hs                        -- checking is switched off: not in the class
  · refine ⟨(not_or.mp hd).1, (not_or.mp hd).2, ?_⟩
    simp only [symStepX, if_neg hd] at hs
    by_cases ha : sig = sigActualCall
    · rw [if_pos ha] at hs
      by_cases hk : kind = .toAct
      · rw [if_pos hk] at hs
        exact Or.inl ⟨ha, hk, (Option.some.inj hs).symm⟩
      · rw [if_neg hk] at hs; cases hs
    · rw [if_neg ha] at hs
      by_cases hk : kind = .toAct
      · rw [if_pos hk] at hs; cases hs
      · rw [if_neg hk] at hs
        by_cases hc : sig = sigClear
        · rw [if_pos hc] at hs                        -- `clear()`: no static call is known any more
          exact Or.inr (Or.inl ⟨hk, (Option.some.inj hs).symm⟩)
        · rw [if_neg hc] at hs
          exact Or.inr (Or.inr ⟨ha, hc, hk, (Option.some.inj hs).symm⟩)

theorem symInv_keep {K : CppMock} {sl : ScopeLaws K} {sy : Sym} {st st' : Core K} (inv : SymInv K sl sy st)
    (hc : st'.cur = st.cur) (ha : st'.a = st.a) (hp : sl.plain st'.m) (hl : ∀ s, K.last st'.m s = K.last st.m s) :
    SymInv K sl sy st' :=
  ⟨inv.cur.trans hc.symm, hp, fun s h => by
    obtain ⟨a1, h1, h2⟩ := inv.act s h
    exact ⟨a1, ha.trans h1, (hl s).trans h2⟩⟩

theorem symInv_storeX {K : CppMock} {sl : ScopeLaws K} {sy : Sym} {st : Core K} (inv : SymInv K sl sy st) {m' : K.M}
    (kind : XKind) (r : Res K.EC K.AC) (hp : sl.plain m') (hl : ∀ s, K.last m' s = K.last st.m s)
    (ha : kind = .toAct → ∀ a', r = .ac a' → st.a = some a') :
    SymInv K sl sy (storeX K { st with m := m' } kind r) := by
  obtain ⟨em, ec, ea⟩ := storeX_spec K { st with m := m' } kind r
  refine symInv_keep inv ec ?_ (by rw [em]; exact hp) (fun s => by rw [em]; exact hl s)
  rcases ea with h | ⟨hk, a', hr, h⟩
  · exact h
  · exact h.trans (ha hk a' hr).symm

/-- the C++ `...OrDefault` on a receiver whose method is `f`: it ends in the world after `has` or in the world after the
    getter, so the knowledge stays true if both calls (`ok` of their signatures) keep checking on and the last calls -/
theorem symInv_orDefault {K : CppMock} {sl : ScopeLaws K} {sy : Sym} {st : Core K} (inv : SymInv K sl sy st)
    (recv : Ptr) (getter : String) (kind : XKind) (d : Val) (f : K.M → String → K.M × Res K.EC K.AC)
    (hcall : ∀ m1 sig, callVia K { st with m := m1 } recv sig [] = some (f m1 sig)) (ok : String → Prop)
    (hp : ∀ m1 sig, ok sig → sl.plain m1 → sl.plain (f m1 sig).1)
    (hl : ∀ m1 sig s, ok sig → K.stopped (f m1 sig).1 = false → K.last (f m1 sig).1 s = K.last m1 s)
    (h1 : ok (signature "hasReturnValue" [])) (h2 : ok (signature getter []))
    (hns : K.stopped (execXOrDefault K st recv getter kind d).1.m = false) :
    SymInv K sl sy (execXOrDefault K st recv getter kind d).1 := by
  rw [execXOrDefault_eq st recv getter kind d (hcall st.m _) (hcall _ _)] at hns ⊢
  by_cases hs : K.stopped (f st.m (signature "hasReturnValue" [])).1 = true
  · rw [if_pos hs] at hns; rw [hs] at hns; cases hns
  · rw [if_neg hs] at hns ⊢
    have i1 : SymInv K sl sy { st with m := (f st.m (signature "hasReturnValue" [])).1 } :=
      symInv_keep inv rfl rfl (hp _ _ h1 inv.plain) (fun s => hl _ _ s h1 (by simpa using hs))
    by_cases hv : asBool (f st.m (signature "hasReturnValue" [])).2 = true
    · rw [if_pos hv] at hns ⊢
      exact symInv_keep i1 rfl rfl (hp _ _ h2 i1.plain) (fun s => hl _ _ s h2 hns)
    · rw [if_neg hv]; exact i1

theorem inv_step (K : CppMock) (sl : ScopeLaws K) (sy sy' : Sym) (st : Core K) (x : XStmt)
    (inv : SymInv K sl sy st) (hs : symStepX sy x = some sy')
    (hns : K.stopped (execX K st x).1.m = false) : SymInv K sl sy' (execX K st x).1 := by
  obtain ⟨m, cur, e, a⟩ := st
  have ⟨icur, iplain, iact⟩ := inv
  cases x with
  | mock s =>
    simp only [symStepX, Option.some.injEq] at hs; subst hs
    simp only [execX]
    exact ⟨rfl, sl.plain_mock _ _ iplain, fun s0 h => by
      obtain ⟨a', ha, hl⟩ := iact s0 h
      exact ⟨a', ha, by simp only [sl.last_mock]; exact hl⟩⟩
  | invalid w =>
    simp only [symStepX, Option.some.injEq] at hs; subst hs
    exact inv
  | call recv sig args kind =>
    cases recv with
    | sup =>
      obtain ⟨hnd, hni, hcases⟩ := symStepX_sup hs
      cases cur with
      | none =>
        -- no scope selected: the call is not made, and `sy.cur = none`
        rcases hcases with ⟨_, _, rfl⟩ | ⟨_, rfl⟩ | ⟨_, _, _, rfl⟩
        · exact ⟨icur, iplain, fun s h => by simp [icur] at h⟩
        · exact ⟨icur, iplain, fun s h => by simp at h⟩
        · exact inv
      | some s0 =>
        simp only [execX, callVia] at hns ⊢
        have hpl := sl.plain_sup m s0 sig args hnd hni iplain
        obtain ⟨em, ec, _⟩ := storeX_spec K ⟨(K.sup m s0 sig args).1, some s0, e, a⟩ kind (K.sup m s0 sig args).2
        rw [em] at hns
        rcases hcases with ⟨rfl, rfl, rfl⟩ | ⟨hk, rfl⟩ | ⟨hna, hnc, hk, rfl⟩
        · -- `actualCall`: the call handed out is the scope's last one and becomes the static one
          obtain ⟨a', hr, hl⟩ := sl.actual_sets_last m s0 args iplain hns
          refine ⟨by rw [ec]; exact icur, by rw [em]; exact hpl, ?_⟩
          intro s h
          simp only [icur, Option.some.injEq] at h; subst h
          exact ⟨a', by simp [storeX, hr], by rw [em]; exact hl⟩
        · exact ⟨by rw [ec]; exact icur, by rw [em]; exact hpl, fun s h => by simp at h⟩
        · exact symInv_storeX inv kind _ hpl (fun s => sl.last_sup m s0 sig args s hna hnc hns) (fun h => absurd h hk)
    | exp =>
      simp only [symStepX] at hs
      split at hs
      · cases hs
      · rename_i hk
        simp only [Option.some.injEq] at hs; subst hs
        cases e with
        | none => exact inv
        | some e0 =>
          simp only [execX, callVia] at hns ⊢
          rw [(storeX_spec K _ kind _).1] at hns
          exact symInv_storeX inv kind _ (sl.plain_ec _ _ _ _ iplain) (fun s => sl.last_ec m e0 sig args s hns)
            (fun h => absurd h hk)
    | act =>
      simp only [symStepX, Option.some.injEq] at hs; subst hs
      cases a with
      | none => exact inv
      | some a0 =>
        simp only [execX, callVia] at hns ⊢
        rw [(storeX_spec K _ kind _).1] at hns
        -- a call object handed back by a member of the call is the call itself
        exact symInv_storeX inv kind _ (sl.plain_ac _ _ _ _ iplain) (fun s => sl.last_ac m a0 sig args s hns)
          (fun _ a' hr => by rw [sl.ac_self m a0 sig args a' hr])
  | orDefault recv g kind d =>
    cases recv with
    | exp => simp [symStepX] at hs
    | act =>
      simp only [symStepX, Option.some.injEq] at hs; subst hs
      cases a with
      | none => exact inv
      | some a0 =>
        exact symInv_orDefault inv .act g kind d (fun m1 sig => K.ac m1 a0 sig []) (fun _ _ => rfl) (fun _ => True)
          (fun m1 sig _ h => sl.plain_ac m1 a0 sig [] h) (fun m1 sig s _ h => sl.last_ac m1 a0 sig [] s h) trivial trivial hns
    | sup =>
      simp only [symStepX] at hs
      split at hs
      · cases hs
      · rename_i hg
        simp only [not_or] at hg
        simp only [Option.some.injEq] at hs; subst hs
        cases cur with
        | none => exact inv
        | some s0 =>
          exact symInv_orDefault inv .sup g kind d (fun m1 sig => K.sup m1 s0 sig []) (fun _ _ => rfl)
            (fun sig => sig ≠ sigActualCall ∧ sig ≠ sigClear ∧ sig ≠ sigDisable ∧ sig ≠ sigIgnoreOtherCalls)
            (fun m1 sig ⟨_, _, hd, hi⟩ hpl => sl.plain_sup m1 s0 sig [] hd hi hpl)
            (fun m1 sig s ⟨ha, hc, _, _⟩ hst => sl.last_sup m1 s0 sig [] s ha hc hst) has_sig_facts hg hns

/-! ## from the knowledge to `StepOk` -/

theorem runOk_of_stopped (K : CppMock) (c : CState K) (ss : List CStmt) (h : K.stopped c.core.m = true) :
    RunOk K c ss := by
  cases ss with
  | nil => trivial
  | cons s rest => intro h'; rw [h] at h'; cases h'

/-- a table call is one the theorem speaks about when the member is in its table and, should its forwarder reach
    across, a check `b` holds that guarantees alignment -/
theorem stepOk_call (K : CppMock) (st : Core K) (tbl : Ptr) (field : String) (args : List Val) (b : Bool)
    (hb : b = true → AlignedAt K st)
    (h : ((fieldsOf tbl).contains field &&
      (match Req.forwarderOf tbl field with
       | some fw => !needsAlign tbl fw || b
       | none => true)) = true) : StepOk K st (.call tbl field args) := by
  simp only [Bool.and_eq_true, List.contains_iff_mem] at h
  refine ⟨h.1, ?_⟩
  cases hf : Req.forwarderOf tbl field with
  | none => trivial
  | some fw =>
    have h2 := h.2
    simp only [hf, Bool.or_eq_true, Bool.not_eq_true'] at h2
    intro hn
    rcases h2 with h2 | h2
    · rw [hn] at h2; cases h2
    · exact hb h2

theorem stepOk_of_stmtOk (K : CppMock) (sl : ScopeLaws K) (sy : Sym) (st : Core K) (s : CStmt)
    (inv : SymInv K sl sy st) (h : stmtOk sy s = true) : StepOk K st s := by
  cases s with
  | mockC => trivial
  | mockScope _ => trivial
  | call tbl field args =>
    refine stepOk_call K st tbl field args (sy.act.isSome && sy.act == sy.cur) (fun hb => ?_) h
    simp only [Bool.and_eq_true, beq_iff_eq] at hb
    cases hact : sy.act with
    | none => simp [hact] at hb
    | some s0 =>
      obtain ⟨a, ha, hl⟩ := inv.act s0 hact
      exact ⟨s0, a, by rw [← inv.cur, ← hb.2, hact], ha, hl⟩

end MockC
