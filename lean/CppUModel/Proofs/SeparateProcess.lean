import CppUModel.Spec.SeparateProcess
import CppUModel.Proofs.BitVecLemmas
/-! Lemmas on which the C11 theorems rest: the status word, the wait loop, the registry loops, the regenerated function. -/
namespace SepProc
open Gen.SepProcC

/-! ## status word decoding -/

theorem wTermSig_eq (s : BitVec 32) : wTermSig s = s.toNat % 128 := by
  unfold wTermSig
  rw [BitVec.toNat_and]
  exact Nat.and_two_pow_sub_one_eq_mod s.toNat 7

theorem wExitStatus_eq (s : BitVec 32) : wExitStatus s = s.toNat / 256 % 256 := by
  unfold wExitStatus
  rw [BitVec.toNat_ushiftRight, BitVec.toNat_and]
  rw [Nat.shiftRight_and_distrib]
  rw [Nat.shiftRight_eq_div_pow]
  exact Nat.and_two_pow_sub_one_eq_mod _ 8

theorem wIfExited_eq (s : BitVec 32) : wIfExited s = decide (s.toNat % 128 = 0) := by
  unfold wIfExited
  rw [wTermSig_eq, Bool.beq_eq_decide_eq]

/-- `__WIFSIGNALED`: the `(signed char)` cast makes `0x7f + 1` negative, the shift makes `0 + 1`
    zero; every other 7-bit value stays positive -/
theorem signedCharTest (t : Nat) (h : t < 128) :
    0 < ((BitVec.ofNat 8 (t + 1)).sshiftRight 1).toInt ↔ 1 ≤ t ∧ t ≤ 126 := by
  rw [BitVec.toInt_sshiftRight, BitVec.toInt_eq_toNat_cond, BitVec.toNat_ofNat, Int.shiftRight_eq_div_pow,
    Nat.mod_eq_of_lt (by omega)]
  split <;> omega

theorem wIfSignaled_eq (s : BitVec 32) :
    wIfSignaled s = decide (1 ≤ s.toNat % 128 ∧ s.toNat % 128 ≤ 126) := by
  unfold wIfSignaled
  rw [wTermSig_eq]
  exact decide_eq_decide.mpr (signedCharTest _ (Nat.mod_lt _ (by decide)))

theorem wIfStopped_eq (s : BitVec 32) : wIfStopped s = decide (s.toNat % 256 = 127) := by
  unfold wIfStopped
  rw [BitVec.toNat_and, Bool.beq_eq_decide_eq]
  exact congrArg (fun n => decide (n = 127)) (Nat.and_two_pow_sub_one_eq_mod s.toNat 8)

theorem macros_of_class (s : BitVec 32) :
    match classify s with
    | .exited c => wIfExited s = true ∧ wIfSignaled s = false ∧ wIfStopped s = false ∧ wExitStatus s = c
    | .signaled n => wIfExited s = false ∧ wIfSignaled s = true ∧ wIfStopped s = false ∧ wTermSig s = n
    | .stopped _ => wIfExited s = false ∧ wIfSignaled s = false ∧ wIfStopped s = true
    | .other => wIfExited s = false ∧ wIfSignaled s = false ∧ wIfStopped s = false := by
  rw [wIfExited_eq, wIfSignaled_eq, wIfStopped_eq, wExitStatus_eq, wTermSig_eq]
  unfold classify
  by_cases h0 : s.toNat % 128 = 0
  · simp [h0]; omega
  · by_cases h1 : s.toNat % 128 = 127
    · by_cases h2 : s.toNat % 256 = 127 <;> simp [h1, h2]
    · simp [h0, h1]; omega

/-- the loop condition `!WIFEXITED(status) && !WIFSIGNALED(status)` is "the child is not gone" -/
theorem terminal_eq (s : BitVec 32) : (wIfExited s || wIfSignaled s) = (classify s).terminal := by
  have h := macros_of_class s
  cases hc : classify s <;> rw [hc] at h <;> simp [h, StatusClass.terminal]

theorem stopped_eq (s : BitVec 32) : wIfStopped s = (classify s).isStopped := by
  have h := macros_of_class s
  cases hc : classify s <;> rw [hc] at h <;> simp [h, StatusClass.isStopped]

theorem contOf_eq (s : BitVec 32) : contOf s = if (classify s).isStopped then 1 else 0 := by
  unfold contOf; rw [stopped_eq]

/-- `SetTestFailureByStatusCode` adds exactly the failures the property asks for, for every
    32-bit status word (this is where the regenerated chain enters the proofs) -/
theorem statusFailures_classes (s : BitVec 32) :
    classes (statusFailures s) = (classify s).expected := by
  have h := macros_of_class s
  unfold statusFailures statusChain
  simp only [chainFailures, condHolds, classOfArm, textOfArm]
  cases hc : classify s <;> rw [hc] at h <;> simp [h, classes, StatusClass.expected]
  rename_i c; cases c <;> simp

/-! ## the wait loop -/

/-- failures one wait result adds inside the loop (giving up is accounted for by `endFailures`) -/
def outcomeFailures : WaitOutcome → List Failure
  | .status s => statusFailures s
  | _ => []

def endFailures : LoopEnd → List Failure
  | .gaveUp => [giveUpFailure]
  | .waitError => [waitFailure]
  | .forkFailed => [forkFailure]
  | .noFork => [noForkFailure]
  | _ => []

@[simp] theorem nonFinal_eintr : WaitOutcome.eintr.nonFinal = true := rfl
@[simp] theorem nonFinal_error : WaitOutcome.error.nonFinal = false := rfl

theorem nonFinal_status (s : BitVec 32) :
    (WaitOutcome.status s).nonFinal = !(wIfExited s || wIfSignaled s) := by
  simp only [WaitOutcome.nonFinal, terminal_eq]

theorem isStop_status (s : BitVec 32) : (WaitOutcome.status s).isStop = wIfStopped s := by
  simp only [WaitOutcome.isStop, stopped_eq]

@[simp] theorem classes_append (a b : List Failure) : classes (a ++ b) = classes a ++ classes b :=
  List.map_append

theorem classes_outcomeFailures (o : WaitOutcome) :
    classes (outcomeFailures o) = match o with | .status s => (classify s).expected | _ => [] := by
  cases o with
  | status s => exact statusFailures_classes s
  | _ => rfl

theorem classes_outcomeFailures_nonFinal (o : WaitOutcome) (h : o.nonFinal = true) :
    classes (outcomeFailures o) = List.replicate (if o.isStop then 1 else 0) .stopped := by
  rw [classes_outcomeFailures]
  cases o with
  | status s =>
    -- a class that is not terminal is `stopped` or `other`
    cases hc : classify s <;> simp [WaitOutcome.nonFinal, hc, StatusClass.terminal] at h <;>
      simp [WaitOutcome.isStop, hc, StatusClass.isStopped, StatusClass.expected]
  | _ => rfl

@[simp] theorem prepend_failures (fs c r) : (LoopResult.prepend fs c r).failures = fs ++ r.failures := rfl
@[simp] theorem prepend_consumed (fs c r) : (LoopResult.prepend fs c r).consumed = r.consumed + 1 := rfl
@[simp] theorem prepend_conts (fs c r) : (LoopResult.prepend fs c r).conts = c + r.conts := rfl
@[simp] theorem prepend_ended (fs c r) : (LoopResult.prepend fs c r).ended = r.ended := rfl

theorem parentLoop_nil (r : Nat) :
    parentLoop r [] = { failures := [], consumed := 0, conts := 0, ended := .starved } := rfl

theorem parentLoop_eintr (r : Nat) (rest : List WaitOutcome) :
    parentLoop r (.eintr :: rest) =
      if r > retryBound then { failures := [giveUpFailure], consumed := 1, conts := 0, ended := .gaveUp }
      else (parentLoop (r + 1) rest).prepend [] 0 := rfl

theorem parentLoop_error (r : Nat) (rest : List WaitOutcome) :
    parentLoop r (.error :: rest) =
      { failures := [waitFailure], consumed := 1, conts := 0, ended := .waitError } := rfl

theorem parentLoop_status (r : Nat) (s : BitVec 32) (rest : List WaitOutcome) :
    parentLoop r (.status s :: rest) =
      if wIfExited s || wIfSignaled s then
        { failures := statusFailures s, consumed := 1, conts := contOf s, ended := .childGone }
      else (parentLoop r rest).prepend (statusFailures s) (contOf s) := rfl

@[simp] theorem eintrCount_nil : eintrCount [] = 0 := rfl
@[simp] theorem eintrCount_eintr (l : List WaitOutcome) : eintrCount (.eintr :: l) = eintrCount l + 1 := by
  simp [eintrCount, List.countP_cons, WaitOutcome.isEintr]
@[simp] theorem eintrCount_error (l : List WaitOutcome) : eintrCount (.error :: l) = eintrCount l := by
  simp [eintrCount, WaitOutcome.isEintr]
@[simp] theorem eintrCount_status (s : BitVec 32) (l : List WaitOutcome) :
    eintrCount (.status s :: l) = eintrCount l := by
  simp [eintrCount, WaitOutcome.isEintr]
theorem eintrCount_append (l m : List WaitOutcome) : eintrCount (l ++ m) = eintrCount l + eintrCount m :=
  List.countP_append
@[simp] theorem stopCount_nil : stopCount [] = 0 := rfl
@[simp] theorem stopCount_eintr (l : List WaitOutcome) : stopCount (.eintr :: l) = stopCount l := by
  simp [stopCount, WaitOutcome.isStop]
@[simp] theorem stopCount_error (l : List WaitOutcome) : stopCount (.error :: l) = stopCount l := by
  simp [stopCount, WaitOutcome.isStop]
theorem stopCount_status (s : BitVec 32) (l : List WaitOutcome) :
    stopCount (.status s :: l) = contOf s + stopCount l := by
  simp only [stopCount, List.countP_cons, isStop_status, contOf]
  split <;> omega

theorem consumed_le : ∀ (outs : List WaitOutcome) (r : Nat), (parentLoop r outs).consumed ≤ outs.length := by
  intro outs r
  fun_induction parentLoop r outs <;> simp <;> omega

theorem failures_exact (outs : List WaitOutcome) (r : Nat) :
    (parentLoop r outs).failures =
      (outs.take (parentLoop r outs).consumed).flatMap outcomeFailures ++ endFailures (parentLoop r outs).ended := by
  fun_induction parentLoop r outs <;> simp [outcomeFailures, endFailures, *]

/-- SIGCONT is sent exactly once per stop result used -/
theorem conts_exact (outs : List WaitOutcome) (r : Nat) :
    (parentLoop r outs).conts = stopCount (outs.take (parentLoop r outs).consumed) := by
  fun_induction parentLoop r outs <;> simp [stopCount_status, *]

theorem parentLoop_append (pre : List WaitOutcome) (r : Nat) (rest : List WaitOutcome)
    (hnf : ∀ o ∈ pre, o.nonFinal = true) (hb : eintrCount pre ≤ retryBound + 1 - r) :
    parentLoop r (pre ++ rest) =
      { failures := pre.flatMap outcomeFailures ++ (parentLoop (r + eintrCount pre) rest).failures,
        consumed := pre.length + (parentLoop (r + eintrCount pre) rest).consumed,
        conts := stopCount pre + (parentLoop (r + eintrCount pre) rest).conts,
        ended := (parentLoop (r + eintrCount pre) rest).ended } := by
  induction pre generalizing r with
  | nil => simp
  | cons o pre ih =>
    have ih := fun r => ih r (fun o ho => hnf o (List.mem_cons_of_mem _ ho))
    cases o with
    | eintr =>
      rw [eintrCount_eintr] at hb ⊢
      rw [List.cons_append, parentLoop_eintr, if_neg (by omega), ih (r + 1) (by omega),
        show r + 1 + eintrCount pre = r + (eintrCount pre + 1) by omega]
      simp [LoopResult.prepend, outcomeFailures]; omega
    | error => simp at hnf
    | status s =>
      have ht : ¬ (wIfExited s || wIfSignaled s) = true := by
        simpa [nonFinal_status] using hnf (.status s) (List.mem_cons_self ..)
      rw [List.cons_append, parentLoop_status, if_neg ht, ih r hb]
      simp [LoopResult.prepend, outcomeFailures, stopCount_status]; omega

theorem contOf_terminal {s : BitVec 32} (ht : (classify s).terminal = true) : contOf s = 0 := by
  rw [contOf_eq]
  cases hc : classify s <;> simp [hc, StatusClass.terminal, StatusClass.isStopped] at ht ⊢

/-- the four ways the loop stops at counter `r`, facing what `waitpid` has still to give, with what the
    last pass through the body leaves -/
inductive Stops (r : Nat) : List WaitOutcome → LoopResult → Prop
  | starved : Stops r [] ⟨[], 0, 0, .starved⟩
  | gaveUp (tl) : retryBound < r → Stops r (.eintr :: tl) ⟨[giveUpFailure], 1, 0, .gaveUp⟩
  | waitError (tl) : Stops r (.error :: tl) ⟨[waitFailure], 1, 0, .waitError⟩
  | childGone (s tl) : (classify s).terminal = true → Stops r (.status s :: tl) ⟨statusFailures s, 1, 0, .childGone⟩

theorem Stops.eq {r rest res} (h : Stops r rest res) : parentLoop r rest = res := by
  cases h with
  | gaveUp tl h => rw [parentLoop_eintr, if_pos h]
  | childGone s tl ht => rw [parentLoop_status, if_pos (terminal_eq s ▸ ht), contOf_terminal ht]
  | _ => rfl

theorem parentLoop_of_stops {pre rest res} (r : Nat) (hnf : ∀ o ∈ pre, o.nonFinal = true)
    (hb : eintrCount pre ≤ retryBound + 1 - r) (hs : Stops (r + eintrCount pre) rest res) :
    parentLoop r (pre ++ rest) = ⟨pre.flatMap outcomeFailures ++ res.failures, pre.length + res.consumed,
      stopCount pre + res.conts, res.ended⟩ := by
  rw [parentLoop_append pre r rest hnf hb, hs.eq]

theorem Stops.consumed_le_one {r rest res} (h : Stops r rest res) : res.consumed ≤ 1 := by
  cases h <;> simp

/-- **What the loop does, for every list of results and every counter:** it steps over a stretch of
    results that leave the child alive, no more EINTRs among them than retries are left, and then stops
    in one of the four ways.  Every statement about where and how the loop ends is a case distinction
    on this. -/
theorem parentLoop_outcome (r : Nat) (outs : List WaitOutcome) :
    ∃ pre rest res, outs = pre ++ rest ∧ (∀ o ∈ pre, o.nonFinal = true) ∧
      eintrCount pre ≤ retryBound + 1 - r ∧ Stops (r + eintrCount pre) rest res ∧
      parentLoop r outs = ⟨pre.flatMap outcomeFailures ++ res.failures, pre.length + res.consumed,
        stopCount pre + res.conts, res.ended⟩ := by
  suffices ∃ pre rest res, outs = pre ++ rest ∧ (∀ o ∈ pre, o.nonFinal = true) ∧
      eintrCount pre ≤ retryBound + 1 - r ∧ Stops (r + eintrCount pre) rest res by
    obtain ⟨pre, rest, res, rfl, hnf, hb, hs⟩ := this
    exact ⟨pre, rest, res, rfl, hnf, hb, hs, parentLoop_of_stops r hnf hb hs⟩
  fun_induction parentLoop r outs with
  | case1 r => exact ⟨[], [], _, rfl, by simp, by simp, .starved⟩
  | case2 r rest h => exact ⟨[], _, _, rfl, by simp, by simp, .gaveUp _ h⟩
  | case3 r rest h ih =>
    obtain ⟨pre, rest, res, rfl, hnf, hb, hs⟩ := ih
    exact ⟨.eintr :: pre, rest, res, rfl, by simpa using hnf, by simp; omega,
      by rwa [eintrCount_eintr, ← Nat.add_assoc, Nat.add_right_comm]⟩
  | case4 r rest => exact ⟨[], _, _, rfl, by simp, by simp, .waitError _⟩
  | case5 r s rest ht => exact ⟨[], _, _, rfl, by simp, by simp, .childGone s _ (terminal_eq s ▸ ht)⟩
  | case6 r s rest ht ih =>
    obtain ⟨pre, rest, res, rfl, hnf, hb, hs⟩ := ih
    exact ⟨.status s :: pre, rest, res, rfl, by simpa [nonFinal_status, ht] using hnf, by simpa using hb,
      by simpa using hs⟩

theorem starved_only_if (outs : List WaitOutcome) (r : Nat) (h : (parentLoop r outs).ended = .starved) :
    (∀ o ∈ outs, o.nonFinal = true) ∧ (parentLoop r outs).consumed = outs.length ∧
      eintrCount outs ≤ retryBound + 1 - r := by
  obtain ⟨pre, rest, res, rfl, hnf, hb, hs, e⟩ := parentLoop_outcome r outs
  rw [e] at h ⊢
  cases hs <;> cases h
  simpa using ⟨hnf, hb⟩

theorem classes_of_nonFinal (pre : List WaitOutcome) (h : ∀ o ∈ pre, o.nonFinal = true) :
    classes (pre.flatMap outcomeFailures) = List.replicate (stopCount pre) FailClass.stopped := by
  induction pre with
  | nil => rfl
  | cons o pre ih =>
    rw [List.flatMap_cons, classes_append, ih (fun o ho => h o (List.mem_cons_of_mem _ ho)),
      classes_outcomeFailures_nonFinal o (h o (List.mem_cons_self ..)), stopCount, stopCount, List.countP_cons,
      List.replicate_append_replicate, Nat.add_comm]

theorem count_outcomeFailures (c : FailClass) (p : WaitOutcome → Bool)
    (hp : ∀ o, (classes (outcomeFailures o)).count c = if p o then 1 else 0) (l : List WaitOutcome) :
    (classes (l.flatMap outcomeFailures)).count c = l.countP p := by
  induction l with
  | nil => rfl
  | cons o l ih => rw [List.flatMap_cons, classes_append, List.count_append, hp, ih, List.countP_cons, Nat.add_comm]

theorem count_in_outcomeFailures (o : WaitOutcome) :
    (classes (outcomeFailures o)).count .stopped = (if o.isStop then 1 else 0) ∧
    (classes (outcomeFailures o)).count .eintrGiveUp = 0 := by
  rw [classes_outcomeFailures]
  cases o with
  | status s =>
    show (classify s).expected.count .stopped = (if (classify s).isStopped then 1 else 0) ∧
      (classify s).expected.count .eintrGiveUp = 0
    cases classify s with
    | exited c => cases c <;> simp [StatusClass.expected, StatusClass.isStopped]
    | _ => simp [StatusClass.expected, StatusClass.isStopped]
  | _ => simp [WaitOutcome.isStop]

/-! ## the registry loop -/

theorem runResults_all (rs : List LoopResult) (idx : Nat) (st : RunState)
    (hr : ∀ r ∈ rs, r.ended ≠ .starved) (hh : st.hung = false) :
    (runResults idx rs st).started = st.started ++ List.range' idx rs.length ∧
    (runResults idx rs st).runCount = st.runCount + rs.length ∧
    (runResults idx rs st).failureCount = st.failureCount + (rs.map (·.failures.length)).sum ∧
    (runResults idx rs st).hung = false := by
  fun_induction runResults idx rs st with
  | case1 => simpa using hh
  | case2 idx r rs st h => simp [runResultAt, hr] at h
  | case3 idx r rs st h ih =>
    obtain ⟨i1, i2, i3, i4⟩ := ih (fun r' hr' => hr r' (List.mem_cons_of_mem _ hr')) (by simpa using h)
    rw [i1, i2, i3, i4]
    simp [runResultAt, RunState.failureCount, List.range'_succ]; omega

theorem runResults_init (rs : List LoopResult) (hr : ∀ r ∈ rs, r.ended ≠ .starved) :
    (runResults 0 rs RunState.init).started = List.range rs.length ∧
    (runResults 0 rs RunState.init).runCount = rs.length ∧
    (runResults 0 rs RunState.init).failureCount = (rs.map (·.failures.length)).sum ∧
    (runResults 0 rs RunState.init).hung = false := by
  obtain ⟨h1, h2, h3, h4⟩ := runResults_all rs 0 RunState.init hr rfl
  refine ⟨?_, ?_, ?_, h4⟩
  · rw [h1]; simp [RunState.init, List.range_eq_range']
  · rw [h2]; simp [RunState.init]
  · rw [h3]; simp [RunState.init, RunState.failureCount]

theorem runResults_inRunner (rs : List LoopResult) (idx : Nat) (st : RunState) :
    (runResults idx rs st).inRunner = st.inRunner := by
  fun_induction runResults idx rs st with
  | case3 _ _ _ _ _ ih => exact ih
  | _ => rfl

theorem runKindsFrom_forked (call : IgnoredRunCall) (ri : Bool) (ts : List KTest) (idx : Nat) (gs : Bool)
    (st : RunState) (hh : ∀ t ∈ ts, howRun call ri true t.kind = .forked) :
    runKindsFrom call .everyTest ri idx gs ts st = runTests idx (ts.map (·.script)) st := by
  fun_induction runKindsFrom call .everyTest ri idx gs ts st with
  | case1 => rfl
  | case2 _ _ _ _ _ _ h => simp [runTests, runResults, h]
  | case3 _ _ _ _ _ _ h ih =>
    simpa [runTests, runResults, h] using ih (fun t ht => hh t (List.mem_cons_of_mem _ ht))
  | case4 _ _ t _ _ h => cases (hh t (List.mem_cons_self ..)).symm.trans h
  | case5 _ _ t _ _ h => cases (hh t (List.mem_cons_self ..)).symm.trans h

theorem runRegistryFrom_eq_kinds (call : IgnoredRunCall) (ri : Bool) (p : SepFlagPlacement) (ts : List RegTest)
    (idx : Nat) (gs : Bool) (st : RunState) :
    runRegistryFrom p idx gs ts st =
      runKindsFrom call p ri idx gs (ts.map fun t => ⟨.normal, t.group, t.script⟩) st := by
  fun_induction runRegistryFrom p idx gs ts st with
  | case1 => rfl
  | case2 _ _ _ _ _ hf h => simp [runKindsFrom, howRun, hf, h]
  | case3 _ _ _ _ _ hf h ih => simp [runKindsFrom, howRun, hf, h, ← ih, Function.comp_def]
  | case4 _ _ _ _ _ hf ih => simp [runKindsFrom, howRun, hf, ← ih, Function.comp_def]

theorem runKindsFrom_inRunner (call : IgnoredRunCall) (p : SepFlagPlacement) (ri : Bool)
    (hh : ∀ gs k, howRun call ri (sepFlag p gs) k ≠ .inRunner)
    (ts : List KTest) (idx : Nat) (gs : Bool) (st : RunState) :
    (runKindsFrom call p ri idx gs ts st).inRunner = st.inRunner := by
  fun_induction runKindsFrom call p ri idx gs ts st with
  | case3 _ _ _ _ _ _ _ ih => exact ih
  | case4 _ gs t _ _ h => exact absurd h (hh gs t.kind)
  | case5 _ _ _ _ _ _ ih => exact ih
  | _ => rfl

theorem runKindsFrom_keeps (call : IgnoredRunCall) (p : SepFlagPlacement) (ri : Bool) (x : Nat)
    (ts : List KTest) (idx : Nat) (gs : Bool) (st : RunState) (h : x ∈ st.inRunner) :
    x ∈ (runKindsFrom call p ri idx gs ts st).inRunner := by
  fun_induction runKindsFrom call p ri idx gs ts st with
  | case3 _ _ _ _ _ _ _ ih => exact ih h
  | case4 _ _ _ _ _ _ ih => exact ih (by simp [runInRunnerAt, h])
  | case5 _ _ _ _ _ _ ih => exact ih h
  | _ => exact h

theorem runKindsInRunner_keeps (ri : Bool) (x : Nat) (ts : List KTest) (idx : Nat) (st : RunState)
    (h : x ∈ st.inRunner) : x ∈ (runKindsInRunner ri idx ts st).inRunner := by
  fun_induction runKindsInRunner ri idx ts st with
  | case1 => exact h
  | case2 _ _ _ _ _ ih => exact ih h
  | case3 _ _ _ _ _ ih => exact ih (by simp [runInRunnerAt, h])

/-- in a statement list without `else` the actions performed are those of the switches given -/
theorem execInit_filter (a : CliArgs) (stmts : List InitStmt) (taken : Bool)
    (h : stmts.all (fun s => !s.isElse) = true) :
    execInit a taken stmts = (stmts.filter (fun s => a.has s.switch)).map (·.switch) := by
  induction stmts generalizing taken with
  | nil => rfl
  | cons s rest ih =>
    simp only [List.all_cons, Bool.and_eq_true, Bool.not_eq_true'] at h
    rw [execInit, if_neg (by simp [h.1]), ih _ h.2]
    cases hs : a.has s.switch <;> simp [hs]

/-! ## the function regenerated from the clang AST (`Gen/SeparateProcessLoop.lean`)

The conditions below are the expansions of `WIFEXITED`, `WEXITSTATUS`, `WIFSIGNALED`, `WIFSTOPPED`,
`WTERMSIG` that the installed `<sys/wait.h>` produced inside the source's own expressions, with C's
`int` arithmetic (`sshiftRight`, `(signed char)` truncation and sign extension). -/

open Gen.SepProcLoop

theorem gen_exited (s : BitVec 32) : ((s &&& 127#32) == 0#32) = wIfExited s := BitVecLemmas.beq_toNat _ _

/-- the `(signed char)` operand of `>>` is promoted to `int`, which does not change its value -/
theorem gen_signaled (s : BitVec 32) :
    BitVec.slt 0#32 (((((s &&& 127#32) + 1#32).truncate 8).signExtend 32).sshiftRight 1) = wIfSignaled s := by
  have ht : ((s &&& 127#32) + 1#32).truncate 8 = BitVec.ofNat 8 (wTermSig s + 1) := by
    apply BitVec.eq_of_toNat_eq
    rw [BitVec.truncate, BitVec.toNat_setWidth, BitVec.toNat_add, BitVec.toNat_ofNat]
    exact Nat.mod_mod_of_dvd _ (by decide)
  unfold BitVec.slt wIfSignaled
  rw [ht, BitVec.toInt_sshiftRight, BitVec.toInt_signExtend_of_le (by decide), ← BitVec.toInt_sshiftRight]
  rfl

theorem gen_stopped (s : BitVec 32) : ((s &&& 255#32) == 127#32) = wIfStopped s := BitVecLemmas.beq_toNat _ _

theorem gen_exitstatus (s : BitVec 32) : (s &&& 65280#32).sshiftRight 8 = BitVec.ofNat 32 (wExitStatus s) := by
  rw [BitVec.sshiftRight_eq_of_msb_false (BitVecLemmas.msb_and_const s _ (by decide))]
  unfold wExitStatus
  rw [BitVec.ofNat_toNat, BitVec.setWidth_eq]

theorem gen_exitstatus_ne (s : BitVec 32) : ((s &&& 65280#32).sshiftRight 8 != 0#32) = (wExitStatus s != 0) := by
  rw [gen_exitstatus, bne, BitVecLemmas.beq_toNat, BitVec.toNat_ofNat,
    Nat.mod_eq_of_lt (by rw [wExitStatus_eq]; omega)]
  rfl

theorem gen_termsig_text (s : BitVec 32) : toString ((s &&& 127#32)).toInt = toString (wTermSig s) := by
  rw [BitVec.toInt_eq_toNat_of_msb (BitVecLemmas.msb_and_const s _ (by decide))]
  rfl

theorem setTestFailureGen_eq (s : BitVec 32) : setTestFailureGen s = (statusFailures s).map (·.text) := by
  unfold setTestFailureGen statusFailures statusChain
  simp only [chainFailures, condHolds, classOfArm, textOfArm]
  rw [gen_exited, gen_exitstatus_ne, gen_signaled, gen_stopped, gen_termsig_text]
  cases wIfExited s && wExitStatus s != 0 <;> cases wIfSignaled s <;> cases wIfStopped s <;> simp

/-! ## one pass of the regenerated loop body is one step of `parentLoop`

`LoopResult.gen` is the hand model's result as the regenerated function can tell it; the loop itself is
compared in `Props/C11.lean` (`genLoop_eq_parentLoop`). -/

@[simp] theorem gen_failures (r : LoopResult) : r.gen.failures = r.failures.map (·.text) := rfl
@[simp] theorem gen_ended (r : LoopResult) : r.gen.ended = r.ended.gen := rfl

theorem gen_ended_starved (r : LoopResult) : r.gen.ended = .starved ↔ r.ended = .starved := by
  cases h : r.ended <;> simp [h, LoopEnd.gen]

theorem gen_ended_condFalse (r : LoopResult) : r.gen.ended = .condFalse ↔ r.ended = .childGone := by
  cases h : r.ended <;> simp [h, LoopEnd.gen]

theorem gen_prepend (fs : List Failure) (c : Nat) (r : LoopResult) :
    (r.prepend fs c).gen = r.gen.prepend (fs.map (·.text)) c := by
  simp [LoopResult.prepend, LoopResult.gen, GenResult.prepend]

theorem retry_bound_fits : retryBound + 2 < 2 ^ 64 := by decide

theorem waitBodyGen_eintr (r : Nat) (st : BitVec 32) (h : r ≤ retryBound + 1) :
    waitBodyGen (BitVec.ofNat 64 r) st .eintr =
      if r > retryBound then .ret [msgEintrGiveUp] 0 else .fall [] 0 (BitVec.ofNat 64 (r + 1)) st true := by
  have hb := retry_bound_fits
  -- the comparison is unsigned on 64 bits, and neither side wraps
  have hlt : BitVec.ult (BitVec.ofNat 64 retryBound) (BitVec.ofNat 64 r) = decide (r > retryBound) := by
    simp only [BitVec.ult, BitVec.toNat_ofNat, Nat.mod_eq_of_lt (show r < 2 ^ 64 by omega),
      Nat.mod_eq_of_lt (show retryBound < 2 ^ 64 by omega)]
  show (if BitVec.ult (BitVec.ofNat 64 retryBound) (BitVec.ofNat 64 r) then BodyOut.ret [msgEintrGiveUp] 0
    else .fall [] 0 (BitVec.ofNat 64 r + 1#64) st true) = _
  rw [hlt, ← BitVec.ofNat_add]
  simp only [decide_eq_true_eq]

theorem waitBodyGen_error (r : BitVec 64) (st : BitVec 32) :
    waitBodyGen r st .error = .ret [msgWaitFailed] 0 := by
  unfold waitBodyGen; simp [msgWaitFailed]

theorem waitBodyGen_status (r : BitVec 64) (st s : BitVec 32) :
    waitBodyGen r st (.status s) =
      .fall ((statusFailures s).map (·.text)) (contOf s) r s (!(wIfExited s || wIfSignaled s)) := by
  unfold waitBodyGen
  simp only []
  rw [gen_exited, gen_signaled, gen_stopped, setTestFailureGen_eq]
  unfold contOf
  cases wIfStopped s <;> cases wIfExited s <;> cases wIfSignaled s <;> simp

end SepProc
