import CppUModel.Spec.MockValue
import CppUModel.Model.MockNamedValueList
import CppUModel.Model.MockData
import CppUModel.Proofs.TextLemmas
/-!
Lemmas about the C09 model and specification that the property theorems of Props/C09.lean rest on, in this order:
eliminations of an `if` and of membership in a literal list; the callee models
(`MemCmp`, `doublesEqual`) and buffer sizes; type names of values (`obj_type_beq_false`, `NotIntName`) and `specEq` on
integers, what `mkInt` and `storeX` make; the renderers; the list, the repository and the data store as folds and
first-hit searches of core.
-/
namespace Mock

theorem ite_ok_iff {α : Type} {c : Prop} [Decidable c] {y n : α} {e : Fail} :
    (if c then Except.ok y else Except.error e) = Except.ok n ↔ c ∧ y = n := by
  split <;> simp [*]

theorem ite_eq_cases {α : Type} {c : Prop} [Decidable c] {a b r : α} (h : (if c then a else b) = r) : a = r ∨ b = r := by
  split at h
  · exact .inl h
  · exact .inr h

theorem mem_pair {x a b : String} (h : x ∈ [a, b]) : x = a ∨ x = b := by simpa using h

theorem mem_triple {x a b c : String} (h : x ∈ [a, b, c]) : x = a ∨ x = b ∨ x = c := by simpa using h

theorem ofInt32_byte_diff_ne_zero (x y : UInt8) (h : x ≠ y) :
    BitVec.ofInt 32 ((x.toNat : Int) - (y.toNat : Int)) ≠ 0#32 := by
  intro he
  have hn : x.toNat ≠ y.toNat := fun e => h (UInt8.toNat_inj.mp e)
  have hx := x.toNat_lt
  have hy := y.toNat_lt
  have h2 := congrArg BitVec.toInt he
  simp at h2
  rw [Int.bmod_def] at h2
  split at h2 <;> omega

theorem memCmp_eq_zero_iff : ∀ (a b : Bytes), a.length = b.length → (MemCmp a b a.length = 0#32 ↔ a = b)
  | [], [], _ => by simp [MemCmp]
  | [], _ :: _, h => by simp at h
  | _ :: _, [], h => by simp at h
  | x :: xs, y :: ys, h => by
    have ih := memCmp_eq_zero_iff xs ys (by simpa using h)
    by_cases hxy : x = y
    · simp [MemCmp, hxy, ih]
    · simp [MemCmp, hxy, ofInt32_byte_diff_ne_zero x y hxy]

theorem simpleStringEq_eq_decide (a b : Bytes) (ha : NulFree a) (hb : NulFree b) :
    simpleStringEq a b = decide (a = b) :=
  Bool.eq_iff_iff.mpr <| by
    simp only [simpleStringEq, beq_iff_eq, decide_eq_true_eq]; exact Text.cmp_eq_zero_iff ha hb

/-- class logic of `doubles_equal`, for every interpretation of the finite comparison -/
theorem doublesEqual_nan_left {F} (c : F → F → F → Bool) (w t : D F) : doublesEqual c .nan w t = false := by
  cases w <;> cases t <;> rfl
theorem doublesEqual_nan_right {F} (c : F → F → F → Bool) (v t : D F) : doublesEqual c v .nan t = false := by
  cases v <;> cases t <;> rfl
theorem doublesEqual_nan_tol {F} (c : F → F → F → Bool) (v w : D F) : doublesEqual c v w .nan = false := by
  cases v <;> cases w <;> rfl
theorem doublesEqual_inf_inf {F} (c : F → F → F → Bool) (n1 n2 : Bool) (t : D F) (ht : t ≠ .nan) :
    doublesEqual c (.inf n1) (.inf n2) t = true ↔ n1 = n2 ∨ t = .inf false := by
  cases t <;> simp [doublesEqual] at *
theorem doublesEqual_inf_fin {F} (c : F → F → F → Bool) (n : Bool) (y : F) (t : D F) :
    (doublesEqual c (.inf n) (.fin y) t = true ↔ t = .inf false) ∧
    (doublesEqual c (.fin y) (.inf n) t = true ↔ t = .inf false) := by
  cases t <;> simp [doublesEqual]
/-- finite operands and finite tolerance: exactly the hardware comparison `fabs(x - y) <= t` -/
theorem doublesEqual_fin {F} (c : F → F → F → Bool) (x y t : F) :
    doublesEqual c (.fin x) (.fin y) (.fin t) = c x y t := rfl
theorem doublesEqual_fin_inf_tol {F} (c : F → F → F → Bool) (x y : F) (neg : Bool) :
    doublesEqual c (.fin x) (.fin y) (.inf neg) = !neg := rfl

theorem toNat_ofNat64_length (a : Bytes) (ha : SizeOk a) : (BitVec.ofNat 64 a.length).toNat = a.length := by
  unfold SizeOk at ha
  simp only [BitVec.toNat_ofNat]
  exact Nat.mod_eq_of_lt ha

theorem ofNat64_length_eq_iff (a b : Bytes) (ha : SizeOk a) (hb : SizeOk b) :
    BitVec.ofNat 64 a.length = BitVec.ofNat 64 b.length ↔ a.length = b.length := by
  rw [← BitVec.toNat_inj, toNat_ofNat64_length a ha, toNat_ofNat64_length b hb]

theorem obj_type_beq_false (ty : String) (a : Nat) (c : Option (Nat → Nat → Bool)) (hw : (MVal.obj ty a c).WF)
    (s : String) (hs : s ∈ builtinTypeNames) : ((MVal.obj ty a c).type_ == s) = false := by
  simp only [MVal.WF] at hw
  simp only [MVal.type_, beq_eq_false_iff_ne, ne_eq]
  intro e; subst e; exact hw hs

theorem wf_of_isInt (a : MVal) (h : a.isInt = true) : a.WF := by
  cases a <;> first | trivial | exact Bool.noConfusion h

theorem obj_type_ne {a b : MVal} (hw : a.WF) (ha : a.isObj = true) (hb : b.isObj = false) : a.type_ ≠ b.type_ := by
  have hm : b.type_ ∈ builtinTypeNames := by
    cases b <;> first | exact Bool.noConfusion hb | simp [MVal.type_, builtinTypeNames]
  cases a <;> first
    | exact Bool.noConfusion ha
    | (intro e; rw [← e] at hm; exact hw hm)

/-- the type name `s` is none of the six integer type names (in the form the tests of the generated code have) -/
def NotIntName (s : String) : Prop :=
  (s == "int") = false ∧ (s == "unsigned int") = false ∧ (s == "long int") = false ∧
  (s == "unsigned long int") = false ∧ (s == "long long int") = false ∧ (s == "unsigned long long int") = false

theorem notIntName_of_nonint (a : MVal) (hw : a.WF) (hi : a.isInt = false) : NotIntName a.type_ := by
  cases a
  case obj ty x c =>
    have e := obj_type_beq_false ty x c hw
    exact ⟨e _ (by decide), e _ (by decide), e _ (by decide), e _ (by decide), e _ (by decide), e _ (by decide)⟩
  all_goals first | exact Bool.noConfusion hi | simp [NotIntName, MVal.type_]

theorem intName_of_int (a : MVal) (hi : a.isInt = true) : ¬ NotIntName a.type_ := by
  cases a <;> first | exact Bool.noConfusion hi | simp [NotIntName, MVal.type_]

theorem specEq_int_iff (a b : MVal) (ha : a.isInt = true) (hb : b.isInt = true) :
    specEq a b = true ↔ denote? a = denote? b := by
  cases a <;> first
    | exact Bool.noConfusion ha
    | (cases b <;> first
        | exact Bool.noConfusion hb
        | exact beq_iff_eq.trans Option.some_inj.symm)

theorem specEq_int_nonint (a b : MVal) (ha : a.isInt = true) (hb : b.isInt = false) :
    specEq a b = false ∧ specEq b a = false := by
  cases a <;> first
    | exact Bool.noConfusion ha
    | (cases b <;> first
        | exact Bool.noConfusion hb
        | exact ⟨rfl, rfl⟩)

theorem isInt_of_mkInt {k : String} {v : Int} {m : MVal} (h : mkInt k v = some m) : m.isInt = true := by
  unfold mkInt at h
  repeat (rcases ite_eq_cases h with h | h; · cases h; rfl)
  cases h

theorem storeX_nonint {s : String} {a : XArg} {m : MVal} (h : storeX s a = some m) : m.isInt = false ∧ m.WF := by
  unfold storeX at h
  repeat (rcases ite_eq_cases h with h | h; · cases a <;> cases h <;> exact ⟨rfl, trivial⟩)
  cases h

theorem binaryLoop_ne_nil (x : UInt8) (xs : Bytes) (n : Nat) : binaryLoop (x :: xs) (n + 1) ≠ [] := by
  simp [binaryLoop, hex2U]

/-- the loop-and-trim of `StringFromBinary` is the blank-separated list of `%02X` renderings -/
theorem stringFromBinary_eq : ∀ (b : Bytes) (n : Nat), n ≤ b.length →
    StringFromBinary b n = List.intercalate [32] ((b.take n).map hex2U)
  | _, 0, _ => by simp [StringFromBinary, binaryLoop]
  | [], n + 1, h => by simp at h
  | [x], 1, _ => by simp [StringFromBinary, binaryLoop, hex2U, List.intercalate]
  | [x], n + 2, h => by simp at h
  | x :: y :: ys, n + 1, h => by
    cases n with
    | zero => simp [StringFromBinary, binaryLoop, hex2U, List.intercalate]
    | succ m =>
      have ih := stringFromBinary_eq (y :: ys) (m + 1) (by simp at h ⊢; omega)
      unfold StringFromBinary at ih ⊢
      have hne := binaryLoop_ne_nil y ys m
      rw [show binaryLoop (x :: y :: ys) (m + 1 + 1) = (hex2U x ++ [32]) ++ binaryLoop (y :: ys) (m + 1) by simp [binaryLoop]]
      rw [List.dropLast_append_of_ne_nil hne, ih]
      simp [List.intercalate, List.take]

theorem decInt_ofNat (n : Nat) : decInt (n : Int) = decNat n := by
  have h : ¬ ((n : Int) < 0) := by omega
  simp [decInt, h]

/-! `getValueByName` and the two repository lookups are first-hit searches: what they answer on a list in two parts
is core's `List.findSome?_append`. -/

theorem getValueByName_eq_findSome? {α} (l : NList α) (name : Bytes) :
    l.getValueByName name = l.findSome? fun p => if simpleStringEq p.1 name then some p.2 else none := by
  induction l with
  | nil => rfl
  | cons h t ih => obtain ⟨n, a⟩ := h; simp only [NList.getValueByName, List.findSome?_cons, ih]; split <;> simp [*]

theorem getComparatorForType_eq_findSome? (r : Repo) (name : String) :
    r.getComparatorForType name =
      r.findSome? fun n => if n.name == name && n.comparator.isSome then n.comparator else none := by
  induction r with
  | nil => rfl
  | cons n t ih =>
    simp only [Repo.getComparatorForType, List.findSome?_cons, ih]
    cases n.comparator <;> cases n.name == name <;> rfl

theorem getCopierForType_eq_findSome? (r : Repo) (name : String) :
    r.getCopierForType name = r.findSome? fun n => if n.name == name && n.copier.isSome then n.copier else none := by
  induction r with
  | nil => rfl
  | cons n t ih =>
    simp only [Repo.getCopierForType, List.findSome?_cons, ih]
    cases n.copier <;> cases n.name == name <;> rfl

theorem Cell.run_eq_foldl (sem : Nat → Nat → Nat → Bool) (c : Cell) (hist : List (Option Repo × SetOp)) :
    Cell.run sem c hist = hist.foldl (fun c p => c.apply p.1 sem p.2) c := by
  induction hist generalizing c with
  | nil => rfl
  | cons h t ih => exact ih _

theorem Store.run_eq_foldl (s : Store) (ops : List (Bytes × (Cell → Cell))) :
    Store.run s ops = ops.foldl (fun s op => s.update op.1 op.2) s := by
  induction ops generalizing s with
  | nil => rfl
  | cons op rest ih => exact ih _

theorem lastWrites_eq_foldl (q : Bytes) (c : Cell) (ops : List (Bytes × (Cell → Cell))) :
    lastWrites q c ops = ops.foldl (fun c op => if op.1 = q then op.2 c else c) c := by
  induction ops generalizing c with
  | nil => rfl
  | cons op rest ih => exact ih _

end Mock
