import CppUModel.Proofs.Runner
/-!
The console text of a run read back (`Spec/Runner.lean`: `scanFailures`, `scanFailuresVS`, `scanSummaries`): one printed failure
record and one printed summary are read back whatever stands around them, and the text of a whole event list as its records and
its summaries, provided the free strings are no markers.  The two record formats (eclipse, Visual Studio) share the scanner;
only the reader of one record is proved per format.
-/
namespace Runner

/-! ### failure records -/

theorem locToks_noMarker (f : String) (l : Nat) (hf : f ≠ failureMarker) : ∀ a ∈ locToks f l, a ≠ failureMarker := by
  intro a ha
  simp only [locToks, List.mem_cons, List.mem_nil_iff, or_false] at ha
  rcases ha with rfl | rfl | rfl | rfl | rfl | rfl
  · decide
  · exact hf
  · decide
  · exact repr_ne_marker l
  · decide
  · decide

theorem marker_of_clean {r : FailRec}
    (h : r.msg ∉ markers ∧ r.file ∉ markers ∧ r.testFile ∉ markers ∧ r.testName ∉ markers) :
    r.msg ≠ failureMarker ∧ r.file ≠ failureMarker ∧ r.testFile ≠ failureMarker ∧ r.testName ≠ failureMarker :=
  ⟨((not_marker_iff _).mp h.1).1, ((not_marker_iff _).mp h.2.1).1, ((not_marker_iff _).mp h.2.2.1).1,
    ((not_marker_iff _).mp h.2.2.2).1⟩

theorem readRecord_oneLoc (l f name msg : String) (hmsg : msg ≠ ":") (w B : List String) :
    readRecord (" error:" :: ":" :: l :: ":" :: f :: "\n" :: w) (name :: "\n" :: "\t" :: msg :: "\n\n" :: B)
      = some ⟨f, l, name, msg, none⟩ := by
  rcases B with _ | ⟨b1, _ | ⟨b2, B⟩⟩ <;> simp [readRecord, parseLoc, parseTail, hmsg]

theorem scanFrom_failureToks (r : FailRec) (hc : r.clean) (w B : List String) :
    scanFrom w (failureToks r ++ B) = r.printed :: scanFrom ((failureToks r).reverse ++ w) B := by
  obtain ⟨hm, hf, htf, hn⟩ := marker_of_clean hc.2
  have hmsg : r.msg ≠ ":" := hc.1
  have hr : ∀ n : Nat, n.repr ≠ " Failure in " := repr_ne_marker
  simp only [failureMarker] at hm hf htf hn
  unfold failureToks
  cases h2 : r.twoLocations with
  | true =>
    simp [locToks, scanFrom, failureMarker, hm, hf, htf, hn, hr, readRecord, parseLoc, parseTail, FailRec.printed, h2]
  | false =>
    simp [locToks, scanFrom, failureMarker, hm, hf, hn, hr, readRecord_oneLoc _ _ _ _ hmsg, FailRec.printed, h2]

def countToks (r : Result) (time : Nat) : List String :=
  [toString r.testCount, " tests, ", toString r.runCount, " ran, ", toString r.checkCount, " checks, ",
   toString r.ignoredCount, " ignored, ", toString r.filteredOutCount, " filtered out, ", toString time, " ms)"]

theorem summaryToks_eq (c : Bool) (r : Result) (time : Nat) :
    summaryToks c r time = "\n" :: summaryHead c r ++ countToks r time ++ (if c then ["\x1b[m"] else []) ++
      (if r.printsFailure && r.failureCount == 0 then [noteText] else []) ++ ["\n\n"] := rfl

theorem countToks_safe (r : Result) (time : Nat) : ∀ a ∈ countToks r time, a ∉ markers := by
  have h1 : ∀ n : Nat, n.repr ≠ " Failure in " := repr_ne_marker
  have h2 : ∀ n : Nat, n.repr ≠ "OK (" := repr_ne_ok
  have h3 : ∀ n : Nat, n.repr ≠ "Errors (" := repr_ne_errors
  simp [countToks, not_marker_iff, failureMarker, h1, h2, h3]

theorem summaryHead_noMarker (c : Bool) (r : Result) : ∀ a ∈ summaryHead c r, a ≠ failureMarker := by
  have hr : ∀ n : Nat, n.repr ≠ " Failure in " := repr_ne_marker
  unfold summaryHead failureMarker
  cases c <;> cases r.printsFailure <;> simp <;> split <;> simp [hr]

theorem summaryToks_noMarker (c : Bool) (r : Result) (time : Nat) : ∀ a ∈ summaryToks c r time, a ≠ failureMarker := by
  intro a ha
  simp only [summaryToks_eq, List.mem_append, List.mem_cons, List.mem_nil_iff, or_false] at ha
  rcases ha with ((((rfl | ha) | ha) | ha) | ha) | rfl
  · decide
  · exact summaryHead_noMarker c r a ha
  · exact ((not_marker_iff a).mp (countToks_safe r time a ha)).1
  · cases c <;> simp at ha; subst ha; decide
  · split at ha <;> simp at ha; subst ha; simp [noteText, failureMarker]
  · decide

/-! ### the scanner, for either working environment -/

/-- the reader of a console text with the reader of one record as a parameter; `scanFrom` and `scanFromVS` are its two
    instances -/
def scanWith (read : List String → List String → Option Printed) : List String → List String → List Printed
  | _, [] => []
  | before, t :: rest =>
    if t = failureMarker then (read before rest).toList ++ scanWith read (t :: before) rest
    else scanWith read (t :: before) rest

theorem scanFrom_eq : scanFrom = scanWith readRecord := by
  funext w l
  induction l generalizing w with
  | nil => rfl
  | cons t rest ih => simp only [scanFrom, scanWith, ih]

theorem scanFromVS_eq : scanFromVS = scanWith readRecordVS := by
  funext w l
  induction l generalizing w with
  | nil => rfl
  | cons t rest ih => simp only [scanFromVS, scanWith, ih]

theorem scanWith_skip (read : List String → List String → Option Printed) :
    ∀ (A : List String) (w B : List String), (∀ a ∈ A, a ≠ failureMarker) →
      scanWith read w (A ++ B) = scanWith read (A.reverse ++ w) B
  | [], w, B, _ => by simp
  | a :: A, w, B, h => by
    have ha : a ≠ failureMarker := h a (by simp)
    simp only [List.cons_append, scanWith, ha, if_false]
    rw [scanWith_skip read A (a :: w) B (fun x hx => h x (by simp [hx]))]
    simp

/-- the strings of an event when a failure record is printed as `ptoks` prints it; `Ev.toks` and `Ev.toksEnv true` are
    its two instances -/
def evToks (ptoks : FailRec → List String) (c : Bool) : Ev → List String
  | .tok s => [s]
  | .failure r => ptoks r
  | .sepFailure r => ptoks r
  | .summary r time => summaryToks c r time
  | _ => []

theorem toks_eq (c : Bool) : Ev.toks c = evToks failureToks c := by
  funext e; cases e <;> rfl

theorem toksEnv_eq (vs c : Bool) : Ev.toksEnv vs c = evToks (if vs then failureToksVS else failureToks) c := by
  funext e; cases e <;> cases vs <;> rfl

/-- a scanner whose record reader reads one printed record back, whatever stands around it (`hrec`),
    reads the text of an event list back as its records, provided no plain string is the failure marker -/
theorem scanWith_toks (read : List String → List String → Option Printed) (ptoks : FailRec → List String)
    (clean : FailRec → Prop) (c : Bool)
    (hrec : ∀ r, clean r → ∀ w B, scanWith read w (ptoks r ++ B) = r.printed :: scanWith read ((ptoks r).reverse ++ w) B) :
    ∀ (evs : List Ev) (w : List String), SafePlain evs → (∀ r ∈ recordsOf evs, clean r) →
      scanWith read w (evs.flatMap (evToks ptoks c)) = (recordsOf evs).map FailRec.printed
  | [], w, _, _ => by simp [scanWith]
  | e :: evs, w, hp, hr => by
    have ih := fun w => scanWith_toks read ptoks clean c hrec evs w (fun s hs => hp s (by simp [hs])) (fun r h => hr r (by simp [h]))
    rw [List.flatMap_cons]
    cases e with
    | tok s =>
      have hs : s ≠ failureMarker := ((not_marker_iff s).mp (hp s (by simp [Ev.tok?]))).1
      simp only [evToks, List.singleton_append, scanWith, hs, if_false]
      simpa [Ev.record?] using ih _
    | failure r | sepFailure r =>
      simp only [evToks]
      rw [hrec r (hr r (by simp [Ev.record?])), ih]
      simp [Ev.record?]
    | summary r time =>
      simp only [evToks]
      rw [scanWith_skip read _ w _ (summaryToks_noMarker c r time), ih]
      simp [Ev.record?]
    | _ => simpa [evToks, Ev.record?] using ih w

def CleanEvs (evs : List Ev) : Prop :=
  SafePlain evs ∧ ∀ r ∈ recordsOf evs, r.clean

theorem scanFrom_toksOf (c : Bool) : ∀ (evs : List Ev) (w : List String), CleanEvs evs →
    scanFrom w (toksOf c evs) = (recordsOf evs).map FailRec.printed
  | evs, w, h => by
    rw [scanFrom_eq, toksOf, toks_eq]
    exact scanWith_toks readRecord failureToks FailRec.clean c (fun r hc => scanFrom_eq ▸ scanFrom_failureToks r hc) evs w h.1 h.2

/-! ### the Visual Studio working environment -/

theorem readRecordVS_oneLoc (l f name msg : String) (hmsg : msg ≠ "(") (w B : List String) :
    readRecordVS (" error:" :: "):" :: l :: "(" :: f :: "\n" :: w) (name :: "\n" :: "\t" :: msg :: "\n\n" :: B)
      = some ⟨f, l, name, msg, none⟩ := by
  rcases B with _ | ⟨b1, _ | ⟨b2, B⟩⟩ <;> simp [readRecordVS, parseLocVS, parseTail, hmsg]

theorem scanFromVS_failureToksVS (r : FailRec) (hc : r.cleanVS) (w B : List String) :
    scanFromVS w (failureToksVS r ++ B) = r.printed :: scanFromVS ((failureToksVS r).reverse ++ w) B := by
  obtain ⟨hm, hf, htf, hn⟩ := marker_of_clean hc.2
  have hmsg : r.msg ≠ "(" := hc.1
  have hr : ∀ n : Nat, n.repr ≠ " Failure in " := repr_ne_marker
  simp only [failureMarker] at hm hf htf hn
  unfold failureToksVS
  cases h2 : r.twoLocations with
  | true =>
    simp [locToksVS, scanFromVS, failureMarker, hm, hf, htf, hn, hr, readRecordVS, parseLocVS, parseTail, FailRec.printed, h2]
  | false =>
    simp [locToksVS, scanFromVS, failureMarker, hm, hf, hn, hr, readRecordVS_oneLoc _ _ _ _ hmsg, FailRec.printed, h2]

theorem scanFromVS_skip : ∀ (A : List String) (w B : List String), (∀ a ∈ A, a ≠ failureMarker) →
    scanFromVS w (A ++ B) = scanFromVS (A.reverse ++ w) B
  | A, w, B, h => scanFromVS_eq ▸ scanWith_skip readRecordVS A w B h

def CleanEvsVS (evs : List Ev) : Prop :=
  SafePlain evs ∧ ∀ r ∈ recordsOf evs, r.cleanVS

theorem scanFromVS_toksOfEnv (c : Bool) : ∀ (evs : List Ev) (w : List String), CleanEvsVS evs →
    scanFromVS w (toksOfEnv true c evs) = (recordsOf evs).map FailRec.printed
  | evs, w, h => by
    rw [scanFromVS_eq, toksOfEnv, toksEnv_eq]
    exact scanWith_toks readRecordVS failureToksVS FailRec.cleanVS c (fun r hc => scanFromVS_eq ▸ scanFromVS_failureToksVS r hc)
      evs w h.1 h.2

theorem toksOfEnv_eclipse (c : Bool) (evs : List Ev) : toksOfEnv false c evs = toksOf c evs := by
  simp [toksOfEnv, toksOf, toksEnv_eq, toks_eq]

/-! ### summaries -/

theorem parseSummaryAt_none (t : String) (rest : List String) (h1 : t ≠ "OK (") (h2 : t ≠ "Errors (") :
    parseSummaryAt (t :: rest) = none := by
  unfold parseSummaryAt
  split
  · rename_i h; injection h with h _; exact absurd h h1
  · rename_i h; injection h with h _; exact absurd h h2
  · rfl

theorem scanSummaries_skip : ∀ (A B : List String), (∀ a ∈ A, a ≠ "OK (" ∧ a ≠ "Errors (") →
    scanSummaries (A ++ B) = scanSummaries B
  | [], B, _ => by simp
  | a :: A, B, h => by
    have ha := h a (by simp)
    simp only [List.cons_append, scanSummaries, parseSummaryAt_none a _ ha.1 ha.2]
    exact scanSummaries_skip A B (fun x hx => h x (by simp [hx]))

theorem scan_summary_shape (pre : List String) (h : String) (mid B : List String) (p : PrintedSummary)
    (hpre : ∀ a ∈ pre, a ≠ "OK (" ∧ a ≠ "Errors (")
    (hparse : parseSummaryAt (h :: (mid ++ B)) = some p)
    (hmid : ∀ a ∈ mid, a ≠ "OK (" ∧ a ≠ "Errors (") :
    scanSummaries (pre ++ h :: (mid ++ B)) = p :: scanSummaries B := by
  rw [scanSummaries_skip pre _ hpre]
  simp only [scanSummaries, hparse]
  rw [scanSummaries_skip mid B hmid]

theorem parseCounts_countToks (ok : Bool) (f : Option String) (r : Result) (time : Nat) (X : List String) :
    parseCounts ok f (countToks r time ++ X) =
      some ⟨ok, f, toString r.testCount, toString r.runCount, toString r.checkCount, toString r.ignoredCount,
            toString r.filteredOutCount, toString time⟩ := by
  simp [countToks, parseCounts]

theorem scanSummaries_summaryToks (c : Bool) (r : Result) (time : Nat) (B : List String) :
    scanSummaries (summaryToks c r time ++ B) = r.printedSummary time :: scanSummaries B := by
  have h1 : ∀ n : Nat, n.repr ≠ "OK (" := repr_ne_ok
  have h2 : ∀ n : Nat, n.repr ≠ "Errors (" := repr_ne_errors
  have h3 : ∀ n : Nat, n.repr ≠ "ran nothing, " := repr_ne_ranNothing
  -- the line is: line break, colour, head word `h`, the rest `hd` of the head, the counts, and a tail without head words
  have hline : ∀ (on : List String) (h : String) (hd : List String),
      summaryHead c r = on ++ h :: hd → (∀ a ∈ on ++ hd, a ≠ "OK (" ∧ a ≠ "Errors (") →
      (∀ X, parseSummaryAt (h :: (hd ++ (countToks r time ++ X))) = some (r.printedSummary time)) →
      scanSummaries (summaryToks c r time ++ B) = r.printedSummary time :: scanSummaries B := by
    intro on h hd hh hno hparse
    have e : summaryToks c r time ++ B = ("\n" :: on) ++ h :: ((hd ++ (countToks r time ++
        ((if c then ["\x1b[m"] else []) ++ ((if r.printsFailure && r.failureCount == 0 then [noteText] else []) ++ ["\n\n"])))) ++ B) := by
      rw [summaryToks_eq, hh]; simp
    rw [e]
    apply scan_summary_shape
    · intro a ha
      rcases List.mem_cons.mp ha with rfl | ha
      · simp
      · exact hno a (List.mem_append_left _ ha)
    · simpa using hparse _
    · intro a ha
      simp only [List.mem_append] at ha
      rcases ha with ha | ha | ha | ha | ha
      · exact hno a (List.mem_append_right _ ha)
      · exact ((not_marker_iff a).mp (countToks_safe r time a ha)).2
      · cases c <;> simp at ha; subst ha; simp
      · split at ha <;> simp at ha; subst ha; simp [noteText]
      · simp at ha; subst ha; simp
  cases hp : r.printsFailure with
  | false =>
    have hok : r.ok := Classical.byContradiction fun h => Bool.false_ne_true (hp.symm.trans ((printsFailure_iff r).mpr h))
    refine hline (if c then ["\x1b[32;1m"] else []) "OK (" [] (by simp [summaryHead, hp]) (by cases c <;> simp) fun X => ?_
    simp [parseSummaryAt, parseCounts_countToks, Result.printedSummary, hok, hok.1]
  | true =>
    have hnok : ¬ r.ok := (printsFailure_iff r).mp hp
    by_cases h0 : r.failureCount > 0
    · have hne : r.failureCount ≠ 0 := Nat.pos_iff_ne_zero.mp h0
      refine hline (if c then ["\x1b[31;1m"] else []) "Errors (" [toString r.failureCount, " failures, "]
        (by simp [summaryHead, hp, h0]) (by cases c <;> simp [h1, h2]) fun X => ?_
      simp [parseSummaryAt, parseErrorsHead, parseCounts_countToks, Result.printedSummary, hnok, hne, h3]
    · have he : r.failureCount = 0 := by omega
      refine hline (if c then ["\x1b[31;1m"] else []) "Errors (" ["ran nothing, "]
        (by simp [summaryHead, hp, he]) (by cases c <;> simp) fun X => ?_
      simp [parseSummaryAt, parseErrorsHead, parseCounts_countToks, Result.printedSummary, hnok, he]

theorem locToks_noHead (f : String) (l : Nat) (hf : f ∉ markers) :
    ∀ a ∈ locToks f l, a ≠ "OK (" ∧ a ≠ "Errors (" := by
  have h1 := repr_ne_ok l
  have h2 := repr_ne_errors l
  have h := (not_marker_iff f).mp hf
  simp [locToks, h.2.1, h.2.2, h1, h2]

theorem failureToks_noHead (r : FailRec) (hc : r.clean) : ∀ a ∈ failureToks r, a ≠ "OK (" ∧ a ≠ "Errors (" := by
  obtain ⟨_, hm, hf, htf, hn⟩ := hc
  intro a ha
  have L1 := locToks_noHead _ r.testLine htf a
  have L2 := locToks_noHead _ r.line hf a
  have h1 := ((not_marker_iff _).mp hm).2
  have h2 := ((not_marker_iff _).mp hn).2
  have hlit : ∀ x ∈ [" Failure in ", "\n", "\t", "\n\n"], x ≠ "OK (" ∧ x ≠ "Errors (" := by decide
  unfold failureToks at ha
  simp only [List.mem_append, List.mem_cons, List.mem_nil_iff, or_false] at ha
  rcases ha with ha | rfl | rfl | rfl | rfl
  · split at ha
    · simp only [List.mem_append, List.mem_cons, List.mem_nil_iff, or_false] at ha
      rcases ha with (ha | rfl | rfl) | ha
      · exact L1 ha
      · exact hlit _ (by simp)
      · exact h2
      · exact L2 ha
    · simp only [List.mem_append, List.mem_cons, List.mem_nil_iff, or_false] at ha
      rcases ha with ha | rfl | rfl
      · exact L2 ha
      · exact hlit _ (by simp)
      · exact h2
  · exact hlit _ (by simp)
  · exact hlit _ (by simp)
  · exact h1
  · exact hlit _ (by simp)

theorem scanSummaries_toksOf (c : Bool) : ∀ (evs : List Ev), CleanEvs evs →
    scanSummaries (toksOf c evs) = (summariesOf evs).map (fun x => x.1.printedSummary x.2)
  | [], _ => by simp [toksOf, scanSummaries]
  | e :: evs, h => by
    have htl : CleanEvs evs := by
      refine ⟨fun s hs => h.1 s ?_, fun r hr => h.2 r ?_⟩
      · simp [hs]
      · simp [hr]
    have ih := scanSummaries_toksOf c evs htl
    have hto : toksOf c (e :: evs) = Ev.toks c e ++ toksOf c evs := by simp [toksOf]
    rw [hto]
    cases e with
    | tok s =>
      have hs := h.1 s (by simp [Ev.tok?])
      simp only [markers, List.mem_cons, List.mem_nil_iff, or_false, not_or] at hs
      simp only [Ev.toks, List.singleton_append, scanSummaries, parseSummaryAt_none s _ hs.2.1 hs.2.2]
      simpa [Ev.summary?] using ih
    | failure r | sepFailure r =>
      simp only [Ev.toks]
      rw [scanSummaries_skip _ _ (failureToks_noHead r (h.2 r (by simp [Ev.record?]))), ih]
      simp [Ev.summary?]
    | summary r time =>
      simp only [Ev.toks]
      rw [scanSummaries_summaryToks, ih]
      simp [Ev.summary?]
    | _ => simpa [Ev.toks, Ev.summary?] using ih

end Runner
