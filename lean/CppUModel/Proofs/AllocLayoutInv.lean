import CppUModel.Proofs.AllocLayout
import CppUModel.Proofs.BitVecLemmas
/-! The whole-history invariant of the C05 byte-level model (`InvTM`, `Inv`): every operation is shown to keep it
by taking the touched record out (`InvTM.remove`), changing only blocks that record owns (`InvTM.frame`), and putting a
record that is true of the memory back (`InvTM.cons`); `AllocResult` is what all allocating wrappers establish. -/
namespace AllocLayout
open Gen.AllocLayout

/-! ## structure of the invariant -/

theorem owned_cons (r : Rec) (t : List Rec) : owned (r :: t) = r.owned ++ owned t := by
  simp [owned]

theorem mem_owned_of_mem {t : List Rec} {r : Rec} {j : Nat} (hr : r ∈ t) (hj : j ∈ r.owned) : j ∈ owned t := by
  unfold owned; exact List.mem_flatMap.mpr ⟨r, hr, hj⟩

theorem RecOk.frame {c : Cfg} {m m' : List Block} {r : Rec} (h : RecOk c m r)
    (hf : ∀ j ∈ r.owned, findBlock m' j = findBlock m j) : RecOk c m' r := by
  refine ⟨h.acc, h.lay, ?_, ?_, h.node.2⟩
  · rw [hf r.id (id_mem_owned r)]; exact h.blk
  · intro hs
    obtain ⟨hne, nb, hnb, hl⟩ := h.node.1 hs
    refine ⟨hne, nb, ?_, hl⟩
    rw [hf r.nodeId (nodeId_mem_owned hs)]; exact hnb

theorem RecOk.live {c : Cfg} {m : List Block} {r : Rec} (h : RecOk c m r) {j : Nat} (hj : j ∈ r.owned) :
    ∃ b, findBlock m j = some b := by
  rcases (mem_owned_iff r j).mp hj with rfl | ⟨hs, rfl⟩
  · obtain ⟨b, hb, _⟩ := h.blk; exact ⟨b, hb⟩
  · obtain ⟨_, nb, hnb, _⟩ := h.node.1 hs; exact ⟨nb, hnb⟩

theorem InvTM.live {c : Cfg} {t : List Rec} {m : List Block} (h : InvTM c t m) {j : Nat} (hj : j ∈ owned t) :
    ∃ b, findBlock m j = some b := by
  obtain ⟨r, hr, hjr⟩ := List.mem_flatMap.mp hj
  exact (h.recs r hr).live hjr

theorem InvTM.fresh_not_owned {c : Cfg} {t : List Rec} {m : List Block} (h : InvTM c t m) {id : Nat} (hf : Fresh m id) :
    id ∉ owned t := by
  intro hj
  obtain ⟨b, hb⟩ := h.live hj
  exact ne_of_fresh_of_find hf hb rfl

theorem InvTM.frame {c : Cfg} {t : List Rec} {m m' : List Block} (h : InvTM c t m)
    (hf : ∀ j ∈ owned t, findBlock m' j = findBlock m j) : InvTM c t m' :=
  ⟨fun r hr => (h.recs r hr).frame (fun j hj => hf j (mem_owned_of_mem hr hj)), h.nodup⟩

theorem InvTM.empty (c : Cfg) (m : List Block) : InvTM c [] m where
  recs := fun _ h => nomatch h
  nodup := by simp [owned]

theorem InvTM.cons {c : Cfg} {t : List Rec} {m : List Block} {r : Rec} (h : InvTM c t m) (hr : RecOk c m r)
    (hnew : ∀ j ∈ r.owned, j ∉ owned t) : InvTM c (r :: t) m := by
  refine ⟨?_, ?_⟩
  · intro x hx
    rcases List.mem_cons.mp hx with rfl | hx
    · exact hr
    · exact h.recs x hx
  · rw [owned_cons]
    refine List.nodup_append.mpr ⟨?_, h.nodup, ?_⟩
    · unfold Rec.owned
      split
      · next hs =>
        have := (hr.node.1 hs).1
        simp; exact Ne.symm this
      · simp
    · intro a ha b hb hab
      subst hab
      exact hnew a ha hb

theorem InvTM.remove {c : Cfg} {t rest : List Rec} {m : List Block} {r : Rec} {id : Nat} (h : InvTM c t m)
    (hrem : removeRec t id = some (r, rest)) :
    InvTM c rest m ∧ RecOk c m r ∧ r ∈ t ∧ r.id = id ∧ (∀ j ∈ r.owned, j ∉ owned rest) ∧ r.owned.Nodup := by
  obtain ⟨hp, hid⟩ := removeRec_perm hrem
  have hmem : r ∈ t := hp.mem_iff.mpr (by simp)
  have hnd : (owned (r :: rest)).Nodup := by
    have : (owned t).Perm (owned (r :: rest)) := by unfold owned; exact hp.flatMap_right _
    exact this.nodup_iff.mp h.nodup
  obtain ⟨h1, h2, h3⟩ := List.nodup_append.mp hnd
  refine ⟨⟨fun x hx => h.recs x (hp.mem_iff.mpr (by simp [hx])), h2⟩, h.recs r hmem, hmem, hid, ?_, h1⟩
  intro j hj hjr
  exact h3 j hj j hjr rfl

theorem owned_inj : ∀ {t : List Rec}, (owned t).Nodup → ∀ {r x : Rec} {j : Nat}, r ∈ t → x ∈ t → j ∈ r.owned → j ∈ x.owned → r = x
  | [], _, _, _, _, hr, _, _, _ => nomatch hr
  | y :: ys, hnd, r, x, j, hr, hx, hjr, hjx => by
    obtain ⟨_, h2, h3⟩ := List.nodup_append.mp hnd
    rcases List.mem_cons.mp hr with rfl | hr' <;> rcases List.mem_cons.mp hx with rfl | hx'
    · rfl
    · exact absurd rfl (h3 j hjr j (mem_owned_of_mem hx' hjx))
    · exact absurd rfl (h3 j hjx j (mem_owned_of_mem hr' hjr))
    · exact owned_inj h2 hr' hx' hjr hjx

theorem ids_sublist_owned : ∀ (t : List Rec), (t.map (·.id)).Sublist (owned t)
  | [] => by simp [owned]
  | r :: t => by
    rw [owned_cons, List.map_cons]
    have ih := ids_sublist_owned t
    unfold Rec.owned
    split
    · exact List.Sublist.cons_cons _ (List.Sublist.cons _ ih)
    · exact List.Sublist.cons_cons _ ih

theorem removeRec_of_tracked (c : Cfg) {s : State} (h : Inv c s) {o : Rec} (ho : o ∈ s.tracked) :
    ∃ rest, removeRec s.tracked o.id = some (o, rest) := by
  obtain ⟨o', rest, he⟩ := removeRec_some_of_mem s.tracked o ho
  obtain ⟨hm, hid⟩ := removeRec_mem he
  have : o' = o := owned_inj h.nodup hm ho (id_mem_owned o') (by rw [hid]; exact id_mem_owned o)
  subst this
  exact ⟨rest, he⟩

theorem InvTM.userWrite {c : Cfg} (hn : NodeOk c) {t : List Rec} {m : List Block} (h : InvTM c t m) {r : Rec} (hr : r ∈ t)
    {off : Nat} {src : List UInt8} (hfit : off + src.length ≤ r.size.toNat) :
    ∃ m', writeBlock m r.id off src = some m' ∧ InvTM c t m' ∧ ∀ j, j ≠ r.id → findBlock m' j = findBlock m j := by
  have ok := h.recs r hr
  obtain ⟨b, hb, hl, hg⟩ := ok.blk
  have hroom := accepted_fits c hn r.size r.sep ok.acc
  obtain ⟨m', bs', hw, hwa, hf, hfr⟩ := writeBlock_spec hb (off := off) (src := src) (by omega)
  refine ⟨m', hw, ⟨fun x hx => ?_, h.nodup⟩, hfr⟩
  by_cases hown : r.id ∈ x.owned
  · obtain rfl : r = x := owned_inj h.nodup hr hx (id_mem_owned r) hown
    refine ⟨ok.acc, ok.lay, ⟨_, hf, (writeAt_length hwa).trans hl, by rw [writeAt_drop hwa _ hfit]; exact hg⟩,
      fun hs => ?_, ok.node.2⟩
    obtain ⟨hne, nb, hnb, hnl⟩ := ok.node.1 hs
    exact ⟨hne, nb, by rw [hfr _ hne]; exact hnb, hnl⟩
  · exact (h.recs x hx).frame fun j hj => hfr j fun e => hown (e ▸ hj)

/-! ## allocation keeps the invariant -/

theorem sepOf_malloc (c : Cfg) : sepOf c famMalloc = true := by simp [sepOf, forcedSep, famMalloc]

/-- what an allocation of the public wrappers leaves behind when it started from the invariant; `onPtr` keeps the size, which
    is what lets the wrapper store into the user bytes afterwards -/
structure AllocResult (c : Cfg) (size : W) (id : Nat) (r : State × List Ev × Outcome) : Prop where
  inv    : Inv c r.1
  noUb   : r.2.2.isUb = false
  onPtr  : ∀ i, r.2.2 = .ptr i → id = i ∧ ∃ x ∈ r.1.tracked, x.id = i ∧ x.size = size

theorem AllocResult.unchanged {c : Cfg} {s : State} (h : Inv c s) {o : Outcome} (ho : o = .null ∨ o = .testFail ∨ o = .badAlloc)
    (size : W) (id : Nat) (evs : List Ev) : AllocResult c size id (s, evs, o) := by
  rcases ho with rfl | rfl | rfl <;> exact ⟨h, rfl, nofun⟩

theorem AllocResult.inv_of_eq {c size id r s' evs o} (h : AllocResult c size id r) (he : r = (s', evs, o)) : Inv c s' := by
  subst he; exact h.inv

theorem AllocResult.facts {c : Cfg} {size : W} {id : Nat} {r : State × List Ev × Outcome}
    (h : AllocResult c size id r) : Inv c r.1 ∧ r.2.2.isUb = false ∧ ∀ i, r.2.2 = .ptr i → id = i :=
  ⟨h.inv, h.noUb, fun i hi => (h.onPtr i hi).1⟩

theorem account_inv (c : Cfg) (hn : NodeOk c) (img : NodeImage) (hi : ImgOk c img) {t : List Rec} {m : List Block} (q : Nat)
    (h : InvTM c t m) (fam : Nat) (size : W) (id : Nat) (bytes : List UInt8) (a2 : Ans) (evs : List Ev)
    (hacc : rejectsAlloc c size = false)
    (hlen : bytes.length = (allocReq c (sepOf c fam) size).toNat)
    (hfid : Fresh m id) (h2ok : a2.Ok c.node.toNat) (h2f : a2.Fresh m) (hd : a2.isNull = true ∨ a2.id ≠ id)
    (hnn : sepOf c fam = true → a2 ≠ .null) :
    AllocResult c size id (account c img ⟨t, ⟨id, bytes⟩ :: m, q⟩ fam size (sepOf c fam) id a2 evs) := by
  have hnot : id ∉ owned t := h.fresh_not_owned hfid
  by_cases hfail : sepOf c fam = true ∧ a2 = .fail
  · obtain ⟨hs, rfl⟩ := hfail
    have : account c img ⟨t, ⟨id, bytes⟩ :: m, q⟩ fam size (sepOf c fam) id .fail evs =
        (⟨t, ⟨id, bytes⟩ :: m, q⟩, evs ++ [.unode c.node 0], .testFail) := by simp [account, hs]
    rw [this]
    exact .unchanged (s := ⟨t, ⟨id, bytes⟩ :: m, q⟩)
      (h.frame fun j hj => findBlock_cons_ne bytes m fun e => hnot (e ▸ hj)) (.inr (.inl rfl)) ..
  · have h2 : sepOf c fam = true → ∃ nid nb, a2 = .block nid nb ∧ nb.length = c.node.toNat ∧ nid ≠ id :=
      fun hs => node_block_of_env h2ok hd (hnn hs) fun e => hfail ⟨hs, e⟩
    obtain ⟨m', evs', he, ⟨b', hb', hs⟩, hn', hfr⟩ :=
      account_ok c hn img hi t m q fam size _ id bytes a2 evs hacc hlen h2
    have hnode : sepOf c fam = true → a2.id ≠ id ∧ a2.id ∉ owned t := by
      intro hs
      obtain ⟨nid, nb, rfl, _, hne⟩ := h2 hs
      exact ⟨hne, h.fresh_not_owned h2f⟩
    rw [he]
    refine ⟨?_, rfl, fun i hi => by cases hi; exact ⟨rfl, _, List.mem_cons_self .., rfl, rfl⟩⟩
    -- the others own neither new block; the new record is true of the memory as `account_ok` describes it
    refine (h.frame fun j hj => hfr j (fun e => hnot (e ▸ hj)) fun hs e => (hnode hs).2 (e ▸ hj)).cons
      ⟨hacc, rfl, ⟨b', hb', hs.len.trans hlen, hs.guard⟩, fun hs => ?_, fun hs => ?_⟩ fun j hj => ?_
    · simp only [show sepOf c fam = true from hs, if_true]
      exact ⟨(hnode hs).1, hn' hs⟩
    · simp only [show sepOf c fam = false from hs, Bool.false_eq_true, if_false]
    · rcases (mem_owned_iff _ j).mp hj with rfl | ⟨hs, rfl⟩
      · exact hnot
      · simp only [show sepOf c fam = true from hs, if_true]; exact (hnode hs).2

theorem allocMemory_inv (c : Cfg) (hn : NodeOk c) (img : NodeImage) (hi : ImgOk c img) {s : State} (h : Inv c s)
    (fam : Nat) (size : W) (sep0 : Bool) (a1 a2 : Ans) (hsep0 : sep0 = (fam == famMalloc))
    (henv : AllocEnvOk c s.mem (sepOf c fam) size a1 a2) :
    AllocResult c size a1.id (allocMemory c img s fam size sep0 a1 a2) := by
  have hfs : forcedSep c sep0 = sepOf c fam := by rw [hsep0]; rfl
  by_cases hst : AllocStops c size (forcedSep c sep0) a1 a2
  · obtain ⟨evs, o, he, ho⟩ := allocMemory_stops c img s fam size sep0 a1 a2 hst
    rw [he]; exact .unchanged h (ho.imp id fun hx => .inl hx.1) ..
  · obtain ⟨id, bytes, rfl, hacc, he⟩ := allocMemory_goes c img s fam size sep0 _ a2 hst
    rw [he, hfs]
    exact account_inv c hn img hi s.seq h fam size id bytes a2 _ hacc henv.len1 henv.fresh1 henv.len2 henv.fresh2
      henv.differ fun hs hx => hst (.inr (.inr ⟨hfs ▸ hs, hx⟩))

theorem thenWrite_inv (c : Cfg) (hn : NodeOk c) {size : W} {id : Nat} {r : State × List Ev × Outcome}
    (h : AllocResult c size id r) (off : Nat) (src : List UInt8) (why : String) (hfit : off + src.length ≤ size.toNat) :
    AllocResult c size id (thenWrite r off src why) := by
  rcases r with ⟨s1, evs, o⟩
  cases o with
  | ptr i =>
    obtain ⟨ha, x, hmem, rfl, rfl⟩ := h.onPtr i rfl
    obtain ⟨m', hw, hinv, _⟩ := InvTM.userWrite hn h.inv hmem (off := off) (src := src) hfit
    have : thenWrite (s1, evs, .ptr x.id) off src why = ({ s1 with mem := m' }, evs, .ptr x.id) := by
      simp only [thenWrite, hw]
    rw [this]
    exact ⟨hinv, rfl, fun j hj => by cases hj; exact ⟨ha, x, hmem, rfl, rfl⟩⟩
  | _ => exact h

theorem cMalloc_inv (c : Cfg) (hn : NodeOk c) (img : NodeImage) (hi : ImgOk c img) {s : State} (h : Inv c s)
    (size : W) (a1 a2 : Ans) (henv : AllocEnvOk c s.mem true size a1 a2) :
    AllocResult c size a1.id (cMalloc c img s size a1 a2) :=
  allocMemory_inv c hn img hi h famMalloc size true a1 a2 rfl (by rw [sepOf_malloc]; exact henv)

theorem cCalloc_inv (c : Cfg) (hn : NodeOk c) (img : NodeImage) (hi : ImgOk c img) {s : State} (h : Inv c s)
    (num size : W) (a1 a2 : Ans) (henv : AllocEnvOk c s.mem true (callocRequest num size) a1 a2) :
    AllocResult c (callocRequest num size) a1.id (cCalloc c img s num size a1 a2) := by
  rw [cCalloc_eq]
  cases ht : callocOverflowTest num size
  · obtain ⟨e1, e2⟩ := calloc_request_exact num size ht
    exact thenWrite_inv c hn (cMalloc_inv c hn img hi h _ a1 a2 henv) 0 _ _ (by simp [e1, e2])
  · exact .unchanged h (.inl rfl) ..

theorem strdupAlloc_inv (c : Cfg) (hn : NodeOk c) (img : NodeImage) (hi : ImgOk c img) {s : State} (h : Inv c s)
    (buf : List UInt8) (size : W) (k : Nat) (a1 a2 : Ans) (hsize : size.toNat = k + 1) (hk : k < buf.length)
    (henv : AllocEnvOk c s.mem true size a1 a2) :
    AllocResult c size a1.id (strdupAlloc c img s buf size a1 a2) := by
  unfold strdupAlloc
  rw [if_neg (by omega)]
  have hsub := toNat_sub_one hsize
  have h1 := thenWrite_inv c hn (cMalloc_inv c hn img hi h size a1 a2 henv) 0 (buf.take size.toNat)
    "memcpy outside the block" (by simp; omega)
  exact thenWrite_inv c hn h1 (size - 1).toNat [0] "terminator outside the block" (by simp; omega)

theorem newFam_ne_malloc (v : NewVariant) : ((if v.array then famNewArray else famNew) == famMalloc) = false := by
  cases v.array <;> decide

theorem operatorNew_inv (c : Cfg) (hn : NodeOk c) (img : NodeImage) (hi : ImgOk c img) {s : State} (h : Inv c s)
    (v : NewVariant) (size : W) (a1 a2 : Ans)
    (henv : AllocEnvOk c s.mem (forcedSep c false) size a1 a2)
    (hnf : v.nothrow = false ∨ (a1 ≠ .fail ∧ a2 ≠ .fail)) :
    AllocResult c size a1.id (operatorNew c img s v size a1 a2) := by
  have hm := allocMemory_inv c hn img hi h (if v.array then famNewArray else famNew) size false a1 a2
    (newFam_ne_malloc v).symm (by unfold sepOf; rw [newFam_ne_malloc]; exact henv)
  obtain ⟨hnb, htf, _⟩ := allocMemory_outcome c img s (if v.array then famNewArray else famNew) size false a1 a2
  rw [operatorNew_eq]
  obtain ⟨h1, _, _, _, h5⟩ := newWrap_spec v _ hnb
  refine ⟨h1 ▸ hm.inv, ?_, fun i hi => h1 ▸ hm.onPtr i ((h5 i).mp hi)⟩
  -- undefined only where the detector is, or where its test failure meets a `noexcept` overload: excluded by `hnf`
  rw [Bool.eq_false_iff, Ne, newWrap_isUb]
  rintro (hub | ⟨ht, hnt⟩)
  · rw [hm.noUb] at hub; cases hub
  · rcases hnf with hx | ⟨hx1, hx2⟩
    · rw [hx] at hnt; cases hnt
    · exact (htf ht).elim hx1 hx2

/-! ## release keeps the invariant -/

theorem findBlock_dropOwned (m : List Block) {r : Rec} {j : Nat} (hj : j ∉ r.owned) :
    findBlock (dropBlock (if r.sep then dropBlock m r.nodeId else m) r.id) j = findBlock m j := by
  rw [findBlock_dropBlock_ne fun e => hj (by rw [e]; exact id_mem_owned r)]
  split
  · next hs => exact findBlock_dropBlock_ne fun e => hj (by rw [e]; exact nodeId_mem_owned hs)
  · rfl

theorem checkForCorruption_ok {c : Cfg} {m : List Block} {r : Rec} (h : RecOk c m r) :
    checkForCorruption c m r r.fam r.sep =
      (if r.sep then dropBlock m r.nodeId else m, if r.sep then [.unodefree r.nodeId] else [], false) := by
  obtain ⟨b, hb, _, hg⟩ := h.blk
  have hgv : guardValid c m r = true := by
    unfold guardValid; rw [hb]; simp [hg]
  unfold checkForCorruption
  simp only [bne_self_eq_false, Bool.false_eq_true, if_false, hgv, Bool.not_true]
  cases r.sep <;> simp

theorem deallocMemory_tracked (c : Cfg) {s : State} (h : Inv c s) {id fam : Nat} {sep0 : Bool} {r : Rec} {rest : List Rec}
    (hrem : removeRec s.tracked id = some (r, rest)) (hfam : r.fam = fam) (hsep0 : sep0 = (fam == famMalloc)) :
    deallocMemory c s fam (some id) sep0 =
      ({ s with tracked := rest, mem := dropBlock (if r.sep then dropBlock s.mem r.nodeId else s.mem) id },
       (if r.sep then [.unodefree r.nodeId] else []) ++ [.ufree id], .null) ∧
    InvTM c rest (dropBlock (if r.sep then dropBlock s.mem r.nodeId else s.mem) id) := by
  obtain ⟨hrest, hok, _, hid, hdis, _⟩ := InvTM.remove h hrem
  have hfs : forcedSep c sep0 = r.sep := by rw [hok.lay, hfam, hsep0]; rfl
  subst hid
  exact ⟨by simp only [deallocMemory, hrem, hfs, ← hfam, checkForCorruption_ok hok],
    hrest.frame fun j hj => findBlock_dropOwned s.mem fun hjr => hdis j hjr hj⟩

theorem release_tracked (c : Cfg) (hn : NodeOk c) {s : State} (h : Inv c s) {id fam : Nat} {sep0 : Bool} {r : Rec} {rest : List Rec}
    (hrem : removeRec s.tracked id = some (r, rest)) (hfam : r.fam = fam) (hsep0 : sep0 = (fam == famMalloc)) :
    ∃ m', release c s fam (some id) sep0 =
        ({ s with tracked := rest, mem := m' }, (if r.sep then [.unodefree r.nodeId] else []) ++ [.ufree id], .null) ∧
      InvTM c rest m' ∧ findBlock m' id = none ∧ (r.sep = true → findBlock m' r.nodeId = none) ∧
      ∀ j, j ∉ r.owned → findBlock m' j = findBlock s.mem j := by
  obtain ⟨_, hok, hmem, hid, _, _⟩ := InvTM.remove h hrem
  have hret : retrieveRec s.tracked id = some r := by rw [removeRec_retrieve, hrem]; rfl
  obtain ⟨m1, hw, hinv1, hfr1⟩ := InvTM.userWrite hn h hmem (off := 0) (src := List.replicate r.size.toNat poisonByte) (by simp)
  rw [hid] at hw hfr1
  have hrel : release c s fam (some id) sep0 = deallocMemory c { s with mem := m1 } fam (some id) sep0 := by
    unfold release invalidateMemory
    simp only [hret, hw]
  obtain ⟨hd, hinv2⟩ := deallocMemory_tracked c (s := { s with mem := m1 }) hinv1 hrem hfam hsep0
  refine ⟨_, hrel.trans hd, hinv2, findBlock_dropBlock_self _ id, ?_, ?_⟩
  · intro hs
    have hne : r.nodeId ≠ id := by rw [← hid]; exact (hok.node.1 hs).1
    rw [findBlock_dropBlock_ne hne]
    simp only [hs, if_true]
    exact findBlock_dropBlock_self _ _
  · intro j hj
    rw [← hid, findBlock_dropOwned m1 hj, hfr1 j fun e => hj (by rw [e, ← hid]; exact id_mem_owned r)]

theorem release_untracked (c : Cfg) (s : State) (fam : Nat) (sep0 : Bool) :
    release c s fam none sep0 = (s, [], .null) ∧
    ∀ id, removeRec s.tracked id = none → release c s fam (some id) sep0 = (s, [.misuse "nonallocated"], .null) := by
  refine ⟨rfl, fun id hrem => ?_⟩
  have hret : retrieveRec s.tracked id = none := by rw [removeRec_retrieve, hrem]; rfl
  simp only [release, invalidateMemory, hret, deallocMemory, hrem]

theorem release_inv (c : Cfg) (hn : NodeOk c) {s : State} (h : Inv c s) (fam : Nat) (ptr : Option Nat) (sep0 : Bool)
    (hsep0 : sep0 = (fam == famMalloc)) (hp : PtrOk s fam ptr) :
    Inv c (release c s fam ptr sep0).1 ∧ (release c s fam ptr sep0).2.2 = .null := by
  cases ptr with
  | none => exact ⟨h, rfl⟩
  | some id =>
    cases hrem : removeRec s.tracked id with
    | none => rw [(release_untracked c s fam sep0).2 id hrem]; exact ⟨h, rfl⟩
    | some p =>
      obtain ⟨r, rest⟩ := p
      obtain ⟨hmem, hid⟩ := removeRec_mem hrem
      obtain ⟨m', he, hinv, _⟩ := release_tracked c hn h hrem (hp id rfl r hmem hid) hsep0
      rw [he]; exact ⟨hinv, rfl⟩

theorem ptrOk_of_mem {c : Cfg} {s : State} (h : Inv c s) {o : Rec} (ho : o ∈ s.tracked) : PtrOk s o.fam (some o.id) := by
  intro id hid r hr hrid
  cases hid
  rw [owned_inj h.nodup hr ho (id_mem_owned r) (hrid ▸ id_mem_owned o)]

/-! ## realloc keeps the invariant -/

/-- what the invariant says when `cpputest_realloc` finds the old record `o` of block `id` -/
structure OldRecord (c : Cfg) (s : State) (id : Nat) (o : Rec) (rest : List Rec) : Prop where
  check     : checkForCorruption c s.mem o famMalloc true = (dropBlock s.mem o.nodeId, [.unodefree o.nodeId], false)
  others    : InvTM c rest (dropBlock s.mem o.nodeId)
  acc       : rejectsAlloc c o.size = false
  blk       : ∃ ob, findBlock (dropBlock s.mem o.nodeId) id = some ob ∧ findBlock s.mem id = some ob ∧
                ob.bytes.length = (allocReq c true o.size).toNat ∧
                (ob.bytes.drop o.size.toNat).take c.guard.toNat = guardImage c
  id_free   : id ∉ owned rest

theorem realloc_old_record (c : Cfg) {s : State} (h : Inv c s) {id : Nat} {o : Rec} {rest : List Rec}
    (hrem : removeRec s.tracked id = some (o, rest)) (hfam : o.fam = famMalloc) : OldRecord c s id o rest := by
  obtain ⟨hrest, hok, _, hid, hdis, _⟩ := InvTM.remove h hrem
  have hsep : o.sep = true := by rw [hok.lay, hfam]; exact sepOf_malloc c
  have hne : o.nodeId ≠ id := by rw [← hid]; exact (hok.node.1 hsep).1
  have hnown := nodeId_mem_owned hsep
  have hcfc := checkForCorruption_ok hok
  rw [hfam, hsep] at hcfc
  obtain ⟨ob, hob, hl, hg⟩ := hok.blk
  rw [hsep] at hl
  rw [hid] at hob
  exact ⟨hcfc, hrest.frame fun j hj => findBlock_dropBlock_ne fun e => hdis _ hnown (e ▸ hj), hok.acc,
    ⟨ob, by rw [findBlock_dropBlock_ne (Ne.symm hne)]; exact hob, hob, hl, hg⟩,
    fun hx => hdis id (hid ▸ id_mem_owned o) hx⟩

theorem retrack_inv (c : Cfg) (img : NodeImage) (hi : ImgOk c img) {rest : List Rec} {m : List Block} (q : Nat)
    (hrest : InvTM c rest m) (o : Rec) {ob : Block} (hfam : o.fam = famMalloc) (hoacc : rejectsAlloc c o.size = false)
    (hob : findBlock m o.id = some ob) (hol : ob.bytes.length = (allocReq c true o.size).toNat)
    (hog : (ob.bytes.drop o.size.toNat).take c.guard.toNat = guardImage c) (hidn : o.id ∉ owned rest)
    (a2 : Ans) (h2ok : a2.Ok c.node.toNat) (h2f : a2.Fresh m) (hnn : a2 ≠ .null) (evs : List Ev) (size : W) (id : Nat) :
    AllocResult c size id (retrack c img ⟨rest, m, q⟩ o true a2 evs) := by
  cases a2 with
  | null => exact absurd rfl hnn
  | fail => exact .unchanged (s := ⟨rest, m, q⟩) hrest (.inr (.inl rfl)) ..
  | block nid nb =>
    have hfn : Fresh m nid := h2f
    have hnid_id : nid ≠ o.id := (ne_of_fresh_of_find hfn hob).symm
    have hnid_not : nid ∉ owned rest := hrest.fresh_not_owned hfn
    obtain ⟨m1, b1, hw, hb1, hl1, ht1, hn1, hfr⟩ := writeNode_ok c img hi (⟨nid, nb⟩ :: m)
      { o with sep := true, nodeId := nid } (b := ob)
      (by rw [findBlock_cons_ne nb _ hnid_id]; exact hob) nofun
      (fun _ => ⟨hnid_id, _, findBlock_cons_self nid nb _, h2ok⟩)
    have he : retrack c img ⟨rest, m, q⟩ o true (.block nid nb) evs =
        (⟨{ o with sep := true, nodeId := nid } :: rest, m1, q⟩, evs ++ [.unode c.node nid], .null) := by
      simp only [retrack, if_true, hw]
    rw [he]
    refine ⟨?_, rfl, nofun⟩
    -- the others are untouched; the record is true of the memory again: its data block kept everything up to the end of
    -- the guard bytes, its node is the fresh block
    refine (hrest.frame fun j hj => ?_).cons
      ⟨hoacc, by rw [hfam]; exact (sepOf_malloc c).symm, ⟨b1, hb1, hl1.trans hol, ?_⟩,
        fun _ => ⟨hnid_id, hn1 rfl⟩, nofun⟩ fun j hj => ?_
    · rw [hfr j fun hjo => ?_, findBlock_cons_ne nb _ fun e : nid = j => hnid_not (e ▸ hj)]
      rcases (mem_owned_iff _ j).mp hjo with rfl | ⟨_, rfl⟩
      · exact hidn hj
      · exact hnid_not hj
    · have := congrArg (List.drop o.size.toNat) (ht1 _ (Nat.le_refl _))
      rw [List.drop_take, List.drop_take, Nat.add_sub_cancel_left] at this
      rw [this]; exact hog
    · rcases (mem_owned_iff _ j).mp hj with rfl | ⟨_, rfl⟩
      · exact hidn
      · exact hnid_not

theorem cRealloc_inv (c : Cfg) (hn : NodeOk c) (img : NodeImage) (hi : ImgOk c img) {s : State} (h : Inv c s)
    (ptr : Option Nat) (size : W) (ar : RAns) (a2 : Ans)
    (hp : PtrOk s famMalloc ptr) (har : ar.EnvOk s.mem ptr (reallocReq c true size).toNat)
    (h2ok : a2.Ok c.node.toNat) (h2f : a2.Fresh s.mem) (hd : ar.differs a2) (hnn : a2 ≠ .null) :
    AllocResult c size ar.id (cRealloc c img s ptr size ar a2) := by
  -- the new block is accounted for on top of the records that stay
  have hacct : ∀ {t : List Rec} {m : List Block} (nid : Nat) (nb : List UInt8) (evs : List Ev), rejectsAlloc c size = false →
      InvTM c t m → ar = .moved nid nb → Fresh m nid → a2.Fresh m →
      AllocResult c size ar.id (account c img ⟨t, ⟨nid, nb⟩ :: m, s.seq⟩ famMalloc size true nid a2 evs) := by
    intro t m nid nb evs hacc ht hx hfresh h2f'
    subst hx
    have key := account_inv c hn img hi s.seq ht famMalloc size nid nb a2 evs hacc
      (by rw [sepOf_malloc, ← reallocReq_eq]; exact har.1) hfresh h2ok h2f' hd (fun _ => hnn)
    rwa [sepOf_malloc] at key
  unfold cRealloc
  rcases reallocMemory_cases c img s famMalloc ptr size true ar a2 with
    ⟨_, he⟩ | ⟨hacc, rfl, he⟩ | ⟨id, _, rfl, _, he⟩ | ⟨id, o, rest, m1, evs, hacc, rfl, hrem, _⟩
  · rw [he]; exact .unchanged h (.inl rfl) ..
  · rw [he, forcedSep_true]
    cases ar with
    | null => exact .unchanged h (.inl rfl) ..
    | moved nid nb => exact hacct nid nb _ hacc h rfl (har.2.1.resolve_right nofun) h2f
  · rw [he]; exact .unchanged h (.inl rfl) ..
  · obtain ⟨hmem, hid⟩ := removeRec_mem hrem
    have hfam := hp id rfl o hmem hid
    have old := realloc_old_record c h hrem hfam
    obtain ⟨ob, hob1, _, hol, hog⟩ := old.blk
    rw [reallocMemory_some img ar a2 hacc hrem (by rw [forcedSep_true]; exact old.check), forcedSep_true]
    subst hid
    cases ar with
    | null =>
      exact retrack_inv c img hi s.seq old.others o hfam old.acc hob1 hol hog old.id_free a2 h2ok
        (h2f.dropBlock _) hnn _ size _
    | moved nid nb =>
      have hfresh : Fresh (dropBlock (dropBlock s.mem o.nodeId) o.id) nid := by
        rcases har.2.1 with hf | hf
        · exact fresh_dropBlock _ (fresh_dropBlock _ hf)
        · cases hf; exact fresh_dropBlock_self _ _
      exact hacct nid nb _ hacc
        (old.others.frame fun j hj => findBlock_dropBlock_ne fun e => old.id_free (e ▸ hj)) rfl hfresh ((h2f.dropBlock _).dropBlock _)

theorem step_inv (c : Cfg) (hn : NodeOk c) (img : NodeImage) (hi : ImgOk c img) {s : State} (h : Inv c s)
    (op : Op) (hop : OpOk c s op) :
    Inv c (step c img s op).1 ∧ (step c img s op).2.2.isUb = false ∧
      ∀ id, (step c img s op).2.2 = .ptr id → op.platformBlock = id := by
  have hnull : ∀ {r : State × List Ev × Outcome} {k : Nat}, Inv c r.1 ∧ r.2.2 = .null →
      Inv c r.1 ∧ r.2.2.isUb = false ∧ ∀ id, r.2.2 = .ptr id → k = id :=
    fun ⟨h1, h2⟩ => ⟨h1, by rw [h2]; rfl, fun id hp => by rw [h2] at hp; cases hp⟩
  cases op with
  | new v size a1 a2 => exact (operatorNew_inv c hn img hi h v size a1 a2 hop.2.1 hop.2.2).facts
  | malloc size a1 a2 => exact (cMalloc_inv c hn img hi h size a1 a2 hop).facts
  | calloc num size a1 a2 => exact (cCalloc_inv c hn img hi h num size a1 a2 hop).facts
  | strdup buf a1 a2 =>
    obtain ⟨hnul, hshort, henv⟩ := hop
    obtain ⟨hlen, hlt, _⟩ := cstrlen_of_nul buf hnul
    simp only [step, cStrdup, hlen]
    exact (strdupAlloc_inv c hn img hi h buf _ _ a1 a2
      (by rw [strdupLength_ofNat, BitVecLemmas.toNat_ofNat_lt (by omega)]) hlt henv).facts
  | strndup buf n a1 a2 =>
    obtain ⟨hnul, hshort, henv⟩ := hop
    obtain ⟨hlen, hlt, _⟩ := cstrlen_of_nul buf hnul
    simp only [step, cStrndup, hlen]
    exact (strdupAlloc_inv c hn img hi h buf _ (min n.toNat (cstrOf buf).length) a1 a2
      (by rw [strndupLength_ofNat _ _ (by omega), BitVecLemmas.toNat_ofNat_lt (by omega)]) (by omega) henv).facts
  | realloc ptr size ar a2 =>
    obtain ⟨hp, har, h2ok, h2f, hd, hnn⟩ := hop
    exact (cRealloc_inv c hn img hi h ptr size ar a2 hp har h2ok h2f hd hnn).facts
  | free ptr => exact hnull (release_inv c hn h famMalloc ptr true rfl hop)
  | delete array ptr =>
    exact hnull (release_inv c hn h (if array then famNewArray else famNew) ptr false (by cases array <;> decide) hop)
  | write id off src =>
    obtain ⟨r, hr, hid, hfit⟩ := hop
    obtain ⟨m', hw, hinv, _⟩ := InvTM.userWrite hn h hr (off := off) (src := src) hfit
    rw [hid] at hw
    have : step c img s (.write id off src) = ({ s with mem := m' }, [], .null) := by
      show clientWrite s id off src = _
      unfold clientWrite; simp only [hw]
    rw [this]; exact hnull ⟨hinv, rfl⟩

theorem run_inv (c : Cfg) (hn : NodeOk c) (img : NodeImage) (hi : ImgOk c img) :
    ∀ (ops : List Op) (s : State), Inv c s → OpsOk c img s ops → Inv c (run c img s ops)
  | [], _, h, _ => h
  | op :: ops, _, h, hok => run_inv c hn img hi ops _ (step_inv c hn img hi h op hok.1).1 hok.2

theorem run_append (c : Cfg) (img : NodeImage) : ∀ (ops : List Op) (s : State) (op : Op),
    run c img s (ops ++ [op]) = (step c img (run c img s ops) op).1
  | [], _, _ => rfl
  | o :: ops, s, op => by simp only [List.cons_append, run]; exact run_append c img ops _ op

theorem opsOk_append (c : Cfg) (img : NodeImage) : ∀ (ops : List Op) (s : State) (op : Op),
    OpsOk c img s (ops ++ [op]) → OpsOk c img s ops ∧ OpOk c (run c img s ops) op
  | [], _, _, h => ⟨trivial, h.1⟩
  | o :: ops, s, op, h => by
    obtain ⟨h1, h2⟩ := opsOk_append c img ops _ op h.2
    exact ⟨⟨h.1, h1⟩, h2⟩

end AllocLayout
