import CppUModel.Spec.LeakPlugin
/-!
The run of the C07 model refines the history-level specification.  Every run of one test has the shape "steps outside
the window, pre action, steps inside the window, post action, steps outside".  Inside the window a model step follows a
history step (simulation relation, allocation numbers and untouched observations carried along); outside it follows a
step on the set of outstanding blocks and records failures.  What the post action leaves is stated once, for any step
that follows; the plain test and the test with an allocating object are instances here, the chain of plugins is one in
`LeakPluginChain.lean`.
-/
namespace LeakPlugin
open Gen.LeakCode Hist

/-! ### the regenerated code, evaluated -/

theorem isInPeriod_checking (p : Period) : isInPeriod p .checking = (p == .checking) := by
  cases p <;> rfl

theorem isInPeriod_enabled (p : Period) : isInPeriod p .enabled = (p != .disabled) := by
  cases p <;> rfl

theorem preTestAction_eq (w : World) :
    preTestAction w =
      { w with det := { w.det with out := [], cur := .checking },
               plg := { w.plg with failureCount := w.failures } } := rfl

theorem demoteRec_period (r : Rec) : (Detector.demoteRec r).period ≠ .checking := by
  unfold Detector.demoteRec
  cases h : r.period <;> simp [isInPeriod, demoteScan, demoteFrom, demoteTo, h]

theorem demoteRec_id (r : Rec) : (Detector.demoteRec r).id = r.id := by
  unfold Detector.demoteRec; split <;> rfl

theorem demoteRec_num (r : Rec) : (Detector.demoteRec r).num = r.num := by
  unfold Detector.demoteRec; split <;> rfl

/-- the records stamped with the checking period: between the pre and the post action of a test, those allocated in
    its window -/
def Detector.stamped (d : Detector) : List Rec := d.recs.filter (fun r => r.period == .checking)

/-- the value of the local `leaks` of postTestAction -/
def leaksAtPost (w : World) : Nat := (w.det.recs.filter (fun r => r.period == .checking)).length

/-- the condition of postTestAction's outer `if`, on the state at the end of the teardown -/
def condAtPost (w : World) : Bool :=
  failCond w.plg.ignoreAll w.plg.expected (leaksAtPost w) w.plg.failureCount w.failures

theorem leaksIn_checking (d : Detector) :
    d.leaksIn .checking = d.stamped := by
  simp only [Detector.leaksIn, isInPeriod_checking, Detector.stamped]

theorem totalMemoryLeaks_checking (d : Detector) :
    d.totalMemoryLeaks .checking = d.stamped.length := by
  rw [Detector.totalMemoryLeaks, leaksIn_checking]

theorem verdictStep_plg (w : World) (p : Period) : (verdictStep w p).plg = w.plg := by
  unfold verdictStep
  simp only [apply_ite World.plg, ite_self]

theorem verdictStep_det (w : World) (p : Period) :
    (verdictStep w p).det.recs = w.det.recs ∧ (verdictStep w p).det.cur = w.det.cur ∧
      (verdictStep w p).det.seq = w.det.seq := by
  unfold verdictStep
  simp only [apply_ite World.det, apply_ite Detector.recs, apply_ite Detector.cur, apply_ite Detector.seq,
    Detector.report, ite_self, and_self]

theorem postTestAction_eq (w : World) :
    postTestAction w =
      { det := { recs := w.det.recs.map Detector.demoteRec, cur := .enabled, seq := w.det.seq,
                 out := if condAtPost w && w.overloads then
                          w.det.out ++ w.det.stamped else w.det.out },
        plg := { ignoreAll := false, expected := 0, failureCount := w.plg.failureCount, leaks := leaksAtPost w },
        failures := if condAtPost w && w.overloads then w.failures + 1 else w.failures,
        overloads := w.overloads, aborted := w.aborted,
        leakFail := if condAtPost w && w.overloads then
            some { entries := w.det.out ++ w.det.stamped,
                   total := leaksAtPost w }
          else w.leakFail,
        warned := w.warned || (condAtPost w && !w.overloads &&
          warnCond w.plg.ignoreAll w.plg.expected (leaksAtPost w) w.plg.failureCount w.failures) } := by
  simp only [postTestAction, postSteps, List.foldl, pstep, verdictStep, Detector.stopChecking, stopCheckingSteps,
    Detector.dsteps, Detector.dstep, totalMemoryLeaks_checking, Detector.report, Detector.demote, leaksIn_checking,
    Detector.stamped, condAtPost, leaksAtPost]
  by_cases hc : failCond w.plg.ignoreAll w.plg.expected
      (w.det.recs.filter (fun r => r.period == .checking)).length w.plg.failureCount w.failures = true <;>
    by_cases ho : w.overloads = true <;>
    by_cases hw : warnCond w.plg.ignoreAll w.plg.expected
      (w.det.recs.filter (fun r => r.period == .checking)).length w.plg.failureCount w.failures = true <;>
    simp [hc, ho, hw]

/-- every field of the re-registered node is restored from the saved old node (the regenerated field sources
    are all `.old`), so a failed realloc leaves the table exactly as it was -/
theorem reallocFail_eq (d : Detector) (id size : Nat) : d.reallocFail id size = d := by
  unfold Detector.reallocFail
  have : (fun r : Rec => if (r.id == id) = true then Detector.restoredRec d r size else r) = fun r => r := by
    funext r; split <;> rfl
  rw [this, List.map_id']
  rfl

theorem execCmd_reallocFail (w : World) (id size : Nat) : execCmd w (.reallocFail id size) = w := by
  simp only [execCmd, reallocFail_eq]

/-! ### the script guards, on the set of outstanding blocks -/

theorem isLive_eq (w : World) (id : Nat) : w.det.isLive id = decide (id ∈ w.liveIds) := by
  rw [Bool.eq_iff_iff]; simp [Detector.isLive, World.liveIds]

theorem doAlloc_eq (w : World) (id size : Nat) :
    doAlloc w id size = if id ∈ w.liveIds then w else { w with det := w.det.alloc id size } := by
  unfold doAlloc; rw [isLive_eq]; simp only [decide_eq_true_eq]

/-- the guard of a scripted realloc: the old block is outstanding, the resulting block is not
    (it may be the old block again) -/
abbrev reallocOk (live : List Nat) (id newId : Nat) : Prop := id ∈ live ∧ (newId = id ∨ newId ∉ live)

theorem ite_reallocOk {α : Type} (live : List Nat) (id newId : Nat) (x y : α) :
    (if id ∉ live then x else if newId ≠ id ∧ newId ∈ live then x else y) =
      if reallocOk live id newId then y else x := by
  by_cases h1 : id ∈ live <;> by_cases h2 : newId = id <;> by_cases h3 : newId ∈ live <;> simp [h1, h2, h3]

theorem doRealloc_eq (w : World) (id newId size : Nat) :
    doRealloc w id newId size =
      if reallocOk w.liveIds id newId then doAlloc (doFree w id) newId size else w := by
  unfold doRealloc; rw [isLive_eq, isLive_eq, ← ite_reallocOk]
  simp only [Bool.not_eq_true', decide_eq_false_iff_not, Bool.and_eq_true, bne_iff_ne, decide_eq_true_eq]

theorem hexec_realloc (h : HState) (id newId size : Nat) :
    hexec h (.realloc id newId size) = if reallocOk h.live id newId then hAlloc (hFree h id) newId else h :=
  ite_reallocOk h.live id newId h _

theorem liveIds_free (w : World) (id : Nat) : (doFree w id).liveIds = w.liveIds.filter (· != id) := by
  unfold World.liveIds; rw [List.filter_map]; rfl

theorem isLive_free (d : Detector) {id newId : Nat} (h : newId = id ∨ d.isLive newId = false) :
    (d.free id).isLive newId = false := by
  unfold Detector.isLive Detector.free
  rw [List.any_eq_false]
  intro r hr
  rw [List.mem_filter] at hr
  rcases h with hq | hq
  · subst hq; simpa using hr.2
  · exact List.any_eq_false.mp hq r hr.1

theorem alloc_free_eq (d : Detector) (x size : Nat) (hl : d.isLive x = false) :
    (d.alloc x size).free x = { d with seq := d.seq + 1 } := by
  unfold Detector.alloc Detector.free
  have : (({ id := x, period := d.cur, num := d.seq, size := size } : Rec) :: d.recs).filter (fun r => r.id != x) = d.recs := by
    rw [List.filter_cons_of_neg (by simp), List.filter_eq_self]
    intro r hr
    unfold Detector.isLive at hl
    rw [List.any_eq_false] at hl
    simpa using hl r hr
  simp only [this]

/-- an address above every outstanding one is not outstanding -/
theorem exists_fresh (d : Detector) : ∃ x, x ≠ 0 ∧ d.isLive x = false := by
  have hb : ∃ b, ∀ r ∈ d.recs, r.id ≤ b := by
    induction d.recs with
    | nil => exact ⟨0, fun _ h => nomatch h⟩
    | cons x xs ih =>
      obtain ⟨b, hb⟩ := ih
      exact ⟨max x.id b, fun r hr => (List.mem_cons.mp hr).elim (fun e => e ▸ Nat.le_max_left _ _)
        (fun h => Nat.le_trans (hb r h) (Nat.le_max_right _ _))⟩
  obtain ⟨b, hb⟩ := hb
  refine ⟨b + 1, by omega, ?_⟩
  unfold Detector.isLive
  rw [List.any_eq_false]
  intro r hr
  have := hb r hr
  simp only [beq_iff_eq]
  omega

/-! ### what the scripted commands never touch -/

structure Frame (w w' : World) : Prop where
  out : w'.det.out = w.det.out
  leakFail : w'.leakFail = w.leakFail
  warned : w'.warned = w.warned
  overloads : w'.overloads = w.overloads
  cur : w'.det.cur = w.det.cur

theorem Frame.refl (w : World) : Frame w w := ⟨rfl, rfl, rfl, rfl, rfl⟩

theorem Frame.trans {a b c : World} (h1 : Frame a b) (h2 : Frame b c) : Frame a c :=
  ⟨h2.out.trans h1.out, h2.leakFail.trans h1.leakFail, h2.warned.trans h1.warned,
   h2.overloads.trans h1.overloads, h2.cur.trans h1.cur⟩

/-! ### inside the window: the model run simulates the history -/

/-- the model state `w` inside a test's window represents the history state `h`;
    `f0` is the failure count at the pre action -/
structure Sim (f0 : Nat) (w : World) (h : HState) : Prop where
  ids : w.liveIds = h.live
  chk : w.det.stamped.map (·.id) = h.mine
  cur : w.det.cur = .checking
  ab : w.aborted = h.aborted
  fails : w.failures = f0 + h.own
  ign : w.plg.ignoreAll = h.ignore
  exp : w.plg.expected = h.expected
  fc : w.plg.failureCount = f0

def NumsBelow (d : Detector) : Prop := ∀ r ∈ d.recs, r.num < d.seq

theorem NumsBelow.alloc {d : Detector} (h : NumsBelow d) (id size : Nat) : NumsBelow (d.alloc id size) :=
  fun r hr => (List.mem_cons.mp hr).elim (fun e => e ▸ Nat.lt_succ_self _) fun hr => Nat.lt_succ_of_lt (h r hr)

theorem NumsBelow.free {d : Detector} (h : NumsBelow d) (id : Nat) : NumsBelow (d.free id) :=
  fun r hr => h r (List.mem_filter.mp hr).1

theorem NumsBelow.bump {d : Detector} (h : NumsBelow d) (k : Nat) : NumsBelow (d.bump k) :=
  fun r hr => Nat.lt_of_lt_of_le (h r hr) (Nat.le_max_left _ _)

/-- the numbers of the records are below the next number; records stamped `checking` have numbers from `s0`
    (the next number at the pre action) on -/
structure NumInv (s0 : Nat) (w : World) : Prop where
  below : NumsBelow w.det
  start : s0 ≤ w.det.seq
  fresh : ∀ r ∈ w.det.recs, r.period = .checking → s0 ≤ r.num

structure StepIn (w w' : World) (g : HState → HState) : Prop where
  sim : ∀ {f0 : Nat} {h : HState}, Sim f0 w h → Sim f0 w' (g h)
  num : ∀ {s0 : Nat}, NumInv s0 w → NumInv s0 w'
  frame : Frame w w'

def Follows (f : World → World) (g : HState → HState) : Prop := ∀ w, StepIn w (f w) g

theorem Follows.id : Follows (fun w => w) (fun h => h) := fun w => ⟨fun s => s, fun n => n, Frame.refl w⟩

theorem Follows.comp {f₁ f₂ : World → World} {g₁ g₂ : HState → HState} (h₁ : Follows f₁ g₁) (h₂ : Follows f₂ g₂) :
    Follows (fun w => f₂ (f₁ w)) (fun h => g₂ (g₁ h)) := fun w =>
  have a := h₁ w
  have b := h₂ (f₁ w)
  ⟨fun s => b.sim (a.sim s), fun n => b.num (a.num n), a.frame.trans b.frame⟩

theorem Follows.foldl {f : World → Cmd → World} {g : HState → Cmd → HState}
    (hc : ∀ c, Follows (fun w => f w c) (fun h => g h c)) :
    ∀ cs : List Cmd, Follows (fun w => cs.foldl f w) (fun h => cs.foldl g h)
  | [] => Follows.id
  | c :: cs => (hc c).comp (Follows.foldl hc cs)

theorem Follows.of_det_eq {f : World → World} {g : HState → HState}
    (hk : ∀ w, (f w).det = w.det ∧ (f w).leakFail = w.leakFail ∧ (f w).warned = w.warned ∧
      (f w).overloads = w.overloads)
    (sim : ∀ {f0 : Nat} {w : World} {h : HState}, Sim f0 w h → Sim f0 (f w) (g h)) : Follows f g := fun w =>
  have ⟨hd, hl, hw, ho⟩ := hk w
  ⟨sim, fun n => ⟨hd ▸ n.below, hd ▸ n.start, hd ▸ n.fresh⟩,
   ⟨congrArg Detector.out hd, hl, hw, ho, congrArg Detector.cur hd⟩⟩

/-- a guard that the model and the history decide alike -/
theorem Follows.ite {f₁ f₂ : World → World} {g₁ g₂ : HState → HState} {c : World → Prop} {c' : HState → Prop}
    [DecidablePred c] [DecidablePred c'] (hc : ∀ {f0 : Nat} {w : World} {h : HState}, Sim f0 w h → (c w ↔ c' h))
    (h₁ : Follows f₁ g₁) (h₂ : Follows f₂ g₂) :
    Follows (fun w => if c w then f₁ w else f₂ w) (fun h => if c' h then g₁ h else g₂ h) := fun w => by
  show StepIn w (if c w then _ else _) _
  split
  · rename_i hw
    exact { h₁ w with sim := fun s => by rw [if_pos ((hc s).mp hw)]; exact (h₁ w).sim s }
  · rename_i hw
    exact { h₂ w with sim := fun s => by rw [if_neg (mt (hc s).mpr hw)]; exact (h₂ w).sim s }

theorem follows_alloc (id size : Nat) :
    Follows (fun w => { w with det := w.det.alloc id size })
      (fun h => { h with live := id :: h.live, mine := id :: h.mine }) := fun _ =>
  { sim := fun s => { s with ids := congrArg (id :: ·) s.ids, chk := by simp [Detector.stamped, Detector.alloc, s.cur, ← s.chk] }
    num := fun n =>
      ⟨n.below.alloc id size, Nat.le_succ_of_le n.start,
       fun r hr hp => (List.mem_cons.mp hr).elim (fun e => e ▸ n.start) fun hr => n.fresh r hr hp⟩
    frame := ⟨rfl, rfl, rfl, rfl, rfl⟩ }

theorem follows_doAlloc (id size : Nat) : Follows (fun w => doAlloc w id size) (fun h => hAlloc h id) := by
  rw [funext (doAlloc_eq · id size)]
  exact .ite (fun s => by rw [s.ids]) .id (follows_alloc id size)

theorem follows_doFree (id : Nat) : Follows (fun w => doFree w id) (fun h => hFree h id) := fun _ =>
  { sim := fun s => { s with ids := by rw [liveIds_free, s.ids]; rfl
                             chk := by simp only [doFree, hFree, Detector.stamped, Detector.free, ← s.chk, List.filter_map, List.filter_filter,
                                                Function.comp_def, Bool.and_comm] }
    num := fun n => ⟨n.below.free id, n.start, fun r hr => n.fresh r (List.mem_filter.mp hr).1⟩
    frame := ⟨rfl, rfl, rfl, rfl, rfl⟩ }

theorem follows_doRealloc (id newId size : Nat) :
    Follows (fun w => doRealloc w id newId size) (fun h => hexec h (.realloc id newId size)) := by
  rw [funext (doRealloc_eq · id newId size), funext (hexec_realloc · id newId size)]
  exact .ite (fun s => by rw [s.ids]) ((follows_doFree id).comp (follows_doAlloc newId size)) .id

theorem follows_bump (k : Nat) : Follows (fun w => { w with det := w.det.bump k }) (fun h => h) := fun _ =>
  { sim := fun s => { s with }
    num := fun n => ⟨n.below.bump k, Nat.le_trans n.start (Nat.le_max_left _ _), n.fresh⟩
    frame := ⟨rfl, rfl, rfl, rfl, rfl⟩ }

theorem follows_execCmd (c : Cmd) : Follows (fun w => execCmd w c) (fun h => hexec h c) := by
  cases c with
  | alloc id size => exact follows_doAlloc id size
  | free id => exact follows_doFree id
  | realloc id newId size => exact follows_doRealloc id newId size
  | reallocFail id size => simp only [execCmd_reallocFail]; exact Follows.id
  | expectLeaks k => exact .of_det_eq (fun _ => ⟨rfl, rfl, rfl, rfl⟩) fun s => { s with exp := rfl }
  | ignoreLeaks => exact .of_det_eq (fun _ => ⟨rfl, rfl, rfl, rfl⟩) fun s => { s with ign := rfl }
  | fail =>
    exact .of_det_eq (fun _ => ⟨rfl, rfl, rfl, rfl⟩)
      fun s => { s with ab := rfl, fails := by simp only [execCmd, hexec, s.fails]; omega }
  | envSeq k => exact follows_bump k

theorem follows_stepCmd (c : Cmd) : Follows (fun w => stepCmd w c) (fun h => hstep h c) :=
  .ite (c := fun w => w.aborted = true) (c' := fun h => h.aborted = true) (fun s => by rw [s.ab]) .id
    (follows_execCmd c)

theorem follows_runPhase (ph : Phase) (cs : List Cmd) :
    Follows (fun w => runPhase w ph cs) (fun h => hPhase h ph cs) := by
  have he : Follows (fun w => enterPhase w ph) (fun h => hEnter h ph) := by
    cases ph with
    | body => exact Follows.id
    | setup => exact .of_det_eq (fun _ => ⟨rfl, rfl, rfl, rfl⟩) fun s => { s with ab := rfl }
    | teardown => exact .of_det_eq (fun _ => ⟨rfl, rfl, rfl, rfl⟩) fun s => { s with ab := rfl }
  exact he.comp (Follows.foldl follows_stepCmd cs)

theorem follows_runBody (t : Test) : Follows (fun w => runBody w t) (fun h => throughPhases h t) :=
  ((follows_runPhase .setup t.setup).comp (follows_runPhase .body t.body)).comp (follows_runPhase .teardown t.teardown)

theorem follows_execMem (c : Cmd) : Follows (fun w => execMem w c) (fun h => hMem h c) := by
  cases c with
  | alloc id size => exact follows_doAlloc id size
  | free id => exact follows_doFree id
  | realloc id newId size => exact follows_doRealloc id newId size
  | reallocFail id size => exact follows_execCmd (.reallocFail id size)
  | envSeq k => exact follows_bump k
  | expectLeaks k => exact Follows.id
  | ignoreLeaks => exact Follows.id
  | fail => exact Follows.id

theorem follows_runMem (cs : List Cmd) : Follows (fun w => runMem w cs) (fun h => hRunMem h cs) :=
  Follows.foldl follows_execMem cs

/-! ### outside the window -/

/-- What a step between two windows (memory operations between tests, actions of plugins in front of the leak
    plugin) does, from `w` to `w'`: a state between tests stays one, `l'` are the outstanding blocks afterwards,
    allocation numbers only grow, `k` failures are added to the test result, and neither the phase flag nor
    anything the post action reported is touched. -/
structure StepOut (w w' : World) (l' : List Nat) (k : Nat) : Prop where
  clean : Clean w → Clean w'
  live : w'.liveIds = l'
  seq : w.det.seq ≤ w'.det.seq
  ab : w'.aborted = w.aborted
  fails : w'.failures = w.failures + k
  frame : Frame w w'

def FollowsOut (f : World → World) (g : List Nat → List Nat) (k : Nat) : Prop :=
  ∀ w, StepOut w (f w) (g w.liveIds) k

theorem FollowsOut.id : FollowsOut (fun w => w) (fun l => l) 0 :=
  fun w => ⟨fun hc => hc, rfl, Nat.le_refl _, rfl, rfl, Frame.refl w⟩

theorem StepOut.trans {a b c : World} {l : List Nat} {g : List Nat → List Nat} {k k' : Nat} (h₁ : StepOut a b l k)
    (h₂ : StepOut b c (g b.liveIds) k') : StepOut a c (g l) (k + k') :=
  ⟨fun hc => h₂.clean (h₁.clean hc), h₂.live.trans (congrArg g h₁.live), Nat.le_trans h₁.seq h₂.seq, h₂.ab.trans h₁.ab,
   by rw [h₂.fails, h₁.fails, Nat.add_assoc], h₁.frame.trans h₂.frame⟩

theorem FollowsOut.comp {f₁ f₂ : World → World} {g₁ g₂ : List Nat → List Nat} {k₁ k₂ : Nat}
    (h₁ : FollowsOut f₁ g₁ k₁) (h₂ : FollowsOut f₂ g₂ k₂) :
    FollowsOut (fun w => f₂ (f₁ w)) (fun l => g₂ (g₁ l)) (k₁ + k₂) := fun w => (h₁ w).trans (h₂ (f₁ w))

theorem FollowsOut.foldl {f : World → Cmd → World} {g : List Nat → Cmd → List Nat} {p : Cmd → Bool}
    (hc : ∀ c, FollowsOut (fun w => f w c) (fun l => g l c) (if p c then 1 else 0)) :
    ∀ cs : List Cmd, FollowsOut (fun w => cs.foldl f w) (fun l => cs.foldl g l) (cs.filter p).length
  | [] => FollowsOut.id
  | c :: cs => by
    have h := (hc c).comp (FollowsOut.foldl hc cs)
    rw [List.filter_cons]
    split
    · rwa [if_pos ‹_›, Nat.add_comm] at h
    · rwa [if_neg ‹_›, Nat.zero_add] at h

theorem FollowsOut.ite {f₁ f₂ : World → World} {g₁ g₂ : List Nat → List Nat} {k : Nat} {c : List Nat → Prop}
    [DecidablePred c] (h₁ : FollowsOut f₁ g₁ k) (h₂ : FollowsOut f₂ g₂ k) :
    FollowsOut (fun w => if c w.liveIds then f₁ w else f₂ w) (fun l => if c l then g₁ l else g₂ l) k := fun w => by
  show StepOut w (if c w.liveIds then _ else _) (if c w.liveIds then _ else _) k
  split
  · exact h₁ w
  · exact h₂ w

theorem followsOut_doAlloc (id size : Nat) :
    FollowsOut (fun w => doAlloc w id size) (fun l => hOutside l (.alloc id size)) 0 := by
  rw [funext (doAlloc_eq · id size)]
  refine .ite (c := fun l => id ∈ l) .id fun w =>
    { clean := fun hc =>
        { hc with noChecking := fun r hr => (List.mem_cons.mp hr).elim (fun e => e ▸ hc.notChecking) (hc.noChecking r)
                  numsBelow := NumsBelow.alloc hc.numsBelow id size }
      live := rfl, seq := Nat.le_succ _, ab := rfl, fails := rfl, frame := (follows_alloc id size w).frame }

theorem followsOut_doFree (id : Nat) : FollowsOut (fun w => doFree w id) (fun l => hOutside l (.free id)) 0 :=
  fun w =>
  { clean := fun hc => { hc with noChecking := fun r hr => hc.noChecking r (List.mem_filter.mp hr).1
                                 numsBelow := NumsBelow.free hc.numsBelow id }
    live := liveIds_free w id, seq := Nat.le_refl _, ab := rfl, fails := rfl, frame := (follows_doFree id w).frame }

theorem followsOut_doRealloc (id newId size : Nat) :
    FollowsOut (fun w => doRealloc w id newId size)
      (fun l => if reallocOk l id newId then hOutside (hOutside l (.free id)) (.alloc newId size) else l) 0 := by
  rw [funext (doRealloc_eq · id newId size)]
  exact .ite (c := fun l => reallocOk l id newId) ((followsOut_doFree id).comp (followsOut_doAlloc newId size)) .id

theorem followsOut_bump (k : Nat) : FollowsOut (fun w => { w with det := w.det.bump k }) (fun l => l) 0 := fun w =>
  { clean := fun hc => { hc with numsBelow := NumsBelow.bump hc.numsBelow k }
    live := rfl, seq := Nat.le_max_left _ _, ab := rfl, fails := rfl, frame := (follows_bump k w).frame }

theorem followsOut_execOutside (c : Cmd) : FollowsOut (fun w => execOutside w c) (fun l => hOutside l c) 0 := by
  cases c with
  | alloc id size => exact followsOut_doAlloc id size
  | free id => exact followsOut_doFree id
  | envSeq k => exact followsOut_bump k
  | _ => exact FollowsOut.id

theorem followsOut_runOutside (cs : List Cmd) :
    FollowsOut (fun w => runOutside w cs) (fun l => cs.foldl hOutside l) 0 := by
  have h := FollowsOut.foldl (p := fun _ => false) followsOut_execOutside cs
  rwa [List.filter_eq_nil_iff.mpr fun _ _ => Bool.false_ne_true] at h

/-! ### one test: the window opens, a step follows the history, the window closes -/

/-- What one test hands to the next: the state `w'` it leaves is again a state between tests (no record stamped
    checking, per-test flags reset), `live` are the blocks still outstanding, the overload switch is as in the
    state `w` it started from and the allocation numbers have only grown. -/
structure Leaves (w w' : World) (live : List Nat) : Prop where
  clean : Clean w'
  live : w'.liveIds = live
  ov : w'.overloads = w.overloads
  seq : w.det.seq ≤ w'.det.seq

/-- What the leak plugin's post action leaves, in the terms of the history: `w'` is reached from the state `w`
    between two tests through a window that opened in `wp` and whose history ended in `h`.  The test has its own
    failures, `k` failures from outside the window and the one leak failure exactly when the overloads are on and
    `h` asks for it (`verdictAt`); that failure reports `chk`, the records stamped in the window (the blocks of
    `h.mine`, numbered from the pre action on); the warning is printed instead when the overloads are off and
    leaks were declared; `live` are the outstanding blocks the next test finds. -/
structure Closes (w wp : World) (h : HState) (chk : List Rec) (k : Nat) (live : List Nat) (w' : World) : Prop
    extends Leaves w w' live where
  fails : w'.failures = w.failures + k + h.own + (if w.overloads && verdictAt h then 1 else 0)
  leakFail : w'.leakFail = if w.overloads && verdictAt h then some ⟨chk, h.mine.length⟩ else none
  warned : w'.warned = true ↔ (w.overloads = false ∧ verdictAt h = true ∧ h.expected > 0)
  ids : chk.map (·.id) = h.mine
  cleanAtPre : Clean wp
  seqAtPre : w.det.seq ≤ wp.det.seq
  fresh : ∀ e ∈ chk, wp.det.seq ≤ e.num

theorem verdictAt_iff (h : HState) :
    verdictAt h = true ↔ (h.own = 0 ∧ h.ignore = false ∧ h.mine.length ≠ h.expected) := by
  simp [verdictAt, and_assoc]

theorem leaksAtPost_eq {f0 : Nat} {w : World} {h : HState} (s : Sim f0 w h) : leaksAtPost w = h.mine.length := by
  rw [← s.chk, List.length_map]; rfl

theorem condAtPost_eq {f0 : Nat} {w : World} {h : HState} (s : Sim f0 w h) : condAtPost w = verdictAt h := by
  unfold condAtPost failCond verdictAt
  rw [leaksAtPost_eq s, s.ign, s.exp, s.fc, s.fails]
  rw [Bool.eq_iff_iff]
  simp only [Bool.and_eq_true, Bool.not_eq_true', bne_iff_ne, beq_iff_eq, ne_eq]
  constructor
  · rintro ⟨⟨h1, h2⟩, h3⟩; exact ⟨⟨by omega, h1⟩, fun e => h2 e.symm⟩
  · rintro ⟨⟨h1, h2⟩, h3⟩; exact ⟨⟨h2, fun e => h3 e.symm⟩, by omega⟩

/-- The window: pre action, a step that follows the history, post action.  The pre action starts in `wp`, reached
    from the state `w` between two tests by forgetting the observations of the previous test (`clearObs`) and steps
    outside the window; it starts the simulation (`Sim`, `NumInv`), `hf` carries it to the post action, and the closed
    form of the post action is read off in terms of the history state. -/
theorem StepOut.closes {w wp : World} {live : List Nat} {k : Nat} (hc : Clean w) (ho : StepOut (clearObs w) wp live k)
    {f : World → World} {g : HState → HState} (hf : Follows f g) :
    Closes w wp (g (start live)) (f (preTestAction wp)).det.stamped k
      (g (start live)).live (postTestAction (f (preTestAction wp))) := by
  have hcp : Clean wp := ho.clean { hc with }
  have hov : wp.overloads = w.overloads := ho.frame.overloads
  have hnf : wp.leakFail = none := ho.frame.leakFail
  have hnw : wp.warned = false := ho.frame.warned
  have s : Sim (w.failures + k) (f (preTestAction wp)) (g (start live)) :=
    (hf _).sim
      { ids := ho.live, cur := rfl, ab := ho.ab, fails := ho.fails, ign := hcp.ignoreOff,
        exp := hcp.expectedZero, fc := ho.fails
        chk := by
          unfold Detector.stamped
          rw [List.filter_eq_nil_iff.mpr fun r hr => by simpa using hcp.noChecking r hr]; rfl }
  have n : NumInv wp.det.seq (f (preTestAction wp)) :=
    (hf _).num ⟨hcp.numsBelow, Nat.le_refl _, fun r hr hp => absurd hp (hcp.noChecking r hr)⟩
  have fr := (hf (preTestAction wp)).frame
  have hcond : (condAtPost (f (preTestAction wp)) && (f (preTestAction wp)).overloads) =
      (w.overloads && verdictAt (g (start live))) := by
    rw [condAtPost_eq s, fr.overloads, Bool.and_comm]; exact congrArg (· && _) hov
  generalize f (preTestAction wp) = wq at s n fr hcond
  rw [postTestAction_eq]
  refine { clean := ?_, live := ?_, ov := fr.overloads.trans hov, seq := Nat.le_trans ho.seq n.start, fails := ?_,
           leakFail := ?_, warned := ?_, ids := s.chk, cleanAtPre := hcp, seqAtPre := ho.seq
           fresh := fun e he => n.fresh e (List.mem_filter.mp he).1 (by simpa using (List.mem_filter.mp he).2) }
  · refine ⟨fun r hr => ?_, (by decide : Period.enabled ≠ .checking), fun r hr => ?_, rfl, rfl⟩
    · obtain ⟨r0, _, rfl⟩ := List.mem_map.mp hr
      exact demoteRec_period r0
    · obtain ⟨r0, hr0, rfl⟩ := List.mem_map.mp hr
      rw [demoteRec_num]; exact n.below r0 hr0
  · show (wq.det.recs.map Detector.demoteRec).map (·.id) = _
    rw [List.map_map, ← s.ids]
    exact List.map_congr_left fun r _ => demoteRec_id r
  · show (if _ then _ else _) = _
    rw [hcond, s.fails]; split <;> rfl
  · show (if _ then _ else _) = _
    rw [hcond, leaksAtPost_eq s, fr.leakFail, fr.out]
    show (if _ then _ else wp.leakFail) = _
    rw [hnf]; rfl
  · show (_ || _) = true ↔ _
    rw [condAtPost_eq s, fr.warned, fr.overloads, s.exp]
    show (wp.warned || (_ && !wp.overloads && _)) = true ↔ _
    rw [hnw, hov]
    simp only [warnCond, Bool.false_or, Bool.and_eq_true, Bool.not_eq_true', decide_eq_true_eq]
    exact ⟨fun ⟨⟨h1, h2⟩, h3⟩ => ⟨h2, h1, h3⟩, fun ⟨h2, h1, h3⟩ => ⟨⟨h1, h2⟩, h3⟩⟩

section closes
variable {w wp w' : World} {h : HState} {chk : List Rec} {k : Nat} {live : List Nat} (c : Closes w wp h chk k live w')
include c

theorem Closes.out {b : World → World} {gb : List Nat → List Nat} {kb : Nat} (hb : FollowsOut b gb kb) :
    Closes w wp h chk (k + kb) (gb live) (b w') :=
  have hb := hb w'
  { c with clean := hb.clean c.clean, live := hb.live.trans (congrArg gb c.live), ov := hb.frame.overloads.trans c.ov
           seq := Nat.le_trans c.seq hb.seq, fails := by rw [hb.fails, c.fails]; omega
           leakFail := hb.frame.leakFail.trans c.leakFail, warned := by rw [hb.frame.warned]; exact c.warned }

theorem Closes.isSome : w'.leakFail.isSome = (w.overloads && verdictAt h) := by
  rw [c.leakFail]; cases w.overloads && verdictAt h <;> rfl

theorem Closes.isSome_iff (hov : w.overloads = true) :
    w'.leakFail.isSome = true ↔ (h.own = 0 ∧ h.ignore = false ∧ h.mine.length ≠ h.expected) := by
  rw [c.isSome, hov, Bool.true_and]; exact verdictAt_iff h

theorem Closes.none_of_own (hf : h.own > 0) : w'.leakFail = none := by
  have : verdictAt h = false := by
    simp only [verdictAt, Bool.and_eq_false_imp, Bool.and_eq_true, beq_iff_eq, and_imp]
    intro h0; omega
  rw [c.leakFail, this, Bool.and_false]; rfl

/-! The report of a leak failure lists the blocks of the window and states their number; each has an allocation
number from the next number at the pre action on, so it is none of the blocks that existed then. -/

theorem Closes.report_eq {r : LeakReport} (hr : w'.leakFail = some r) : r = ⟨chk, h.mine.length⟩ := by
  rw [c.leakFail] at hr
  split at hr <;> cases hr
  rfl

theorem Closes.report_ids {r : LeakReport} (hr : w'.leakFail = some r) : r.entries.map (·.id) = h.mine :=
  c.report_eq hr ▸ c.ids

theorem Closes.report_total {r : LeakReport} (hr : w'.leakFail = some r) : r.total = h.mine.length :=
  c.report_eq hr ▸ rfl

theorem Closes.report_length {r : LeakReport} (hr : w'.leakFail = some r) : r.entries.length = r.total :=
  c.report_eq hr ▸ (List.length_map (·.id)).symm.trans (congrArg List.length c.ids)

theorem Closes.report_fresh {r : LeakReport} (hr : w'.leakFail = some r) : ∀ e ∈ r.entries, wp.det.seq ≤ e.num :=
  c.report_eq hr ▸ c.fresh

theorem Closes.report_new {r : LeakReport} (hr : w'.leakFail = some r) :
    ∀ e ∈ r.entries, ∀ r0 ∈ wp.det.recs, e.num ≠ r0.num := fun e he r0 hr0 =>
  Nat.ne_of_gt (Nat.lt_of_lt_of_le (c.cleanAtPre.numsBelow r0 hr0) (c.report_fresh hr e he))

end closes

/-! ### the plain test -/

def atStart (w : World) (t : Test) : World := runOutside (clearObs w) t.before

def atTeardownEnd (w : World) (t : Test) : World := runBody (preTestAction (atStart w t)) t

theorem runTest_eq (w : World) (t : Test) : runTest w t = postTestAction (atTeardownEnd w t) := rfl

theorem closes_runTest {w : World} (hc : Clean w) (t : Test) :
    Closes w (atStart w t) (atEnd w.liveIds t)
      (atTeardownEnd w t).det.stamped 0 (liveAfterTest w.liveIds t)
      (runTest w t) :=
  (followsOut_runOutside t.before (clearObs w)).closes hc (follows_runBody t)

theorem leakFail_runTest {w : World} (hc : Clean w) (t : Test) :
    (runTest w t).leakFail =
      if w.overloads && shouldFail w.liveIds t then
        some { entries := (atTeardownEnd w t).det.stamped,
               total := (blocksOf w.liveIds t).length }
      else none :=
  (closes_runTest hc t).leakFail

theorem isSome_leakFail_runTest {w : World} (hc : Clean w) (t : Test) :
    (runTest w t).leakFail.isSome = (w.overloads && shouldFail w.liveIds t) :=
  (closes_runTest hc t).isSome

/-! ### sequences of tests -/

theorem runTests_append (w : World) (pre post : List Test) :
    runTests w (pre ++ post) =
      ((runTests (runTests w pre).1 post).1, (runTests w pre).2 ++ (runTests (runTests w pre).1 post).2) := by
  induction pre generalizing w with
  | nil => rfl
  | cons t ts ih => simp only [List.cons_append, runTests, ih, List.cons_append]

theorem runTests_length (w : World) (ts : List Test) : (runTests w ts).2.length = ts.length := by
  induction ts generalizing w with
  | nil => rfl
  | cons t ts ih => simp [runTests, ih]

theorem leaves_runTests {w : World} (hc : Clean w) (ts : List Test) :
    Leaves w (runTests w ts).1 (liveAfter w.liveIds ts) := by
  induction ts generalizing w with
  | nil => exact ⟨hc, rfl, rfl, Nat.le_refl _⟩
  | cons t ts ih =>
    have c := closes_runTest hc t
    have l := ih c.clean
    exact ⟨l.clean, l.live.trans (by rw [c.live]; rfl), l.ov.trans c.ov, Nat.le_trans c.seq l.seq⟩

theorem verdict_at (w : World) (pre : List Test) (t : Test) (post : List Test) :
    (runTests w (pre ++ t :: post)).2[pre.length]? =
      some (verdictOf (runTests w pre).1 (runTest (runTests w pre).1 t)) := by
  rw [runTests_append]
  simp only [runTests]
  simp [runTests_length]

theorem init_clean (ov : Bool) : Clean (World.init ov) :=
  ⟨fun _ hr => (nomatch hr), (by decide : Period.enabled ≠ .checking), fun _ hr => (nomatch hr), rfl, rfl⟩

theorem clean_setOverloads {w : World} (hc : Clean w) (b : Bool) : Clean (setOverloads w b) := { hc with }

/-! ### a test whose object allocates in its constructor / destructor -/

/-- the state just before the post action of a test with an allocating test object: by the regenerated call
    order of `runOneTestInCurrentProcess` (pre actions, constructor, setup/body/teardown, destructor, post
    actions) `runTestObj w t` is `postTestAction (atDtorEnd w t)` -/
def atDtorEnd (w : World) (t : TestObj) : World :=
  runMem (runBody (runMem (preTestAction (atStart w t.test)) t.ctor) t.test) t.dtor

theorem follows_obj (t : TestObj) :
    Follows (fun w => runMem (runBody (runMem w t.ctor) t.test) t.dtor)
      (fun h => hRunMem (throughPhases (hRunMem h t.ctor) t.test) t.dtor) :=
  ((follows_runMem t.ctor).comp (follows_runBody t.test)).comp (follows_runMem t.dtor)

theorem closes_runTestObj {w : World} (hc : Clean w) (t : TestObj) :
    Closes w (atStart w t.test) (atEndObj w.liveIds t)
      (atDtorEnd w t).det.stamped 0 (liveAfterTestObj w.liveIds t)
      (runTestObj w t) :=
  (followsOut_runOutside t.test.before (clearObs w)).closes hc (follows_obj t)

/-! ### history level: what a command does beside the two sets of blocks -/

theorem hAlloc_sets (h : HState) (id : Nat) :
    hAlloc h id = { h with live := (hAlloc h id).live, mine := (hAlloc h id).mine } := by
  unfold hAlloc; split <;> rfl

theorem hexec_realloc_sets (h : HState) (id newId sz : Nat) :
    hexec h (.realloc id newId sz) =
      { h with live := (hexec h (.realloc id newId sz)).live, mine := (hexec h (.realloc id newId sz)).mine } := by
  rw [hexec_realloc]; split
  · exact hAlloc_sets (hFree h id) newId
  · rfl

theorem hexec_keeps (h : HState) (c : Cmd) (hc : c ≠ .fail) :
    (hexec h c).own = h.own ∧ (hexec h c).aborted = h.aborted := by
  cases c with
  | alloc id sz => have e := hAlloc_sets h id; exact ⟨(congrArg HState.own e).trans rfl, (congrArg HState.aborted e).trans rfl⟩
  | realloc id newId sz =>
    have e := hexec_realloc_sets h id newId sz
    exact ⟨(congrArg HState.own e).trans rfl, (congrArg HState.aborted e).trans rfl⟩
  | fail => exact absurd rfl hc
  | _ => exact ⟨rfl, rfl⟩

/-- nothing a test performs takes `IGNORE_ALL_LEAKS_IN_TEST` back -/
theorem ignore_kept_hexec (h : HState) (c : Cmd) (hi : h.ignore = true) : (hexec h c).ignore = true := by
  cases c with
  | alloc id sz => exact (congrArg HState.ignore (hAlloc_sets h id)).trans hi
  | realloc id newId sz => exact (congrArg HState.ignore (hexec_realloc_sets h id newId sz)).trans hi
  | ignoreLeaks => rfl
  | _ => exact hi

/-! ### history level: invariants of a phase -/

/-- A relation between two history states that agree on `aborted` is carried through a phase of which the second
    history leaves out the commands `p` rejects: a command both perform keeps it, a command only the first performs
    keeps it against the unchanged second state. -/
theorem hPhase_rel {Rl : HState → HState → Prop} {p : Cmd → Bool} {cs : List Cmd}
    (hab : ∀ {h h'}, Rl h h' → h'.aborted = h.aborted)
    (ha : ∀ {h h'} (b : Bool), Rl h h' → Rl { h with aborted := b } { h' with aborted := b })
    (hkeep : ∀ c ∈ cs, p c = true → ∀ {h h'}, Rl h h' → Rl (hexec h c) (hexec h' c))
    (hdrop : ∀ c ∈ cs, p c = false → ∀ {h h'}, Rl h h' → Rl (hexec h c) h')
    {h h' : HState} (r : Rl h h') (ph : Phase) : Rl (hPhase h ph cs) (hPhase h' ph (cs.filter p)) := by
  have r' : Rl (hEnter h ph) (hEnter h' ph) := by
    cases ph with
    | body => exact r
    | setup => exact ha false r
    | teardown => exact ha false r
  unfold hPhase hrun
  generalize hEnter h ph = h1, hEnter h' ph = h1' at r'
  induction cs generalizing h1 h1' with
  | nil => exact r'
  | cons c cs ih =>
    have ih := fun {a a'} => @ih (fun c hc => hkeep c (List.mem_cons_of_mem _ hc))
      (fun c hc => hdrop c (List.mem_cons_of_mem _ hc)) a a'
    rw [List.filter_cons]
    cases hp : p c
    · apply ih; unfold hstep; split
      · exact r'
      · exact hdrop c List.mem_cons_self hp r'
    · apply ih; unfold hstep; rw [hab r']; split
      · exact r'
      · exact hkeep c List.mem_cons_self hp r'

theorem throughPhases_rel {Rl : HState → HState → Prop} {p : Cmd → Bool} {t : Test}
    (hab : ∀ {h h'}, Rl h h' → h'.aborted = h.aborted)
    (ha : ∀ {h h'} (b : Bool), Rl h h' → Rl { h with aborted := b } { h' with aborted := b })
    (hkeep : ∀ c, c ∈ t.setup ∨ c ∈ t.body ∨ c ∈ t.teardown → p c = true →
      ∀ {h h'}, Rl h h' → Rl (hexec h c) (hexec h' c))
    (hdrop : ∀ c, c ∈ t.setup ∨ c ∈ t.body ∨ c ∈ t.teardown → p c = false → ∀ {h h'}, Rl h h' → Rl (hexec h c) h')
    {h h' : HState} (r : Rl h h') :
    Rl (throughPhases h t) (throughPhases h'
      { t with setup := t.setup.filter p, body := t.body.filter p, teardown := t.teardown.filter p }) :=
  hPhase_rel hab ha (fun c hc => hkeep c (.inr (.inr hc))) (fun c hc => hdrop c (.inr (.inr hc)))
    (hPhase_rel hab ha (fun c hc => hkeep c (.inr (.inl hc))) (fun c hc => hdrop c (.inr (.inl hc)))
      (hPhase_rel hab ha (fun c hc => hkeep c (.inl hc)) (fun c hc => hdrop c (.inl hc)) r .setup) .body) .teardown

theorem hPhase_inv {P : HState → Prop} (he : ∀ h c, P h → P (hexec h c))
    (ha : ∀ h b, P h → P { h with aborted := b }) (h : HState) (ph : Phase) (cs : List Cmd) (hp : P h) :
    P (hPhase h ph cs) :=
  (hPhase_rel (Rl := fun h h' => h' = h ∧ P h) (p := fun _ => true) (fun r => r.1 ▸ rfl)
    (fun b r => ⟨r.1 ▸ rfl, ha _ b r.2⟩) (fun c _ _ _ _ r => ⟨r.1 ▸ rfl, he _ c r.2⟩) (fun _ _ hf => nomatch hf)
    ⟨rfl, hp⟩ ph).2

theorem blocksOf_nodup_sub (live : List Nat) (t : Test) :
    (blocksOf live t).Nodup ∧ ∀ x ∈ blocksOf live t, x ∈ liveAfterTest live t := by
  let P : HState → Prop := fun h => h.mine.Nodup ∧ ∀ x ∈ h.mine, x ∈ h.live
  have hal : ∀ h id, P h → P (hAlloc h id) := by
    intro h id ⟨hn, hsub⟩
    unfold hAlloc; split
    · exact ⟨hn, hsub⟩
    · rename_i hm
      refine ⟨List.nodup_cons.mpr ⟨fun e => hm (hsub id e), hn⟩, fun x hx => ?_⟩
      rcases List.mem_cons.mp hx with rfl | hx
      · exact List.mem_cons_self
      · exact List.mem_cons_of_mem _ (hsub x hx)
  have hfr : ∀ h id, P h → P (hFree h id) := by
    intro h id ⟨hn, hsub⟩
    refine ⟨hn.filter _, fun x hx => ?_⟩
    have hx := List.mem_filter.mp hx
    exact List.mem_filter.mpr ⟨hsub x hx.1, hx.2⟩
  have he : ∀ h c, P h → P (hexec h c) := by
    intro h c hp
    cases c with
    | alloc id sz => exact hal h id hp
    | free id => exact hfr h id hp
    | realloc id newId sz =>
      rw [hexec_realloc]; split
      · exact hal _ newId (hfr h id hp)
      · exact hp
    | _ => exact hp
  have h0 : P (start (liveAtStart live t)) := ⟨List.nodup_nil, fun _ hx => nomatch hx⟩
  exact hPhase_inv he (fun _ _ hp => hp) _ _ _ (hPhase_inv he (fun _ _ hp => hp) _ _ _
    (hPhase_inv he (fun _ _ hp => hp) _ _ _ h0))

/-! ### history level: frees of a block that is not the test's own do not matter -/

/-- `h` (all commands) and `h'` (the frees of `id` left out) agree on everything the verdict
    depends on -/
structure Rel (id : Nat) (h h' : HState) : Prop where
  mine : h'.mine = h.mine
  own : h'.own = h.own
  ign : h'.ignore = h.ignore
  exp : h'.expected = h.expected
  ab : h'.aborted = h.aborted
  notMine : id ∉ h.mine
  live : ∀ x, x ≠ id → (x ∈ h.live ↔ x ∈ h'.live)

theorem rel_hFree_same {id : Nat} {h h' : HState} (r : Rel id h h') : Rel id (hFree h id) h' := by
  have hm : h.mine.filter (· != id) = h.mine := by
    rw [List.filter_eq_self]; intro x hx
    have : x ≠ id := fun e => r.notMine (e ▸ hx)
    simpa using this
  exact { r with mine := r.mine.trans hm.symm
                 notMine := fun e => r.notMine (List.mem_filter.mp e).1
                 live := fun x hx => by
                   simp only [hFree, List.mem_filter, bne_iff_ne, ne_eq, hx, not_false_eq_true, and_true]
                   exact r.live x hx }

theorem rel_hAlloc {id : Nat} {h h' : HState} (r : Rel id h h') (x : Nat) (hx : x ≠ id) :
    Rel id (hAlloc h x) (hAlloc h' x) := by
  unfold hAlloc
  simp only [r.live x hx]
  split
  · exact r
  · exact { r with mine := congrArg (x :: ·) r.mine
                   notMine := fun e => (List.mem_cons.mp e).elim (fun e => hx e.symm) r.notMine
                   live := fun y hy => by simp only [List.mem_cons]; rw [r.live y hy] }

theorem rel_hFree {id : Nat} {h h' : HState} (r : Rel id h h') (x : Nat) : Rel id (hFree h x) (hFree h' x) :=
  { r with mine := congrArg (List.filter (· != x)) r.mine
           notMine := fun e => r.notMine (List.mem_filter.mp e).1
           live := fun y hy => by simp only [hFree, List.mem_filter]; rw [r.live y hy] }

theorem rel_hexec {id : Nat} {h h' : HState} (r : Rel id h h') (c : Cmd) (ha : leavesAlone id c = true) :
    Rel id (hexec h c) (hexec h' c) := by
  cases c with
  | alloc x sz => exact rel_hAlloc r x (by simpa [leavesAlone] using ha)
  | free x => exact rel_hFree r x
  | realloc x y sz =>
    have hxy : x ≠ id ∧ y ≠ id := by simpa [leavesAlone] using ha
    have hok : reallocOk h.live x y ↔ reallocOk h'.live x y := by
      unfold reallocOk; rw [r.live x hxy.1, r.live y hxy.2]
    rw [hexec_realloc, hexec_realloc]
    simp only [hok]
    split
    · exact rel_hAlloc (rel_hFree r x) y hxy.2
    · exact r
  | reallocFail x sz => exact r
  | expectLeaks n => exact { r with exp := rfl }
  | ignoreLeaks => exact { r with ign := rfl }
  | fail => exact { r with own := congrArg (· + 1) r.own, ab := rfl }
  | envSeq n => exact r

theorem rel_atEnd (live : List Nat) (t : Test) (id : Nat)
    (hs : neverAllocs id t.setup) (hb : neverAllocs id t.body) (ht : neverAllocs id t.teardown) :
    Rel id (atEnd live t) (atEnd live (Test.dropFrees t id)) :=
  throughPhases_rel (Rl := Rel id) (p := (· != .free id)) (·.ab) (fun _ r => { r with ab := rfl })
    (fun c hc _ _ _ r => rel_hexec r c (hc.elim (hs c) (·.elim (hb c) (ht c))))
    (fun c _ hp _ _ r => by
      have : c = .free id := by simpa using hp
      subst this; exact rel_hFree_same r)
    ⟨rfl, rfl, rfl, rfl, rfl, fun e => (nomatch e), fun _ _ => Iff.rfl⟩

theorem atEnd_dropReallocFails (live : List Nat) (t : Test) :
    atEnd live (Test.dropReallocFails t) = atEnd live t :=
  throughPhases_rel (Rl := fun h h' => h' = h) (p := fun c => !isReallocFail c) (fun r => r ▸ rfl) (fun _ r => r ▸ rfl)
    (fun _ _ _ _ _ r => r ▸ rfl) (fun c _ hp _ _ r => by cases c <;> first | exact r | cases hp) rfl

end LeakPlugin
