import CppUModel.Proofs.JUnit
/-! A generic rendering of token lists, and the specification's tokenizer reads it back. -/
namespace JUnit
open Text (Bytes)
open OutEv

/-! The rendering is written with the literal pieces of XML syntax, so that it can be compared with the templates of
the specification literal by literal; the tokenizer lemmas use the byte forms stated below the definitions. -/

def piBody : Bytes := lit "xml version=\"1.0\" encoding=\"UTF-8\" "
def piText : Bytes := lit "<?" ++ piBody ++ lit "?>"

def renderAttr (p : Bytes × Bytes) : Bytes := lit " " ++ p.1 ++ lit "=\"" ++ encodeRef p.2 ++ lit "\""
def renderAttrs (as : List (Bytes × Bytes)) : Bytes := as.flatMap renderAttr
def tagEnd (sc : Bool) : Bytes := if sc then lit " />" else lit ">"

def Tok.render : Tok → Bytes
  | .pi => piText
  | .open_ name attrs sc => lit "<" ++ name ++ renderAttrs attrs ++ tagEnd sc
  | .close name => lit "</" ++ name ++ lit ">"
  | .text t => encodeRef t

theorem piText_bytes : piText = 60 :: 63 :: (piBody ++ [63, 62]) := by
  simp only [piText, List.append_assoc]; rfl
theorem renderAttr_bytes (k v : Bytes) : renderAttr (k, v) = 32 :: (k ++ 61 :: 34 :: (encodeRef v ++ [34])) := by
  simp only [renderAttr, List.append_assoc]; rfl
theorem tagEnd_false : tagEnd false = [62] := rfl
theorem tagEnd_true : tagEnd true = [32, 47, 62] := rfl
theorem render_open (name : Bytes) (attrs : List (Bytes × Bytes)) (sc : Bool) :
    (Tok.open_ name attrs sc).render = 60 :: (name ++ (renderAttrs attrs ++ tagEnd sc)) := by
  simp only [Tok.render, List.append_assoc]; rfl
theorem render_close (name : Bytes) : (Tok.close name).render = 60 :: 47 :: (name ++ [62]) := by
  simp only [Tok.render, List.append_assoc]; rfl

def renderToks (ts : List Tok) : Bytes := ts.flatMap Tok.render

def nameOk (n : Bytes) : Prop := n ≠ [] ∧ ∀ b ∈ n, isNameByte b = true

instance (n : Bytes) : Decidable (nameOk n) := by unfold nameOk; infer_instance

def tokOk : Tok → Prop
  | .pi => True
  | .open_ name attrs _ => nameOk name ∧ (∀ p ∈ attrs, nameOk p.1) ∧ (attrs.map (·.1)).Nodup
  | .close name => nameOk name
  | .text t => t ≠ []

def isText : Tok → Bool
  | .text _ => true
  | _ => false

/-- the delimiters of tag syntax and white space are not name bytes -/
theorem nameByte_facts (c : UInt8) (h : isNameByte c = true) :
    c ≠ 62 ∧ c ≠ 47 ∧ c ≠ 61 ∧ c ≠ 60 ∧ c ≠ 63 ∧ c ≠ 34 ∧ isSpace c = false := by
  have key : ∀ d ∈ ([62, 47, 61, 60, 63, 34, 32, 10, 13, 9] : List UInt8), isNameByte d = false := by decide
  have ne : ∀ d ∈ ([62, 47, 61, 60, 63, 34, 32, 10, 13, 9] : List UInt8), c ≠ d :=
    fun d hd e => by rw [e, key d hd] at h; cases h
  refine ⟨ne _ (by simp), ne _ (by simp), ne _ (by simp), ne _ (by simp), ne _ (by simp), ne _ (by simp), ?_⟩
  simp [isSpace, ne 32 (by simp), ne 10 (by simp), ne 13 (by simp), ne 9 (by simp)]

theorem takeName_append (c : UInt8) (y : Bytes) (hc : isNameByte c = false) (a acc : Bytes)
    (h : ∀ b ∈ a, isNameByte b = true) : takeName (a ++ c :: y) acc = (acc.reverse ++ a, c :: y) := by
  rw [ListLemmas.scan_push (fun acc s => takeName s acc) (isNameByte · = true) (fun b acc r hb => by simp [takeName, hb]) a acc _ h]
  simp [takeName, hc]

theorem dropSpace_nonspace (c : UInt8) (rest : Bytes) (h : isSpace c = false) : dropSpace (c :: rest) = c :: rest := by
  simp [dropSpace, h]

theorem readAttrs_attr (k v rest : Bytes) (acc : List (Bytes × Bytes)) (fuel : Nat) (hk : nameOk k)
    (hdup : acc.any (fun p => p.1 == k) = false) :
    readAttrs (fuel + 1) (renderAttr (k, v) ++ rest) acc = readAttrs fuel rest ((k, v) :: acc) := by
  obtain ⟨hne, hall⟩ := hk
  obtain ⟨k0, ks, rfl⟩ := List.exists_cons_of_ne_nil hne
  obtain ⟨h62, h47, -, -, -, -, hsp⟩ := nameByte_facts k0 (hall k0 (List.mem_cons_self ..))
  -- `tl`: what follows the key and `=`
  obtain ⟨tl, htl⟩ : ∃ tl, tl = 34 :: (encodeRef v ++ 34 :: rest) := ⟨_, rfl⟩
  have hs : renderAttr (k0 :: ks, v) ++ rest = 32 :: k0 :: (ks ++ 61 :: tl) := by
    simp [renderAttr_bytes, htl]
  have hds : dropSpace (32 :: k0 :: (ks ++ 61 :: tl)) = k0 :: (ks ++ 61 :: tl) := by
    have h32 : isSpace 32 = true := by decide
    simp [dropSpace, h32, hsp]
  have htn := takeName_append 61 tl (by decide) (k0 :: ks) [] hall
  simp only [List.reverse_nil, List.nil_append, List.cons_append] at htn
  rw [hs]
  simp only [readAttrs, hds, h62, h47, if_false, htn]
  have hlen : ¬ ((k0 :: (ks ++ 61 :: tl)).length = (32 :: k0 :: (ks ++ 61 :: tl)).length) := by
    simp only [List.length_cons]; omega
  subst htl
  simp only [hlen, if_false, and_self, if_true, List.isEmpty_cons, Bool.false_eq_true, hdup, scanAttr_encodeRef,
    List.reverse_nil, List.nil_append]

theorem readAttrs_end_open (rest : Bytes) (acc : List (Bytes × Bytes)) (fuel : Nat) :
    readAttrs (fuel + 1) (tagEnd false ++ rest) acc = .ok (acc.reverse, false, rest) := by
  have h : isSpace 62 = false := by decide
  simp [tagEnd_false, readAttrs, dropSpace, h]

theorem readAttrs_end_empty (rest : Bytes) (acc : List (Bytes × Bytes)) (fuel : Nat) :
    readAttrs (fuel + 1) (tagEnd true ++ rest) acc = .ok (acc.reverse, true, rest) := by
  have h1 : isSpace 32 = true := by decide
  have h2 : isSpace 47 = false := by decide
  have h3 : ¬ ((47 : UInt8) = 62) := by decide
  simp [tagEnd_true, readAttrs, dropSpace, h1, h2, h3]

theorem readAttrs_all (sc : Bool) (rest : Bytes) : ∀ (as : List (Bytes × Bytes)) (acc : List (Bytes × Bytes)) (fuel : Nat),
    (∀ p ∈ as, nameOk p.1) → (acc.map (·.1) ++ as.map (·.1)).Nodup → as.length < fuel →
    readAttrs fuel (renderAttrs as ++ tagEnd sc ++ rest) acc = .ok (acc.reverse ++ as, sc, rest)
  | [], acc, fuel, _, _, hf => by
    obtain ⟨f, rfl⟩ : ∃ f, fuel = f + 1 := ⟨fuel - 1, by simp at hf; omega⟩
    cases sc
    · simpa [renderAttrs] using readAttrs_end_open rest acc f
    · simpa [renderAttrs] using readAttrs_end_empty rest acc f
  | (k, v) :: as, acc, fuel, hk, hnd, hf => by
    obtain ⟨f, rfl⟩ : ∃ f, fuel = f + 1 := ⟨fuel - 1, by simp at hf; omega⟩
    -- moving `k` to the front of the keys seen so far keeps them distinct
    have hnd' : (((k, v) :: acc).map (·.1) ++ as.map (·.1)).Nodup := List.perm_middle.nodup_iff.mp hnd
    have hdup : acc.any (fun p => p.1 == k) = false := by
      rw [List.any_eq_false]
      intro p hp
      simp only [beq_iff_eq]
      intro e
      exact (List.nodup_cons.mp hnd').1 (List.mem_append_left _ (List.mem_map.mpr ⟨p, hp, e⟩))
    have ih := readAttrs_all sc rest as ((k, v) :: acc) f (fun p hp => hk p (List.mem_cons_of_mem _ hp)) hnd'
      (by simp at hf; omega)
    have hr : renderAttrs ((k, v) :: as) ++ tagEnd sc ++ rest = renderAttr (k, v) ++ (renderAttrs as ++ tagEnd sc ++ rest) := by
      simp [renderAttrs, List.append_assoc]
    rw [hr, readAttrs_attr k v _ acc f (hk (k, v) (List.mem_cons_self ..)) hdup, ih]
    simp

theorem renderAttrs_length (as : List (Bytes × Bytes)) : as.length ≤ (renderAttrs as).length := by
  induction as with
  | nil => simp [renderAttrs]
  | cons p as ih =>
    simp only [renderAttrs, List.flatMap_cons, List.length_append, List.length_cons] at ih ⊢
    have : 1 ≤ (renderAttr p).length := by simp [renderAttr_bytes p.1 p.2]
    omega

theorem after_name_head (as : List (Bytes × Bytes)) (sc : Bool) (rest : Bytes) :
    ∃ x tl, renderAttrs as ++ tagEnd sc ++ rest = x :: tl ∧ isNameByte x = false := by
  cases as with
  | nil => cases sc <;> simp [renderAttrs, tagEnd_false, tagEnd_true] <;> decide
  | cons p as =>
    exact ⟨32, _, by rw [renderAttrs, List.flatMap_cons, renderAttr_bytes p.1 p.2]; rfl, by decide⟩

theorem dropUntilPiEnd_append (rest a : Bytes) (h : ∀ b ∈ a, b ≠ 63) : dropUntilPiEnd (a ++ 63 :: 62 :: rest) = some rest := by
  rw [ListLemmas.scan_push (fun _ s => dropUntilPiEnd s) (· ≠ 63) (fun b _ r hb => by simp [dropUntilPiEnd, hb]) a [] _ h]
  simp [dropUntilPiEnd]

theorem tokenize_pi (rest : Bytes) (acc : List Tok) (fuel : Nat) :
    tokenize (fuel + 1) (piText ++ rest) acc = tokenize fuel rest (.pi :: acc) := by
  have hb : ∀ b ∈ piBody, b ≠ 63 := by decide +kernel
  have := dropUntilPiEnd_append rest _ hb
  rw [piText_bytes]
  simp only [List.cons_append, List.append_assoc, List.nil_append, tokenize, if_true, this]

theorem tokenize_open (name : Bytes) (attrs : List (Bytes × Bytes)) (sc : Bool) (h : tokOk (.open_ name attrs sc))
    (rest : Bytes) (acc : List Tok) (fuel : Nat) :
    tokenize (fuel + 1) ((Tok.open_ name attrs sc).render ++ rest) acc = tokenize fuel rest (.open_ name attrs sc :: acc) := by
  obtain ⟨⟨hne, hall⟩, hkeys, hnd⟩ := h
  obtain ⟨n0, ns, rfl⟩ := List.exists_cons_of_ne_nil hne
  obtain ⟨-, h47, -, -, h63, -, -⟩ := nameByte_facts n0 (hall n0 (List.mem_cons_self ..))
  -- after `<` the name is taken up to the first byte that is not a name byte (`after_name_head`), then the attributes are read
  obtain ⟨x, tl, hxt, hx⟩ := after_name_head attrs sc rest
  have hs : (Tok.open_ (n0 :: ns) attrs sc).render ++ rest = 60 :: n0 :: (ns ++ (renderAttrs attrs ++ tagEnd sc ++ rest)) := by
    simp [render_open, List.append_assoc]
  have htn := takeName_append x tl hx (n0 :: ns) [] hall
  simp only [List.reverse_nil, List.nil_append, List.cons_append] at htn
  have hfuel : attrs.length < (renderAttrs attrs ++ tagEnd sc ++ rest).length + 1 := by
    have := renderAttrs_length attrs
    simp only [List.length_append]; omega
  have hra := readAttrs_all sc rest attrs [] ((renderAttrs attrs ++ tagEnd sc ++ rest).length + 1) hkeys (by simpa using hnd) hfuel
  rw [hs, hxt]
  simp only [tokenize, if_true, h63, h47, if_false, htn, List.isEmpty_cons, Bool.false_eq_true]
  rw [← hxt, hra]
  simp

theorem tokenize_close (name : Bytes) (h : nameOk name) (rest : Bytes) (acc : List Tok) (fuel : Nat) :
    tokenize (fuel + 1) ((Tok.close name).render ++ rest) acc = tokenize fuel rest (.close name :: acc) := by
  obtain ⟨hne, hall⟩ := h
  have htn := takeName_append 62 rest (by decide) name [] hall
  simp only [List.reverse_nil, List.nil_append] at htn
  have hs : (Tok.close name).render ++ rest = 60 :: 47 :: (name ++ 62 :: rest) := by simp [render_close]
  have h1 : ¬ ((47 : UInt8) = 63) := by decide
  have h2 : isSpace 62 = false := by decide
  have hemp : name.isEmpty = false := by cases name <;> simp_all
  rw [hs]
  simp only [tokenize, if_true, h1, if_false, htn, dropSpace, h2, Bool.false_eq_true, hemp]

theorem encodeRef_head (c : UInt8) (t : Bytes) : ∃ x xs, encodeRef (c :: t) = x :: xs ∧ x ≠ 60 := by
  rw [encodeRef_cons]
  rcases encByteRef_shape c with ⟨_, _, body, e, _⟩ | ⟨h, e⟩
  · exact ⟨38, _, by rw [e]; rfl, by decide⟩
  · exact ⟨c, _, by rw [e]; rfl, (not_mem_special.mp h).2.2.1⟩

theorem tokenize_text (t : Bytes) (ht : t ≠ []) (rest : Bytes) (hrest : textEnd rest) (acc : List Tok) (fuel : Nat) :
    tokenize (fuel + 1) ((Tok.text t).render ++ rest) acc = tokenize fuel rest (.text t :: acc) := by
  obtain ⟨c, t', rfl⟩ := List.exists_cons_of_ne_nil ht
  obtain ⟨x, xs, hx, hx60⟩ := encodeRef_head c t'
  have hscan := scanText_encodeRef (c :: t') hrest []
  have hlen : rest.length < (encodeRef (c :: t') ++ rest).length := by
    rw [hx]; simp only [List.length_append, List.length_cons]; omega
  simp only [Tok.render]
  rw [show encodeRef (c :: t') ++ rest = x :: (xs ++ rest) by rw [hx]; rfl] at hscan hlen ⊢
  simp only [tokenize, hx60, if_false, hscan, hlen, if_true, List.reverse_nil, List.nil_append]

/-- what is rendered: a token, or a raw line break between tags (read as the text "\n") -/
inductive RTok
  | tok (t : Tok)
  | nl

def RTok.render : RTok → Bytes
  | .tok t => t.render
  | .nl => lit "\n"

def RTok.toTok : RTok → Tok
  | .tok t => t
  | .nl => .text [10]

def rOk : RTok → Prop
  | .tok t => tokOk t
  | .nl => True

/-- a renderable token list: every token well formed and no two text tokens next to each other
    (`prev`: the token before the list is text) -/
def docOk : Bool → List RTok → Prop
  | _, [] => True
  | prev, t :: ts => rOk t ∧ (prev = true → isText t.toTok = false) ∧ docOk (isText t.toTok) ts

theorem docOk_tag_nl {p : Bool} {t : RTok} {l : List RTok} (ht : rOk t) (hx : isText t.toTok = false)
    (hl : docOk true l) : docOk p (t :: .nl :: l) := by
  rw [docOk, docOk, hx]
  exact ⟨ht, fun _ => rfl, trivial, nofun, hl⟩

theorem tokOk_open {name : Bytes} {ks : List Bytes} (vs : List Bytes) (sc : Bool) (hn : nameOk name)
    (hk : ∀ k ∈ ks, nameOk k) (hd : ks.Nodup) (hl : ks.length ≤ vs.length) : rOk (.tok (.open_ name (ks.zip vs) sc)) :=
  ⟨hn, fun _ hp => hk _ (List.of_mem_zip hp).1, (List.map_fst_zip hl).symm ▸ hd⟩

def renderR (rs : List RTok) : Bytes := rs.flatMap RTok.render

theorem tokenize_nl (rest : Bytes) (hrest : textEnd rest) (acc : List Tok) (fuel : Nat) :
    tokenize (fuel + 1) (10 :: rest) acc = tokenize fuel rest (.text [10] :: acc) := by
  have h10 : ¬ ((10 : UInt8) = 60) := by decide
  simp [tokenize, h10, scanText, scanText_textEnd hrest]

theorem rrender_head_of_tag : ∀ (t : RTok), isText t.toTok = false → ∀ rest : Bytes, ∃ r, t.render ++ rest = 60 :: r
  | .tok .pi, _, _ => ⟨_, by rw [RTok.render, Tok.render, piText_bytes]; rfl⟩
  | .tok (.open_ n a sc), _, _ => ⟨_, by rw [RTok.render, render_open]; rfl⟩
  | .tok (.close n), _, _ => ⟨_, by rw [RTok.render, render_close]; rfl⟩

theorem tokenize_one (fuel : Nat) (acc : List Tok) (rest : Bytes) : ∀ (t : RTok), rOk t →
    (isText t.toTok = true → textEnd rest) →
    tokenize (fuel + 1) (t.render ++ rest) acc = tokenize fuel rest (t.toTok :: acc)
  | .nl, _, hrest => tokenize_nl rest (hrest rfl) acc fuel
  | .tok .pi, _, _ => tokenize_pi rest acc fuel
  | .tok (.open_ n a sc), ht, _ => tokenize_open n a sc ht rest acc fuel
  | .tok (.close n), ht, _ => tokenize_close n ht rest acc fuel
  | .tok (.text x), ht, hrest => tokenize_text x ht rest (hrest rfl) acc fuel

theorem docOk_after_text : ∀ (ts : List RTok), docOk true ts → textEnd (renderR ts)
  | [], _ => .inl rfl
  | b :: rest, h => .inr (by simpa [renderR] using rrender_head_of_tag b (h.2.1 rfl) (renderR rest))

theorem tokenize_render : ∀ (rs : List RTok) (p : Bool) (acc : List Tok) (fuel : Nat),
    docOk p rs → rs.length < fuel →
    tokenize fuel (renderR rs) acc = .ok (acc.reverse ++ rs.map RTok.toTok)
  | [], _, acc, fuel, _, hf => by
    obtain ⟨f, rfl⟩ : ∃ f, fuel = f + 1 := ⟨fuel - 1, by simp at hf; omega⟩
    simp [renderR, tokenize]
  | t :: ts, _, acc, fuel, h, hf => by
    obtain ⟨f, rfl⟩ : ∃ f, fuel = f + 1 := ⟨fuel - 1, by simp at hf; omega⟩
    have hr : renderR (t :: ts) = t.render ++ renderR ts := by simp [renderR]
    rw [hr, tokenize_one f acc _ t h.1 (fun ht => docOk_after_text ts (ht ▸ h.2.2)),
      tokenize_render ts _ _ f h.2.2 (by simp at hf; omega)]
    simp

theorem render_pos (r : RTok) (h : rOk r) : 0 < r.render.length := by
  cases hr : isText r.toTok with
  | false =>
    obtain ⟨x, hx⟩ := rrender_head_of_tag r hr []
    rw [List.append_nil] at hx
    simp [hx]
  | true =>
    match r, h with
    | .nl, _ => decide
    | .tok (.text (c :: x)), _ =>
      obtain ⟨y, ys, hy, _⟩ := encodeRef_head c x
      simp [RTok.render, Tok.render, hy]

theorem length_le_renderR : ∀ (rs : List RTok) (p : Bool), docOk p rs → rs.length ≤ (renderR rs).length
  | [], _, _ => Nat.zero_le _
  | r :: rs, _, h => by
    have h1 := render_pos r h.1
    have h2 := length_le_renderR rs _ h.2.2
    simp only [renderR, List.flatMap_cons, List.length_append, List.length_cons] at h2 ⊢
    omega

theorem tokenize_renderR (rs : List RTok) (h : docOk false rs) :
    tokenize ((renderR rs).length + 1) (renderR rs) [] = .ok (rs.map RTok.toTok) :=
  tokenize_render rs false [] _ h (Nat.lt_succ_of_le (length_le_renderR rs _ h))

end JUnit
