import CppUModel.Spec.ThreadSafe
import CppUModel.Proofs.Writes
/-!
C10 helper lemmas: the pointer table as state.  What `Env.get` reads after `Env.set`, after a list of
assignments and after a list of copies, in any environment; the finite facts about the regenerated
lists that these lemmas need are evaluated once, in `tables`.
-/
namespace ThreadSafe
open Gen.ThreadSafe

namespace Env

theorem get_cons (p : String × String) (e : Env) (k : String) :
    get (p :: e) k = if p.1 = k then p.2 else get e k := by
  by_cases h : p.1 = k <;> simp [get, h]

theorem set_cons (p : String × String) (e : Env) (k v : String) :
    set (p :: e) k v = (if p.1 = k then (p.1, v) else p) :: set e k v := by
  simp [set]

theorem map_fst_set (e : Env) (k v : String) : (e.set k v).map (·.1) = e.map (·.1) := by
  simp only [set, List.map_map]
  exact List.map_congr_left fun p _ => by simp only [Function.comp]; split <;> rfl

theorem get_set_ne (e : Env) (v : String) {k k' : String} (h : k ≠ k') : (e.set k v).get k' = e.get k' := by
  induction e with
  | nil => rfl
  | cons p e ih =>
    rw [set_cons, get_cons, get_cons, ih]
    by_cases hp : p.1 = k
    · subst hp; simp only [↓reduceIte, h]
    · simp only [hp, ↓reduceIte]

theorem get_set_self (v : String) {e : Env} {k : String} (h : k ∈ e.map (·.1)) : (e.set k v).get k = v := by
  induction e with
  | nil => simp at h
  | cons p e ih =>
    rw [set_cons, get_cons]
    by_cases hp : p.1 = k
    · simp only [hp, ↓reduceIte]
    · simp only [hp, ↓reduceIte]
      exact ih ((List.mem_cons.mp h).resolve_left (Ne.symm hp))

/-! A list of writes `c.1 := g e c` executed in order (`assignAll`: `g e c = c.2`; `copyAll`: `g e c = e.get c.2`). -/

theorem map_fst_foldl_set (g : Env → String × String → String) : ∀ (cs : List (String × String)) (e : Env),
    (cs.foldl (fun e c => e.set c.1 (g e c)) e).map (·.1) = e.map (·.1)
  | [], _ => rfl
  | _ :: cs, _ => (map_fst_foldl_set g cs _).trans (map_fst_set ..)

theorem laws : Writes.Laws get set (fun e k => k ∈ e.map (·.1)) where
  get_set_self v h := get_set_self v h
  get_set_ne e v _ _ h := get_set_ne e v h
  W_set k v h := (map_fst_set _ k v).symm ▸ h

end Env

/-- the variables of the translation unit, in the order of their declaration; every state the
    switches, `save` and `restore` reach has them, since `set` keeps them -/
def Env.Declared (e : Env) : Prop := e.map (·.1) = Ptrs.initial.vars.map (·.1)

def WritesOnce (t : List (String × String)) : Prop :=
  (t.map (·.1)).Nodup ∧ ∀ c ∈ t, c.1 ∈ Ptrs.initial.vars.map (·.1)

instance (t : List (String × String)) : Decidable (WritesOnce t) := inferInstanceAs (Decidable (_ ∧ _))

namespace Env

theorem Declared.assignAll {e : Env} (h : e.Declared) (t : List (String × String)) : (assignAll t e).Declared :=
  (map_fst_foldl_set (fun _ a => a.2) t e).trans h

theorem Declared.copyAll {e : Env} (h : e.Declared) (t : List (String × String)) : (copyAll t e).Declared :=
  (map_fst_foldl_set (fun e c => e.get c.2) t e).trans h

theorem get_assignAll {t : List (String × String)} {e : Env} (ht : WritesOnce t) (he : e.Declared) :
    ∀ a ∈ t, (assignAll t e).get a.1 = a.2 :=
  Writes.get_run laws _ _ t e ht.1 (he ▸ ht.2) fun _ _ _ _ _ _ => rfl

end Env

/-- What these lemmas ask of the regenerated lists: each switch writes declared variables, each once, and reaches
    every pointer; `save` copies every pointer to a variable of its own, all of them declared, and `restore` is
    these copies reversed; `turnOff` leaves the saved copies alone. -/
theorem tables :
    (∀ t ∈ [threadSafeOn, turnOff], WritesOnce t ∧ ∀ f ∈ fptrs, ∃ a ∈ t, a.1 = f.1) ∧
    (saveCopies.map (·.1) ++ saveCopies.map (·.2)).Nodup ∧ restoreCopies = saveCopies.map Prod.swap ∧
    (∀ c ∈ saveCopies, c.1 ∈ Ptrs.initial.vars.map (·.1) ∧ c.2 ∈ Ptrs.initial.vars.map (·.1)) ∧
    (∀ a ∈ turnOff, a.1 ∉ saveCopies.map (·.1)) ∧
    (∀ f ∈ fptrs, ∃ c ∈ saveCopies, c.2 = f.1) := by decide +kernel

/-- what a switch leaves in a pointer does not depend on the state it is applied to -/
theorem get_switch {t : List (String × String)} (ht : t ∈ [threadSafeOn, turnOff]) :
    ∀ f ∈ fptrs, ∃ a ∈ t, ∀ e : Env, e.Declared → (assignAll t e).get f.1 = a.2 := fun f hf =>
  let ⟨once, covers⟩ := tables.1 t ht
  let ⟨a, ha, h⟩ := covers f hf
  ⟨a, ha, fun _ he => h ▸ Env.get_assignAll once he a ha⟩

/-! ## the switches, `save` and `restore` on any state with the declared variables

`Ptrs.save` and `Ptrs.restore` are unfolded by `simp only`, which also reduces the projections of the
structure they build: left in place, `exact` has to unify `{ vars := copyAll .. }.vars` with
`copyAll ..`, and does so by evaluating the fold over the concrete list. -/

theorem Ptrs.declared_save {p : Ptrs} (h : p.vars.Declared) : p.save.vars.Declared := by
  by_cases hc : p.counter + 1 > 1
  · simp only [Ptrs.save, if_pos hc]; exact h
  · simp only [Ptrs.save, if_neg hc]; exact (h.copyAll saveCopies).assignAll Gen.ThreadSafe.turnOff

theorem Ptrs.declared_restore {p : Ptrs} (h : p.vars.Declared) : p.restore.vars.Declared := by
  by_cases hc : p.counter - 1 > 0
  · simp only [Ptrs.restore, if_pos hc]; exact h
  · simp only [Ptrs.restore, if_neg hc]; exact h.copyAll restoreCopies

theorem threadSafeConfig_declared : threadSafeConfig.vars.Declared := Env.Declared.assignAll rfl _

theorem Ptrs.pointers_congr {p q : Ptrs} (h : ∀ f ∈ fptrs, p.vars.get f.1 = q.vars.get f.1) :
    p.pointers = q.pointers :=
  List.map_congr_left fun f hf => by rw [h f hf]

theorem Ptrs.allLocked_congr {p q : Ptrs} (h : p.pointers = q.pointers) : p.allLocked = q.allLocked := by
  simp only [Ptrs.allLocked, h]

/-- a cycle inside an open cycle only counts -/
theorem Ptrs.save_restore_inner (p : Ptrs) (h : 0 < p.counter) : p.save.restore = p := by
  have h1 : p.counter + 1 > 1 := by omega
  simp only [Ptrs.save, if_pos h1, Ptrs.restore, Int.add_sub_cancel, gt_iff_lt, if_pos h]

theorem Ptrs.pointers_save (p : Ptrs) (hp : p.vars.Declared) (hc : p.counter = 0) :
    p.save.pointers = offConfig.pointers := by
  have h1 : ¬ p.counter + 1 > 1 := by omega
  refine Ptrs.pointers_congr fun f hf => ?_
  obtain ⟨a, -, h⟩ := get_switch (.tail _ (.head _)) f hf
  simp only [Ptrs.save, if_neg h1, offConfig, Ptrs.turnOff]
  exact (h _ (hp.copyAll _)).trans (h _ rfl).symm

/-- The outermost save / restore pair puts every pointer back where it was, and the counter, whatever the
    pointers and the saved copies held: `restore` reads the saved copy that `save` wrote from the pointer,
    and `turnOff` in between writes pointers only. -/
theorem Ptrs.save_restore (p : Ptrs) (hp : p.vars.Declared) (hc : p.counter = 0) :
    p.save.restore.pointers = p.pointers ∧ p.save.restore.counter = p.counter := by
  obtain ⟨-, hnd, hrev, hw, hoff, hcov⟩ := tables
  have h1 : ¬ p.counter + 1 > 1 := by omega
  have h2 : ¬ 0 < p.counter := by omega
  simp only [Ptrs.save, if_neg h1, Ptrs.restore, Int.add_sub_cancel, gt_iff_lt, if_neg h2, and_true]
  refine Ptrs.pointers_congr fun f hf => ?_
  obtain ⟨c, hc, hcf⟩ := hcov f hf
  rw [← hcf, hrev, copyAll, List.foldl_map]
  dsimp only
  exact Writes.get_swap_back Env.laws hnd (fun a ha => hp ▸ hw a ha) hoff hc

end ThreadSafe
