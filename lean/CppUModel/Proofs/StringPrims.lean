import CppUModel.Proofs.SimpleString
import CppUModel.Gen.StringPrims
/-!
# The REGENERATED primitives (`Gen/StringPrims.lean`, from the clang AST of `SimpleString.cpp`)
equal the hand-written bounded-buffer models of `Base/CString.lean`.

Lock-step lemmas (`…_loop_eq`): the generated loop function and the hand-written loop agree on ALL
inputs (error outcomes included) when run with the same fuel.  From them: at the canonical fuel
(buffer length + 1) the generated function IS the hand model; and for every fuel above the string
length it returns the textbook value (via the refinement lemmas of `Proofs/CString.lean`).
-/
namespace GenPrims
open CStr CPrim Text TextExt

-- `size_t` arithmetic of the regenerated code is modulo 2^64
local notation "W64" => (18446744073709551616 : Nat)

/-- `--n` on a `size_t` that is not 0 -/
theorem dec_wrap {n : Nat} (h : n + 1 < W64) : (n + 1 + 18446744073709551615) % W64 = n := by omega

theorem sx8_beq {a b : UInt8} : (sx8 a == sx8 b) = decide (a = b) := by
  have ha := a.toNat_lt; have hb := b.toNat_lt
  by_cases h : a = b
  · subst h; simp
  · have hn : a.toNat ≠ b.toNat := fun e => h (UInt8.toNat_inj.mp e)
    have : sx8 a ≠ sx8 b := by unfold sx8; split <;> split <;> omega
    simp [h, this]

theorem zx8_bne {a b : UInt8} : (zx8 a != zx8 b) = decide (a ≠ b) := by
  by_cases h : a = b
  · subst h; simp
  · have hn : a.toNat ≠ b.toNat := fun e => h (UInt8.toNat_inj.mp e)
    have : zx8 a ≠ zx8 b := by unfold zx8; omega
    simp [h, this]

theorem bne_zero (c : UInt8) : (c != 0) = decide (c ≠ 0) := by
  by_cases h : c = 0 <;> simp [h]

/-- one evaluation over the 256 bytes for all six functions -/
theorem charclass_eq : ∀ c : UInt8,
    Gen.StrPrims.isDigit c = CStr.isDigit c ∧ Gen.StrPrims.isSpace c = CStr.isSpace c ∧
    Gen.StrPrims.isUpper c = CStr.isUpper c ∧ Gen.StrPrims.isControl c = CStr.isControl c ∧
    Gen.StrPrims.isControlWithShortEscapeSequence c = CStr.isControlWithShortEscapeSequence c ∧
    Gen.StrPrims.ToLower c = CStr.ToLower c :=
  forall_uint8 _ (by decide +kernel)

theorem isDigit_eq (c : UInt8) : Gen.StrPrims.isDigit c = CStr.isDigit c := (charclass_eq c).1
theorem isSpace_eq (c : UInt8) : Gen.StrPrims.isSpace c = CStr.isSpace c := (charclass_eq c).2.1
theorem isUpper_eq (c : UInt8) : Gen.StrPrims.isUpper c = CStr.isUpper c := (charclass_eq c).2.2.1
theorem isControl_eq (c : UInt8) : Gen.StrPrims.isControl c = CStr.isControl c := (charclass_eq c).2.2.2.1
theorem isControlWithShortEscapeSequence_eq (c : UInt8) :
    Gen.StrPrims.isControlWithShortEscapeSequence c = CStr.isControlWithShortEscapeSequence c :=
  (charclass_eq c).2.2.2.2.1

theorem StrLen_loop_eq (f0 : Nat) (b : Buf) : ∀ (f p ng nh : Nat), (ng + 1) % W64 = nh →
    nh + f < W64 → Gen.StrPrims.StrLen_loop1 f0 b f p ng = strLenLoop b f p nh
  | 0, _, _, _, _, _ => by simp [Gen.StrPrims.StrLen_loop1, strLenLoop]
  | f + 1, p, ng, nh, h, hb => by
    unfold Gen.StrPrims.StrLen_loop1 strLenLoop
    cases hr : rd b p with
    | error e => rfl
    | ok c =>
      by_cases hc : c = 0
      · simp [hc, h]
      · simp only [bne_zero, hc, ne_eq, not_false_eq_true, decide_true, if_true, if_false, h]
        exact StrLen_loop_eq f0 b f (p + 1) nh (nh + 1) (by omega) (by omega)

theorem StrLen_eq_loop (f : Nat) (b : Buf) (p : Nat) (hf : f < W64) :
    Gen.StrPrims.StrLen f b p = strLenLoop b f p 0 := by
  unfold Gen.StrPrims.StrLen
  exact StrLen_loop_eq f b f p _ 0 (by decide) (by omega)

theorem StrLen_eq (b : Buf) (p : Nat) (hb : b.length + 1 < W64) :
    Gen.StrPrims.StrLen (b.length + 1) b p = CStr.StrLen b p := by
  rw [StrLen_eq_loop _ _ _ (by omega)]; rfl

theorem StrLen_ok {b : Buf} {p : Nat} {a : Bytes} (h : CAt b p a) (f : Nat) (hf : a.length < f)
    (hf2 : f < W64) : Gen.StrPrims.StrLen f b p = .ok a.length := by
  rw [StrLen_eq_loop _ _ _ hf2, strLenLoop_ok a b p 0 f h hf]; simp

theorem StrCmp_loop_eq (f0 : Nat) (b1 b2 : Buf) : ∀ (f p1 p2 : Nat),
    Gen.StrPrims.StrCmp_loop1 f0 b1 b2 f p1 p2 = strCmpLoop b1 b2 f p1 p2
  | 0, _, _ => by simp [Gen.StrPrims.StrCmp_loop1, strCmpLoop]
  | f + 1, p1, p2 => by
    unfold Gen.StrPrims.StrCmp_loop1 strCmpLoop Gen.StrPrims.StrCmp_k1
    cases hr1 : rd b1 p1 with
    | error e => rfl
    | ok c1 =>
      cases hr2 : rd b2 p2 with
      | error e => by_cases hc : c1 = 0 <;> simp [hc, bne_zero]
      | ok c2 =>
        by_cases hc : c1 = 0
        · simp [hc, zx8]
        · by_cases he : c1 = c2
          · simp [bne_zero, he, StrCmp_loop_eq f0 b1 b2 f]
          · simp [hc, bne_zero, he, sx8_beq, zx8]

theorem StrCmp_ok {b1 b2 : Buf} {p1 p2 : Nat} {a1 a2 : Bytes} (h1 : CAt b1 p1 a1) (h2 : CAt b2 p2 a2) (f : Nat)
    (hf : a1.length < f) : Gen.StrPrims.StrCmp f b1 p1 b2 p2 = .ok (Text.cmp a1 a2) := by
  unfold Gen.StrPrims.StrCmp
  rw [StrCmp_loop_eq, strCmpLoop_ok a1 a2 b1 b2 p1 p2 f h1 h2 hf]

theorem StrNCmp_loop_eq (f0 : Nat) (b1 b2 : Buf) : ∀ (f p1 p2 n : Nat), n < f → n < W64 →
    Gen.StrPrims.StrNCmp_loop1 f0 b1 b2 f p1 p2 n = CStr.StrNCmp b1 p1 b2 p2 n
  | 0, _, _, _, h, _ => by omega
  | f + 1, p1, p2, 0, _, _ => by
    simp [Gen.StrPrims.StrNCmp_loop1, Gen.StrPrims.StrNCmp_k1, CStr.StrNCmp]
  | f + 1, p1, p2, n + 1, h, hm => by
    unfold Gen.StrPrims.StrNCmp_loop1 CStr.StrNCmp Gen.StrPrims.StrNCmp_k1
    have hn : ((n + 1 != 0) = true) := by simp
    have hd := dec_wrap (n := n) (by omega)
    simp only [hn, if_true, hd]
    cases hr1 : rd b1 p1 with
    | error e => rfl
    | ok c1 =>
      cases hr2 : rd b2 p2 with
      | error e => by_cases hc : c1 = 0 <;> simp [hc, bne_zero]
      | ok c2 =>
        by_cases hc : c1 = 0
        · simp [hc, zx8]
        · by_cases he : c1 = c2
          · simp [bne_zero, he, StrNCmp_loop_eq f0 b1 b2 f (p1 + 1) (p2 + 1) n (by omega) (by omega)]
          · simp [hc, bne_zero, he, sx8_beq, zx8]

theorem StrNCmp_eq (f : Nat) (b1 b2 : Buf) (p1 p2 n : Nat) (hf : n < f) (hn : n < W64) :
    Gen.StrPrims.StrNCmp f b1 p1 b2 p2 n = CStr.StrNCmp b1 p1 b2 p2 n := by
  unfold Gen.StrPrims.StrNCmp; exact StrNCmp_loop_eq _ _ _ _ _ _ _ hf hn

theorem StrNCmp_ok {b1 b2 : Buf} {p1 p2 : Nat} {a1 a2 : Bytes} (h1 : CAt b1 p1 a1) (h2 : CAt b2 p2 a2) (f n : Nat)
    (hf : n < f) (hn : n < W64) :
    Gen.StrPrims.StrNCmp f b1 p1 b2 p2 n = .ok (Text.ncmp n a1 a2) := by
  rw [StrNCmp_eq f b1 b2 p1 p2 n hf hn, CStr.StrNCmp_ok n a1 a2 b1 b2 p1 p2 h1 h2]

theorem MemCmp_loop_eq (f0 : Nat) (b1 b2 : Buf) (s1 s2 : Nat) : ∀ (f p1 p2 n : Nat), n < f → n < W64 →
    Gen.StrPrims.MemCmp_loop1 f0 b1 b2 f s1 s2 n p1 p2 = CStr.MemCmp b1 p1 b2 p2 n
  | 0, _, _, _, h, _ => by omega
  | f + 1, p1, p2, 0, _, _ => by simp [Gen.StrPrims.MemCmp_loop1, CStr.MemCmp]
  | f + 1, p1, p2, n + 1, h, hm => by
    unfold Gen.StrPrims.MemCmp_loop1 CStr.MemCmp
    have hn : ((n + 1 != 0) = true) := by simp
    have hd := dec_wrap (n := n) (by omega)
    simp only [hn, if_true, hd]
    cases hr1 : rd b1 p1 with
    | error e => rfl
    | ok c1 =>
      cases hr2 : rd b2 p2 with
      | error e => rfl
      | ok c2 =>
        by_cases he : c1 = c2
        · simp [he, MemCmp_loop_eq f0 b1 b2 s1 s2 f (p1 + 1) (p2 + 1) n (by omega) (by omega)]
        · have hz : (zx8 c1 != zx8 c2) = true := by rw [zx8_bne]; simp [he]
          simp only []
          rw [if_pos hz, if_pos (by simpa using he)]; rfl

theorem MemCmp_eq (f : Nat) (b1 b2 : Buf) (p1 p2 n : Nat) (hf : n < f) (hn : n < W64) :
    Gen.StrPrims.MemCmp f b1 p1 b2 p2 n = CStr.MemCmp b1 p1 b2 p2 n := by
  unfold Gen.StrPrims.MemCmp; exact MemCmp_loop_eq _ _ _ _ _ _ _ _ _ hf hn

/-- the hand model returns the buffer; the code also returns the destination pointer -/
def withPtr (res : Nat) : Except Err Buf → Except Err (Option Nat × Buf)
  | .ok b => .ok (some res, b)
  | .error e => .error e

theorem rd_of_wr {b b' : Buf} {i : Nat} {v : UInt8} (h : wr b i v = .ok b') : rd b' i = .ok v := by
  unfold wr at h
  split at h
  · injection h with h; subst h; simp [rd, *]
  · cases h

/-- The regenerated loop tests `*s1`, the byte it has just written (`rd_of_wr`), where the hand model tests the byte it
    read from the source: hence the hypothesis `rd m s1 = .ok c` and the `if c = 0`. -/
theorem StrNCpy_loop_eq (f0 : Nat) (src : Buf) (res : Nat) : ∀ (f n s1 s2 : Nat) (m : Buf) (c : UInt8),
    1 ≤ n → n ≤ f → n < W64 → rd m s1 = .ok c →
    Gen.StrPrims.StrNCpy_loop1 f0 false src f s1 s2 n res m =
      withPtr res (if c = 0 then .ok m else CStr.StrNCpy m (s1 + 1) src (s2 + 1) (n - 1))
  | 0, n, _, _, _, _, h1, h2, _, _ => by omega
  | f + 1, 1, s1, s2, m, c, _, _, _, hr => by
    unfold Gen.StrPrims.StrNCpy_loop1 Gen.StrPrims.StrNCpy_k1
    by_cases hc : c = 0 <;> simp [hc, withPtr, CStr.StrNCpy]
  | f + 1, k + 2, s1, s2, m, c, _, h2, h3, hr => by
    unfold Gen.StrPrims.StrNCpy_loop1 Gen.StrPrims.StrNCpy_k1
    have hd := dec_wrap (n := k + 1) (by omega)
    have hn : ((k + 1 != 0) = true) := by simp
    simp only [hd, hn, if_true, rdN, wrN, Bool.false_eq_true, if_false, hr]
    by_cases hc : c = 0
    · simp [hc, withPtr]
    · simp only [bne_zero, hc, ne_eq, not_false_eq_true, decide_true, if_true, if_false]
      have e1 : k + 2 - 1 = k + 1 := by omega
      rw [e1]
      unfold CStr.StrNCpy
      cases hr2 : rd src (s2 + 1) with
      | error e => simp [withPtr]
      | ok c4 =>
        cases hw : wr m (s1 + 1) c4 with
        | error e => simp [hw, withPtr]
        | ok m5 =>
          have ih := StrNCpy_loop_eq f0 src res f (k + 1) (s1 + 1) (s2 + 1) m5 c4 (by omega) (by omega) (by omega) (rd_of_wr hw)
          simp only [hw, ih, Nat.add_sub_cancel]

theorem StrNCpy_eq (f : Nat) (dst src : Buf) (dp sp n : Nat) (hf : n ≤ f) (hn : n < W64) :
    Gen.StrPrims.StrNCpy f false dst dp src sp n = withPtr dp (CStr.StrNCpy dst dp src sp n) := by
  unfold Gen.StrPrims.StrNCpy
  cases n with
  | zero => simp [CStr.StrNCpy, withPtr]
  | succ k =>
    have h0 : ((0 : Nat) == k + 1) = false := by simp
    simp only [Bool.false_or, h0, Bool.false_eq_true, if_false, wrN]
    unfold CStr.StrNCpy
    cases hr : rd src sp with
    | error e => simp [withPtr]
    | ok c1 =>
      cases hw : wr dst dp c1 with
      | error e => simp [hw, withPtr]
      | ok m2 =>
        simp only [hw, StrNCpy_loop_eq f src dp f (k + 1) dp sp m2 c1 (by omega) hf hn (rd_of_wr hw), Nat.add_sub_cancel]

theorem StrNCpy_null (f : Nat) (dst src : Buf) (dp sp n : Nat) :
    Gen.StrPrims.StrNCpy f true dst dp src sp n = .ok (none, dst) := by
  simp [Gen.StrPrims.StrNCpy]

theorem StrNCpy_zero (f : Nat) (nl : Bool) (dst src : Buf) (dp sp : Nat) :
    Gen.StrPrims.StrNCpy f nl dst dp src sp 0 = .ok ((if nl then none else some dp), dst) := by
  simp [Gen.StrPrims.StrNCpy]

theorem StrNCpy_ok {dst src : Buf} {dp sp n : Nat} {a : Bytes} (h : CAt src sp a)
    (hfit : dp + min n (a.length + 1) ≤ dst.length) (f : Nat) (hf : n ≤ f) (hn : n < W64) :
    Gen.StrPrims.StrNCpy f false dst dp src sp n =
      .ok (some dp, dst.take dp ++ (cz a).take n ++ dst.drop (dp + min n (a.length + 1))) := by
  rw [StrNCpy_eq f dst src dp sp n hf hn, CStr.StrNCpy_ok h hfit]; rfl

theorem StrStr_loop_eq (f0 : Nat) (b1 b2 : Buf) (p2 : Nat) {a2 : Bytes} (h2 : CAt b2 p2 a2) (hf0 : a2.length < f0)
    (hm : f0 < W64) : ∀ (f p1 : Nat),
    Gen.StrPrims.StrStr_loop1 f0 b1 b2 f p1 p2 = strStrLoop b1 b2 p2 f p1
  | 0, _ => by simp [Gen.StrPrims.StrStr_loop1, strStrLoop]
  | f + 1, p1 => by
    unfold Gen.StrPrims.StrStr_loop1 strStrLoop
    cases hr : rd b1 p1 with
    | error e => rfl
    | ok c =>
      by_cases hc : c = 0
      · simp [hc]
      · simp only [bne_zero, hc, ne_eq, not_false_eq_true, decide_true, if_true, if_false,
          StrLen_ok h2 f0 hf0 hm, CStr.StrLen_ok h2, StrNCmp_eq f0 b1 b2 p1 p2 a2.length hf0 (by omega)]
        cases hcmp : CStr.StrNCmp b1 p1 b2 p2 a2.length with
        | error e => rfl
        | ok r =>
          by_cases hz : r = 0
          · simp [hz]
          · simp [hz, StrStr_loop_eq f0 b1 b2 p2 h2 hf0 hm f (p1 + 1)]

theorem StrStr_ok {b1 b2 : Buf} {p1 p2 : Nat} {a1 a2 : Bytes} (h1 : CAt b1 p1 a1) (h2 : CAt b2 p2 a2) (f : Nat)
    (hf1 : a1.length < f) (hf2 : a2.length < f) (hm : f < W64) :
    Gen.StrPrims.StrStr f b1 p1 b2 p2 = .ok ((TextExt.strStr a1 a2).map (· + p1)) := by
  unfold Gen.StrPrims.StrStr
  cases a2 with
  | nil => simp [h2.nil_rd, strStr_nil_right]
  | cons y a2 =>
    have hy := h2.cons_ne
    simp only [h2.cons_rd, bne_zero, hy, ne_eq, not_false_eq_true, decide_true, if_true]
    rw [StrStr_loop_eq f b1 b2 p2 h2 hf2 hm, strStrLoop_ok a1 (y :: a2) b1 b2 p1 p2 f h1 h2 (by simp) hf1]

theorem StrStr_eq (b1 b2 : Buf) (p1 p2 : Nat) {a2 : Bytes} (h2 : CAt b2 p2 a2) (hf : a2.length < b1.length + 1)
    (hm : b1.length + 1 < W64) :
    Gen.StrPrims.StrStr (b1.length + 1) b1 p1 b2 p2 = CStr.StrStr b1 p1 b2 p2 := by
  unfold Gen.StrPrims.StrStr CStr.StrStr
  cases hr : rd b2 p2 with
  | error e => rfl
  | ok c =>
    by_cases hc : c = 0
    · simp [hc]
    · simp [bne_zero, hc, StrStr_loop_eq (b1.length + 1) b1 b2 p2 h2 hf hm]

theorem isDigit_range {c : UInt8} (h : CStr.isDigit c = true) : 48 ≤ c.toNat ∧ c.toNat ≤ 57 := by
  simp only [CStr.isDigit, Bool.and_eq_true, decide_eq_true_eq, UInt8.le_iff_toNat_le] at h
  exact h

theorem sx8_of_isDigit {c : UInt8} (h : CStr.isDigit c = true) : sx8 c = (c.toNat : Int) := by
  have := isDigit_range h
  unfold sx8; split <;> omega

theorem AtoU_loop2_eq (f0 : Nat) (b : Buf) : ∀ (f p r : Nat),
    Gen.StrPrims.AtoU_loop2 f0 b f p r = atoULoop b f p r
  | 0, _, _ => by simp [Gen.StrPrims.AtoU_loop2, atoULoop]
  | f + 1, p, r => by
    unfold Gen.StrPrims.AtoU_loop2 atoULoop Gen.StrPrims.AtoU_k1
    cases hr : rd b p with
    | error e => rfl
    | ok c =>
      simp only [isDigit_eq]
      by_cases hd : CStr.isDigit c = true
      · have hrg := isDigit_range hd
        have hs := sx8_of_isDigit hd
        have hge : decide (sx8 c ≥ (48 : Int)) = true := by simp [hs]; omega
        have hdig : i2u32 (sx8 c - 48) = c.toNat - 48 := by unfold i2u32; rw [hs]; omega
        have harith : (r * 10 % 4294967296 + i2u32 (sx8 c - 48)) % 4294967296 = (r * 10 + (c.toNat - 48)) % 4294967296 := by
          rw [hdig, Nat.mod_add_mod]
        simp only [hd, if_true, hge, harith]
        exact AtoU_loop2_eq f0 b f (p + 1) _
      · simp [hd]

theorem AtoU_loop1_eq (f0 : Nat) (b : Buf) : ∀ (f p : Nat),
    Gen.StrPrims.AtoU_loop1 f0 b f p =
      (match skipSpaces b f p with
       | .error e => .error e
       | .ok q => atoULoop b f0 q 0)
  | 0, _ => by simp [Gen.StrPrims.AtoU_loop1, skipSpaces]
  | f + 1, p => by
    unfold Gen.StrPrims.AtoU_loop1 skipSpaces
    cases hr : rd b p with
    | error e => rfl
    | ok c =>
      simp only [isSpace_eq]
      by_cases hs : CStr.isSpace c = true
      · simp only [hs, if_true]; exact AtoU_loop1_eq f0 b f (p + 1)
      · simp [hs, AtoU_loop2_eq]

theorem ckInt_ok {i : Int} (h : -2147483648 ≤ i ∧ i ≤ 2147483647) : ckInt i = .ok i := if_pos h

theorem ckInt_overflow {i : Int} (h : 2147483647 < i) : ckInt i = .error .overflow :=
  if_neg fun h' => by omega

def signed (first : UInt8) : Except Err Nat → Except Err Int
  | .ok r => .ok (if first = 45 then - (r : Int) else (r : Int))
  | .error e => .error e

/-- The regenerated loop computes in `Int` and checks the range of `int` after the multiplication and after the addition;
    the hand loop keeps a `Nat` that is at most `INT_MAX` and tests the sum once.  The first of the two checks that fails
    fails exactly when the hand loop's test does. -/
theorem AtoI_loop2_eq (f0 : Nat) (b : Buf) (first : UInt8) : ∀ (f p r : Nat), r ≤ 2147483647 →
    Gen.StrPrims.AtoI_loop2 f0 b f p first (r : Int) = signed first (atoILoop b f p r)
  | 0, _, _, _ => by simp [Gen.StrPrims.AtoI_loop2, atoILoop, signed]
  | f + 1, p, r, hr0 => by
    unfold Gen.StrPrims.AtoI_loop2 atoILoop
    cases hr : rd b p with
    | error e => simp [signed]
    | ok c =>
      simp only [isDigit_eq]
      by_cases hd : CStr.isDigit c = true
      · have hrg := isDigit_range hd
        have hs := sx8_of_isDigit hd
        simp only [hd, if_true, hs]
        by_cases h1 : r * 10 > 2147483647
        · have : ckInt ((r : Int) * 10) = .error .overflow := ckInt_overflow (by omega)
          have h2 : r * 10 + (c.toNat - 48) > 2147483647 := by omega
          simp [this, h2, signed]
        · have e1 : ckInt ((r : Int) * 10) = .ok ((r : Int) * 10) := ckInt_ok (by omega)
          simp only [e1]
          by_cases h2 : r * 10 + (c.toNat - 48) > 2147483647
          · have : ckInt ((r : Int) * 10 + ((c.toNat : Int) - 48)) = .error .overflow := ckInt_overflow (by omega)
            simp [this, h2, signed]
          · have e2 : ckInt ((r : Int) * 10 + ((c.toNat : Int) - 48)) = .ok (((r * 10 + (c.toNat - 48) : Nat)) : Int) := by
              unfold ckInt; rw [if_pos (by omega)]; congr 1; omega
            simp only [e2, h2, if_false]
            exact AtoI_loop2_eq f0 b first f (p + 1) _ (by omega)
      · have e45 : (sx8 first == (45 : Int)) = decide (first = 45) := sx8_beq (b := 45)
        simp only [hd, Bool.false_eq_true, if_false, e45, signed]
        by_cases hf : first = 45
        · have : ckInt (-(r : Int)) = .ok (-(r : Int)) := ckInt_ok (by omega)
          simp [hf, this]
        · simp [hf]

theorem AtoI_loop1_eq (f0 : Nat) (b : Buf) : ∀ (f p : Nat),
    Gen.StrPrims.AtoI_loop1 f0 b f p =
      (match skipSpaces b f p with
       | .error e => .error e
       | .ok q =>
         match rd b q with
         | .error e => .error e
         | .ok first => signed first (atoILoop b f0 (if first = 45 ∨ first = 43 then q + 1 else q) 0))
  | 0, _ => by simp [Gen.StrPrims.AtoI_loop1, skipSpaces]
  | f + 1, p => by
    unfold Gen.StrPrims.AtoI_loop1 skipSpaces
    cases hr : rd b p with
    | error e => rfl
    | ok c =>
      simp only [isSpace_eq]
      by_cases hs : CStr.isSpace c = true
      · simp only [hs, if_true]; exact AtoI_loop1_eq f0 b f (p + 1)
      · have e45 : (sx8 c == (45 : Int)) = decide (c = 45) := sx8_beq (b := 45)
        have e43 : (sx8 c == (43 : Int)) = decide (c = 43) := sx8_beq (b := 43)
        simp only [hs, Bool.false_eq_true, if_false, hr, e45, e43, Gen.StrPrims.AtoI_k1]
        have h0 : ∀ q, Gen.StrPrims.AtoI_loop2 f0 b f0 q c (0 : Int) = signed c (atoILoop b f0 q 0) := by
          intro q; have := AtoI_loop2_eq f0 b c f0 q 0 (by omega); simpa using this
        by_cases h : c = 45 ∨ c = 43
        · rcases h with h | h <;> subst h <;> simp [h0]
        · have h' := h; simp only [not_or] at h'
          simp [h'.1, h'.2, h0]

/-! ### the allocation-free methods, regenerated as compositions of the regenerated primitives

`this` / `other` are the objects' buffers (`getBuffer()` = offset 0).  For objects that hold C strings and
any fuel above both lengths (at most 2^64) the regenerated method returns what the hand-written method of
`Model/SimpleString.lean` returns, hence the textbook value. -/

open SStr

theorem m_size_ok {o : Obj} {a : Bytes} (h : Holds o a) (f : Nat) (hf : a.length < f) (hm : f < W64) :
    Gen.StrPrims.m_size f o.buf = .ok a.length := by
  simp only [Gen.StrPrims.m_size, StrLen_ok h f hf hm]

theorem m_isEmpty_ok {o : Obj} {a : Bytes} (h : Holds o a) (f : Nat) (hf : a.length < f) (hm : f < W64) :
    Gen.StrPrims.m_isEmpty f o.buf = .ok (a.isEmpty) := by
  simp only [Gen.StrPrims.m_isEmpty, m_size_ok h f hf hm]
  cases a <;> simp

theorem m_at_eq (f : Nat) (o : Obj) (pos : Nat) : Gen.StrPrims.m_at f o.buf pos = at_ o pos := by
  simp only [Gen.StrPrims.m_at, at_, Nat.zero_add]
  cases rd o.buf pos <;> rfl

theorem m_contains_ok {self other : Obj} {a b : Bytes} (h : Holds self a) (hb : Holds other b) (f : Nat)
    (hf1 : a.length < f) (hf2 : b.length < f) (hm : f < W64) :
    Gen.StrPrims.m_contains f self.buf other.buf = .ok (Text.isInfix a b) := by
  simp only [Gen.StrPrims.m_contains, StrStr_ok h hb f hf1 hf2 hm, ← strStr_isSome_eq_isInfix]
  cases TextExt.strStr a b <;> rfl

theorem m_startsWith_eq {self other : Obj} {a b : Bytes} (h : Holds self a) (hb : Holds other b) (f : Nat)
    (hf1 : a.length < f) (hf2 : b.length < f) (hm : f < W64) :
    Gen.StrPrims.m_startsWith f self.buf other.buf = startsWith self other := by
  simp only [Gen.StrPrims.m_startsWith, SStr.startsWith, m_size_ok h f hf1 hm, m_size_ok hb f hf2 hm, size_ok h, size_ok hb,
    StrStr_ok h hb f hf1 hf2 hm, CStr.StrStr_ok h hb]
  by_cases h1 : b.length = 0 <;> by_cases h2 : a.length = 0 <;> simp [h1, h2]

theorem m_endsWith_eq {self other : Obj} {a b : Bytes} (h : Holds self a) (hb : Holds other b) (f : Nat)
    (hf1 : a.length < f) (hf2 : b.length < f) (hm : f < W64) :
    Gen.StrPrims.m_endsWith f self.buf other.buf = endsWith self other := by
  simp only [Gen.StrPrims.m_endsWith, SStr.endsWith, m_size_ok h f hf1 hm, m_size_ok hb f hf2 hm, size_ok h, size_ok hb]
  by_cases h1 : b.length = 0
  · simp [h1]
  · by_cases h2 : a.length = 0
    · simp [h1, h2]
    · by_cases h3 : a.length < b.length
      · simp [h1, h2, h3]
      · have hd := CAt.drop h (a.length - b.length) (by omega)
        simp only [Nat.zero_add] at hd
        have hl : (a.drop (a.length - b.length)).length < f := by simp; omega
        have hp : psub a.length b.length = .ok (a.length - b.length) := by
          unfold psub; rw [if_pos (by omega)]
        simp [h1, h2, h3, hp, StrCmp_ok hd hb f hl, CStr.StrCmp_ok hd hb]

theorem m_findFrom_loop_eq (f0 : Nat) (b : Buf) (start : Nat) (ch : UInt8) (length : Nat) (hl : length < W64) :
    ∀ (fuel i : Nat), length - i < fuel →
      Gen.StrPrims.m_findFrom_loop2 f0 b fuel start ch length i = findFromLoop b ch (length - i) i
  | 0, _, h => by omega
  | fuel + 1, i, h => by
    unfold Gen.StrPrims.m_findFrom_loop2
    by_cases hi : i < length
    · obtain ⟨k, hk⟩ : ∃ k, length - i = k + 1 := ⟨length - i - 1, by omega⟩
      have hk' : length - (i + 1) = k := by omega
      have hmod : (i + 1) % W64 = i + 1 := by omega
      simp only [hi, decide_true, if_true, hk, findFromLoop, Gen.StrPrims.m_at, Nat.zero_add, hmod]
      cases hr : rd b i with
      | error e => rfl
      | ok c =>
        by_cases hc : c = ch
        · simp [hc]
        · have ih := m_findFrom_loop_eq f0 b start ch length hl fuel (i + 1) (by omega)
          rw [hk'] at ih
          simp [hc, sx8_beq, ih]
    · have hz : length - i = 0 := by omega
      simp [hi, hz, findFromLoop, npos]

theorem m_findFrom_eq {self : Obj} {a : Bytes} (h : Holds self a) (f : Nat) (hf : a.length < f)
    (hm : f < W64) (start : Nat) (ch : UInt8) :
    Gen.StrPrims.m_findFrom f self.buf start ch = findFrom self start ch := by
  simp only [Gen.StrPrims.m_findFrom, SStr.findFrom, m_size_ok h f hf hm, size_ok h]
  exact m_findFrom_loop_eq f self.buf start ch a.length (by omega) f start (by omega)

theorem m_find_eq {self : Obj} {a : Bytes} (h : Holds self a) (f : Nat) (hf : a.length < f)
    (hm : f < W64) (ch : UInt8) :
    Gen.StrPrims.m_find f self.buf ch = find self ch := by
  simp only [Gen.StrPrims.m_find, SStr.find, m_findFrom_eq h f hf hm]
  cases findFrom self 0 ch <;> rfl

end GenPrims
