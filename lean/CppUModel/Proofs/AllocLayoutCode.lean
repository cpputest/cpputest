import CppUModel.Model.AllocLayoutCode
import CppUModel.Proofs.AllocLayout
/-!
Helper lemmas (C05): executing the REGENERATED statement lists of `Gen/AllocLayoutCode.lean` with the
interpreter of `Model/AllocLayoutCode.lean` agrees with the hand model of `Model/AllocLayout.lean`.
The proofs compute with the concrete lists: a source edit that changes a list breaks them.
-/
namespace AllocLayout
open Gen.AllocLayoutCode

/-- after undefined behaviour nothing is claimed of the state -/
def Agree (x y : State × List Ev × Outcome) : Prop :=
  x.2 = y.2 ∧ (y.2.2.isUb = false → x.1 = y.1)

theorem Agree.eq {x y : State × List Ev × Outcome} (h : Agree x y) (hu : y.2.2.isUb = false) : x = y :=
  Prod.ext (h.2 hu) h.1

theorem agree_wrap {x y : State × List Ev × Outcome} (f : State × List Ev × Outcome → State × List Ev × Outcome)
    (hf : ∀ r, r.2.2.isUb = true → (f r).2.2.isUb = true) (h : Agree x y) (hu : (f y).2.2.isUb = false) :
    f x = f y := by
  cases hy : y.2.2.isUb
  · rw [h.eq hy]
  · rw [hf y hy] at hu; cases hu

theorem runMid_append (e : Env) : ∀ (xs ys : List AStep) (r : Regs),
    runMid e (xs ++ ys) r = (match runMid e xs r with | .next r' => runMid e ys r' | .done res => .done res)
  | [], _, _ => rfl
  | x :: xs, ys, r => by
    simp only [List.cons_append, runMid]
    cases stepMid e r x with
    | next r' => exact runMid_append e xs ys r'
    | done res => rfl

/-- a function that ends in `storeLeakInformation(node, memory, …); return node->memory_;`.  All three hypotheses are
    computations (`rfl`) at every use; `y` is there so that `r'` is found by running the statements, not by matching the
    model's side. -/
theorem store_agree (e : Env) (pre : List AStep) (r r' : Regs) (rc : Rec) (hpre : runMid e pre r = .next r')
    (hinit : leaf e r' .initNew = initWith e r' rc 1) {y : State × List Ev × Outcome} (hy : y = store e.c e.img r'.st rc r'.evs) :
    Agree (finish (runMid e (pre ++ [.store, .returnNodeMemory]) r)) y := by
  subst hy
  rw [runMid_append, hpre]
  unfold Agree store
  simp only [runMid, stepMid, runLeaf, storeCode]
  rw [hinit]
  unfold initWith
  cases writeNode e.c e.img r'.st.mem rc with
  | none => exact ⟨rfl, nofun⟩
  | some m1 =>
    simp only [leaf]
    cases writeGuard e.c m1 rc with
    | none => exact ⟨rfl, nofun⟩
    | some m2 => exact ⟨rfl, fun _ => rfl⟩

theorem allocMemoryCode_agree (c : Cfg) (img : NodeImage) (s : State) (fam : Nat) (size : W) (sep0 : Bool) (a1 a2 : Ans)
    (hf : a1.Fresh s.mem) :
    Agree (allocMemoryGen c img s fam size sep0 a1 a2) (allocMemory c img s fam size sep0 a1 a2) := by
  -- the first statement fixes the layout flag; the list is cut where `storeLeakInformation` is called
  have hgen : allocMemoryGen c img s fam size sep0 a1 a2 =
      finish (runMid ⟨c, img, fam, size, rejectsAlloc c size, a1, a2, .null⟩
        ([.guardReturnNull, .allocData, .ifNewNullReturnNull, .createNode, .ifNodeNullFreeReturnNull] ++ [.store, .returnNodeMemory])
        { st := s, sep := forcedSep c sep0 }) := rfl
  rw [hgen]; unfold allocMemory
  generalize rejectsAlloc c size = rej
  generalize forcedSep c sep0 = sep
  cases rej
  · cases a1 with
    | null => exact ⟨rfl, fun _ => rfl⟩
    | fail => exact ⟨rfl, fun _ => rfl⟩
    | block id bytes =>
      cases sep
      · exact store_agree _ _ _ _ ⟨id, size, fam, false, 0, s.seq⟩ rfl rfl rfl
      · cases a2 with
        | null =>
          -- the data block goes back to the allocator: the memory is what it was
          refine ⟨rfl, fun _ => ?_⟩
          show ({ s with mem := dropBlock (⟨id, bytes⟩ :: s.mem) id } : State) = s
          rw [dropBlock_cons, if_neg (by simp), dropBlock_fresh hf]
        | fail => exact ⟨rfl, fun _ => rfl⟩
        | block nid nb =>
          exact store_agree _ _ _ _ ⟨id, size, fam, true, nid, s.seq⟩ rfl rfl rfl
  · exact ⟨rfl, fun _ => rfl⟩

theorem reallocInner_agree (c : Cfg) (img : NodeImage) (fam : Nat) (size : W) (rej : Bool) (a1 a2 : Ans) (nid : Nat)
    (nb : List UInt8) (r : Regs) :
    Agree (finish (runMid ⟨c, img, fam, size, rej, a1, a2, .moved nid nb⟩ reallocInnerCode r))
      (account c img { r.st with mem := ⟨nid, nb⟩ :: memAfterRealloc r.st.mem r.memory } fam size r.sep nid a2
        (r.evs ++ [.urealloc (ptrId r.memory) (reallocReq c r.sep size) nid])) := by
  obtain ⟨st, evs, sep, memory, newMem, node, stored, removed, old'⟩ := r
  rw [show reallocInnerCode = [.platformRealloc, .ifNewNullReturnNull, .createNode] ++ [.store, .returnNodeMemory] from rfl]
  cases sep
  · exact store_agree _ _ _ _ ⟨nid, size, fam, false, 0, st.seq⟩ rfl rfl rfl
  · cases a2 with
    | null => exact ⟨rfl, nofun⟩
    | fail => exact ⟨rfl, fun _ => rfl⟩
    | block k kb =>
      exact store_agree _ _ _ _ ⟨nid, size, fam, true, k, st.seq⟩ rfl rfl rfl

theorem callInner_returns (e : Env) (r : Regs) (hnn : (finish (runMid e reallocInnerCode r)).2.2 ≠ .null) :
    finish (runTop e [.callReallocInner, .ifFailedRetrack, .returnNew] r) = finish (runMid e reallocInnerCode r) := by
  show finish (match afterInner r (runMid e reallocInnerCode r) with
    | .next r' => runTop e [.ifFailedRetrack, .returnNew] r' | .done res => .done res) = _
  generalize runMid e reallocInnerCode r = x at hnn ⊢
  cases x with
  | next r' => rfl
  | done res =>
    obtain ⟨st, evs, o⟩ := res
    cases o with
    | null => exact absurd rfl hnn
    | _ => rfl

theorem callInner_null (c : Cfg) (img : NodeImage) (fam : Nat) (size : W) (rej : Bool) (a1 a2 : Ans) (rest : List AStep)
    (r : Regs) :
    runTop ⟨c, img, fam, size, rej, a1, a2, .null⟩ (.callReallocInner :: rest) r =
      runTop ⟨c, img, fam, size, rej, a1, a2, .null⟩ rest
        { r with newMem := .null, evs := r.evs ++ [.urealloc (ptrId r.memory) (reallocReq c r.sep size) 0] } := rfl

theorem retrack_agree (e : Env) (r : Regs) (o : Rec) (hold : r.old = some o) (hnew : r.newMem = .null)
    (hmem : r.memory.isSome = true) :
    Agree (finish (runTop e [.ifFailedRetrack, .returnNew] r)) (retrack e.c e.img r.st o r.sep e.a2 r.evs) := by
  obtain ⟨st, evs, sep, memory, newMem, node, stored, removed, old'⟩ := r
  subst hold hnew
  simp only [runTop, stepTop, hmem, beq_self_eq_true, Bool.and_self, if_true, reallocRetrackCode, runMid, stepMid, leaf,
    createNodeStep, retrack]
  -- in either layout all that can fail is the write of the node
  cases sep
  · simp only [Bool.false_eq_true, if_false, initWith]
    cases writeNode e.c e.img st.mem { o with sep := false, nodeId := 0 } with
    | none => exact ⟨rfl, nofun⟩
    | some m1 => exact ⟨rfl, fun _ => rfl⟩
  · cases e.a2 with
    | null => exact ⟨rfl, nofun⟩
    | fail => exact ⟨rfl, fun _ => rfl⟩
    | block k kb =>
      simp only [if_true, initWith]
      cases writeNode e.c e.img (⟨k, kb⟩ :: st.mem) { o with sep := true, nodeId := k } with
      | none => exact ⟨rfl, nofun⟩
      | some m1 => exact ⟨rfl, fun _ => rfl⟩

theorem reallocRest_agree (e : Env) (r : Regs) (old : Option Rec) (hold : r.old = old) (hmem : r.memory = old.map (·.id)) :
    Agree (finish (runTop e [.callReallocInner, .ifFailedRetrack, .returnNew] r))
      (reallocRest e.c e.img r.st e.fam old e.size r.sep e.ar e.a2 r.evs) := by
  obtain ⟨c, img, fam, size, rej, a1, a2, ar⟩ := e
  cases ar with
  | null =>
    obtain ⟨st, evs, sep, memory, newMem, node, stored, removed, old'⟩ := r
    simp only [] at hold hmem
    subst hold hmem
    cases old' with
    | none => exact ⟨rfl, fun _ => rfl⟩
    | some o =>
      exact retrack_agree _ _ o rfl rfl rfl
  | moved nid nb =>
    -- with or without an old block the new one is accounted for in the same way
    have hm : reallocRest c img r.st fam old size r.sep (.moved nid nb) a2 r.evs =
        account c img { r.st with mem := ⟨nid, nb⟩ :: memAfterRealloc r.st.mem r.memory } fam size r.sep nid a2
          (r.evs ++ [.urealloc (ptrId r.memory) (reallocReq c r.sep size) nid]) := by
      rw [hmem]; cases old <;> rfl
    have hin := reallocInner_agree c img fam size rej a1 a2 nid nb r
    rw [hm, callInner_returns _ _ (by rw [congrArg (·.2) hin.1]; exact account_ne_null _ _ _ _ _ _ _ _ _)]
    exact hin

/-- the declaration `MemoryLeakDetectorNode oldNode;` does nothing: wherever it stands, it can be left out -/
theorem runTop_drop_decl (e : Env) : ∀ (xs : List AStep) (r : Regs),
    runTop e (xs.filter (fun s => s != .declOldNode)) r = runTop e xs r
  | [], r => rfl
  | x :: xs, r => by
    by_cases hx : x = .declOldNode
    · subst hx
      exact runTop_drop_decl e xs r
    · have hne : (x != AStep.declOldNode) = true := by simp [hx]
      simp only [List.filter, hne, runTop]
      cases stepTop e r x with
      | next r' => simp only []; exact runTop_drop_decl e xs r'
      | done res => rfl

theorem operatorNewGen_eq (c : Cfg) (img : NodeImage) (s : State) (v : NewVariant) (size : W) (a1 a2 : Ans) :
    operatorNewGen c img s v size a1 a2 =
      newWrap v (allocMemoryGen c img s (if v.array then famNewArray else famNew) size false a1 a2) := rfl

theorem cCallocGen_eq (c : Cfg) (img : NodeImage) (s : State) (num size : W) (a1 a2 : Ans) :
    cCallocGen c img s num size a1 a2 =
      if Gen.AllocLayout.callocOverflowTest num size then (s, [], .null)
      else thenWrite (cMallocGen c img s (Gen.AllocLayout.callocRequest num size) a1 a2) 0
        (List.replicate (Gen.AllocLayout.callocMemset num size).toNat 0) "memset outside the block" := by
  unfold cCallocGen
  split
  · rfl
  · generalize cMallocGen c img s (Gen.AllocLayout.callocRequest num size) a1 a2 = d
    obtain ⟨s1, evs, o⟩ := d
    cases o <;> rfl

theorem strdupAllocGen_eq (c : Cfg) (img : NodeImage) (s : State) (buf : List UInt8) (size : W) (a1 a2 : Ans)
    (hf : a1.Fresh s.mem) (hu : (strdupAlloc c img s buf size a1 a2).2.2.isUb = false) :
    strdupAllocGen c img s buf size a1 a2 = strdupAlloc c img s buf size a1 a2 :=
  agree_wrap (strdupWrap buf size) (strdupWrap_ub buf size) (allocMemoryCode_agree c img s famMalloc size true a1 a2 hf) hu

end AllocLayout
