import CppUModel.Model.RunnerCode
import CppUModel.Proofs.Runner
/-!
The regenerated code of the runner (`Gen/RunnerCode.lean`, executed by the interpreters of
`Model/RunnerCode.lean`) EQUALS the hand-written model of `Model/Runner.lean`.  The equalities, the
console stream and the composite theorems mention a regenerated definition, so an edit of the source that
changes the statement order, a catch clause, a guard or a print sequence breaks one of them.
-/
namespace Runner
open Gen.Runner

/-! ## Utest::run

The regenerated statement list is run symbolically: the three `execStmts_*` equations step over one statement each, one `cases` per
`setJmp` result, per `esc` and per `ret` follows the branches of the hand-written model, and every leaf is `rfl`. -/

/-- a statement inside `if (jumpResult)` when the flag is 0 -/
theorem execStmts_skip (cfg : Cfg) (t : Test) (op : RunOp) (rest : List RunStmt) (s : ISt) (h : s.jump = false) :
    execStmts cfg t (⟨true, op⟩ :: rest) s = execStmts cfg t rest s := by
  cases op <;> simp [execStmts, h]

theorem execStmts_vv (cfg : Cfg) (t : Test) (g : Bool) (str : String) (rest : List RunStmt) (s : ISt)
    (h : (g && !s.jump) = false) :
    execStmts cfg t (⟨g, .vv str⟩ :: rest) s = execStmts cfg t rest { s with evs := s.evs ++ vv cfg str } := by
  rw [execStmts, h]; rfl

theorem execStmts_setJmp (cfg : Cfg) (t : Test) (g : Bool) (ph : Nat) (assign : Bool) (rest : List RunStmt)
    (s : ISt) (h : (g && !s.jump) = false) :
    execStmts cfg t (⟨g, .setJmp ph assign⟩ :: rest) s =
      match setJmp s.st (phaseFn cfg t (phaseOfNat ph)) with
      | .error f => .error f
      | .ok j =>
        match j.esc with
        | some k => .ok ⟨⟨j.st, s.evs ++ j.evs, s.jump⟩, some k⟩
        | none => execStmts cfg t rest ⟨j.st, s.evs ++ j.evs, if assign then j.ret else s.jump⟩ := by
  rw [execStmts, h]; rfl

theorem utestRunGen_noexc (cfg : Cfg) (t : Test) (st : TSt) (hx : cfg.exceptions = false) :
    utestRunGen cfg t st = utestRunNoExc cfg t st := by
  unfold utestRunGen utestRunCode utestRunNoExc
  rw [hx, if_neg Bool.false_ne_true]
  unfold utestRunNoExcCode
  simp only [execBlocks, execBlock, execStmts_setJmp, Bool.false_and, phaseOfNat]
  cases setJmp st (phaseFn cfg t .setup) with
  | error f => rfl
  | ok j1 =>
    dsimp only [bodyNoExc]
    cases he : j1.esc with
    | some k => rfl
    | none =>
      cases hr : j1.ret with
      | false =>
        simp only [execStmts_skip, execStmts_setJmp, if_true, Bool.false_and, phaseOfNat, teardownNoExc,
          Bool.false_eq_true, if_false, List.nil_append]
        cases setJmp j1.st (phaseFn cfg t .teardown) with
        | error f => rfl
        | ok j3 => cases he3 : j3.esc <;> simp only [noEsc, he3, execStmts, accOf, findCatch]
      | true =>
        simp only [execStmts_setJmp, if_true, Bool.not_true, Bool.and_false, phaseOfNat, List.nil_append]
        cases setJmp j1.st (phaseFn cfg t .body) with
        | error f => rfl
        | ok j2 =>
          cases he2 : j2.esc with
          | some k => simp only [noEsc, he2, accOf, findCatch]
          | none =>
            simp only [execStmts_setJmp, Bool.false_and, phaseOfNat, teardownNoExc, noEsc, he2]
            cases setJmp j2.st (phaseFn cfg t .teardown) with
            | error f => rfl
            | ok j3 => cases he3 : j3.esc <;> simp only [he3, execStmts, accOf, findCatch]

theorem catches_eq : ∀ b ∈ utestRunExcCode, b.catches =
    [⟨.failed, [.restore]⟩, ⟨.std, [.addFailure true, .restore, .rethrowIfMode]⟩,
     ⟨.any, [.addFailure false, .restore, .rethrowIfMode]⟩] := by
  decide +kernel

theorem handlers_eq (cfg : Cfg) (t : Test) (b : TryBlock) (hb : b ∈ utestRunExcCode) (k : ExcKind) (a : Acc) :
    (match findCatch b.catches k with
      | none => .error (.fault .uncaught)
      | some c => execCatch cfg t k c.ops a) = catchClauses cfg t a.st a.evs k := by
  rw [catches_eq b hb]
  cases k <;> cases hr : cfg.rethrow <;>
    simp [findCatch, patMatches, execCatch, catchClauses, restoreJumpBuffer, shellAddFailure, TSt.dec, hr]

theorem execBlock_try (cfg : Cfg) (t : Test) (b : TryBlock) (hb : b ∈ utestRunExcCode) (s : ISt) :
    execBlock cfg t b s =
      match execStmts cfg t b.body s with
      | .error f => .error f
      | .ok o =>
        match o.esc with
        | none => .ok o.s
        | some k =>
          match catchClauses cfg t o.s.st o.s.evs k with
          | .error f => .error f
          | .ok a => .ok ⟨a.st, a.evs, o.s.jump⟩ := by
  unfold execBlock
  cases execStmts cfg t b.body s with
  | error f => rfl
  | ok o =>
    dsimp only
    cases he : o.esc with
    | none => rfl
    | some k =>
      dsimp only
      have h := handlers_eq cfg t b hb k ⟨o.s.st, o.s.evs⟩
      cases hf : findCatch b.catches k with
      | none => rw [hf] at h; rw [← h]
      | some c => rw [hf] at h; dsimp only at h ⊢; rw [h]; rfl

theorem tryBlock2_gen (cfg : Cfg) (t : Test) (hx : cfg.exceptions = true) (s : ISt) :
    accOf (execBlocks cfg t (utestRunExcCode.drop 1) s) = tryBlock2 cfg t ⟨s.st, s.evs⟩ := by
  unfold utestRunExcCode tryBlock2
  simp only [List.drop, execBlocks]
  rw [execBlock_try cfg t _ (.tail _ (.head _))]
  simp only [execStmts_vv, execStmts_setJmp, Bool.false_and, phaseOfNat, vvU_eq, hx, if_true]
  cases setJmp s.st (phaseFn cfg t .teardown) with
  | error f => rfl
  | ok j =>
    cases he : j.esc with
    | none => simp only [he, afterTry, execStmts, accOf, vvBefore, vvAfter]
    | some k =>
      simp only [he, afterTry, vvBefore]
      generalize catchClauses cfg t _ _ k = r
      cases r <;> rfl

theorem tryBlock1_gen (cfg : Cfg) (t : Test) (hx : cfg.exceptions = true) (b : TryBlock)
    (hb : utestRunExcCode.head? = some b) (st : TSt) :
    accOf (execBlock cfg t b ⟨st, [], false⟩) = tryBlock1 cfg t st := by
  simp only [utestRunExcCode, List.head?, Option.some.injEq] at hb
  subst hb
  rw [execBlock_try cfg t _ (.head _)]
  simp only [execStmts_vv, execStmts_setJmp, Bool.false_and, phaseOfNat, List.nil_append]
  unfold tryBlock1
  cases setJmp st (phaseFn cfg t .setup) with
  | error f => rfl
  | ok j1 =>
    cases he : j1.esc with
    | some k =>
      simp only [he, afterTry, vvBefore, vvU_eq, hx, if_true]
      generalize catchClauses cfg t _ _ k = r
      cases r <;> rfl
    | none =>
      simp only [afterTry, he, bodyIfSetupReturned, vvBefore, vvAfter, vvU_eq, hx, if_true]
      cases hr : j1.ret with
      | false =>
        simp only [execStmts_skip]
        simp only [execStmts, accOf, Bool.false_eq_true, if_false]
      | true =>
        simp only [execStmts_vv, execStmts_setJmp, Bool.not_true, Bool.and_false, if_true, phaseOfNat]
        cases setJmp j1.st (phaseFn cfg t .body) with
        | error f => rfl
        | ok j2 =>
          dsimp only
          cases he2 : j2.esc with
          | none =>
            simp only [execStmts_vv, Bool.false_eq_true, if_false, Bool.not_true, Bool.and_false]
            simp only [execStmts, accOf]
          | some k =>
            dsimp only
            generalize catchClauses cfg t _ _ k = r
            cases r <;> rfl

theorem utestRunGen_exc (cfg : Cfg) (t : Test) (st : TSt) (hx : cfg.exceptions = true) :
    utestRunGen cfg t st = utestRunExc cfg t st := by
  unfold utestRunGen utestRunCode utestRunExc
  rw [if_pos hx]
  have h1 := tryBlock1_gen cfg t hx
  have h2 := tryBlock2_gen cfg t hx
  unfold utestRunExcCode at h1 h2 ⊢
  rw [execBlocks, ← h1 _ rfl st]
  cases execBlock cfg t _ ⟨st, [], false⟩ with
  | error f => rfl
  | ok s => exact h2 s

/-- the hand-written `Utest::run` of the model is what the interpreter makes of
    the regenerated try blocks / statements / catch clauses, in both build variants -/
theorem utestRunGen_eq (cfg : Cfg) (t : Test) (st : TSt) : utestRunGen cfg t st = utestRun cfg t st := by
  unfold utestRun
  cases hx : cfg.exceptions
  · simpa [hx] using utestRunGen_noexc cfg t st hx
  · simpa [hx] using utestRunGen_exc cfg t st hx

theorem runOneTestInCurrentProcessGen_eq (cfg : Cfg) (plugins : List Plugin) (t : Test) (st : TSt) :
    runOneTestInCurrentProcessGen cfg plugins t st = runOneTestInCurrentProcess cfg plugins t st := by
  simp only [runOneTestInCurrentProcessGen, oneTestBefore, oneTestTry, oneTestCatchAll, oneTestAfter, execOneOps,
    execOneOp, utestRunGen_eq, runOneTestInCurrentProcess]
  cases utestRun cfg t { (runAllPre cfg t plugins st).st with current := some t.name } with
  | error f => simp [handlerRethrows, beforeRun, Stop.prepend]
  | ok a => simp [afterRun, beforeRun]

/-! ## TestOutput::printFailure -/

theorem layout_gen (r : FailRec) :
    twoLocationLayout (isOutsideTestFile r.testFile r.file) (isInHelperFunction r.testLine r.line) = r.twoLocations := by
  simp [twoLocationLayout, isOutsideTestFile, isInHelperFunction, FailRec.twoLocations]

theorem failureToksGen_eclipse (r : FailRec) : failureToksGen false r = failureToks r := by
  unfold failureToksGen failureToks
  rw [layout_gen]
  cases r.twoLocations <;>
    simp [twoLocationParts, oneLocationParts, renderPart, renderItems, locItems, usesVisualStudioForm,
      eclipseLoc, failureInTest, failureMessage, locToks]

theorem failureToksGen_vs (r : FailRec) : failureToksGen true r = failureToksVS r := by
  unfold failureToksGen failureToksVS
  rw [layout_gen]
  cases r.twoLocations <;>
    simp [twoLocationParts, oneLocationParts, renderPart, renderItems, locItems, usesVisualStudioForm,
      visualStudioLoc, failureInTest, failureMessage, locToksVS]

/-! ## ConsoleTestOutput::printBuffer on a buffered stream -/

theorem console_print_flushed (s : Stream) (x : String) : consolePrint s x = ⟨s.visible ++ s.pending ++ [x], []⟩ := by
  simp [consolePrint, consolePrintBufferCode, consoleFlushCode, execPrintBuffer, execFlushCode, Stream.flushed]

theorem consolePrintAll_cons : ∀ (xs : List String) (x : String) (s : Stream),
    consolePrintAll s (x :: xs) = ⟨s.visible ++ s.pending ++ x :: xs, []⟩
  | [], x, s => by simp [consolePrintAll, console_print_flushed]
  | y :: xs, x, s => by
    have ih := consolePrintAll_cons xs y (consolePrint s x)
    simp only [consolePrintAll, List.foldl_cons] at ih ⊢
    rw [ih, console_print_flushed]
    simp

/-- every string printed by a process that then ends with `_exit` (the child of `-p`) or is killed has
    reached the file descriptor -/
theorem printed_text_survives_exit (s : Stream) (hs : s.pending = []) (xs : List String) :
    (consolePrintAll s xs).afterExit = s.visible ++ xs ∧ (consolePrintAll s xs).pending = [] := by
  cases xs with
  | nil => simp [consolePrintAll, Stream.afterExit, hs]
  | cons x xs => rw [consolePrintAll_cons]; simp [Stream.afterExit, hs]

/-- why the flush is needed: the same prints through a `printBuffer` that only writes are lost -/
theorem unflushed_text_is_lost (xs : List String) :
    (xs.foldl (fun s x => execPrintBuffer consoleFlushCode x [.fputs] s) ({} : Stream)).afterExit = [] ∧
    (xs.foldl (fun s x => execPrintBuffer consoleFlushCode x [.fputs] s) ({} : Stream)).afterNormalEnd = xs := by
  have h : ∀ (xs : List String) (s : Stream),
      xs.foldl (fun s x => execPrintBuffer consoleFlushCode x [.fputs] s) s = ⟨s.visible, s.pending ++ xs⟩ := by
    intro xs
    induction xs with
    | nil => intro s; simp
    | cons x xs ih => intro s; simp only [List.foldl_cons]; rw [ih]; simp [execPrintBuffer]
  rw [h]
  simp [Stream.afterExit, Stream.afterNormalEnd]

theorem receivedBy_forward {α} (who : Receiver) : ∀ (calls : List (String × α)),
    (∀ c ∈ calls, receiversOf c.1 = [.one, .two]) → receivedBy who (compositeForward calls) = calls
  | [], _ => rfl
  | c :: calls, h => by
    have ih := receivedBy_forward who calls (fun x hx => h x (by simp [hx]))
    have hc := h c (by simp)
    unfold receivedBy compositeForward at ih ⊢
    rw [List.flatMap_cons, hc, List.filter_append, List.map_append, ih]
    cases who <;> simp

theorem receiversOf_known : ∀ n ∈ ["printTestsStarted", "printTestsEnded", "printCurrentTestStarted", "printCurrentTestEnded",
      "printCurrentGroupStarted", "printCurrentGroupEnded", "verbose", "color", "printBuffer", "print", "printDouble",
      "printFailure", "setProgressIndicator", "printVeryVerbose", "flush"], receiversOf n = [.one, .two] := by
  decide +kernel

end Runner
