import CppUModel.Proofs.JUnitReader
/-!
Numbers and times are read back; the token list of a report (`docR`); the templates of the specification are the generic
rendering of that token list.
-/
namespace JUnit
open Text (Bytes)
open OutEv

theorem digitStep_digit (a n : Nat) : digitStep (some a) (digit n) = some (a * 10 + n % 10) := by
  simp only [digitStep, digit_range n, and_self, if_true]

theorem digitsVal?_dec (d : Nat) : digitsVal? (dec d) = some d := readDec_dec digitStep_digit d

/-- a byte of a decimal number is neither `-` nor `.` -/
def numByte (s : Bytes) : Prop := ∀ c ∈ s, c ≠ 45 ∧ c ≠ 46

theorem dec_numByte (n : Nat) : numByte (dec n) := dec_forall _ (by decide) n

theorem intOfBytes?_showInt (z : Int) : intOfBytes? (showInt z) = some z := by
  unfold showInt
  split
  · rename_i hz
    simp only [intOfBytes?, if_true, digitsVal?_dec]
    have : -(z.natAbs : Int) = z := by omega
    simpa using this
  · rename_i hz
    obtain ⟨c, ds, hcd⟩ := List.exists_cons_of_ne_nil (dec_ne_nil z.natAbs)
    have hc : c ≠ 45 := (dec_numByte z.natAbs c (by rw [hcd]; exact List.mem_cons_self ..)).1
    have hv := digitsVal?_dec z.natAbs
    rw [hcd] at hv ⊢
    simp only [intOfBytes?, hc, if_false, hv]
    have : (z.natAbs : Int) = z := by omega
    simpa using this

theorem splitAtDot_append (rest a acc : Bytes) (h : ∀ c ∈ a, c ≠ 46) :
    splitAtDot (a ++ 46 :: rest) acc = some (acc.reverse ++ a, rest) := by
  rw [ListLemmas.scan_push (fun acc s => splitAtDot s acc) (· ≠ 46) (fun b acc r hb => by simp [splitAtDot, hb]) a acc _ h]
  simp [splitAtDot]

theorem showInt_no_dot (z : Int) : ∀ c ∈ showInt z, c ≠ 46 := by
  intro c hc
  unfold showInt at hc
  split at hc
  · rcases List.mem_cons.mp hc with e | e
    · subst e; decide
    · exact (dec_numByte _ c e).2
  · exact (dec_numByte _ c hc).2

theorem digitsVal?_millis (m : Nat) (hm : m < 1000) : digitsVal? [digit (m / 100), digit (m / 10), digit m] = some m := by
  simp only [digitsVal?, List.isEmpty_cons, Bool.false_eq_true, if_false, List.foldl_cons, List.foldl_nil, digitStep_digit]
  congr 1; omega

theorem getTime_of (as : List (Bytes × Bytes)) (k : String) (secs : Int) (m : Nat) (hm : m < 1000)
    (h : getAttr as k = .ok (showTime secs m)) : getTime as k = .ok (secs, m) := by
  have h1 : showTime secs m = showInt secs ++ 46 :: [digit (m / 100), digit (m / 10), digit m] := by simp [showTime]
  rw [getTime, h]
  simp only [h1, splitAtDot_append _ _ [] (showInt_no_dot secs)]
  simp [intOfBytes?_showInt, digitsVal?_millis m hm]

def caseKeys : List Bytes := [lit "classname", lit "name", lit "assertions", lit "time", lit "file", lit "line"]

def caseAttrs (c : Case) : List (Bytes × Bytes) :=
  caseKeys.zip [c.classname, c.name, showInt c.assertions, showTime c.secs c.millis, c.file, showInt c.line]

def failureKeys : List Bytes := [lit "message", lit "type"]

def caseChildren (c : Case) : List RTok :=
  match c.failure with
  | some m => [.tok (.open_ (lit "failure") (failureKeys.zip [m, lit "AssertionFailedError"]) false), .nl,
               .tok (.close (lit "failure")), .nl]
  | none => if c.skipped then [.tok (.open_ (lit "skipped") [] true), .nl] else []

def caseR (c : Case) : List RTok :=
  [.tok (.open_ (lit "testcase") (caseAttrs c) false), .nl] ++ caseChildren c ++ [.tok (.close (lit "testcase")), .nl]

def suiteKeys : List Bytes :=
  [lit "errors", lit "failures", lit "hostname", lit "name", lit "tests", lit "time", lit "timestamp"]

def suiteAttrs (su : Suite) : List (Bytes × Bytes) :=
  suiteKeys.zip [lit "0", showInt su.failures, lit "localhost", su.name, showInt su.tests, showTime su.secs su.millis,
    su.timestamp]

def suiteHead (su : Suite) : List RTok :=
  [.tok .pi, .nl, .tok (.open_ (lit "testsuite") (suiteAttrs su) false), .nl,
   .tok (.open_ (lit "properties") [] false), .nl, .tok (.close (lit "properties")), .nl]

def suiteTail (su : Suite) : List RTok :=
  [.tok (.open_ (lit "system-out") [] false)] ++ (if su.stdout = [] then [] else [.tok (.text su.stdout)]) ++
  [.tok (.close (lit "system-out")), .nl, .tok (.open_ (lit "system-err") [] false), .tok (.close (lit "system-err")), .nl,
   .tok (.close (lit "testsuite")), .nl]

def docR (su : Suite) : List RTok := suiteHead su ++ (su.cases.flatMap caseR ++ suiteTail su)

theorem encodeRef_showInt (z : Int) : encodeRef (showInt z) = showInt z := encodeRef_plain _ (fmtInt_plain z)

theorem encodeRef_showTime (secs : Int) (m : Nat) : encodeRef (showTime secs m) = showTime secs m := by
  apply encodeRef_plain
  unfold showTime
  exact plain_append (plain_append (fmtInt_plain secs) (by decide))
    (plain_cons (digit_plain _) (plain_cons (digit_plain _) (digit_plain _)))

/-! ## the templates of the specification are the generic rendering

Both sides are concatenations of literals and fields.  The rendering is unfolded down to its literal pieces, adjacent
literals are joined (`lit_append`, the strings themselves by `String.reduceAppend`), and the two sides are then the
same text. -/

theorem renderR_append (a b : List RTok) : renderR (a ++ b) = renderR a ++ renderR b := by simp [renderR]

theorem caseChildren_render (c : Case) :
    renderR (caseChildren c) =
      match c.failure with
      | some m => lit "<failure message=\"" ++ encodeRef m ++ lit "\" type=\"AssertionFailedError\">\n" ++ lit "</failure>\n"
      | none => if c.skipped then lit "<skipped />\n" else [] := by
  have e1 : encodeRef (lit "AssertionFailedError") = lit "AssertionFailedError" := encodeRef_plain _ (by decide +kernel)
  unfold caseChildren failureKeys
  cases c.failure with
  | some m =>
    simp only [renderR, RTok.render, Tok.render, renderAttrs, renderAttr, tagEnd, List.zip_cons_cons, List.zip_nil_right,
      List.flatMap_cons, List.flatMap_nil, e1, List.append_assoc, List.append_nil, lit_append_append,
      ← lit_append, String.reduceAppend, if_false, Bool.false_eq_true]
  | none =>
    cases c.skipped
    · rfl
    · simp only [renderR, RTok.render, Tok.render, renderAttrs, tagEnd, List.flatMap_cons, List.flatMap_nil,
        List.append_nil, ← lit_append, String.reduceAppend, if_true]

theorem case_render_eq (c : Case) : c.render = renderR (caseR c) := by
  unfold Case.render caseR caseAttrs caseKeys
  rw [renderR_append, renderR_append, caseChildren_render]
  simp only [renderR, RTok.render, Tok.render, renderAttrs, renderAttr, tagEnd, List.zip_cons_cons, List.zip_nil_right,
    List.flatMap_cons, List.flatMap_nil, encodeRef_showInt, encodeRef_showTime, List.append_assoc,
    List.append_nil, lit_append_append, ← lit_append, String.reduceAppend, if_false, Bool.false_eq_true]
  rfl

theorem renderR_flatMap (cs : List Case) : renderR (cs.flatMap caseR) = cs.flatMap Case.render := by
  induction cs with
  | nil => rfl
  | cons c cs ih => simp [List.flatMap_cons, renderR_append, ih, case_render_eq]

theorem renderR_optText (t : Bytes) : renderR (if t = [] then [] else [.tok (.text t)]) = encodeRef t := by
  split
  · next h => rw [h]; rfl
  · simp [renderR, RTok.render, Tok.render]

theorem suite_render_eq (su : Suite) (hts : encodeRef su.timestamp = su.timestamp) : su.render = renderR (docR su) := by
  have e0 : encodeRef (lit "0") = lit "0" := encodeRef_plain _ (by decide +kernel)
  have e1 : encodeRef (lit "localhost") = lit "localhost" := encodeRef_plain _ (by decide +kernel)
  unfold docR Suite.render suiteHead suiteTail suiteAttrs suiteKeys
  rw [renderR_append, renderR_append, renderR_append, renderR_append, renderR_flatMap, renderR_optText]
  simp only [renderR, RTok.render, Tok.render, piText, piBody, renderAttrs, renderAttr, tagEnd, List.zip_cons_cons,
    List.zip_nil_right, List.flatMap_cons, List.flatMap_nil, encodeRef_showInt, encodeRef_showTime, hts, e0, e1, List.append_assoc,
    List.append_nil, lit_append_append, ← lit_append, String.reduceAppend, if_false, Bool.false_eq_true]

end JUnit
