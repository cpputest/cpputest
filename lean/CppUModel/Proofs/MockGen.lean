import CppUModel.Model.Mock
import CppUModel.Model.MockText
import CppUModel.Gen.MockLists
/-!
The definitions regenerated from `MockExpectedCallsList.cpp` / `MockExpectedCall.cpp`
(`Gen/MockLists.lean`) are the hand-written model functions the C08 theorems are about.
-/
namespace Mock
open Gen.MockLists

theorem gen_isFulfilled (e : Exp) : isFulfilled e = e.isFulfilled := rfl
theorem gen_canMatchActualCalls (e : Exp) : canMatchActualCalls e = e.canMatch := rfl
theorem gen_isMatchingActualCall (e : Exp) : isMatchingActualCall e = e.isMatching := rfl
theorem gen_isMatchingActualCallAndFinalized (e : Exp) : isMatchingActualCallAndFinalized e = e.isMatchingFinalized := rfl
theorem gen_hasInputParameter (e : Exp) (n : String) (v : Val) : hasInputParameter e n v = e.hasInput n v := rfl
theorem gen_hasOutputParameter (e : Exp) (n : String) : hasOutputParameter e n = e.hasOutput n := rfl

theorem gen_relatesTo (e : Exp) (n : String) : relatesTo e n = (e.name == n) := by
  unfold relatesTo
  rw [Bool.eq_iff_iff]
  simp only [beq_iff_eq]
  exact eq_comm

theorem gen_relatesToObject (e : Exp) (o : Nat) : relatesToObject e o = e.relatesToObject o := by
  unfold relatesToObject Exp.relatesToObject
  cases h : e.obj with
  | none => simp
  | some x => simp

theorem gen_reset (e : Exp) : resetActualCallMatchingState e = e.reset := by
  unfold resetActualCallMatchingState Exp.reset
  cases h : e.obj <;> simp

theorem gen_outOfOrderCondition (e : Exp) (order : Nat) :
    outOfOrderCondition e order = (e.lo != 0 && (decide (order < e.lo) || decide (e.hi < order))) := by
  unfold outOfOrderCondition
  rw [Bool.eq_iff_iff]
  simp [bne_iff_ne, gt_iff_lt]

theorem gen_callWasMade (e : Exp) (order : Nat) : callWasMade e order = e.callWasMade order := by
  unfold callWasMade Exp.callWasMade
  rw [gen_reset, gen_outOfOrderCondition]
  congr 2
  cases e.outOfOrder <;> cases (e.lo != 0 && (decide (order < e.lo) || decide (e.hi < order))) <;> rfl

/-! ### the pruning loops -/

theorem drop_of_not_cand {e : Exp} (h : e.cand = false) : ({ e with cand := false } : Exp) = e := by
  cases e; simp_all

/-- `withName`: the list `onlyKeepExpectationsRelatedTo(name)` leaves is the model's -/
theorem gen_onlyKeepExpectationsRelatedTo (n : String) (es : List Exp) :
    onlyKeepExpectationsRelatedTo n es = es.map (fun e => { e with cand := e.cand && e.name == n }) := by
  unfold onlyKeepExpectationsRelatedTo
  apply List.map_congr_left
  intro e _
  rw [gen_relatesTo]
  cases hc : e.cand
  · simp [drop_of_not_cand hc]
  · cases hn : (e.name == n) <;> simp
    rw [← hc]

theorem gen_onlyKeepExpectationsWithInputParameter (n : String) (v : Val) (es : List Exp) :
    onlyKeepExpectationsWithInputParameter n v es =
      es.map (fun e => if e.cand && !(fun e => e.hasInput n v) e then { e.reset with cand := false } else e) := by
  simp only [onlyKeepExpectationsWithInputParameter, gen_hasInputParameter, gen_reset]

theorem gen_onlyKeepExpectationsWithOutputParameter (n : String) (es : List Exp) :
    onlyKeepExpectationsWithOutputParameter n es =
      es.map (fun e => if e.cand && !(fun e => e.hasOutput n) e then { e.reset with cand := false } else e) := by
  simp only [onlyKeepExpectationsWithOutputParameter, gen_hasOutputParameter, gen_reset]

theorem gen_onlyKeepExpectationsOnObject (o : Nat) (es : List Exp) :
    onlyKeepExpectationsOnObject o es =
      es.map (fun e => if e.cand && !e.relatesToObject o then { e.reset with cand := false } else e) := by
  simp only [onlyKeepExpectationsOnObject, gen_relatesToObject, gen_reset]

/-- `discardCurrentlyMatchingExpectations` on the candidates is `onlyKeepUnmatchingExpectations` -/
theorem gen_onlyKeepUnmatchingExpectations (es : List Exp) (h : ∀ e ∈ es, e.isMatch = false) :
    onlyKeepUnmatchingExpectations es = es.map discardE := by
  unfold onlyKeepUnmatchingExpectations
  apply List.map_congr_left
  intro e he
  simp only [gen_isMatchingActualCallAndFinalized, gen_reset, discardE, h e he, isMF, Bool.false_eq_true, if_false]
  rfl

theorem gen_addPotentiallyMatchingExpectations (es : List Exp) : addPotentiallyMatchingExpectations es = beginCall es := rfl

theorem gen_firstFinalizedMatching (es : List Exp) :
    removeFirstFinalizedMatchingExpectation_result es = es.find? isMF ∧
    removeFirstFinalizedMatchingExpectation_list es = modifyFirst isMF Exp.take es := ⟨rfl, rfl⟩

theorem gen_firstMatching (es : List Exp) :
    getFirstMatchingExpectation_result es = es.find? isM ∧
    removeFirstMatchingExpectation_result es = es.find? isM ∧
    removeFirstMatchingExpectation_list es = modifyFirst isM Exp.take es := ⟨rfl, rfl, rfl⟩

theorem gen_hasExpectationWithName (n : String) (es : List Exp) :
    hasExpectationWithName n es = es.any (fun e => e.name == n) := by
  simp only [hasExpectationWithName, gen_relatesTo]

theorem gen_isEmpty (es : List Exp) : isEmpty es = !anyCand es := rfl

theorem gen_amountOfActualCallsFulfilledFor (es : List Exp) (n : String) :
    amountOfActualCallsFulfilledFor es n = totalActualFor es n := by
  simp only [amountOfActualCallsFulfilledFor, totalActualFor, gen_relatesTo]

theorem gen_resetAll (es : List Exp) : resetActualCallMatchingState_all es = resetCands es := by
  simp only [resetActualCallMatchingState_all, resetCands, gen_reset]

theorem gen_parameterWasPassed_all (n : String) (es : List Exp) :
    parameterWasPassed_all n es = es.map (fun e => if e.cand then (fun e => e.passInput n) e else e) := rfl

theorem gen_outputParameterWasPassed_all (n : String) (es : List Exp) :
    outputParameterWasPassed_all n es = es.map (fun e => if e.cand then (fun e => e.passOutput n) e else e) := rfl

theorem gen_queries (es : List Exp) (n : String) :
    hasFinalizedMatchingExpectations es = es.any isMF ∧
    hasUnmatchingExpectationsBecauseOfMissingParameters es = es.any (fun e => e.cand && !e.paramsMatching) ∧
    hasUnfulfilledExpectations es = es.any (fun e => !e.isFulfilled) ∧
    hasCallsOutOfOrder es = es.any (·.outOfOrder) ∧
    hasExpectationWithName n es = es.any (fun e => e.name == n) ∧
    isEmpty es = !anyCand es ∧
    amountOfActualCallsFulfilledFor es n = totalActualFor es n :=
  ⟨rfl, rfl, rfl, rfl, gen_hasExpectationWithName n es, gen_isEmpty es, gen_amountOfActualCallsFulfilledFor es n⟩

theorem gen_setters (es : List Exp) (n : String) :
    resetActualCallMatchingState_all es = resetCands es ∧
    wasPassedToObject_all es = es.map (fun e => if e.cand then { e with passedObj := true } else e) ∧
    parameterWasPassed_all n es = es.map (fun e => if e.cand then (fun e => e.passInput n) e else e) ∧
    outputParameterWasPassed_all n es = es.map (fun e => if e.cand then (fun e => e.passOutput n) e else e) :=
  ⟨gen_resetAll es, rfl, gen_parameterWasPassed_all n es, gen_outputParameterWasPassed_all n es⟩

/-- the sections of the failure history, and the lists the failure constructors build -/
theorem gen_history_sections (es : List Exp) (fn pn : String) :
    unfulfilledCallsSection es = unfulfilledOf es ∧ fulfilledCallsSection es = fulfilledOf es ∧
    addExpectationsRelatedTo fn es = relatedTo fn es ∧
    onlyKeepOutOfOrderExpectations (addExpectations es) = es.filter (·.outOfOrder) ∧
    onlyKeepExpectationsWithInputParameterName pn (addExpectationsRelatedTo fn es) = es.filter (fun e => e.name == fn && e.hasInputNamed pn) ∧
    onlyKeepExpectationsWithOutputParameterName pn (addExpectationsRelatedTo fn es) = es.filter (fun e => e.name == fn && e.hasOutputNamed pn) := by
  refine ⟨rfl, rfl, ?_, ?_, ?_, ?_⟩
  · simp only [addExpectationsRelatedTo, relatedTo, gen_relatesTo]
  · simp [onlyKeepOutOfOrderExpectations, addExpectations]
  · simp [onlyKeepExpectationsWithInputParameterName, addExpectationsRelatedTo, gen_relatesTo, List.filter_filter, Bool.and_comm]
  · simp [onlyKeepExpectationsWithOutputParameterName, addExpectationsRelatedTo, gen_relatesTo, List.filter_filter, Bool.and_comm]

/-- `checkInputParameter` / `checkOutputParameter` in the statement order of the source: prune, `isEmpty` → failure, else mark
    what is left and `completeCallWhenMatchIsFound` -/
theorem checkParam_pipeline (cs : CS) (keep : Exp → Bool) (pass : Exp → Exp) (msg : String) :
    checkParam cs keep pass msg =
      let es2 := (cs.es.map discardE).map (fun e => if e.cand && !keep e then { e.reset with cand := false } else e)
      if cs.call.state = .failed then cs
      else if !anyCand es2 then failCall { cs with es := es2, call := { cs.call with state := .inProgress } } msg
      else complete { cs with es := es2.map (fun e => if e.cand then pass e else e), call := { cs.call with state := .inProgress } } := by
  unfold checkParam
  split
  · rfl
  · show (if anyCand _ = true then _ else _) = (if (!anyCand _) = true then _ else _)
    cases anyCand _ <;> rfl

/-- `checkInputParameter` as the source composes it from the list primitives:
    `discardCurrentlyMatchingExpectations` (no current match here) → `onlyKeepUnmatchingExpectations`,
    `onlyKeepExpectationsWithInputParameter`, `isEmpty` → failure, else `parameterWasPassed` and
    `completeCallWhenMatchIsFound` — every primitive being the regenerated one -/
theorem gen_checkInput_pipeline (cs : CS) (n : String) (v : Val) (hm : ∀ e ∈ cs.es, e.isMatch = false) :
    checkInput cs n v =
      if cs.call.state = .failed then cs
      else if isEmpty (onlyKeepExpectationsWithInputParameter n v (onlyKeepUnmatchingExpectations cs.es)) then
        failCall { cs with es := onlyKeepExpectationsWithInputParameter n v (onlyKeepUnmatchingExpectations cs.es),
                           call := { cs.call with state := .inProgress } } (msgUnexpectedInput cs.es cs.call.name n)
      else complete { cs with es := parameterWasPassed_all n (onlyKeepExpectationsWithInputParameter n v (onlyKeepUnmatchingExpectations cs.es)),
                              call := { cs.call with state := .inProgress } } := by
  rw [gen_onlyKeepUnmatchingExpectations cs.es hm, gen_onlyKeepExpectationsWithInputParameter, gen_isEmpty,
    gen_parameterWasPassed_all]
  exact checkParam_pipeline cs _ _ _

/-- the same for `checkOutputParameter` (after `addOutputParameter`) -/
theorem gen_checkOutput_pipeline (cs0 : CS) (n : String) (buf : List UInt8) (hm : ∀ e ∈ cs0.es, e.isMatch = false) :
    checkOutput cs0 n buf =
      let cs : CS := { cs0 with call := { cs0.call with bufs := cs0.call.bufs ++ [(n, buf)] } }
      if cs.call.state = .failed then cs
      else if isEmpty (onlyKeepExpectationsWithOutputParameter n (onlyKeepUnmatchingExpectations cs.es)) then
        failCall { cs with es := onlyKeepExpectationsWithOutputParameter n (onlyKeepUnmatchingExpectations cs.es),
                           call := { cs.call with state := .inProgress } } (msgUnexpectedOutput cs0.es cs0.call.name n)
      else complete { cs with es := outputParameterWasPassed_all n (onlyKeepExpectationsWithOutputParameter n (onlyKeepUnmatchingExpectations cs.es)),
                              call := { cs.call with state := .inProgress } } := by
  simp only []
  rw [gen_onlyKeepUnmatchingExpectations cs0.es hm, gen_onlyKeepExpectationsWithOutputParameter, gen_isEmpty,
    gen_outputParameterWasPassed_all]
  exact checkParam_pipeline _ _ _ _

/-- finishing a fulfilled call counts it with the regenerated `callWasMade` and resets the candidates with the
    regenerated for-each reset -/
theorem gen_callCheck_succeed (cs : CS) (hc : cs.call.checked = false) (hs : cs.call.state = .succeed) :
    (callCheck cs).es = resetActualCallMatchingState_all (cs.es.map (fun e => if e.isMatch then callWasMade e cs.call.order else e)) := by
  unfold callCheck
  simp only [hc, Bool.false_eq_true, if_false, hs, gen_resetAll]
  congr 1
  apply List.map_congr_left
  intro e _
  rw [gen_callWasMade]

/-- `expectNCalls` under `strictOrder()`: the new expectation gets the regenerated order window and
    `expectedCallOrder_` advances by the regenerated amount -/
theorem gen_expectN_strict (sc : Scope) (n : Nat) (fn : String) (segs : List ESeg)
    (hen : sc.enabled = true) (hs : sc.strict = true) :
    sc.expectN n fn segs =
      { sc with es := sc.es ++ [segs.foldl Exp.addSeg (Exp.new (sc.fullName fn) n
                          (expectNCalls_initialOrder sc.expectedOrder n) (expectNCalls_finalOrder sc.expectedOrder n))],
                expectedOrder := expectNCalls_nextOrder sc.expectedOrder n } := by
  simp [Scope.expectN, hen, hs, expectNCalls_initialOrder, expectNCalls_finalOrder, expectNCalls_nextOrder]

/-- without `strictOrder()` no window is given (`NO_EXPECTED_CALL_ORDER`) and the counter stays -/
theorem gen_expectN_plain (sc : Scope) (n : Nat) (fn : String) (segs : List ESeg)
    (hen : sc.enabled = true) (hs : sc.strict = false) :
    sc.expectN n fn segs = { sc with es := sc.es ++ [segs.foldl Exp.addSeg (Exp.new (sc.fullName fn) n 0 0)] } := by
  simp [Scope.expectN, hen, hs]

/-- `expectOneCall` / `expectNoCall` are `expectNCalls(1, …)` / `expectNCalls(0, …)` -/
theorem gen_expect_amounts : expectOneCall_amount = 1 ∧ expectNoCall_amount = 0 := by decide

/-- routing of an actual call on an enabled `MockSupport`: ignored iff the regenerated `callIsIgnored`, and a checked
    call advances `actualCallOrder_` as `createActualCall` does -/
theorem gen_startCall_routing (sc : Scope) (full : String) (hen : sc.enabled = true) :
    (sc.startCall full).ignored = callIsIgnored sc.ioc (hasExpectationWithName full sc.es) ∧
    ((sc.startCall full).ignored = false →
      (sc.startCall full).sc.actualOrder = createActualCall_counter sc.actualOrder ∧
      createActualCall_order sc.actualOrder = sc.actualOrder + 1) := by
  rw [gen_hasExpectationWithName]
  unfold Scope.startCall callIsIgnored createActualCall_counter createActualCall_order
  simp only [hen, Bool.not_true, Bool.false_eq_true, if_false]
  cases h : (sc.ioc && !sc.es.any (fun e => e.name == full)) with
  | true => simp
  | false => simp

/-- the statement order of `MockSupport::actualCall` and `MockSupport::checkExpectations` is the one the model follows:
    scoped name; finish and delete the call in flight; disabled → ignored; tracing; ignoreOtherCalls → ignored; checked call.
    Finish the calls in flight; unfulfilled expectations; out-of-order calls. -/
theorem gen_statement_order :
    actualCall_steps = ["scopeName", "finishPrevious", "disabled", "tracing", "ignored", "checked"] ∧
    checkExpectations_steps = ["finishCalls", "unfulfilled", "outOfOrder"] := by decide

end Mock
