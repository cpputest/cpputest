import CppUModel.Model.LeakOverloads
import CppUModel.Spec.LeakDetector
import CppUModel.Proofs.ListLemmas
import CppUModel.Proofs.Writes
/-!
The function-pointer store and the switch functions of `Model/LeakOverloads.lean`.

A run of assignments is read off its list: a destination that occurs once holds what its assignment gave it, every
other variable is untouched.  What a global entry point does depends on the store only through the value of the
pointer it forwards to, so in a position described by an assignment list `T` it is decided by `T` and the wrapper
tables.  What a wrapper of the regenerated tables does is three facts: which allocator, the one call it makes, and the
layout flag of its row.  The facts about the regenerated tables are evaluated here, one declaration per fact; facts that walk
the same lists share one evaluation.
-/
namespace LeakDetector
open Gen.LeakDetector

theorem Store.get_set (s : Store) (k v x : String) :
    (s.set k v).get x = if x = k then v else s.get x := by
  unfold Store.get Store.set
  by_cases h : x = k
  · simp [h, List.lookup]
  · have hx : (x == k) = false := by simp [h]
    simp [h, List.lookup, hx, ListLemmas.lookup_filter_ne s h]

theorem Store.laws : Writes.Laws Store.get Store.set (fun _ _ => True) where
  get_set_self v _ := by rw [Store.get_set, if_pos rfl]
  get_set_ne s v _ _ h := by rw [Store.get_set, if_neg (Ne.symm h)]
  W_set _ _ _ := trivial

theorem Store.get_assignConsts_of_mem (l : List (String × String)) (s : Store) {e : String × String}
    (hnd : (l.map (·.1)).Nodup) (he : e ∈ l) : (s.assignConsts l).get e.1 = e.2 :=
  Writes.get_run Store.laws _ _ l s hnd (fun _ _ => trivial) (fun _ _ _ _ _ _ => rfl) e he

/-! ## positions of the switch -/

/-- the pointers named in the assignment list `T` hold what `T` assigns to them -/
def Ov.InPosition (o : Ov) (T : List (String × String)) : Prop := ∀ e ∈ T, o.vars.get e.1 = e.2

theorem Ov.formFunction_of_position {o : Ov} {T : List (String × String)} (h : o.InPosition T) {form fn : String}
    (hf : (formFptr form).bind (fun p => T.lookup p) = some fn) : o.formFunction form = some fn := by
  obtain ⟨p, hp, hl⟩ := Option.bind_eq_some_iff.mp hf
  obtain ⟨l₁, l₂, hT, _⟩ := List.lookup_eq_some_iff.mp hl
  have hm : (p, fn) ∈ T := by rw [hT]; simp
  rw [Ov.formFunction, hp, Option.map_some, h _ hm]

/-- `areNewDeleteOverloaded` looks at one pointer, `operator_new_fptr` -/
theorem areOverloaded_of_position {o : Ov} {T : List (String × String)} (h : o.InPosition T) {fn : String}
    (hm : (overloadedPtr, fn) ∈ T) : areOverloaded o = overloadedFns.contains fn := by
  rw [areOverloaded, h _ hm]

theorem saveAndDisable_outermost (o : Ov) (h0 : o.counter = 0) :
    saveAndDisable o = turnOff { vars := o.vars.assignVars saveAssignments, counter := 1 } := by
  rw [saveAndDisable, h0, if_neg (by decide)]
  rfl

/-! ## the wrappers: which allocator, which layout -/

theorem byGetter_eq_of (c : Current) (g : String) : c.byGetter g = c.of (familyOfGetter g) := by
  unfold Current.byGetter familyOfGetter
  split
  · rfl
  · split <;> rfl

/-- the three acquiring wrappers are one call: `allocMemory` with the current allocator of the family; only `malloc` asks
    for a separate record -/
theorem acquire_eq (c : Current) (f : Family) (s : State) (size : Nat) (file : String) (line : Nat)
    (result : Nat) (nodeOk : Bool) (fill : UInt8) :
    acquire c f s size file line result nodeOk fill =
      alloc s (c.of f) size file line (f == .malloc) result nodeOk fill := by cases f <;> rfl

theorem acquire_layout : ∀ w ∈ acquireWrappers, w.isRealloc = false →
    w.separateNode = (familyOfGetter w.getter == .malloc) := by decide

theorem release_layout : ∀ w ∈ releaseWrappers,
    w.invalidateThenDealloc = true ∧ w.separateNode = (familyOfGetter w.getter == .malloc) ∧
    w.withLocation = (familyOfGetter w.getter == .malloc) := by decide

/-! ## the regenerated tables -/

def fptrNames : List String := offTable.map (·.1)

/-- the three switch functions assign the same eleven pointers, each once; save copies them to eleven other
    variables and restore copies these back -/
structure PointerTables : Prop where
  plain_keys : plainTable.map (·.1) = fptrNames
  threadSafe_keys : threadSafeTable.map (·.1) = fptrNames
  save_sources : saveAssignments.map (·.2) = fptrNames
  restore_swap : restoreAssignments = saveAssignments.map Prod.swap
  nodup : (saveAssignments.map (·.1) ++ fptrNames).Nodup

/-- one evaluation for the five (they walk the same lists) -/
theorem pointer_tables : PointerTables :=
  have h : plainTable.map (·.1) = fptrNames ∧ threadSafeTable.map (·.1) = fptrNames ∧
      saveAssignments.map (·.2) = fptrNames ∧ restoreAssignments = saveAssignments.map Prod.swap ∧
      (saveAssignments.map (·.1) ++ fptrNames).Nodup := by decide +kernel
  ⟨h.1, h.2.1, h.2.2.1, h.2.2.2.1, h.2.2.2.2⟩

theorem fptrNames_nodup : fptrNames.Nodup := (List.nodup_append.mp pointer_tables.nodup).2.1

/-- The overloads are wired to their families; and every function the off position puts behind a pointer is a
    `normal_*` function, not a detector wrapper, and makes the platform call of its kind.  One evaluation for both,
    since they walk the same operator and wrapper tables. -/
theorem wrapper_tables :
    overloadsWiredCorrectly = true ∧
    (∀ form ∈ acquireForms, ∃ fn ∈ offTable.map (·.2), (formFptr form).bind (fun p => offTable.lookup p) = some fn ∧
      acquireWrappers.find? (fun w => w.name == fn) = none ∧ normalWrappers.lookup fn = some "malloc") ∧
    (∀ form ∈ releaseForms, ∃ fn ∈ offTable.map (·.2), (formFptr form).bind (fun p => offTable.lookup p) = some fn ∧
      releaseWrappers.find? (fun w => w.name == fn) = none ∧ normalWrappers.lookup fn = some "free") ∧
    ∃ e ∈ offTable, e.1 = "realloc_fptr" ∧
      acquireWrappers.find? (fun w => w.name == e.2) = none ∧ normalWrappers.lookup e.2 = some "realloc" := by
  decide +kernel

theorem overloads_wired : overloadsWiredCorrectly = true := wrapper_tables.1

/-- in both modes the function behind `realloc_fptr` is a `reallocMemory` wrapper with the malloc allocator, the caller's
    location and separately allocated records -/
theorem realloc_wrappers : ∀ ts ∈ [false, true], ∃ e ∈ (if ts then threadSafeTable else plainTable), e.1 = "realloc_fptr" ∧
    ∃ w ∈ acquireWrappers, acquireWrappers.find? (fun w => w.name == e.2) = some w ∧ w.isRealloc = true ∧
      w.getter = "getCurrentMallocAllocator" ∧ w.withLocation = true ∧ w.separateNode = true := by
  decide +kernel

theorem realloc_in_position {o : Ov} {ts : Bool} (h : o.InPosition (if ts then threadSafeTable else plainTable))
    (c : Current) (s : State) (addr size : Nat) (file : String) (line result : Nat) (fill : UInt8) :
    gRealloc o c s addr size file line result fill =
      .tracked (realloc s c.mallocA addr size file line true result fill) := by
  obtain ⟨e, he, h1, w, _, hw, hr, hg, hl, hs⟩ := realloc_wrappers ts (by cases ts <;> simp)
  simp only [gRealloc, Ov.reallocFunction, ← h1, h e he, hw, hr, if_true, reallocBy, hg, hl, hs, Current.byGetter,
    beq_self_eq_true]

theorem wired_acquire (ts : Bool) {form : String} (hf : form ∈ acquireForms) :
    ∃ w, acquireWrapperOf ts form = some w ∧ w.isRealloc = false := by
  have h := List.all_eq_true.mp (List.all_eq_true.mp (Bool.and_eq_true _ _ ▸ overloads_wired : _ ∧ _).1 ts (by cases ts <;> simp))
    form hf
  cases hw : acquireWrapperOf ts form with
  | none => rw [hw] at h; cases h
  | some w =>
    rw [hw] at h
    simp only [Bool.and_eq_true, Bool.not_eq_true'] at h
    exact ⟨w, rfl, h.1.1.2⟩

theorem wired_release (ts : Bool) {form : String} (hf : form ∈ releaseForms) : ∃ w, releaseWrapperOf ts form = some w := by
  have h := List.all_eq_true.mp (List.all_eq_true.mp (Bool.and_eq_true _ _ ▸ overloads_wired : _ ∧ _).2 ts (by cases ts <;> simp))
    form hf
  cases hw : releaseWrapperOf ts form with
  | none => rw [hw] at h; cases h
  | some w => exact ⟨w, rfl⟩

theorem acquire_in_position {o : Ov} {ts : Bool} (h : o.InPosition (if ts then threadSafeTable else plainTable))
    {form : String} (hf : form ∈ acquireForms)
    (c : Current) (s : State) (size : Nat) (file : String) (line result : Nat) (fill : UInt8) :
    ∃ w, acquireWrapperOf ts form = some w ∧
      gAcquire o c s form size file line result fill = .tracked (acquireBy w c s size file line result true fill) := by
  obtain ⟨w, hw, hnoRealloc⟩ := wired_acquire ts hf
  obtain ⟨fn, hfn, hfind⟩ := Option.bind_eq_some_iff.mp hw
  refine ⟨w, hw, ?_⟩
  simp only [gAcquire, Ov.formFunction_of_position h hfn, hfind, hnoRealloc, Bool.false_eq_true, if_false]

theorem release_in_position {o : Ov} {ts : Bool} (h : o.InPosition (if ts then threadSafeTable else plainTable))
    {form : String} (hf : form ∈ releaseForms) (c : Current) (s : State) (addr : Nat) (file : String) (line : Nat) :
    ∃ w, releaseWrapperOf ts form = some w ∧
      gRelease o c s form addr file line = .tracked (releaseBy w c s addr file line) := by
  obtain ⟨w, hw⟩ := wired_release ts hf
  obtain ⟨fn, hfn, hfind⟩ := Option.bind_eq_some_iff.mp hw
  refine ⟨w, hw, ?_⟩
  simp only [gRelease, Ov.formFunction_of_position h hfn, hfind]

end LeakDetector
