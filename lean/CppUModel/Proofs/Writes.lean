/-!
Runs of assignments over a store of named variables, read off their list.

`MemoryLeakWarningPlugin.cpp` switches eleven function pointers by straight-line runs of assignments
(`ptr = function;`, `saved_ptr = ptr;`, `ptr = saved_ptr;`).  The pointers are modelled twice: `LeakDetector.Store`,
where a write creates the variable, and `ThreadSafe.Env`, where only declared variables can be written.  Both satisfy
`Laws`; what a run leaves in a variable, and that save, switch, restore puts every pointer back, is proved here for any
store that does.
-/
namespace Writes
variable {σ K V β : Type}

/-- reading after a write; `W s k`: the variable `k` can be written in `s` -/
structure Laws (get : σ → K → V) (set : σ → K → V → σ) (W : σ → K → Prop) : Prop where
  get_set_self : ∀ {s k} (v), W s k → get (set s k v) k = v
  get_set_ne : ∀ (s v) {k k'}, k ≠ k' → get (set s k v) k' = get s k'
  W_set : ∀ {s k'} (k v), W s k' → W (set s k v) k'

/-- the writes `d c := g s c` for the entries `c` of a list, in order -/
def run (set : σ → K → V → σ) (d : β → K) (g : σ → β → V) (cs : List β) (s : σ) : σ :=
  cs.foldl (fun s c => set s (d c) (g s c)) s

variable {get : σ → K → V} {set : σ → K → V → σ} {W : σ → K → Prop} (L : Laws get set W)
include L

theorem W_run (d : β → K) (g : σ → β → V) {k : K} : ∀ (cs : List β) {s : σ}, W s k → W (run set d g cs s) k
  | [], _, h => h
  | _ :: cs, _, h => W_run d g cs (L.W_set _ _ h)

theorem get_run_of_not_written (d : β → K) (g : σ → β → V) {k : K} :
    ∀ (cs : List β) (s : σ), (∀ c ∈ cs, d c ≠ k) → get (run set d g cs s) k = get s k
  | [], _, _ => rfl
  | c :: cs, s, h => by
    rw [List.forall_mem_cons] at h
    exact (get_run_of_not_written d g cs _ h.2).trans (L.get_set_ne _ _ h.1)

/-- A variable written once holds the value computed for it, provided no write changes what `g` computes. -/
theorem get_run (d : β → K) (g : σ → β → V) :
    ∀ (cs : List β) (s : σ), (cs.map d).Nodup → (∀ c ∈ cs, W s (d c)) →
      (∀ c ∈ cs, ∀ c' ∈ cs, ∀ s v, g (set s (d c') v) c = g s c) →
      ∀ c ∈ cs, get (run set d g cs s) (d c) = g s c
  | c₀ :: cs, s, hn, hw, hg, c, hc => by
    rw [List.map_cons, List.nodup_cons] at hn
    rw [List.forall_mem_cons] at hw hg
    rcases List.mem_cons.mp hc with rfl | hc
    · exact (get_run_of_not_written L d g cs _ fun c' hc' e => hn.1 (List.mem_map.mpr ⟨c', hc', e⟩)).trans
        (L.get_set_self _ hw.1)
    · exact (get_run d g cs _ hn.2 (fun c' h' => L.W_set _ _ (hw.2 c' h'))
        (fun a ha b hb => (List.forall_mem_cons.mp (hg.2 a ha)).2 b hb) c hc).trans
        ((List.forall_mem_cons.mp (hg.2 c hc)).1 s _)

/-- Copy each `c.2` to `c.1`, assign constants to anything but the copies, copy each `c.1` back to `c.2`: with the
    sources and the copies all distinct, every source holds what it held at the start. -/
theorem get_swap_back {cs : List (K × K)} {T : List (K × V)} {s : σ}
    (hnd : (cs.map (·.1) ++ cs.map (·.2)).Nodup) (hw : ∀ c ∈ cs, W s c.1 ∧ W s c.2)
    (hT : ∀ a ∈ T, a.1 ∉ cs.map (·.1)) {c : K × K} (hc : c ∈ cs) :
    get (run set (·.2) (fun s c => get s c.1) cs
      (run set (·.1) (fun _ a => a.2) T (run set (·.1) (fun s c => get s c.2) cs s))) c.2 = get s c.2 := by
  obtain ⟨hd, hs, hds⟩ := List.nodup_append.mp hnd
  have hne : ∀ a ∈ cs, ∀ b ∈ cs, a.1 ≠ b.2 := fun a ha b hb =>
    hds a.1 (List.mem_map_of_mem ha) b.2 (List.mem_map_of_mem hb)
  calc _ = get (run set (·.1) (fun _ a => a.2) T (run set (·.1) (fun s c => get s c.2) cs s)) c.1 :=
        get_run L _ _ cs _ hs (fun a ha => W_run L _ _ _ (W_run L _ _ _ (hw a ha).2))
          (fun a ha b hb s v => L.get_set_ne s v (hne a ha b hb).symm) c hc
    _ = get (run set (·.1) (fun s c => get s c.2) cs s) c.1 :=
        get_run_of_not_written L _ _ T _ fun a ha e => hT a ha (e ▸ List.mem_map_of_mem hc)
    _ = get s c.2 := get_run L _ _ cs s hd (fun a ha => (hw a ha).1)
          (fun a ha b hb s v => L.get_set_ne s v (hne b hb a ha)) c hc

end Writes
