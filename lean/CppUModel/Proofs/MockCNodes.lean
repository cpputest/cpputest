import CppUModel.Spec.MockCNodes
import CppUModel.Proofs.ListLemmas
/-! C19, the adaptor nodes of the C layer.  One list: the required freeing loop deletes exactly the live nodes; both lists:
    every node ever allocated is live or deleted once; the references the C++ core holds: through either interface they stay
    valid unless the nodes are deleted, and on a disciplined scenario the C layer deletes them only when nobody holds one. -/
namespace MockC.Nodes

theorem body_iter (L : String) (s : LState) (h : Nat) (t : List Nat) (hc : s.chain = h :: t) (hl : s.live = h :: t)
    (hb : s.bad = false) :
    bodyStep L (Req.loopBody L) s = { chain := t, nxt := some t, live := t, freed := s.freed ++ [h], bad := false } := by
  simp [bodyStep, Req.loopBody, stmtStep, hc, hl, hb]

/-- the required loop frees exactly the nodes of the list, in list order, each once, and terminates -/
theorem runLoop_frees (L : String) : ∀ (n : Nat) (s : LState), LInv s → s.live.length ≤ n →
    (runLoop ⟨L, Req.loopBody L⟩ n s).chain = [] ∧ (runLoop ⟨L, Req.loopBody L⟩ n s).live = [] ∧
    (runLoop ⟨L, Req.loopBody L⟩ n s).freed = s.freed ++ s.live ∧ (runLoop ⟨L, Req.loopBody L⟩ n s).bad = false
  | 0, s, inv, hn => by
    have hl : s.live = [] := List.eq_nil_of_length_eq_zero (Nat.le_zero.mp hn)
    have hc : s.chain = [] := by rw [inv.chain_live, hl]
    simp [runLoop, hc, hl, inv.ok]
  | n + 1, s, inv, hn => by
    cases hl : s.live with
    | nil =>
      have hc : s.chain = [] := by rw [inv.chain_live, hl]
      simp [runLoop, hc, hl, inv.ok]
    | cons h t =>
      have hc : s.chain = h :: t := by rw [inv.chain_live, hl]
      have hit := body_iter L s h t hc hl inv.ok
      have ih := runLoop_frees L n { chain := t, nxt := some t, live := t, freed := s.freed ++ [h], bad := false }
        ⟨rfl, rfl⟩ (by rw [hl] at hn; simpa using hn)
      simp only [runLoop, hc, List.isEmpty_cons, Bool.false_eq_true, if_false, hit]
      simpa [List.append_assoc] using ih

theorem runLoop_inv (L : String) (s : LState) (inv : LInv s) :
    LInv (runLoop ⟨L, Req.loopBody L⟩ (s.live.length + 1) s) := by
  obtain ⟨hc, hl, -, hb⟩ := runLoop_frees L (s.live.length + 1) s inv (Nat.le_succ _)
  exact ⟨by rw [hc, hl], hb⟩

theorem install_inv (c : NodeCtor) (hc : ctorLinks c = true) (id : Nat) (s : LState) (inv : LInv s) :
    LInv (install c id s) := by
  simp only [install, hc, if_true]
  exact ⟨by simp [inv.chain_live], inv.ok⟩

theorem install_live (c : NodeCtor) (id : Nat) (s : LState) : (install c id s).live = id :: s.live := by
  unfold install; split <;> rfl

theorem install_freed (c : NodeCtor) (id : Nat) (s : LState) : (install c id s).freed = s.freed := by
  unfold install; split <;> rfl

/-! the lookups the interpreter makes in the regenerated tables (independent of the order of the two loops / classes in
    the source) -/
theorem loopOf_cmp : loopOf Gen.CMock.removeAllLoops "comparatorList_" = ⟨"comparatorList_", Req.loopBody "comparatorList_"⟩ := by
  decide +kernel
theorem loopOf_cpy : loopOf Gen.CMock.removeAllLoops "copierList_" = ⟨"copierList_", Req.loopBody "copierList_"⟩ := by
  decide +kernel
theorem ctor_cmp_links : ctorLinks (ctorOf Gen.CMock.nodeCtors "MockCFunctionComparatorNode") = true := by
  decide +kernel
theorem ctor_cpy_links : ctorLinks (ctorOf Gen.CMock.nodeCtors "MockCFunctionCopierNode") = true := by
  decide +kernel

/-! ## both lists -/

theorem nstep_install (s : NState) (o : NOp) (ho : o ≠ .removeAll) :
    (nstep s o).live.Perm (s.fresh :: s.live) ∧ (nstep s o).freed = s.freed ∧ (nstep s o).fresh = s.fresh + 1 := by
  cases o with
  | installComparator | installCopier =>
    exact ⟨by simp [nstep, nstepWith, NState.live, install_live],
      by simp [nstep, nstepWith, NState.freed, install_freed], rfl⟩
  | removeAll => exact absurd rfl ho

theorem install_live_mem (s : NState) (o : NOp) (ho : o ≠ .removeAll) (a : Nat) (h : a ∈ s.live) : a ∈ (nstep s o).live :=
  (nstep_install s o ho).1.mem_iff.mpr (List.mem_cons_of_mem _ h)

theorem install_fresh_live (s : NState) (o : NOp) (ho : o ≠ .removeAll) : s.fresh ∈ (nstep s o).live :=
  (nstep_install s o ho).1.mem_iff.mpr List.mem_cons_self

theorem install_account (s : NState) (o : NOp) (ho : o ≠ .removeAll) (inv : NInv s) :
    ((nstep s o).freed ++ (nstep s o).live).Perm (List.range (nstep s o).fresh) := by
  obtain ⟨hl, hf, hn⟩ := nstep_install s o ho
  rw [hf, hn, List.range_succ]
  exact ((hl.append_left _).trans List.perm_middle).trans
    ((inv.account.cons _).trans (List.perm_append_singleton _ _).symm)

theorem nstep_removeAll (s : NState) (inv : NInv s) :
    LInv (nstep s .removeAll).cmp ∧ LInv (nstep s .removeAll).cpy ∧ (nstep s .removeAll).live = [] ∧
    (nstep s .removeAll).freed = (s.cmp.freed ++ s.cmp.live) ++ (s.cpy.freed ++ s.cpy.live) ∧
    (nstep s .removeAll).fresh = s.fresh := by
  obtain ⟨-, hl1, hf1, -⟩ := runLoop_frees "comparatorList_" (s.cmp.live.length + 1) s.cmp inv.cmp (Nat.le_succ _)
  obtain ⟨-, hl2, hf2, -⟩ := runLoop_frees "copierList_" (s.cpy.live.length + 1) s.cpy inv.cpy (Nat.le_succ _)
  refine ⟨?_, ?_, ?_, ?_, rfl⟩
  · simp only [nstep, nstepWith, loopOf_cmp]; exact runLoop_inv _ _ inv.cmp
  · simp only [nstep, nstepWith, loopOf_cpy]; exact runLoop_inv _ _ inv.cpy
  · simp only [nstep, nstepWith, loopOf_cmp, loopOf_cpy, NState.live, hl1, hl2, List.append_nil]
  · simp only [nstep, nstepWith, loopOf_cmp, loopOf_cpy, NState.freed, hf1, hf2]

theorem nstep_inv (s : NState) (o : NOp) (inv : NInv s) : NInv (nstep s o) := by
  cases o with
  | installComparator => exact ⟨install_inv _ ctor_cmp_links _ _ inv.cmp, inv.cpy, install_account s _ (by decide) inv⟩
  | installCopier => exact ⟨inv.cmp, install_inv _ ctor_cpy_links _ _ inv.cpy, install_account s _ (by decide) inv⟩
  | removeAll =>
    obtain ⟨h1, h2, hl, hf, hn⟩ := nstep_removeAll s inv
    refine ⟨h1, h2, ?_⟩
    rw [hl, hf, hn]
    -- the same four lists in another order
    refine List.perm_iff_count.mpr fun a => ?_
    have := List.perm_iff_count.mp inv.account a
    simp only [NState.freed, NState.live, List.count_append, List.count_nil] at this ⊢
    omega

theorem nrun_inv (os : List NOp) (s : NState) (inv : NInv s) : NInv (nrun s os) :=
  List.foldlRecOn os nstep inv fun s inv o _ => nstep_inv s o inv

theorem ninv_init : NInv {} := ⟨⟨rfl, rfl⟩, ⟨rfl, rfl⟩, by simp [NState.freed, NState.live]⟩

theorem ninv_not_bad (s : NState) (inv : NInv s) : s.bad = false := by
  simp [NState.bad, inv.cmp.ok, inv.cpy.ok]

/-! ## the references -/

theorem reach_sub (w : World) (s : String) (hs : s ∈ w.scopes) : ∀ t ∈ reach w s, t ∈ w.scopes := by
  intro t ht
  unfold reach at ht
  split at ht
  · exact ht
  · simp at ht; rw [ht]; exact hs

theorem not_dangling (w : World) (hl : ∀ r ∈ w.refs, r.2 ∈ w.nodes.live) : dangling w = false := by
  rw [Bool.eq_false_iff]
  intro h
  obtain ⟨r, hr, hd⟩ := List.any_eq_true.mp h
  have := hl r hr
  simp [this] at hd

theorem stepWith_cur_none (free : Bool) (w : World) (o : AOp) (hc : w.cur = none) (ho : ∀ s, o ≠ .scope s) :
    stepWith free w o = w := by
  cases o <;> first | exact absurd rfl (ho _) | simp [stepWith, hc]

/-- the global mock reaches every known scope -/
theorem any_reach_glob {w : World} {p : String → Bool} {t : String} (hk : t ∈ w.scopes) (hp : p t = true) :
    (reach w "").any p = true :=
  List.any_eq_true.mpr ⟨t, by simpa [reach] using hk, hp⟩

theorem stepWith_live (free : Bool) (w : World) (o : AOp) (hf : free = true → o ≠ .removeAll)
    (h : ∀ r ∈ w.refs, r.2 ∈ w.nodes.live) :
    ∀ r ∈ (stepWith free w o).refs, r.2 ∈ (stepWith free w o).nodes.live := by
  have hsub : ∀ p : Holder × Nat → Bool, ∀ r ∈ w.refs.filter p, r.2 ∈ w.nodes.live :=
    fun p r hr => h r (List.mem_filter.mp hr).1
  by_cases ho : ∃ s, o = .scope s
  · obtain ⟨s, rfl⟩ := ho
    simp only [stepWith]
    split
    · exact h
    · exact ListLemmas.forall_mem_append_map h (hsub _)
  · have ho : ∀ s, o ≠ .scope s := fun s e => ho ⟨s, e⟩
    cases hc : w.cur with
    | none => rw [stepWith_cur_none free w o hc ho]; exact h
    | some s =>
      cases o with
      | scope s => exact absurd rfl (ho s)
      | installComparator | installCopier =>
        simp only [stepWith, hc]
        exact ListLemmas.forall_mem_append_map (fun r hr => install_live_mem w.nodes _ (by decide) _ (h r hr))
          (fun _ _ => install_fresh_live w.nodes _ (by decide))
      | expectTyped => simp only [stepWith, hc]; exact ListLemmas.forall_mem_append_map h (hsub _)
      | clear => simp only [stepWith, hc]; exact hsub _
      | removeAll =>
        cases free with
        | true => exact absurd rfl (hf rfl)
        | false => simp only [stepWith, hc, Bool.false_eq_true, if_false]; exact hsub _

/-- `scope s` selects a scope; a scope reached for the first time takes the references of the global repository -/
theorem stepC_inv_scope {w : World} {d : Disc} (s : String) (inv : WInv w d) : WInv (stepC w (.scope s)) { d with cur := some s } := by
  have hlive := stepWith_live true w (.scope s) nofun inv.refs_live
  simp only [stepC, stepWith] at hlive ⊢
  split
  · rename_i hc
    exact { inv with cur := rfl, cur_known := fun t ht => (by
              simp only [Option.some.injEq] at ht; subst ht; exact List.contains_iff_mem.mp hc) }
  · rename_i hc
    rw [if_neg hc] at hlive
    have hnew : s ∈ w.scopes ++ [s] := List.mem_append_right _ (List.mem_singleton.mpr rfl)
    exact { nodes := inv.nodes, cur := rfl, glob := List.mem_append_left _ inv.glob, refs_live := hlive,
            exp_pending := fun hp => ListLemmas.forall_mem_append_map (inv.exp_pending hp) (fun _ _ => rfl),
            cur_known := fun t ht => (by simp only [Option.some.injEq] at ht; subst ht; exact hnew),
            holder_known := ListLemmas.forall_mem_append_map (fun r hr => List.mem_append_left _ (inv.holder_known r hr)) (fun _ _ => hnew) }

theorem stepC_inv_none {w : World} {d d' : Disc} {o : AOp} (inv : WInv w d) (hc : w.cur = none) (ho : ∀ s, o ≠ .scope s)
    (hd : discStep d o = some d') : WInv (stepC w o) d' := by
  rw [stepC, stepWith_cur_none true w o hc ho]
  have hdc : d.cur = none := inv.cur.trans hc
  have hd' : d' = d ∨ d' = { d with pending := true } := by
    cases o with
    | scope s => exact absurd rfl (ho s)
    | expectTyped => exact .inr (Option.some.inj hd).symm
    | _ => simp [discStep, hdc] at hd; exact .inl hd.symm
  rcases hd' with rfl | rfl
  · exact inv
  · exact { inv with exp_pending := fun hp => by cases hp }

/-- Every operation only adds references to live nodes held by known scopes, or
    drops references; the one operation that deletes nodes, `removeAll` through C, is allowed by the discipline only on the
    global mock while no expectation holds a reference (`pending = false`): then every reference is a repository's, the global
    mock reaches every repository, and the operation drops them all. -/
theorem stepC_inv (w : World) (d d' : Disc) (o : AOp) (inv : WInv w d) (hd : discStep d o = some d') :
    WInv (stepC w o) d' := by
  by_cases ho : ∃ s, o = .scope s
  · obtain ⟨s, rfl⟩ := ho
    simp only [discStep, Option.some.injEq] at hd
    subst hd
    exact stepC_inv_scope s inv
  have ho : ∀ s, o ≠ .scope s := fun s e => ho ⟨s, e⟩
  cases hc : w.cur with
  | none => exact stepC_inv_none inv hc ho hd
  | some s =>
    have hs := inv.cur_known s hc
    have hdc : d.cur = some s := inv.cur.trans hc
    have hlive := fun ho => stepWith_live true w o (fun _ => ho) inv.refs_live
    have hck : ∀ t, some s = some t → t ∈ w.scopes := fun t ht => inv.cur_known t (hc.trans ht)
    cases o with
    | scope s' => exact absurd rfl (ho s')
    | installComparator | installCopier =>
      simp only [discStep, Option.some.injEq] at hd
      subst hd
      simp only [stepC, stepWith, hc] at hlive ⊢
      exact { nodes := (by dsimp only; exact nstep_inv _ _ inv.nodes), cur := hdc, glob := inv.glob, refs_live := hlive nofun,
              exp_pending := fun hp => ListLemmas.forall_mem_append_map (inv.exp_pending hp) (fun _ _ => rfl),
              cur_known := hck, holder_known := ListLemmas.forall_mem_append_map inv.holder_known (reach_sub w s hs) }
    | expectTyped =>
      simp only [discStep, Option.some.injEq] at hd
      subst hd
      simp only [stepC, stepWith, hc] at hlive ⊢
      exact { nodes := inv.nodes, cur := hdc, glob := inv.glob, refs_live := hlive nofun,
              exp_pending := fun hp => (by cases hp), cur_known := hck,
              holder_known := ListLemmas.forall_mem_append_map inv.holder_known (fun _ _ => hs) }
    | clear =>
      simp only [discStep, Option.some.injEq] at hd
      simp only [stepC, stepWith, hc]
      have hsub : ∀ r ∈ w.refs.filter (fun r => !((reach w s).any (fun t => isExpOf t r))), r ∈ w.refs :=
        fun r hr => (List.mem_filter.mp hr).1
      refine { nodes := inv.nodes, cur := ?_, glob := inv.glob, refs_live := fun r hr => inv.refs_live r (hsub r hr),
               exp_pending := ?_, cur_known := hck, holder_known := fun r hr => inv.holder_known r (hsub r hr) }
      · rw [← hd]; split <;> exact hdc
      · intro hp r hr
        have hmem := List.mem_filter.mp hr
        by_cases hg : d.cur = some ""
        · -- `clear` on the global mock drops the references of every expectation
          have hs0 : s = "" := by rw [hdc] at hg; simpa using hg
          subst hs0
          cases hr1 : r.1 with
          | repo t => simp [isRepo, hr1]
          | exp t =>
            have := hmem.2
            rw [any_reach_glob (p := fun t => isExpOf t r) (inv.holder_known r hmem.1)
              (by simp [isExpOf, hr1, Holder.scope])] at this
            cases this
        · simp only [hg, if_false] at hd
          subst hd
          exact inv.exp_pending hp r hmem.1
    | removeAll =>
      simp only [discStep] at hd
      by_cases hok : d.cur = some "" ∧ d.pending = false
      · simp only [hok, and_self, if_true, Option.some.injEq] at hd
        subst hd
        have hs0 : s = "" := by rw [hdc] at hok; simpa using hok.1
        subst hs0
        have hnil : w.refs.filter (fun r => !((reach w "").any (fun t => isRepoOf t r))) = [] := by
          apply List.filter_eq_nil_iff.mpr
          intro r hr
          have hrepo := inv.exp_pending hok.2 r hr
          cases hr1 : r.1 with
          | exp t => simp [isRepo, hr1] at hrepo
          | repo t =>
            simp [any_reach_glob (p := fun t => isRepoOf t r) (inv.holder_known r hr) (by simp [isRepoOf, hr1, Holder.scope])]
        simp only [stepC, stepWith, hc, if_true, hnil]
        exact { nodes := nstep_inv w.nodes .removeAll inv.nodes, cur := hdc, glob := inv.glob,
                refs_live := nofun, exp_pending := fun _ => nofun, cur_known := hck, holder_known := nofun }
      · have hne : d.cur ≠ none := by rw [hdc]; simp
        simp [hok, hne] at hd

theorem runC_inv : ∀ (os : List AOp) (w : World) (d : Disc), WInv w d → disciplinedFrom d os = true →
    ∃ d', WInv (runC w os) d'
  | [], w, d, inv, _ => ⟨d, inv⟩
  | o :: rest, w, d, inv, h => by
    simp only [disciplinedFrom] at h
    cases hd : discStep d o with
    | none => simp [hd] at h
    | some d' =>
      simp only [hd] at h
      exact runC_inv rest (stepC w o) d' (stepC_inv w d d' o inv hd) h

theorem runX_live (os : List AOp) (w : World) (h : ∀ r ∈ w.refs, r.2 ∈ w.nodes.live) :
    ∀ r ∈ (runX w os).refs, r.2 ∈ (runX w os).nodes.live :=
  List.foldlRecOn (motive := fun w => ∀ r ∈ w.refs, r.2 ∈ w.nodes.live) os stepX h
    fun w h o _ => stepWith_live false w o nofun h

theorem runX_not_dangling (os : List AOp) : dangling (runX {} os) = false :=
  not_dangling _ (runX_live os {} (fun r hr => by cases hr))

theorem winv_init : WInv {} {} :=
  { nodes := ninv_init, cur := rfl, glob := (by simp), refs_live := (fun r hr => by cases hr),
    exp_pending := (fun _ r hr => by cases hr), cur_known := (fun t ht => by cases ht), holder_known := (fun r hr => by cases hr) }

end MockC.Nodes

namespace MockC

open Nodes in
theorem disciplinedFrom_take : ∀ (os : List AOp) (d : Disc) (k : Nat), disciplinedFrom d os = true →
    disciplinedFrom d (os.take k) = true
  | [], _, k, _ => by simp [disciplinedFrom]
  | _ :: _, _, 0, _ => by simp [disciplinedFrom]
  | o :: rest, d, k + 1, h => by
    simp only [disciplinedFrom, List.take_succ_cons] at h ⊢
    cases hd : discStep d o with
    | none => simp [hd] at h
    | some d' => simp only [hd] at h ⊢; exact disciplinedFrom_take rest d' k h

end MockC
