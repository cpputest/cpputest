import CppUModel.Proofs.JUnitRun
/-!
The collector after one scripted test, in closed form; the collector over the registry loop as a recursion on the collector
alone (`loopFold`), tied to the loop's events by one induction; read off it: which test cases end up in which report, the
`time` attributes, the file names, and repeated runs (`-r<n>`) on one `JUnitTestOutput`.
-/
namespace JUnit
open Text (Bytes)
open OutEv

def evsFirst : List Ev → Option Failure
  | [] => none
  | .failure f :: _ => some f
  | _ :: es => evsFirst es

def testBodyEvs (t : TestInfo) (acts : List Act) : List Ev := testInner t acts

/-- the first failure a scripted test reports: from its body (nothing runs after a `failExit`),
    else from the post-test action -/
def firstFail (t : TestInfo) (acts : List Act) : Option Failure := evsFirst (testBodyEvs t acts)

theorem evsFirst_append : ∀ (a b : List Ev), evsFirst (a ++ b) = (evsFirst a).or (evsFirst b)
  | [], b => by simp [evsFirst]
  | e :: a, b => by cases e <;> simp [evsFirst, evsFirst_append a b]

/-- the lines of the progress trace are no failures -/
theorem firstFail_eq (t : TestInfo) (acts : List Act) :
    firstFail t acts = (evsFirst (actEvs t acts)).or (evsFirst (postEvs t acts)) := by
  have h1 : evsFirst traceBefore = none := rfl
  have h2 : evsFirst (traceBetween acts) = none := by unfold traceBetween; split <;> rfl
  have h3 : evsFirst traceAfter = none := rfl
  simp [firstFail, testBodyEvs, testInner, evsFirst_append, h1, h2, h3]

theorem body_events_state : ∀ (evs : List Ev) (s : St) (n : Node) (rest : List Node),
    (∀ e ∈ evs, e.inBody = true) → s.crashed = false → s.nodesRev = n :: rest →
    foldEvents step s evs =
      ({ s with nodesRev := mergeFailure n (evsFirst evs) :: rest,
                failureCount := s.failureCount + failInc n (evsFirst evs),
                stdOutput := s.stdOutput ++ evsPrinted evs }, [])
  | [], s, n, rest, _, hc, hn => by
    cases s
    simp_all [foldEvents, evsFirst, evsPrinted, mergeFailure_none, failInc_none]
  | e :: es, s, n, rest, hb, hc, hn => by
    have hes : ∀ x ∈ es, x.inBody = true := fun x hx => hb x (List.mem_cons_of_mem _ hx)
    cases e with
    | print x =>
      have ih := body_events_state es { s with stdOutput := s.stdOutput ++ x } n rest hes hc hn
      rw [foldEvents_cons_quiet _ (step_of_not_crashed hc (.print x)), ih]
      simp [evsFirst, evsPrinted, List.append_assoc]
    | failure g =>
      -- from the first failure on the node keeps it (`mergeFailure_merge`)
      have ih := body_events_state es
        { s with failureCount := s.failureCount + failInc n (some g), nodesRev := mergeFailure n (some g) :: rest }
        (mergeFailure n (some g)) rest hes hc rfl
      rw [foldEvents_cons_quiet _ (step_of_not_crashed hc (.failure g)), onFailure_cons hn, ih]
      simp [evsFirst, evsPrinted, mergeFailure_merge]
    | veryVerbose x =>
      have ih := body_events_state es s n rest hes hc hn
      rw [foldEvents_cons_quiet _ (step_of_not_crashed hc (.veryVerbose x)), ih]
      simp [evsFirst, evsPrinted]
    | _ => cases hb _ (List.mem_cons_self ..)

/-- the node a scripted test leaves in the collector -/
def scriptNode (sc : Script) (r : R) : Node :=
  { name := sc.info.name
    file := sc.info.file
    line := sc.info.line
    ignored := !sc.info.willRun
    failure := if sc.info.willRun then firstFail sc.info sc.acts else none
    execTime := if sc.info.willRun then actTicks sc.acts else 0
    checkCount := if sc.info.willRun then r.checks + actChecks sc.acts else r.checks }

def afterTestSt (sc : Script) (r : R) (s : St) : St :=
  { s with testCount := s.testCount + 1, group := sc.info.group, nodesRev := scriptNode sc r :: s.nodesRev,
           failureCount := s.failureCount + (if (scriptNode sc r).failure.isSome then 1 else 0),
           stdOutput := s.stdOutput ++ evsPrinted (testMid sc) }

theorem evsFirst_testMid (sc : Script) :
    evsFirst (testMid sc) = if sc.info.willRun then firstFail sc.info sc.acts else none := by
  unfold testMid; split <;> rfl

/-- a fresh node takes whatever failure comes first -/
theorem newNode_merge (t : TestInfo) (f : Option Failure) :
    mergeFailure (newNode t) f = { newNode t with failure := f } ∧ failInc (newNode t) f = if f.isSome then 1 else 0 := by
  cases f <;> exact ⟨rfl, rfl⟩

/-- `testStarted; body; testEnded` of one test (`testEvs_eq`: an ignored test is the block with nothing in the middle) -/
theorem test_state (sc : Script) (r : R) (s : St) (hc : s.crashed = false) :
    foldEvents step s (testEvs sc r) = (afterTestSt sc r s, []) := by
  have hc1 : (onTestStarted s sc.info).crashed = false := hc
  rw [testEvs_eq, foldEvents_cons_quiet _ (step_of_not_crashed hc (.testStarted _)), foldEvents_append,
    body_events_state _ (onTestStarted s sc.info) (newNode sc.info) s.nodesRev (fun _ => inBody_testMid) hc1 rfl,
    foldEvents_cons_quiet _ (step_of_not_crashed (by exact hc) (.testEnded _ _)), onTestEnded_cons rfl,
    evsFirst_testMid, (newNode_merge _ _).1, (newNode_merge _ _).2]
  rfl

/-- name, file, line (as printed), skipped flag, failure message -/
abbrev Key := Bytes × Bytes × Int × Bool × Option Bytes

def caseKey (c : Case) : Key := (c.name, c.file, c.line, c.skipped, c.failure)
def nodeKey (n : Node) : Key := (n.name, n.file, castInt n.line, n.ignored, n.failure.map failureMessage)

/-- what the run itself says about a test: its name, file, line, whether it is ignored, and the
    message of its first failure (`file:line: message`) if it ran and failed -/
def scriptKey (sc : Script) : Key :=
  (sc.info.name, sc.info.file, castInt sc.info.line, !sc.info.willRun,
   if sc.info.willRun then (firstFail sc.info sc.acts).map failureMessage else none)

theorem nodeKey_scriptNode (sc : Script) (r : R) : nodeKey (scriptNode sc r) = scriptKey sc := by
  unfold nodeKey scriptNode scriptKey
  cases sc.info.willRun <;> simp

theorem caseKey_caseOf (p g : Bytes) (t : Nat) (n : Node) : caseKey (caseOf p g t n) = nodeKey n := by
  simp only [caseKey, caseOf, nodeKey]

def reportKeys (r : Bytes × Suite) : List Key := r.2.cases.map caseKey

theorem of_quiet_fold {s s' : St} {evs : List Ev} (h : foldEvents step s evs = (s', [])) :
    reportsFrom s evs = [] ∧ stFrom s evs = s' := by
  have hf := fold_files evs s
  rw [h] at hf
  exact ⟨List.map_eq_nil_iff.mp (congrArg Prod.snd hf).symm, (congrArg Prod.fst hf).symm⟩

def bodySt (flt : Option Filter) (t : Script) (r : R) (s : St) : St :=
  if shouldRun flt t.info then afterTestSt t (countTest r) s else s

/-- The collector over the registry loop as a recursion on the collector alone: the state after the loop and the reports it
    writes, one at every group end, from the collector as it stands there. -/
def loopFold (flt : Option Filter) : Bool → Nat → R → St → List Script → St × List (Bytes × Suite)
  | _, _, _, s, [] => (s, [])
  | gs, g0, r, s, t :: rest =>
    let g := if gs then r.clock else g0
    let s2 := bodySt flt t r s
    if endOfGroup t rest then
      let ms := (bodyR flt t r).clock - g
      let p := loopFold flt true g (bodyR flt t r) (onGroupEnded s2 ms) rest
      (p.1, reportOf { s2 with groupExecTime := ms } :: p.2)
    else loopFold flt false g (bodyR flt t r) s2 rest

theorem body_fold (flt : Option Filter) (t : Script) (r : R) (s : St) (hc : s.crashed = false) :
    foldEvents rstep s (bodyEvs flt t r) = (bodySt flt t r s, []) := by
  unfold bodyEvs bodySt
  split
  · obtain ⟨h1, h2⟩ := of_quiet_fold (test_state t (countTest r) s hc)
    exact Prod.ext h2 h1
  · rfl

theorem bodySt_facts (flt : Option Filter) (t : Script) (r : R) (s : St) (hc : s.crashed = false) :
    (bodySt flt t r s).crashed = false ∧ (bodySt flt t r s).package = s.package ∧
    (bodySt flt t r s).group = (if shouldRun flt t.info then t.info.group else s.group) ∧
    (bodySt flt t r s).nodesRev = (if shouldRun flt t.info then [scriptNode t (countTest r)] else []) ++ s.nodesRev := by
  unfold bodySt; split <;> simp [afterTestSt, hc]

/-- The one induction over the events of the loop: folding the collector over them is `loopFold`. -/
theorem loop_fold (flt : Option Filter) : ∀ (tests : List Script) (gs : Bool) (g0 : Nat) (r : R) (s : St),
    s.crashed = false → foldEvents rstep s (loop flt gs g0 r tests) = loopFold flt gs g0 r s tests
  | [], gs, g0, r, s, hc => by simp [loop, loopFold, foldEvents, rstep, reportsOf, step, hc]
  | t :: rest, gs, g0, r, s, hc => by
    have hstart : foldEvents rstep s (startEvs gs t) = (s, []) := by
      unfold startEvs; split <;> simp [foldEvents, rstep, reportsOf, step, hc]
    have hc2 := (bodySt_facts flt t r s hc).1
    rw [loop, List.append_assoc, List.append_assoc, foldEvents_append, hstart, foldEvents_append, body_fold flt t r s hc, loopFold,
      endEvs]
    cases he : endOfGroup t rest
    · simp [loop_fold flt rest false _ _ _ hc2]
    · have hc3 : (onGroupEnded (bodySt flt t r s) ((bodyR flt t r).clock - if gs = true then r.clock else g0)).crashed = false := by
        simp [onGroupEnded, hc2]
      simp [foldEvents, rstep, reportsOf, step, hc2, loop_fold flt rest true _ _ _ hc3]

/-- seconds (as printed through `(int)`) and milliseconds part of a time in ms -/
def timeOfMs (ms : Nat) : Int × Nat := (castInt ((ms / 1000 : Nat) : Int), ms % 1000)

def caseTime (c : Case) : Int × Nat := (c.secs, c.millis)
def nodeTime (n : Node) : Int × Nat := timeOfMs n.execTime
/-- what the run says: the clock advanced by the test's ticks while it ran; an ignored test takes no time -/
def scriptTime (sc : Script) : Int × Nat := timeOfMs (if sc.info.willRun then actTicks sc.acts else 0)

theorem caseTime_caseOf (p g : Bytes) (t : Nat) (n : Node) : caseTime (caseOf p g t n) = nodeTime n := by
  simp only [caseTime, caseOf, nodeTime, timeOfMs]

theorem nodeTime_scriptNode (sc : Script) (r : R) : nodeTime (scriptNode sc r) = scriptTime sc := by
  simp only [nodeTime, scriptNode, scriptTime]

def suiteTime (su : Suite) : Int × Nat := (su.secs, su.millis)

def ticksIn (flt : Option Filter) (run : List Script) : Nat :=
  ((run.filter fun t => shouldRun flt t.info && t.info.willRun).map fun t => actTicks t.acts).sum

theorem bodyR_clock (flt : Option Filter) (t : Script) (r : R) :
    (bodyR flt t r).clock = r.clock + (if shouldRun flt t.info && t.info.willRun then actTicks t.acts else 0) := by
  unfold bodyR afterTest countTest countFiltered
  cases shouldRun flt t.info <;> cases t.info.willRun <;> simp

theorem suiteTime_reportOf (s : St) : suiteTime (reportOf s).2 = timeOfMs s.groupExecTime := by
  simp only [suiteTime, reportOf, suiteOf, timeOfMs]

/-- maximal runs of consecutive tests with the same group name (the groups of the default order) -/
def groupRuns : List Script → List (List Script)
  | [] => []
  | t :: rest =>
    match groupRuns rest with
    | (n :: run) :: more =>
      if t.info.group == n.info.group then (t :: n :: run) :: more else [t] :: (n :: run) :: more
    | _ => [[t]]

def ranIn (flt : Option Filter) (run : List Script) : Nat := (run.filter fun t => shouldRun flt t.info).length

theorem groupRuns_head : ∀ (t : Script) (rest : List Script),
    ∃ run more, groupRuns (t :: rest) = (t :: run) :: more
  | t, [] => ⟨[], [], rfl⟩
  | t, n :: rest => by
    obtain ⟨run, more, h⟩ := groupRuns_head n rest
    simp only [groupRuns] at h ⊢
    rw [h]
    simp only
    split
    · exact ⟨_, _, rfl⟩
    · exact ⟨_, _, rfl⟩

theorem groupRuns_cons_end (t : Script) (rest : List Script) (he : endOfGroup t rest = true) :
    groupRuns (t :: rest) = [t] :: groupRuns rest := by
  cases rest with
  | nil => rfl
  | cons n rest' =>
    obtain ⟨run, more, h⟩ := groupRuns_head n rest'
    simp only [endOfGroup, bne_iff_ne, ne_eq] at he
    have : (t.info.group == n.info.group) = false := by simpa using he
    rw [groupRuns, h]
    simp [this]

theorem groupRuns_cons_go (t : Script) (rest : List Script) (he : endOfGroup t rest = false) :
    ∃ run more, groupRuns rest = run :: more ∧ groupRuns (t :: rest) = (t :: run) :: more := by
  cases rest with
  | nil => simp [endOfGroup] at he
  | cons n rest' =>
    obtain ⟨run, more, h⟩ := groupRuns_head n rest'
    simp only [endOfGroup, bne_eq_false_iff_eq] at he
    refine ⟨n :: run, more, h, ?_⟩
    rw [groupRuns, h]
    simp [he]

def blockOf {κ : Type} (sk : Script → κ) (flt : Option Filter) (run : List Script) : List κ × Nat :=
  ((run.filter fun t => shouldRun flt t.info).map sk, ticksIn flt run)

theorem blockOf_cons {κ : Type} (sk : Script → κ) (flt : Option Filter) (t : Script) (run : List Script) :
    blockOf sk flt (t :: run) =
      ((if shouldRun flt t.info then [sk t] else []) ++ (blockOf sk flt run).1,
       (if shouldRun flt t.info && t.info.willRun then actTicks t.acts else 0) + (blockOf sk flt run).2) := by
  unfold blockOf ticksIn
  split <;> split <;> simp_all

/-- The loop theorem, group by group: report `i` of the loop is group run `i` of the remaining tests: its test cases are
    (in any projection that is a function of the node) the tests of that run that are not filtered out, its time the
    ticks of those that are executed.  What the collector holds for the open group goes to the first report. -/
theorem loopFold_blocks {κ : Type} (ck : Case → κ) (nk : Node → κ) (sk : Script → κ)
    (hcn : ∀ p g t n, ck (caseOf p g t n) = nk n) (hns : ∀ sc r, nk (scriptNode sc r) = sk sc)
    (flt : Option Filter) : ∀ (tests : List Script) (gs : Bool) (g0 : Nat) (r : R) (s : St),
    s.crashed = false → (if gs then r.clock else g0) ≤ r.clock →
    (loopFold flt gs g0 r s tests).2.map (fun rp => (rp.2.cases.map ck, suiteTime rp.2)) =
      (((groupRuns tests).map (blockOf sk flt)).modifyHead
        fun b => (s.nodesRev.reverse.map nk ++ b.1, r.clock - (if gs then r.clock else g0) + b.2)).map
          fun b => (b.1, timeOfMs b.2)
  | [], gs, g0, r, s, hc, _ => rfl
  | t :: rest, gs, g0, r, s, hc, hg => by
    obtain ⟨hc2, -, -, hn2⟩ := bodySt_facts flt t r s hc
    have hclk := bodyR_clock flt t r
    have hkeys : (bodySt flt t r s).nodesRev.reverse.map nk =
        s.nodesRev.reverse.map nk ++ (if shouldRun flt t.info then [sk t] else []) := by
      rw [hn2]; split <;> simp [hns]
    rw [loopFold]
    -- `g` is the clock at the start of the open group
    generalize (if gs = true then r.clock else g0) = g at hg ⊢
    cases he : endOfGroup t rest
    · -- the group goes on: `t` joins the first run of the rest
      obtain ⟨run, more, h1, h2⟩ := groupRuns_cons_go t rest he
      simp only [Bool.false_eq_true, if_false]
      rw [loopFold_blocks ck nk sk hcn hns flt rest false g _ _ hc2 (by simp; omega), h1, h2]
      simp only [List.map_cons, List.modifyHead_cons, blockOf_cons, hkeys, hclk, Bool.false_eq_true, if_false, List.append_assoc]
      congr 3; omega
    · -- the group ends: one report from the collected nodes, then a cleared collector and a new group time
      simp only [if_true, List.map_cons]
      rw [loopFold_blocks ck nk sk hcn hns flt rest true g _ _ (by simp [onGroupEnded, hc2]) (by simp),
        groupRuns_cons_end t rest he, ListLemmas.modifyHead_eq_self (by simp [onGroupEnded])]
      have h0 : blockOf sk flt [] = ([], 0) := rfl
      simp only [List.map_cons, List.modifyHead_cons, blockOf_cons, h0, reportOf_proj ck nk hcn, suiteTime_reportOf, hkeys, hclk,
        List.append_nil, Nat.add_zero]
      congr 3; omega

theorem loop_blocks_fresh {κ : Type} (ck : Case → κ) (nk : Node → κ) (sk : Script → κ)
    (hcn : ∀ p g t n, ck (caseOf p g t n) = nk n) (hns : ∀ sc r, nk (scriptNode sc r) = sk sc)
    (flt : Option Filter) (tests : List Script) (g0 : Nat) (r : R) (s : St) (hc : s.crashed = false)
    (hn : s.nodesRev = []) :
    (reportsFrom s (loop flt true g0 r tests)).map (fun rp => (rp.2.cases.map ck, suiteTime rp.2)) =
      (groupRuns tests).map fun run => ((blockOf sk flt run).1, timeOfMs (blockOf sk flt run).2) := by
  rw [reportsFrom, loop_fold flt tests true g0 r s hc, loopFold_blocks ck nk sk hcn hns flt tests true g0 r s hc (Nat.le_refl _),
    ListLemmas.modifyHead_eq_self (by simp [hn]), List.map_map]
  rfl

theorem groupRuns_flatten : ∀ (tests : List Script), (groupRuns tests).flatten = tests
  | [] => rfl
  | t :: rest => by
    have ih := groupRuns_flatten rest
    cases he : endOfGroup t rest
    · obtain ⟨run, more, h1, h2⟩ := groupRuns_cons_go t rest he
      rw [h1] at ih
      rw [h2, List.flatten_cons, List.cons_append, ← List.flatten_cons, ih]
    · rw [groupRuns_cons_end t rest he, List.flatten_cons, ih]; rfl

theorem loop_cases {κ : Type} (ck : Case → κ) (nk : Node → κ) (sk : Script → κ)
    (hcn : ∀ p g t n, ck (caseOf p g t n) = nk n) (hns : ∀ sc r, nk (scriptNode sc r) = sk sc)
    (flt : Option Filter) (tests : List Script) (g0 : Nat) (r : R) (s : St) (hc : s.crashed = false)
    (hn : s.nodesRev = []) :
    (reportsFrom s (loop flt true g0 r tests)).flatMap (fun rp => rp.2.cases.map ck) =
      (tests.filter fun t => shouldRun flt t.info).map sk := by
  have h := congrArg (List.flatMap (·.1)) (loop_blocks_fresh ck nk sk hcn hns flt tests g0 r s hc hn)
  simp only [List.flatMap_map, blockOf] at h
  rw [h]
  have hf := groupRuns_flatten tests
  generalize groupRuns tests = L at hf ⊢
  subst hf
  simp [List.flatMap_def, List.filter_flatten, List.map_flatten, Function.comp_def]

/-- the report file names a run of the loop writes; `g` = the group the collector currently knows -/
def loopNames (flt : Option Filter) (package : Bytes) : Bytes → List Script → List Bytes
  | _, [] => []
  | g, t :: rest =>
    if endOfGroup t rest then
      createFileName package (if shouldRun flt t.info then t.info.group else g) :: loopNames flt package [] rest
    else loopNames flt package (if shouldRun flt t.info then t.info.group else g) rest

/-- a state between runs: nothing collected, no group known -/
def Fresh (s : St) : Prop := s.crashed = false ∧ s.nodesRev = [] ∧ s.group = []

/-- The hypothesis says that a loop entered with no test left is entered at a group start (nothing collected, no group
    known): only then does it leave the collector as a run of the registry does. -/
theorem loopFold_names (flt : Option Filter) : ∀ (tests : List Script) (gs : Bool) (g0 : Nat) (r : R) (s : St),
    s.crashed = false → (tests = [] → s.nodesRev = [] ∧ s.group = []) →
    (loopFold flt gs g0 r s tests).2.map (·.1) = loopNames flt s.package s.group tests ∧ Fresh (loopFold flt gs g0 r s tests).1
  | [], gs, g0, r, s, hc, hnil => ⟨rfl, hc, hnil rfl⟩
  | t :: rest, gs, g0, r, s, hc, _ => by
    obtain ⟨hc2, hp2, hg2, -⟩ := bodySt_facts flt t r s hc
    rw [loopFold, loopNames]
    cases he : endOfGroup t rest
    · have ih := loopFold_names flt rest false (if gs then r.clock else g0) (bodyR flt t r) (bodySt flt t r s) hc2
        (by rintro rfl; simp [endOfGroup] at he)
      rw [hp2, hg2] at ih
      simpa using ih
    · have ih := loopFold_names flt rest true (if gs then r.clock else g0) (bodyR flt t r)
        (onGroupEnded (bodySt flt t r s) ((bodyR flt t r).clock - if gs then r.clock else g0))
        (by simp [onGroupEnded, hc2]) (by simp [onGroupEnded])
      simp only [if_true, List.map_cons]
      exact ⟨by rw [ih.1]; simp [reportOf, onGroupEnded, hp2, hg2], ih.2⟩

theorem repetition_state (flt : Option Filter) (tests : List Script) (i n : Nat) (s : St) (h : Fresh s) :
    (reportsFrom s (.testRun i n :: runAll flt tests)).map (·.1) = loopNames flt s.package [] tests ∧
    (reportsFrom s (.testRun i n :: runAll flt tests)).flatMap reportKeys =
      (tests.filter fun t => shouldRun flt t.info).map scriptKey ∧
    Fresh (stFrom s (.testRun i n :: runAll flt tests)) := by
  obtain ⟨hc, hn, hg⟩ := h
  -- the state after `printTestRun` and `printTestsStarted`: only the captured output grew
  let s1 : St := { s with stdOutput := s.stdOutput ++ testRunText n }
  have hs1 : stFrom s (.testRun i n :: runAll flt tests) = stFrom s1 (loop flt true 0 {} tests) := by
    simp [runAll, stFrom_cons, step, hc, s1]
  have hr1 : reportsFrom s (.testRun i n :: runAll flt tests) = reportsFrom s1 (loop flt true 0 {} tests) := by
    simp [runAll, reportsFrom_cons, reportsOf, step, hc, s1]
  have hf := loop_fold flt tests true 0 {} s1 hc
  have hnames := loopFold_names flt tests true 0 {} s1 hc (fun _ => ⟨hn, hg⟩)
  rw [hs1, hr1]
  refine ⟨?_, loop_cases caseKey nodeKey scriptKey caseKey_caseOf nodeKey_scriptNode flt tests 0 {} s1 hc hn, ?_⟩
  · rw [reportsFrom, hf, hnames.1]; simp [s1, hg]
  · rw [stFrom, hf]; exact hnames.2

theorem repetitions_state (flt : Option Filter) (tests : List Script) (n : Nat) : ∀ (k : Nat) (s : St), Fresh s →
    (reportsFrom s ((List.range k).flatMap fun i => Ev.testRun (i + 1) n :: runAll flt tests)).map (·.1) =
      (List.range k).flatMap (fun _ => loopNames flt s.package [] tests) ∧
    (reportsFrom s ((List.range k).flatMap fun i => Ev.testRun (i + 1) n :: runAll flt tests)).flatMap reportKeys =
      (List.range k).flatMap (fun _ => (tests.filter fun t => shouldRun flt t.info).map scriptKey) ∧
    Fresh (stFrom s ((List.range k).flatMap fun i => Ev.testRun (i + 1) n :: runAll flt tests))
  | 0, s, h => by simp [reportsFrom_nil, stFrom_nil, h]
  | k + 1, s, h => by
    obtain ⟨ih1, ih2, ih3⟩ := repetitions_state flt tests n k s h
    have hb := repetition_state flt tests (k + 1) n _ ih3
    rw [stFrom_package] at hb
    simp only [List.range_succ, List.flatMap_append, List.flatMap_cons, List.flatMap_nil, List.append_nil,
      reportsFrom_append, stFrom_append, List.map_append, ih1, ih2, hb.1, hb.2.1]
    exact ⟨trivial, trivial, hb.2.2⟩

end JUnit
