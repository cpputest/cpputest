import CppUModel.Spec.Text
/-!
# Remaining textbook definitions for the string operations (C13)

Continues `Spec/Text.lean` (DESIGN.md appendix A).  Byte strings are `List UInt8` without
terminator.  Nothing here mentions buffers, offsets or loops over memory: these are the plain
list definitions the bounded-buffer model of `SimpleString.cpp` is proved equal to, and the
definitions the driver's specification oracle evaluates on the implementation's operands.
-/
namespace TextExt
open Text

/-- no NUL byte inside: what a C string can hold -/
def NulFree (a : Bytes) : Prop := ∀ c ∈ a, c ≠ 0

instance (a : Bytes) : Decidable (NulFree a) := by unfold NulFree; infer_instance

/-- the C view of a byte operand: everything before the first NUL -/
def cut (a : Bytes) : Bytes := a.takeWhile (· != 0)

/-- the NUL-terminated image -/
def cz (a : Bytes) : Bytes := a ++ [0]

/-- `StrStr`: least `i` with `b` a prefix of `a.drop i` (`b = []` ↦ 0) -/
def strStr : Bytes → Bytes → Option Nat
  | [], b => if b.isEmpty then some 0 else none
  | a@(_ :: t), b => if b.isPrefixOf a then some 0 else (strStr t b).map (· + 1)

/-- `MemCmp`: difference at the first differing index `< n` -/
def memCmp : Nat → Bytes → Bytes → Int
  | 0, _, _ => 0
  | n + 1, x :: xs, y :: ys => if x = y then memCmp n xs ys else (x.toNat : Int) - (y.toNat : Int)
  | _ + 1, _, _ => 0

/-- `StrNCpy dst src n`: `(cz src).take n` over the front of `dst`, nothing else touched -/
def strNCpy (dst src : Bytes) (n : Nat) : Bytes :=
  (cz src).take n ++ dst.drop (min n (src.length + 1))

/-- `SimpleString(s, k)`: `s` repeated `k` times -/
def repeatStr (a : Bytes) (k : Nat) : Bytes := (List.replicate k a).flatten

/-! ### numbers -/

def isBlank (c : UInt8) : Bool := c == 32 || (9 ≤ c && c ≤ 13)
def isDigit (c : UInt8) : Bool := 48 ≤ c && c ≤ 57

/-- value of a decimal digit string (most significant first), on top of `acc` -/
def digitsVal (acc : Nat) (ds : Bytes) : Nat := ds.foldl (fun r d => r * 10 + (d.toNat - 48)) acc

/-- leading decimal digits of `a` as a number -/
def leadingNumber (a : Bytes) : Nat := digitsVal 0 (a.takeWhile isDigit)

/-- `AtoU`: blanks, then digits (a sign gives 0); value mod 2^32 -/
def atou (a : Bytes) : Nat := leadingNumber (a.dropWhile isBlank) % 4294967296

/-- `AtoI`: blanks, one optional sign, digits (as a mathematical integer) -/
def atoi (a : Bytes) : Int :=
  match a.dropWhile isBlank with
  | 45 :: r => - (leadingNumber r : Int)
  | 43 :: r => (leadingNumber r : Int)
  | s => (leadingNumber s : Int)

/-- the magnitude `AtoI` accumulates (must fit `int`) -/
def atoiMagnitude (a : Bytes) : Nat :=
  match a.dropWhile isBlank with
  | 45 :: r => leadingNumber r
  | 43 :: r => leadingNumber r
  | s => leadingNumber s

/-- decimal digits of a natural number -/
def dec (n : Nat) : Bytes := (Nat.toDigits 10 n).map fun c => UInt8.ofNat c.toNat
def decInt (i : Int) : Bytes := if i < 0 then 45 :: dec i.natAbs else dec i.toNat
/-- lower-case hexadecimal digits (`%x`) -/
def hexLower (n : Nat) : Bytes := (Nat.toDigits 16 n).map fun c => UInt8.ofNat c.toNat

/-! ### printable -/

def hexDigitUpper (n : Nat) : UInt8 := if n < 10 then UInt8.ofNat (48 + n) else UInt8.ofNat (55 + n)
/-- two upper-case hex digits of a byte (`%02X`) -/
def hex2 (c : UInt8) : Bytes := [hexDigitUpper (c.toNat / 16), hexDigitUpper (c.toNat % 16)]

/-- second character of the C escapes `\a \b \t \n \v \f \r` (bytes 7 … 13) -/
def shortEscapeLetter (c : UInt8) : UInt8 :=
  match c.toNat with
  | 7 => 97 | 8 => 98 | 9 => 116 | 10 => 110 | 11 => 118 | 12 => 102 | _ => 114

def printableByte (c : UInt8) : Bytes :=
  if 7 ≤ c ∧ c ≤ 13 then [92, shortEscapeLetter c]
  else if c < 32 ∨ c = 127 ∨ 128 ≤ c then [92, 120] ++ hex2 c
  else [c]

/-- `printable()`: C escapes for 7…13, `\xHH` for the other control bytes, 0x7F and (signed
    `char`) bytes ≥ 0x80, everything else unchanged -/
def printable (a : Bytes) : Bytes := a.flatMap printableByte

/-! ### padding, copy-out -/

/-- `k` copies of the pad character in front (a NUL pad character pads nothing) -/
def padLeft (k : Nat) (c : UInt8) (a : Bytes) : Bytes := (if c = 0 then [] else List.replicate k c) ++ a

/-- `padStringsToSameLength`: the shorter one is left-padded to the other's length -/
def padToSameLength (s t : Bytes) (c : UInt8) : Bytes × Bytes :=
  if s.length > t.length then (s, padLeft (s.length - t.length) c t)
  else (padLeft (t.length - s.length) c s, t)

/-- `copyToBuffer(buf, n)` with `n = old.length`: `cz (a.take (n-1))` over the front, nothing beyond -/
def copyOut (a old : Bytes) : Bytes :=
  if old.isEmpty then old
  else a.take (old.length - 1) ++ [0] ++ old.drop (min (old.length - 1) a.length + 1)

/-! ### split, stated through first occurrences, with its corner cases as the code has them -/

/-- how far the scan advances past an occurrence that starts at the scan position: the
    delimiter's length, one byte for the empty delimiter -/
def delimStep (d : Bytes) : Nat := if d.length ≠ 0 then d.length else 1

/-- scan left to right for non-overlapping occurrences of `d` (`strStr` = first occurrence):
    the tokens, each ending with its delimiter, and how many bytes they cover; fuel = length -/
def splitScan (d : Bytes) : Nat → Bytes → List Bytes × Nat
  | 0, _ => ([], 0)
  | _ + 1, [] => ([], 0)
  | n + 1, x :: t =>
    match strStr (x :: t) d with
    | none => ([], 0)
    | some i =>
      ((x :: t).take (i + delimStep d) :: (splitScan d n ((x :: t).drop (i + delimStep d))).1,
       i + delimStep d + (splitScan d n ((x :: t).drop (i + delimStep d))).2)

/-- `split(d)`: the delimiter-terminated tokens, then the remainder if it is non-empty.
    Corners as the code has them: the empty string gives one empty token for a non-empty
    delimiter (and none for the empty one); the empty delimiter gives one token per byte.
    For non-empty `a` and `d` this is `Text.split a d` (theorem `C13.split_spec_eq_text_split`). -/
def split (a d : Bytes) : List Bytes :=
  (splitScan d (a.length + 1) a).1 ++
    (if (splitScan d (a.length + 1) a).2 < a.length then [a.drop (splitScan d (a.length + 1) a).2]
     else if a.isEmpty ∧ ¬ d.isEmpty then [[]] else [])

/-! ### binary, masked bits, ordinal -/

def joinSp : List Bytes → Bytes
  | [] => []
  | [x] => x
  | x :: rest => x ++ 32 :: joinSp rest

/-- `StringFromBinary`: two upper-case hex digits per byte, single spaces between -/
def binary (x : Bytes) : Bytes := joinSp (x.map hex2)

/-- the header `printf("Size = %u | HexContents = ", (unsigned) n)` prints (explicit ASCII bytes) -/
def sizeHeader (n : Nat) : Bytes :=
  [83, 105, 122, 101, 32, 61, 32] ++ dec (n % 4294967296) ++
    [32, 124, 32, 72, 101, 120, 67, 111, 110, 116, 101, 110, 116, 115, 32, 61, 32]

/-- `StringFromBinaryWithSize`: the header, at most 128 bytes as hex pairs, `" ..."` when cut -/
def binaryWithSize (x : Bytes) : Bytes :=
  sizeHeader x.length ++ binary (x.take 128) ++ (if x.length > 128 then [32, 46, 46, 46] else [])

def nullText : Bytes := [40, 110, 117, 108, 108, 41]      -- "(null)"

/-- `StringFromMaskedBits v m k`, `k ≥ 1`: the low `min k 8` bytes, most significant bit first -/
def maskedBits (v m k : Nat) : Bytes :=
  (List.range (min k 8 * 8)).flatMap fun i =>
    (if m.testBit (min k 8 * 8 - 1 - i) then (if v.testBit (min k 8 * 8 - 1 - i) then [49] else [48]) else [120]) ++
    (if i % 8 = 7 ∧ i ≠ min k 8 * 8 - 1 then [32] else [])

/-- `th` for 11, 12, 13 (mod 100), otherwise `st` / `nd` / `rd` / `th` by the last digit
    (bytes of the ASCII letters) -/
def ordinalSuffix (n : Nat) : Bytes :=
  if 11 ≤ n % 100 ∧ n % 100 ≤ 13 then [116, 104]      -- "th"
  else if n % 10 = 3 then [114, 100]                    -- "rd"
  else if n % 10 = 2 then [110, 100]                    -- "nd"
  else if n % 10 = 1 then [115, 116]                    -- "st"
  else [116, 104]

/-- `StringFromOrdinalNumber` -/
def ordinal (n : Nat) : Bytes := dec n ++ ordinalSuffix n

end TextExt
